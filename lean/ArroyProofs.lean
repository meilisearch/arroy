import ArroyProofs.KeyLemmas
import ArroyProofs.Properties.C16
import ArroyProofs.AuditCmd
import ArroyProofs.StoreLemmas
import ArroyProofs.Heap
import ArroyProofs.StoreLaws
import ArroyProofs.WriterLaws
import ArroyProofs.Properties.C05
import ArroyProofs.Properties.C06
import ArroyProofs.Properties.C19
import ArroyProofs.Properties.C08
import ArroyProofs.Properties.C09
import ArroyProofs.FreshGen
import ArroyProofs.SplitLemmas
import ArroyProofs.InsT
import ArroyProofs.MakeT
import ArroyProofs.SetLemmas
import ArroyProofs.Staged
import ArroyProofs.DelT
import ArroyProofs.DeleteForest
import ArroyProofs.Transparent
import ArroyProofs.TreeView
import ArroyProofs.TransparentBuild
import ArroyProofs.Properties.C10
import ArroyProofs.Properties.C15
import ArroyProofs.PrefixLemmas
import ArroyProofs.BuildM
import ArroyProofs.BuildFrame
import ArroyProofs.FrameRels
import ArroyProofs.PreprocessFrame
import ArroyProofs.BuildTouch
import ArroyProofs.BuildPost
import ArroyProofs.Properties.C07
import ArroyProofs.Properties.C06Build
import ArroyProofs.Properties.C05Build
import ArroyProofs.BQLemmas
import ArroyProofs.F32OfNat
import ArroyProofs.F32Order
import ArroyProofs.IdsLemmas
import ArroyProofs.Properties.C13
import ArroyProofs.FreshNew
import ArroyProofs.OrdLemmas
import ArroyProofs.FloatOrd
import ArroyProofs.Forest
import ArroyProofs.ReaderSets
import ArroyProofs.Traverse
import ArroyProofs.Nns
import ArroyProofs.Exact
import ArroyProofs.Monotone
import ArroyProofs.BruteForce
import ArroyProofs.WellFormedCheck
import ArroyProofs.ForestExample
import ArroyProofs.Properties.C02
import ArroyProofs.Properties.C03
import ArroyProofs.KernelLemmas
import ArroyProofs.KernelCover
import ArroyProofs.SoftFloatSymm
import ArroyProofs.SoftFloatRange
import ArroyProofs.SoftFloatRound
import ArroyProofs.KernelF32
import ArroyProofs.KernelRound
import ArroyProofs.KernelRoundSimd
import ArroyProofs.Properties.C11
import ArroyProofs.StoreFold
import ArroyProofs.UpgradeLemmas
import ArroyProofs.UpgradeWF
import ArroyProofs.ChangeDistance
import ArroyProofs.BuildMeta
import ArroyProofs.Properties.C17
import ArroyProofs.Properties.C18
import ArroyProofs.PqLemmas
import ArroyProofs.SelfLookup
import ArroyProofs.Properties.C04
import ArroyProofs.F32SqrtSq
import ArroyProofs.F32DivRange
import ArroyProofs.BQCosine
import ArroyProofs.Properties.C12

import ArroyProofs.BuildInv
import ArroyProofs.ForestDefs
import ArroyProofs.BuildPrefix
import ArroyProofs.ExtraTrees
import ArroyProofs.FuelBounds
import ArroyProofs.DeleteStep
import ArroyProofs.InsertRoots
import ArroyProofs.InsertAll
import ArroyProofs.GrowForest
import ArroyProofs.Subst
import ArroyProofs.MakeRoot
import ArroyProofs.ResplitRound
import ArroyProofs.Resplit
import ArroyProofs.SingleLeaf
import ArroyProofs.AfterUsed
import ArroyProofs.BuildCore
import ArroyProofs.IndexInvOps
import ArroyProofs.ForestUnique
import ArroyProofs.Mutates
import ArroyProofs.Properties.C01
import ArroyProofs.Properties.C01Checker
import ArroyProofs.Properties.C15Build
import ArroyProofs.Properties.C04Build
import ArroyProofs.Properties.C10Reach
import ArroyProofs.Properties.C01Examples
import ArroyProofs.FreshSupplyProof
import ArroyProofs.Properties.Unconditional
import ArroyProofs.NoFuel
import ArroyProofs.NoFuelBuild
import ArroyProofs.Imbalance
import ArroyProofs.Properties.C14
import ArroyProofs.Properties.C20
import ArroyProofs.RoaringLemmas
import ArroyProofs.CodecLemmas
import ArroyProofs.Properties.C16Codec
import ArroyProofs.ForestBridge
import ArroyProofs.Properties.Reachable
import ArroyProofs.TraverseFuel
import ArroyProofs.BQRequant
import ArroyProofs.LeavesMade
import ArroyProofs.Properties.C03Bq
import ArroyProofs.Properties.C07Nns
import ArroyProofs.SoftFloatBits
import ArroyProofs.SoftFloatReal
import ArroyProofs.KernelRoundOn
import ArroyProofs.F32StdModel
import ArroyProofs.SoftFloatRealDiv
import ArroyProofs.KernelMap
import ArroyProofs.KernelRoundChk
import ArroyProofs.KernelRoundChkKernels
import ArroyProofs.F32Chk
import ArroyProofs.F32KernelRound
import ArroyProofs.Properties.C11Real
import ArroyProofs.InPlaceEq
import ArroyProofs.InPlaceBuild
import ArroyProofs.Properties.C10InPlace
import ArroyProofs.SplitLemmas2
import ArroyProofs.NormalLen
import ArroyProofs.NormalLenBuild
import ArroyProofs.Properties.C04Split
import ArroyProofs.F32Mono
import ArroyProofs.F32MonoOrd
import ArroyProofs.F32MonoOps
import ArroyProofs.F32MonoDiv
import ArroyProofs.F32MonoSqrt
import ArroyProofs.F32Nonneg
import ArroyProofs.F32RealOrder
import ArroyProofs.Properties.C03Sorted
import ArroyProofs.Properties.C12Mono
import ArroyProofs.ResplitFairLoop
import ArroyProofs.Properties.C14Fair
import ArroyProofs.ResplitFairBuild
import ArroyProofs.Properties.C14FairBuild
import ArroyProofs.IndexInvPrepare
import ArroyProofs.Properties.C18Build
import ArroyProofs.IdGenNext
import ArroyProofs.OfSeq
import ArroyProofs.Properties.C13Build
import ArroyProofs.ReportedReal
import ArroyProofs.ReportedFloat
import ArroyProofs.Properties.C11Reported
import ArroyProofs.Properties.C06History
import ArroyProofs.UpgradeReach
import ArroyProofs.Properties.C17Reachable
import ArroyProofs.Properties.Checkers
import ArroyProofs.Properties.C05History
import ArroyProofs.ResplitFairBound
import ArroyProofs.Properties.C14Bound
import ArroyProofs.Properties.C11Reported2
import ArroyProofs.Properties.C19History
import ArroyProofs.Properties.C02History
import ArroyProofs.Properties.C11Oracle
import ArroyProofs.Properties.C11OracleCosine
import ArroyProofs.NnsNonempty
import ArroyProofs.Properties.C03History
import ArroyProofs.Properties.C15History
import ArroyProofs.F32Width
import ArroyProofs.StoreOk
import ArroyProofs.StoreOkBuild
import ArroyProofs.CodecReach
import ArroyProofs.Properties.C16Reachable
import ArroyProofs.Properties.C07History
import ArroyProofs.Properties.C07BuildLocal
