import ArroyProofs.SingleLeaf
/-! The main path of `build`, after the used tree nodes were listed: extra trees deleted, updated
items removed from and re-inserted into every tree, missing trees created, over-full buckets re-split,
metadata written. -/
namespace Arroy
open BuildM Generated IdSet Transp

/-! ## the two routing predicates agree -/

def sideD (cx : TreeCtx) : List Nat → Nat → Option Bool := fun n x =>
  match cx.side n x with
  | some (some b) => some b
  | _ => none

theorem sideD_ne (cx : TreeCtx) (n : List Nat) (x : Nat) (b : Bool) :
    sideD cx n x ≠ some b ↔ cx.side n x ≠ some (some b) := by
  unfold sideD
  split
  · rename_i b' h; rw [h]; simp
  · rename_i h
    constructor
    · intro _ e; exact h b e
    · intro _ e; cases e

theorem routedT_iff_routedD (cx : TreeCtx) (t : T) : RoutedT cx t ↔ RoutedD cx.isZero (sideD cx) t := by
  induction t with
  | leaf i => simp [RoutedT, RoutedD]
  | bucket id s => simp [RoutedT, RoutedD]
  | node id n l r ihl ihr => simp only [RoutedT, RoutedD, ihl, ihr, sideD_ne]

/-- a side function that ignores the items of `D` (the updated items: their stored vector may have
    changed since the forest was built, and the build removes them from every tree first) -/
def maskSide (D : List Nat) (side : List Nat → Nat → Option Bool) : List Nat → Nat → Option Bool :=
  fun n x => if x ∈ D then none else side n x

theorem RoutedD.mask {isZero : List Nat → Bool} {side : List Nat → Nat → Option Bool} (D : List Nat) {t : T}
    (h : RoutedD isZero side t) : RoutedD isZero (maskSide D side) t := by
  induction t with
  | leaf i => trivial
  | bucket id s => trivial
  | node id n l r ihl ihr =>
    obtain ⟨h1, h2, h3⟩ := h
    refine ⟨fun hz => ⟨fun x hx => ?_, fun x hx => ?_⟩, ihl h2, ihr h3⟩
    · simp only [maskSide]; split
      · simp
      · exact (h1 hz).1 x hx
    · simp only [maskSide]; split
      · simp
      · exact (h1 hz).2 x hx

theorem RoutedD.unmask {isZero : List Nat → Bool} {side : List Nat → Nat → Option Bool} {D : List Nat} {t : T}
    (h : RoutedD isZero (maskSide D side) t) (hD : ∀ x ∈ t.items, x ∉ D) : RoutedD isZero side t := by
  induction t with
  | leaf i => trivial
  | bucket id s => trivial
  | node id n l r ihl ihr =>
    obtain ⟨h1, h2, h3⟩ := h
    have hl : ∀ x ∈ l.items, x ∉ D := fun x hx => hD x (by simp [T.items, hx])
    have hr : ∀ x ∈ r.items, x ∉ D := fun x hx => hD x (by simp [T.items, hx])
    refine ⟨fun hz => ⟨fun x hx => ?_, fun x hx => ?_⟩, ihl h2 hl, ihr h3 hr⟩
    · have := (h1 hz).1 x hx
      simpa only [maskSide, hl x hx, ↓reduceIte] using this
    · have := (h1 hz).2 x hx
      simpa only [maskSide, hr x hx, ↓reduceIte] using this

/-! ## the chain -/

/-- the first three steps of the main path of `build`, for any id generator: the extra trees are deleted, the
    updated items are removed from every tree, those that are still stored are inserted again -/
theorem deleteInsert_spec {c : Cfg} {o : BuildOpts} {items updated roots used items0 : List Nat} {ts0 : List T}
    {k fuel : Nat} {g0 g3 : IdGen} {st st1 st2 st3 : BState} {roots1 roots2 large3 : List Nat}
    (hi : c.index < 65536) (hcap : 1 ≤ Build.cap c o) (hw : Store.WF st.store)
    (f0 : Forest c st.store roots items0 ts0)
    (hitems : Sorted items) (hupd : Sorted updated)
    (hrel : ∀ x, x ∉ updated → (x ∈ items0 ↔ x ∈ items))
    (hused : ∀ i, (Store.get st.store (c.treeKey i)).isSome = true → i ∈ used)
    (hg : GenOK used g0)
    (h1 : Build.deleteExtraTrees c k roots st = .ok (roots1, st1))
    (h2 : Build.deleteItemsFromTrees c o roots1 updated st1 = .ok (roots2, st2))
    (h3 : Build.insertItemsInCurrentTrees c o roots2 fuel (IdSet.inter items updated) g0 st2 = .ok ((large3, g3), st3)) :
    ∃ (ts1 ts2 ts3 : List T) (inUse3 : List Nat),
      (∀ t ∈ ts1, t ∈ ts0) ∧ Forest c st1.store roots1 items0 ts1 ∧
      (∀ t' ∈ ts2, ∃ t ∈ ts1, t' = (delT (Build.cap c o) updated t).tree) ∧
      Forest c st3.store roots2 items ts3 ∧
      GenOK inUse3 g3 ∧ (∀ i ∈ used, i ∈ inUse3) ∧ (∀ i ∈ ts3.flatMap T.ids, i ∈ inUse3) ∧
      StoreStep c st.store st3.store ∧ TreeFrame c st.store st3.store ∧
      All2 (InsRel (Build.treeCtx c o st.store) (IdSet.inter items updated)) ts2 ts3 ∧
      ((roots2 = [] ∨ IdSet.inter items updated = []) → ts3 = ts2 ∧ large3 = []) ∧
      (roots2 ≠ [] → IdSet.inter items updated ≠ [] →
        ∀ t' ∈ ts3, ∀ b ∈ t'.buckets, ¬ fits (Build.cap c o) b.2.length → b.1 ∈ large3) ∧
      (∀ i ∈ large3, i ∈ inUse3) ∧ Sorted large3 ∧ roots2.length = roots.length - k := by
  -- 1. delete the extra trees
  obtain ⟨ts1, f1, sub1, step1, frame1, len1⟩ := deleteExtraTrees_spec c items0 k roots ts0 st st1 roots1 f0 h1
  have hw1 := step1.wf hw
  have hin1 : ∀ i ∈ ts1.flatMap T.ids, i ∈ used := by
    intro i hi'
    obtain ⟨t, ht, hit⟩ := List.mem_flatMap.1 hi'
    exact hused i ((f0.holds t (sub1 t ht)).isSome hit)
  -- 2. delete the updated items
  obtain ⟨ts2, f2, sub2, step2, frame2, len2, some2⟩ :=
    deleteItemsFromTrees_forest c o roots1 items0 (IdSet.diff items updated) updated ts1 f1 hcap hupd
      (by
        intro x
        rw [mem_diff hitems hupd]
        constructor
        · rintro ⟨h1', h2'⟩; exact ⟨(hrel x h2').2 h1', h2'⟩
        · rintro ⟨h1', h2'⟩; exact ⟨(hrel x h2').1 h1', h2'⟩)
      hw1 hi h2
  have hw2 := step2.wf hw1
  have hin2 : ∀ i ∈ ts2.flatMap T.ids, i ∈ used := by
    intro i hi'
    exact hin1 i ((f1.cover i).1 (some2 i ((f2.cover i).2 hi')))
  -- 3. insert the updated items that are still stored
  obtain ⟨ts3, inUse3, f3, hg3, sup3, in3, step3, frame3, rel3, none3, cap3, lin3, hs3⟩ :=
    insertItems_forest c o roots2 (IdSet.diff items updated) items (IdSet.inter items updated) ts2
      g0 g3 used st2 st3 large3 _ f2 hin2 hg hw2 hi (sorted_inter updated hitems)
      (by
        intro x hx hx'
        exact ((mem_diff hitems hupd).1 hx').2 ((mem_inter hitems hupd).1 hx).2)
      (by
        intro x
        rw [mem_diff hitems hupd, mem_inter hitems hupd]
        constructor
        · intro hx
          by_cases hu : x ∈ updated
          · exact Or.inr ⟨hx, hu⟩
          · exact Or.inl ⟨hx, hu⟩
        · rintro (⟨hx, _⟩ | ⟨hx, _⟩) <;> exact hx)
      h3
  rw [(frame1.trans frame2).treeCtx o] at rel3
  exact ⟨ts1, ts2, ts3, inUse3, sub1, f1, sub2, f3, hg3, sup3, in3, (step1.trans step2).trans step3,
    (frame1.trans frame2).trans frame3, rel3, none3, cap3, lin3, hs3, by rw [len2, len1]⟩

theorem afterUsedWith_spec (g0 : IdGen) (c : Cfg) (o : BuildOpts) (fuel : Nat) (items updated roots used items0 : List Nat)
    (ts0 : List T) (st st' : BState) (hi : c.index < 65536) (hcap : 1 ≤ Build.cap c o)
    (hw : Store.WF st.store)
    (f0 : Forest c st.store roots items0 ts0)
    (hitems : Sorted items) (hupd : Sorted updated)
    (hrel : ∀ x, x ∉ updated → (x ∈ items0 ↔ x ∈ items))
    (hused : ∀ i, (Store.get st.store (c.treeKey i)).isSome = true → i ∈ used)
    (hg : GenOK used g0)
    (h : afterUsedWith g0 c o fuel items updated roots st = .ok ((), st')) :
    ∃ (roots' : List Nat) (ts' : List T),
      Store.get st'.store c.metaKey = some (.metadata c.metric.nameBytes c.dims items roots') ∧
      Forest c st'.store roots' items ts' ∧
      StoreStep c st.store st'.store ∧
      (∀ k, (∀ i, k ≠ c.treeKey i) → k ≠ c.metaKey → Store.get st'.store k = Store.get st.store k) ∧
      roots'.length = Build.targetNTrees o c.dims items.length roots.length ∧
      ((∀ t ∈ ts0, RoutedD (Build.treeCtx c o st.store).isZero
          (maskSide updated (sideD (Build.treeCtx c o st.store))) t) →
        ∀ t ∈ ts', RoutedT (Build.treeCtx c o st.store) t) ∧
      ((∀ t ∈ ts0, ∀ bk ∈ t.buckets, bk.2.length ≤ Build.cap c o) →
        ∀ t ∈ ts', ∀ bk ∈ t.buckets, bk.2.length ≤ Build.cap c o) := by
  unfold afterUsedWith at h
  obtain ⟨roots1, st1, h1, k1⟩ := BuildM.bind_ok.1 h
  obtain ⟨roots2, st2, h2, k2⟩ := BuildM.bind_ok.1 k1
  obtain ⟨⟨large3, g3⟩, st3, h3, k3⟩ := BuildM.bind_ok.1 k2
  simp only at k3
  -- 1.-3. delete the extra trees, delete the updated items, insert those that are still stored
  obtain ⟨ts1, ts2, ts3, inUse3, sub1, f1, sub2, f3, hg3, sup3, in3, step3, frame3, rel3, none3, cap3, _, _, len2⟩ :=
    deleteInsert_spec hi hcap hw f0 hitems hupd hrel hused hg h1 h2 h3
  have hw3 := step3.wf hw
  -- 4. create the missing trees
  obtain ⟨x4, st4, h4, k4⟩ := BuildM.bind_ok.1 k3
  clear k3
  obtain ⟨roots4, large4, g4⟩ := x4
  simp only at k4
  obtain ⟨ts4, inUse4, f4, len4, hg4, sup4, in4, step4, frame4, new4, lsub4⟩ :=
    newTrees_spec c items hi hitems _ roots2 large3 roots4 large4 ts3 g3 g4 inUse3 st3 st4 f3 in3 hg3 h4
  have hw4 := step4.wf hw3
  -- 5. re-split the over-full buckets
  obtain ⟨u5, st5, h5, k5⟩ := BuildM.bind_ok.1 k4
  clear k4
  obtain ⟨ts5, f5, step5, frame5, routed5, cap5⟩ :=
    resplit_spec c o roots4 items hi hcap fuel large4 ts4 g4 inUse4 st4 st5 f4 in4 hg4 hw4 h5
  -- 6. the metadata
  have e6 := writeMetadata_ok k5
  have frame04 : TreeFrame c st.store st4.store := frame3.trans frame4
  have frame05 : TreeFrame c st.store st5.store := frame04.trans frame5
  have cx4 : Build.treeCtx c o st4.store = Build.treeCtx c o st.store := frame04.treeCtx o
  refine ⟨roots4, ts5, ?_, ?_, ?_, ?_, ?_, ?_, ?_⟩
  · rw [e6, Store.get_put_same]
  · rw [e6]
    exact f5.frame (fun i => Store.get_put_other _ _ _ _ (Ne.symm (c.metaKey_ne_treeKey i)))
  · rw [e6]
    exact ((step3.trans step4).trans step5).put_tree _ _ (c.metaKey_wf hi) c.metaKey_mode
  · intro k hk1 hk2
    rw [e6, Store.get_put_other _ _ _ _ hk2]
    exact frame05 k hk1
  · rw [len4, len2]
    have := Nat.le_total roots.length (Build.targetNTrees o c.dims items.length roots.length)
    omega
  · intro hr
    rw [cx4] at routed5
    apply routed5
    intro t4 ht4
    rcases new4 t4 ht4 with h' | ⟨id, rfl, _⟩
    · obtain ⟨t2, ht2, r23⟩ := rel3.mem_right t4 h'
      apply r23.routed
      obtain ⟨t1, ht1, rfl⟩ := sub2 t2 ht2
      rw [routedT_iff_routedD]
      apply RoutedD.unmask (D := updated) (delT_routed _ _ _ _ t1 (hr t1 (sub1 t1 ht1)))
      intro x hx
      exact ((delT_tree_items hcap hupd ((TWF_iff t1).2 (f1.wf t1 ht1)) (not_leaf_of_refs f1.refs t1 ht1) x).1 hx).2
    · trivial
  · intro hc
    apply cap5
    intro t4 ht4 bk hbk hnf
    rcases new4 t4 ht4 with h' | ⟨id, rfl, hid⟩
    · apply lsub4
      by_cases hno : roots2 = [] ∨ IdSet.inter items updated = []
      · -- nothing was inserted: the trees are those after the deletion
        rw [(none3 hno).1] at h'
        obtain ⟨t1, ht1, rfl⟩ := sub2 t4 h'
        have := delT_capacity (Build.cap c o) updated t1 (fun b hb => hc t1 (sub1 t1 ht1) b hb) bk hbk
        exact absurd (by simpa [fits] using this) hnf
      · simp only [not_or] at hno
        exact cap3 hno.1 hno.2 t4 h' bk hbk hnf
    · simp only [T.buckets, List.mem_singleton] at hbk
      subst hbk
      exact hid

end Arroy
