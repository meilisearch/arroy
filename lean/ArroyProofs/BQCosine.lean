import ArroyProofs.BQLemmas
import ArroyProofs.F32DivRange
/-! The binary-quantised cosine distance as a function of the number of stored words and of `h`. -/
namespace Arroy
namespace F32L
open SF

/-- a negative non-zero finite value is below every non-negative value up to `+inf` -/
theorem lt_of_neg_nonneg {x y : Nat} {m : Nat} {e : Int}
    (hx : SF.unpack F32.fmt x = .fin true m e) (hm : m ≠ 0) (hy : y ≤ 0x7f800000) :
    F32.lt x y = true := by
  unfold F32.lt SF.lt
  rw [hx]
  rcases Nat.lt_or_eq_of_le hy with h | h
  · have hy' : ∃ my ey, SF.unpack F32.fmt y = .fin false my ey := by
      rw [unpack_pos y h]; by_cases hq : y / 2 ^ 23 = 0
      · rw [if_pos hq]; exact ⟨_, _, rfl⟩
      · rw [if_neg hq]; exact ⟨_, _, rfl⟩
    obtain ⟨my, ey, hy'⟩ := hy'
    rw [hy']
    simp only [SF.ltV, SF.exactAdd, Bool.not_false, if_true]
    have hp : 0 < m * 2 ^ ((e - min e ey).toNat) := Nat.mul_pos (by omega) (Nat.two_pow_pos _)
    generalize m * 2 ^ ((e - min e ey).toNat) = a at *
    generalize my * 2 ^ ((ey - min e ey).toNat) = b at *
    have h1 : (-(a : Int) + -(b : Int) < 0) := by omega
    have h2 : (-(a : Int) + -(b : Int)).natAbs ≠ 0 := by omega
    simp [h1, h2]
  · subst h
    rw [unpack_inf]
    simp [SF.ltV]

/-- for `D = 2^j` every step of `(1 − (D − 2h)/D) / 2` is exact: the result is `h / D` -/
theorem cosine_pow2 (j h : Nat) (hj1 : 1 ≤ j) (hj : j ≤ 22) (hh : h ≤ 2 ^ j) :
    F32.div (F32.sub F32.one (F32.div (F32.ofInt (((2 ^ j : Nat) : Int) - 2 * (h : Int))) (F32.ofNat (2 ^ j))))
      F32.two = F32.div (F32.ofNat h) (F32.ofNat (2 ^ j)) := by
  have hD : 2 ^ j ≤ 2 ^ 22 := Nat.pow_le_pow_right (by decide) hj
  have hy := unpack_ofNat_pow2 j (by omega)
  have h2 : unpack f32 F32.two = .fin false (2 ^ 23) (((1 : Nat) : Int) - 23) := unpack_two
  have hD0 : 0 < 2 ^ j := Nat.two_pow_pos j
  rcases Nat.eq_zero_or_pos h with h0 | h0
  · -- `h = 0`: `D / D = 1`, `1 − 1 = 0`
    subst h0
    obtain ⟨f1, f2⟩ := ofNat_field hD0 (by omega)
    rw [show ((2 ^ j : Nat) : Int) - 2 * ((0 : Nat) : Int) = ((2 ^ j : Nat) : Int) by omega, ofInt_natCast,
      div_self _ (by omega) (by omega), zero_div_ofNat hD0]
    decide
  · have hLh : bitLen h ≤ 24 := bitLen_le (by omega)
    have hL1 := (bitLen_bounds h0).1
    rw [show F32.div (F32.ofNat h) (F32.ofNat (2 ^ j)) = roundPack f32 false h (0 - (j : Int)) false from
      div_pow2 false h 0 j _ h0 hLh (by omega) (by omega) hy, Int.zero_sub]
    have h2L : bitLen (2 * h) ≤ 24 := bitLen_le (by omega)
    have h2L1 := (bitLen_bounds (show 0 < 2 * h by omega)).1
    -- the last two steps: `(2h/D) / 2 = h/D`
    have hfin : F32.div (roundPack f32 false (2 * h) (-(j : Int)) false) F32.two
        = roundPack f32 false h (-(j : Int)) false := by
      rw [div_pow2 false (2 * h) (-(j : Int)) 1 _ (by omega) h2L (by omega) (by omega) h2, Nat.mul_comm]
      exact F32M.roundPack_scale false h 1 (-(j : Int))
    by_cases ht : 2 * h = 2 ^ j
    · -- `D − 2h = 0`
      rw [show ((2 ^ j : Nat) : Int) - 2 * (h : Int) = ((0 : Nat) : Int) by omega, ofInt_natCast,
        zero_div_ofNat hD0, show F32.sub F32.one 0 = roundPack f32 false 1 0 false by decide +kernel,
        div_pow2 false 1 0 1 _ (by decide) (by decide) (by decide) (by decide) h2]
      have := F32M.roundPack_scale false 1 (j - 1) (0 - ((1 : Nat) : Int))
      rw [Nat.one_mul] at this
      rw [← this]
      congr 1
      · have : 2 ^ j = 2 ^ (j - 1) * 2 := by rw [← Nat.pow_succ]; congr 1; omega
        omega
      · omega
    · generalize htd : ((2 ^ j : Nat) : Int) - 2 * (h : Int) = t
      have ha0 : 0 < t.natAbs := by omega
      have hLa : bitLen t.natAbs ≤ j + 1 := bitLen_le (by rw [Nat.pow_succ]; omega)
      have hLa1 := (bitLen_bounds ha0).1
      have hak : if decide (t < 0) = true then 2 ^ j + t.natAbs = 2 * h else t.natAbs + 2 * h = 2 ^ j := by
        by_cases hn : t < 0
        · rw [decide_eq_true hn, if_pos rfl]; omega
        · rw [decide_eq_false hn, if_neg (by decide)]; omega
      rw [ofInt_eq, div_pow2 _ _ 0 j _ ha0 (by omega) (by omega) (by omega) hy, Int.zero_sub,
        one_sub_pow2 _ _ (2 * h) j ha0 (by omega) (by omega) hak hLa (by omega)]
      exact hfin
end F32L

namespace BQL
open Generated

/-- `BinaryQuantizedCosine::built_distance` (repaired) for leaves of `wu` and `wv` words at Hamming
    distance `h`: the product of the norms is `sqrt(64 wu · 64 wv)`, computed from the lengths -/
def cosineOf (wu wv h : Nat) : Nat :=
  let pnqn := F32.sqrt (F32.mul (F32.ofNat (64 * wu)) (F32.ofNat (64 * wv)))
  let pq := F32.ofInt ((64 * min wu wv : Nat) - 2 * (h : Nat))
  if !(F32.eq pnqn F32.zero) then F32.div (F32.sub F32.one (F32.div pq pnqn)) F32.two else F32.zero

/-- the closed form once `sqrt(D·D) = D`: `(1 − (D − 2h)/D) / 2`, `D = 64 w` -/
def cosineClosed (w h : Nat) : Nat :=
  F32.div (F32.sub F32.one (F32.div (F32.ofInt ((64 * w : Nat) - 2 * (h : Nat))) (F32.ofNat (64 * w))))
    F32.two

theorem built_cosine (host : Host) (ph qh u v : List Nat) :
    Metric.builtDistance .bqCosine host ph u qh v = cosineOf u.length v.length (BQ.hamming u v) := by
  simp only [Metric.builtDistance, cosineOf]
  rfl

theorem cosineOf_comm (wu wv h : Nat) : cosineOf wu wv h = cosineOf wv wu h := by
  unfold cosineOf
  rw [F32L.mul_comm, Nat.min_comm]

theorem cosineOf_zero_words (h : Nat) : cosineOf 0 0 h = 0 := by
  have : F32.eq (F32.sqrt (F32.mul (F32.ofNat (64 * 0)) (F32.ofNat (64 * 0)))) F32.zero = true := by
    decide +kernel
  unfold cosineOf
  simp only [this]
  rfl

theorem ofNat_pos_eq_zero_false {n : Nat} (h : 0 < n) : F32.eq (F32.ofNat n) F32.zero = false := by
  have hpos := F32L.ofNat_pos h
  have hlt := F32L.lt_true_of_bits_lt (x := F32.zero) (y := F32.ofNat n) hpos (F32L.ofNat_le_inf n)
  unfold F32.eq SF.eq
  have : SF.le F32.fmt (F32.ofNat n) F32.zero = false := by
    unfold SF.le
    unfold F32.lt at hlt
    simp [hlt]
  simp [this]

/-- with `D = 64 w < 2^62` the norm product is exactly `D`, so the distance is `(1 − (D−2h)/D)/2` -/
theorem cosineOf_closed (w h : Nat) (hw : 0 < w) (hb : 64 * w < 2 ^ 62) :
    cosineOf w w h = cosineClosed w h := by
  unfold cosineOf cosineClosed
  simp only [F32L.sqrt_mul_ofNat _ hb, Nat.min_self,
    ofNat_pos_eq_zero_false (show 0 < 64 * w by omega), Bool.not_false, if_true]

/-- equal sign patterns: the distance is `+0.0`, for every number of words below `2^56` -/
theorem cosineOf_self_zero (w : Nat) (hb : 64 * w < 2 ^ 62) : cosineOf w w 0 = 0 := by
  rcases Nat.eq_zero_or_pos w with h | h
  · subst h; exact cosineOf_zero_words 0
  · rw [cosineOf_closed w 0 h hb]
    unfold cosineClosed
    have e1 : (((64 * w : Nat) : Int) - 2 * ((0 : Nat) : Int)) = ((64 * w : Nat) : Int) := by omega
    rw [e1, F32L.ofInt_natCast]
    obtain ⟨a, b⟩ := F32L.ofNat_field (n := 64 * w) (by omega) hb
    rw [F32L.div_self _ (by omega) (by omega)]
    decide +kernel

end BQL
end Arroy
