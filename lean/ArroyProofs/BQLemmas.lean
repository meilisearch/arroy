import ArroyProofs.KernelMap
/-! The sign-bit codec (`BQ.packWord` / `BQ.unpackWord`, `BQ.pack` / `BQ.unpack`) and
popcount of xor = number of differing sign bits. -/
namespace Arroy
namespace BQL
open Generated Kernel

theorem chunks_short (n : Nat) (l : List α) (hn : n ≠ 0) (hl : l ≠ []) (h : l.length ≤ n) :
    chunks n l = [l] := by
  rw [chunks_cons (Nat.pos_of_ne_zero hn) hl, List.take_of_length_le h, List.drop_of_length_le h, chunks_nil]

theorem chunks_length (n : Nat) (l : List α) (hn : 0 < n) :
    (chunks n l).length = (l.length + (n - 1)) / n := by
  induction h : l.length using Nat.strongRecOn generalizing l with
  | _ k ih =>
    by_cases hl : l = []
    · subst hl; subst h
      simp only [chunks_nil, List.length_nil, Nat.zero_add]
      exact (Nat.div_eq_of_lt (by omega)).symm
    · have hlen : 0 < l.length := List.length_pos_iff.mpr hl
      rw [chunks_cons hn hl, List.length_cons,
        ih (l.drop n).length (by simp; omega) _ rfl, List.length_drop]
      by_cases hk : l.length ≤ n
      · have h0 : l.length - n = 0 := by omega
        rw [h0, Nat.zero_add, Nat.div_eq_of_lt (by omega)]
        subst h
        have : (l.length + (n - 1)) / n = 1 := by
          apply Nat.div_eq_of_lt_le <;> omega
        omega
      · subst h
        have : l.length + (n - 1) = (l.length - n + (n - 1)) + n := by omega
        rw [this, Nat.add_div_right _ hn]

/-- the value a component reads back as -/
def sgn (x : Nat) : Nat := if F32.signPositive x then F32.one else F32.negOne

theorem packWord_lt (xs : List Nat) : BQ.packWord xs < 2 ^ xs.length := by
  induction xs with
  | nil => simp [BQ.packWord]
  | cons x xs ih =>
    simp only [BQ.packWord, List.length_cons, Nat.pow_succ]
    split <;> omega

theorem packWord_cons_mod (x : Nat) (xs : List Nat) :
    BQ.packWord (x :: xs) % 2 = if F32.signPositive x then 1 else 0 := by
  simp only [BQ.packWord]; split <;> omega

theorem packWord_cons_div (x : Nat) (xs : List Nat) :
    BQ.packWord (x :: xs) / 2 = BQ.packWord xs := by
  simp only [BQ.packWord]; split <;> omega

theorem unpackWord_zero (k : Nat) : BQ.unpackWord k 0 = List.replicate k F32.negOne := by
  induction k with
  | zero => rfl
  | succ k ih => simp [BQ.unpackWord, ih, List.replicate_succ]

theorem unpackWord_length (k w : Nat) : (BQ.unpackWord k w).length = k := by
  induction k generalizing w with
  | zero => rfl
  | succ k ih => simp [BQ.unpackWord, ih]

/-- reading back `xs.length + k` bits of a packed word: the signs, then `k` cleared bits -/
theorem unpackWord_packWord (xs : List Nat) (k : Nat) :
    BQ.unpackWord (xs.length + k) (BQ.packWord xs) = xs.map sgn ++ List.replicate k F32.negOne := by
  induction xs with
  | nil => simp [BQ.packWord, unpackWord_zero]
  | cons x xs ih =>
    have e : (x :: xs).length + k = (xs.length + k) + 1 := by simp; omega
    rw [e]
    simp only [BQ.unpackWord, List.map_cons, List.cons_append]
    rw [packWord_cons_mod, packWord_cons_div, ih]
    by_cases hx : F32.signPositive x <;> simp [hx, sgn]

/-- packing as a function of the sign bits only -/
def packBits : List Bool → Nat
  | [] => 0
  | b :: bs => (if b then 1 else 0) + 2 * packBits bs

theorem packWord_eq_packBits (xs : List Nat) :
    BQ.packWord xs = packBits (xs.map F32.signPositive) := by
  induction xs with
  | nil => rfl
  | cons x xs ih => simp [BQ.packWord, packBits, ih]

theorem pack_eq_packBits (xs : List Nat) :
    BQ.pack xs = (chunks quantizedWordBits (xs.map F32.signPositive)).map packBits := by
  rw [chunks_map _ _ _ _ (Nat.le_refl _), List.map_map]
  simp only [BQ.pack]
  apply List.map_congr_left
  intro l _
  exact packWord_eq_packBits l

theorem unpack_cons (w : Nat) (ws : List Nat) :
    BQ.unpack (w :: ws) = BQ.unpackWord quantizedWordBits w ++ BQ.unpack ws := by
  simp [BQ.unpack]

theorem pack_nil : BQ.pack [] = [] := by simp [BQ.pack, chunks_nil]

theorem pack_cons_eq (xs : List Nat) (h : xs ≠ []) :
    BQ.pack xs = BQ.packWord (xs.take 64) :: BQ.pack (xs.drop 64) := by
  simp only [BQ.pack]
  rw [chunks_cons (by decide) h]
  rfl

/-- number of padding bits after `n` components -/
def padBits (n : Nat) : Nat := (64 - n % 64) % 64

/-- the full unpacked vector: the sign values followed by the padding, all `-1.0` -/
theorem unpack_pack (xs : List Nat) :
    BQ.unpack (BQ.pack xs) = xs.map sgn ++ List.replicate (padBits xs.length) F32.negOne := by
  induction h : xs.length using Nat.strongRecOn generalizing xs with
  | _ n ih =>
    by_cases hl : xs = []
    · subst hl; subst h; simp [pack_nil, BQ.unpack, padBits]
    · have hlen : 0 < xs.length := List.length_pos_iff.mpr hl
      rw [pack_cons_eq xs hl, unpack_cons]
      have hq : quantizedWordBits = 64 := rfl
      rw [hq]
      by_cases hk : 64 ≤ xs.length
      · have ht : (xs.take 64).length = 64 := by simp; omega
        have := unpackWord_packWord (xs.take 64) 0
        rw [ht] at this
        rw [this, ih (xs.drop 64).length (by simp; omega) _ rfl]
        simp only [List.replicate_zero, List.append_nil, List.length_drop]
        have hp : padBits (xs.length - 64) = padBits n := by
          subst h; unfold padBits; congr 2
          have : xs.length = (xs.length - 64) + 64 := by omega
          omega
        rw [hp, ← List.append_assoc, ← List.map_append, List.take_append_drop]
      · have ht : xs.take 64 = xs := List.take_of_length_le (by omega)
        have hd : xs.drop 64 = [] := List.drop_of_length_le (by omega)
        rw [ht, hd, pack_nil]
        have := unpackWord_packWord xs (64 - xs.length)
        have e : xs.length + (64 - xs.length) = 64 := by omega
        rw [e] at this
        rw [this]
        have hp : padBits n = 64 - xs.length := by
          subst h; unfold padBits
          rw [Nat.mod_eq_of_lt (by omega), Nat.mod_eq_of_lt (by omega)]
        simp [BQ.unpack, hp]

theorem pack_length (xs : List Nat) : (BQ.pack xs).length = (xs.length + 63) / 64 := by
  simp only [BQ.pack, List.length_map]
  exact chunks_length 64 xs (by decide)

theorem pack_lt (xs : List Nat) : ∀ w ∈ BQ.pack xs, w < 2 ^ 64 := by
  induction h : xs.length using Nat.strongRecOn generalizing xs with
  | _ n ih =>
    by_cases hl : xs = []
    · subst hl; simp [pack_nil]
    · have hlen : 0 < xs.length := List.length_pos_iff.mpr hl
      rw [pack_cons_eq xs hl]
      intro w hw
      rcases List.mem_cons.mp hw with rfl | hw
      · have := packWord_lt (xs.take 64)
        have hle : (xs.take 64).length ≤ 64 := by simp; omega
        exact Nat.lt_of_lt_of_le this (Nat.pow_le_pow_right (by decide) hle)
      · exact ih (xs.drop 64).length (by simp; omega) _ rfl w hw

/-- number of positions at which the sign bits differ -/
def diffSigns : List Nat → List Nat → Nat
  | x :: xs, y :: ys => (if F32.signPositive x = F32.signPositive y then 0 else 1) + diffSigns xs ys
  | _, _ => 0

theorem diffSigns_eq_countP (xs ys : List Nat) :
    diffSigns xs ys = (xs.zip ys).countP (fun p => F32.signPositive p.1 != F32.signPositive p.2) := by
  induction xs generalizing ys with
  | nil => simp [diffSigns]
  | cons x xs ih =>
    cases ys with
    | nil => simp [diffSigns]
    | cons y ys =>
      simp only [diffSigns, List.zip_cons_cons, List.countP_cons, ih]
      by_cases h : F32.signPositive x = F32.signPositive y <;> simp [h] <;> omega

theorem diffSigns_comm (xs ys : List Nat) : diffSigns xs ys = diffSigns ys xs := by
  induction xs generalizing ys with
  | nil => cases ys <;> simp [diffSigns]
  | cons x xs ih =>
    cases ys with
    | nil => simp [diffSigns]
    | cons y ys =>
      simp only [diffSigns, ih ys]
      by_cases h : F32.signPositive x = F32.signPositive y
      · simp [h]
      · have : ¬ F32.signPositive y = F32.signPositive x := fun e => h e.symm
        simp [h, this]

theorem diffSigns_le (xs ys : List Nat) : diffSigns xs ys ≤ xs.length := by
  induction xs generalizing ys with
  | nil => simp [diffSigns]
  | cons x xs ih =>
    cases ys with
    | nil => simp [diffSigns]
    | cons y ys =>
      simp only [diffSigns, List.length_cons]
      have := ih ys
      split <;> omega

theorem diffSigns_zero_iff (xs ys : List Nat) (hl : xs.length = ys.length) :
    diffSigns xs ys = 0 ↔ xs.map F32.signPositive = ys.map F32.signPositive := by
  induction xs generalizing ys with
  | nil => cases ys <;> simp_all [diffSigns]
  | cons x xs ih =>
    cases ys with
    | nil => simp at hl
    | cons y ys =>
      simp only [List.length_cons, Nat.add_right_cancel_iff] at hl
      simp only [diffSigns, List.map_cons, List.cons.injEq, Nat.add_eq_zero_iff, ih ys hl]
      by_cases h : F32.signPositive x = F32.signPositive y <;> simp [h]

theorem diffSigns_take_drop (n : Nat) (xs ys : List Nat) :
    diffSigns xs ys = diffSigns (xs.take n) (ys.take n) + diffSigns (xs.drop n) (ys.drop n) := by
  induction n generalizing xs ys with
  | zero => simp [diffSigns]
  | succ n ih =>
    cases xs with
    | nil => simp [diffSigns]
    | cons x xs =>
      cases ys with
      | nil => simp [diffSigns]
      | cons y ys =>
        simp only [List.take_succ_cons, List.drop_succ_cons, diffSigns]
        rw [ih xs ys]; omega

theorem popcount_zero (k : Nat) : BQ.popcount k 0 = 0 := by
  induction k with
  | zero => rfl
  | succ k ih => simp [BQ.popcount, ih]

theorem xor_bit_mod (b1 b2 p q : Nat) (h1 : b1 < 2) (h2 : b2 < 2) :
    ((b1 + 2 * p) ^^^ (b2 + 2 * q)) % 2 = if b1 = b2 then 0 else 1 := by
  have := @Nat.xor_mod_two_pow (b1 + 2 * p) (b2 + 2 * q) 1
  simp only [Nat.pow_one] at this
  rw [this]
  have e1 : (b1 + 2 * p) % 2 = b1 := by omega
  have e2 : (b2 + 2 * q) % 2 = b2 := by omega
  rw [e1, e2]
  have c1 : b1 = 0 ∨ b1 = 1 := by omega
  have c2 : b2 = 0 ∨ b2 = 1 := by omega
  rcases c1 with rfl | rfl <;> rcases c2 with rfl | rfl <;> decide

/-- popcount of the xor of two packed words (any number of bits covering them) -/
theorem popcount_xor_packWord (xs ys : List Nat) (hl : xs.length = ys.length) (k : Nat) :
    BQ.popcount (xs.length + k) (BQ.packWord xs ^^^ BQ.packWord ys) = diffSigns xs ys := by
  induction xs generalizing ys with
  | nil =>
    cases ys with
    | nil => simp [BQ.packWord, diffSigns, popcount_zero]
    | cons y ys => simp at hl
  | cons x xs ih =>
    cases ys with
    | nil => simp at hl
    | cons y ys =>
      simp only [List.length_cons, Nat.add_right_cancel_iff] at hl
      have e : (x :: xs).length + k = (xs.length + k) + 1 := by simp; omega
      rw [e]
      simp only [BQ.popcount, BQ.packWord, diffSigns, Nat.xor_div_two]
      have hp : ∀ (b p : Nat), b < 2 → (b + 2 * p) / 2 = p := by intro b p hb; omega
      have hbx : (if F32.signPositive x = true then 1 else 0) < 2 := by split <;> omega
      have hby : (if F32.signPositive y = true then 1 else 0) < 2 := by split <;> omega
      rw [hp _ _ hbx, hp _ _ hby, ih ys hl, xor_bit_mod _ _ _ _ hbx hby]
      congr 1
      by_cases hx : F32.signPositive x <;> by_cases hy : F32.signPositive y <;> simp [hx, hy]

theorem hamming_nil_left (v : List Nat) : BQ.hamming [] v = 0 := by simp [BQ.hamming]

theorem hamming_cons (a b : Nat) (u v : List Nat) :
    BQ.hamming (a :: u) (b :: v) = BQ.popcount 64 (a ^^^ b) + BQ.hamming u v := by
  simp [BQ.hamming, quantizedWordBits]

theorem hamming_comm (u v : List Nat) : BQ.hamming u v = BQ.hamming v u := by
  unfold BQ.hamming
  rw [List.zipWith_comm_of_comm (f := fun a b => BQ.popcount quantizedWordBits (a ^^^ b)) (fun a b => by rw [Nat.xor_comm])]

theorem hamming_self (u : List Nat) : BQ.hamming u u = 0 := by
  induction u with
  | nil => simp [BQ.hamming]
  | cons a u ih => rw [hamming_cons, ih, Nat.xor_self, popcount_zero]

theorem hamming_pack (xs ys : List Nat) (hl : xs.length = ys.length) :
    BQ.hamming (BQ.pack xs) (BQ.pack ys) = diffSigns xs ys := by
  induction h : xs.length using Nat.strongRecOn generalizing xs ys with
  | _ n ih =>
    by_cases hx : xs = []
    · subst hx
      have : ys = [] := List.length_eq_zero_iff.mp (by simpa using hl.symm)
      subst this; simp [pack_nil, BQ.hamming, diffSigns]
    · have hlen : 0 < xs.length := List.length_pos_iff.mpr hx
      have hy : ys ≠ [] := by intro e; subst e; exact hx (List.length_eq_zero_iff.mp hl)
      have hrec : BQ.hamming (BQ.pack (xs.drop 64)) (BQ.pack (ys.drop 64))
          = diffSigns (xs.drop 64) (ys.drop 64) :=
        ih (xs.drop 64).length (by simp; omega) (xs.drop 64) (ys.drop 64) (by simp [hl]) rfl
      rw [pack_cons_eq xs hx, pack_cons_eq ys hy]
      rw [hamming_cons, hrec]
      rw [diffSigns_take_drop 64 xs ys]
      apply congrArg (· + diffSigns (xs.drop 64) (ys.drop 64))
      have hle : (xs.take 64).length ≤ 64 := by simp; omega
      have := popcount_xor_packWord (xs.take 64) (ys.take 64) (by simp [hl])
        (64 - (xs.take 64).length)
      have e : (xs.take 64).length + (64 - (xs.take 64).length) = 64 := by omega
      rw [e] at this
      exact this

end BQL
end Arroy
