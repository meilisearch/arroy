import ArroyProofs.Properties.C12
/-! Re-quantising the f32 view of a quantised vector gives the stored words back. -/
namespace Arroy
open Generated

namespace BQL

theorem signPositive_sgn (x : Nat) : F32.signPositive (sgn x) = F32.signPositive x := by
  unfold sgn
  cases h : F32.signPositive x
  · simp only [Bool.false_eq_true, if_false]; decide
  · simp only [if_true]; decide

/-- the `±1.0` view has the sign pattern of the original -/
theorem signs_map_sgn (xs : List Nat) : C12.signs (xs.map sgn) = C12.signs xs := by
  simp [C12.signs, List.map_map, Function.comp_def, signPositive_sgn]

/-- **re-quantisation is the identity on stored words**: packing the f32 view (truncated to the
declared dimension) of `pack xs` gives `pack xs` -/
theorem pack_unpack_pack (xs : List Nat) :
    BQ.pack ((BQ.unpack (BQ.pack xs)).take xs.length) = BQ.pack xs := by
  rw [C12.C12_roundtrip]
  exact C12.C12_sign_only _ _ (signs_map_sgn xs)

end BQL

end Arroy
