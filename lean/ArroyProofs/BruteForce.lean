import ArroyModel.Check
import ArroyProofs.Exact
import ArroyProofs.PrefixLemmas
import ArroyProofs.StoreLemmas
/-! `Check.bruteForce` (the oracle the harness compares search results with) is the sorted scored item
list, when the item keys of the store are exactly the metadata items. -/
namespace Arroy
open Generated Reader

namespace Store

theorem get_of_mem_nodup {s : Store} (hnd : (s.map (·.1)).Nodup) {k : Key} {v : Val} (h : (k, v) ∈ s) :
    Store.get s k = some v := by
  induction s with
  | nil => cases h
  | cons kv rest ih =>
    obtain ⟨k', v'⟩ := kv
    simp only [List.map_cons, List.nodup_cons] at hnd
    simp only [Store.get]
    rcases List.mem_cons.1 h with h | h
    · cases h; simp
    · have : k' ≠ k := by
        intro e; subst e
        exact hnd.1 (List.mem_map.2 ⟨(k', v), h, rfl⟩)
      simp [this, ih hnd.2 h]

end Store

namespace Checkers

/-- the ids `Check.bruteForce` ranks: the item keys of index `c`, in key order, that hold a leaf and pass the
filter (when there is one) -/
def leafIds (c : Cfg) (s : Store) (filter : Option (List Nat)) : List Nat :=
  (s.keysOf c.index modeItem).filter fun id =>
    (match Store.get s (c.itemKey id) with | some (.leaf _ _) => true | _ => false) &&
    (match filter with | some f => f.contains id | none => true)

theorem filterMap_eq_filter_map {α β : Type} (l : List α) (g : α → Option β) (p : α → Bool) (f : α → β)
    (h : ∀ a ∈ l, g a = if p a = true then some (f a) else none) : l.filterMap g = (l.filter p).map f := by
  induction l with
  | nil => rfl
  | cons a l ih =>
    have ha := h a List.mem_cons_self
    have ih' := ih (fun b hb => h b (List.mem_cons_of_mem _ hb))
    by_cases hp : p a = true
    · rw [if_pos hp] at ha
      simp only [List.filterMap_cons, ha, List.filter_cons, hp, if_true, List.map_cons, ih']
    · rw [if_neg hp] at ha
      simp only [List.filterMap_cons, ha, List.filter_cons, hp, ih']
      rfl

end Checkers

namespace Reader

theorem prefixIter_item_get (c : Cfg) (s : Store) (items : List Nat) (hwf : ∀ kv ∈ s, kv.1.wf)
    (hidx : c.index < 65536) (hkeys : s.keysOf c.index modeItem = items) (hnd : items.Nodup) :
    ∀ kv ∈ s.prefixIter c.index (some modeItem),
      kv.1 = c.itemKey kv.1.item ∧ Store.get s (c.itemKey kv.1.item) = some kv.2 := by
  intro kv hkv
  have hP : ∀ kv ∈ s.prefixIter c.index (some modeItem), kv.1 = c.itemKey kv.1.item := by
    intro kv hkv
    have h := List.mem_filter.1 hkv
    have := (isPrefixOf_kind c.index modeItem kv.1 (hwf kv h.1) hidx (by decide)).1 h.2
    obtain ⟨⟨i, m, it⟩, v⟩ := kv
    simp only at this
    simp [Cfg.itemKey, Key.mkItem, this.1, this.2]
  refine ⟨hP kv hkv, ?_⟩
  have hfil : Store.get s (c.itemKey kv.1.item) =
      Store.get (s.prefixIter c.index (some modeItem)) (c.itemKey kv.1.item) := by
    unfold Store.prefixIter
    rw [Store.get_filter]
    intro v
    simp only
    rw [C16.encodeKey_eq]
    simp only [encodePrefix, Cfg.itemKey, Key.mkItem]
    unfold isPrefixOf
    rw [List.isPrefixOf_iff_prefix, ← List.append_assoc]
    exact List.prefix_append _ _
  rw [hfil, ← hP kv hkv]
  apply Store.get_of_mem_nodup _ (by exact hkv)
  have hmap : (s.prefixIter c.index (some modeItem)).map (·.1) =
      ((s.prefixIter c.index (some modeItem)).map (·.1.item)).map c.itemKey := by
    rw [List.map_map]
    apply List.map_congr_left
    intro kv hkv
    exact hP kv hkv
  rw [hmap]
  have : (s.prefixIter c.index (some modeItem)).map (·.1.item) = items := hkeys
  rw [this]
  exact List.Pairwise.map c.itemKey (fun a b hab h => hab (c.itemKey_inj h)) hnd

/-- **`Check.bruteForce` is the `scoreLe`-sorted list of the scored leaf ids** of the index (inside the filter),
when the keys of the store are well formed and no item key repeats -/
theorem bruteForce_eq_leafIds (c : Cfg) (s : Store) (qh qv : List Nat) (filter : Option (List Nat))
    (hwf : ∀ kv ∈ s, kv.1.wf) (hidx : c.index < 65536) (hnd : (s.keysOf c.index modeItem).Nodup) :
    Check.bruteForce c s qh qv filter = sortedScored c s qh qv (Checkers.leafIds c s filter) := by
  have hg := prefixIter_item_get c s _ hwf hidx rfl hnd
  unfold Check.bruteForce sortedScored
  simp only []
  congr 1
  unfold scored Checkers.leafIds Store.keysOf
  rw [List.filter_map, List.map_map, List.map_filterMap]
  apply Checkers.filterMap_eq_filter_map
  rintro ⟨k, val⟩ hkv
  obtain ⟨_, h2⟩ := hg _ hkv
  simp only [Function.comp] at h2 ⊢
  simp only [scoreOf, h2]
  cases val with
  | leaf h v =>
    cases filter with
    | none => simp
    | some f => simp
  | _ => simp

/-- without a filter, when the item keys of the store are exactly the metadata items and all hold leaves,
`bruteForce` is the sorted scored item list -/
theorem bruteForce_eq (c : Cfg) (s : Store) (qh qv : List Nat) (items : List Nat) (hwf : ∀ kv ∈ s, kv.1.wf)
    (hidx : c.index < 65536) (hkeys : s.keysOf c.index modeItem = items) (hnd : items.Nodup)
    (hleaf : ∀ x ∈ items, IsLeaf c s x) :
    Check.bruteForce c s qh qv none = sortedScored c s qh qv items := by
  rw [bruteForce_eq_leafIds c s qh qv none hwf hidx (by rw [hkeys]; exact hnd)]
  congr 1
  unfold Checkers.leafIds
  rw [hkeys]
  apply List.filter_eq_self.2
  intro x hx
  obtain ⟨h, v, hl⟩ := hleaf x hx
  simp [hl]

end Reader
end Arroy
