import ArroyProofs.AfterUsed
/-! `buildWith mk` (`build` is `buildWith IdGen.new`) on a store whose index is unbuilt or holds a valid forest with
complete marks, for a run without cancellation schedule and any fresh id supply `mk`: the result is a valid
forest over the stored items. -/
namespace Arroy
open BuildM Generated IdSet Transp

/-- what a build starts from: the forest of the last build (empty if there is none) and marks that
    account for every difference between its items and the stored items -/
structure Old (c : Cfg) (s : Store) (roots items : List Nat) (ts : List T) : Prop where
  forest : Forest c s roots items ts
  roots_eq : rootsOf c s = roots
  marks : MarksComplete c s items

/-- the id generator hypothesis of the top-level theorems (`ConcurrentNodeIds::new` on the used
    tree ids hands out fresh 32-bit ids; proved as part of C13) -/
def FreshSupply : Prop :=
  ∀ used : List Nat, IdSet.Sorted used → (∀ i ∈ used, i < 4294967296) → GenOK used (IdGen.new used)

/-- the same hypothesis on an arbitrary supply `mk` (`FreshSupply` is `FreshSupplyOf IdGen.new`) -/
def FreshSupplyOf (mk : List Nat → IdGen) : Prop :=
  ∀ used : List Nat, IdSet.Sorted used → (∀ i ∈ used, i < 4294967296) → GenOK used (mk used)

theorem freshSupplyOf_new : FreshSupplyOf IdGen.new ↔ FreshSupply := Iff.rfl

theorem Old.of_inv {c : Cfg} {s : Store} (h : IndexInvW c s) (hi : c.index < 65536) :
    ∃ roots items ts, Old c s roots items ts := by
  obtain ⟨_, hw, _, hb⟩ := h
  rcases hb with ⟨hm, ht⟩ | ⟨name, dims, items, roots, hm, _, ⟨ts, f⟩, hmarks⟩
  · refine ⟨[], s.keysOf c.index modeItem, [], Forest.nil ht _, by simp [rootsOf, hm], ?_⟩
    intro id _
    exact Store.mem_keysOf_iff hw _ _ _ hi (by decide)
  · exact ⟨roots, items, ts, f, by simp [rootsOf, hm], hmarks⟩

theorem rootsOf_congr {c : Cfg} {s s' : Store} (h : Store.get s' c.metaKey = Store.get s c.metaKey) :
    rootsOf c s' = rootsOf c s := by
  simp only [rootsOf, h]

/-- the outcome of a successful build (`items`: the stored item ids) -/
structure BuildOut (c : Cfg) (o : BuildOpts) (s s' : Store) (roots0 : List Nat) (ts0 : List T)
    (roots' : List Nat) (ts' : List T) : Prop where
  metadata : Store.get s' c.metaKey =
    some (.metadata c.metric.nameBytes c.dims (s.keysOf c.index modeItem) roots')
  forest : Forest c s' roots' (s.keysOf c.index modeItem) ts'
  step : StoreStep c s s'
  no_marks : ∀ id, Store.get s' (c.updatedKey id) = none
  vec : ∀ id, vecOf c s' id = vecOf c s id
  present : ∀ id, (Store.get s' (c.itemKey id)).isSome = (Store.get s (c.itemKey id)).isSome
  other : ∀ k : Key, k.index ≠ c.index → Store.get s' k = Store.get s k
  single : fits (Build.cap c o) (s.keysOf c.index modeItem).length = true →
    roots' = (if (s.keysOf c.index modeItem).isEmpty then [] else [0]) ∧
    ts' = (if (s.keysOf c.index modeItem).isEmpty then [] else [.bucket 0 (s.keysOf c.index modeItem)])
  count : fits (Build.cap c o) (s.keysOf c.index modeItem).length = false →
    roots'.length = Build.targetNTrees o c.dims (s.keysOf c.index modeItem).length roots0.length
  routed : (∀ t ∈ ts0, RoutedD (Build.treeCtx c o s).isZero
      (maskSide (s.keysOf c.index modeUpdated) (sideD (Build.treeCtx c o s))) t) →
    ∀ t ∈ ts', RoutedT (Build.treeCtx c o s) t
  capacity : (∀ t ∈ ts0, ∀ bk ∈ t.buckets, bk.2.length ≤ Build.cap c o) →
    ∀ t ∈ ts', ∀ bk ∈ t.buckets, bk.2.length ≤ Build.cap c o

theorem Old.mem_items_iff {c : Cfg} {s : Store} {roots items : List Nat} {ts : List T} (old : Old c s roots items ts)
    (hw : Store.WF s) (hi : c.index < 65536) {x : Nat} (hx : x ∉ s.keysOf c.index modeUpdated) :
    x ∈ items ↔ x ∈ s.keysOf c.index modeItem := by
  rw [Store.mem_keysOf_iff hw _ _ _ hi (by decide)]
  exact old.marks x ((not_mem_keysOf_updated_iff hw hi x).1 hx)

/-- `BuildOut` from the state `s3` after the first three steps and what the rest of the build (the single-bucket
    shortcut or the main path) does to `s3`: it only writes tree nodes, the metadata and the version record -/
theorem BuildOut.of_prefix {c : Cfg} {o : BuildOpts} {s s3 s' : Store} {roots0 roots' : List Nat} {ts0 ts' : List T}
    (p : PrefixOut c s s3) (hstep : StoreStep c s3 s')
    (hframe : ∀ k, (∀ i, k ≠ c.treeKey i) → k ≠ c.metaKey → k ≠ c.versionKey → Store.get s' k = Store.get s3 k)
    (hmeta : Store.get s' c.metaKey = some (.metadata c.metric.nameBytes c.dims (s.keysOf c.index modeItem) roots'))
    (hforest : Forest c s' roots' (s.keysOf c.index modeItem) ts')
    (hsingle : fits (Build.cap c o) (s.keysOf c.index modeItem).length = true →
      roots' = (if (s.keysOf c.index modeItem).isEmpty then [] else [0]) ∧
      ts' = (if (s.keysOf c.index modeItem).isEmpty then [] else [.bucket 0 (s.keysOf c.index modeItem)]))
    (hcount : fits (Build.cap c o) (s.keysOf c.index modeItem).length = false →
      roots'.length = Build.targetNTrees o c.dims (s.keysOf c.index modeItem).length roots0.length)
    (hrouted : (∀ t ∈ ts0, RoutedD (Build.treeCtx c o s).isZero
        (maskSide (s.keysOf c.index modeUpdated) (sideD (Build.treeCtx c o s))) t) →
      ∀ t ∈ ts', RoutedT (Build.treeCtx c o s) t)
    (hcapacity : (∀ t ∈ ts0, ∀ bk ∈ t.buckets, bk.2.length ≤ Build.cap c o) →
      ∀ t ∈ ts', ∀ bk ∈ t.buckets, bk.2.length ≤ Build.cap c o) :
    BuildOut c o s s' roots0 ts0 roots' ts' := by
  have hitem : ∀ id, Store.get s' (c.itemKey id) = Store.get s3 (c.itemKey id) := fun id =>
    hframe _ (fun i => c.itemKey_ne_treeKey id i) (Ne.symm (c.metaKey_ne_itemKey c id))
      (Ne.symm (c.versionKey_ne_itemKey id))
  refine ⟨hmeta, hforest, p.step.trans hstep, ?_, ?_, ?_, ?_, hsingle, hcount, hrouted, hcapacity⟩
  · intro id
    rw [hframe _ (fun i => c.updatedKey_ne_treeKey id i) (Ne.symm (c.metaKey_ne_updatedKey c id))
      (Ne.symm (c.versionKey_ne_updatedKey id))]
    exact p.no_marks id
  · intro id
    rw [vecOf_congr (hitem id), p.vec]
  · intro id
    rw [hitem, p.present]
  · intro k hk
    rw [hframe k (fun i e => hk (by rw [e]; rfl)) (fun e => hk (by rw [e]; rfl)) (fun e => hk (by rw [e]; rfl))]
    exact p.other k hk

theorem usedTreeNode_of_none (c : Cfg) {st : BState} (h : st.cancelAt = none) :
    Build.usedTreeNode c st =
      .ok (st.store.keysOf c.index modeTree, { st with polls := st.polls + (st.store.keysOf c.index modeTree).length }) :=
  usedTreeNode_noswallow c (fun ⟨n, hn, _⟩ => by rw [h] at hn; cases hn)

/-- everything a successful build without cancellation schedule establishes, for any fresh id supply -/
theorem buildWith_core (mk : List Nat → IdGen) (c : Cfg) (o : BuildOpts) (fuel : Nat) (st st' : BState)
    (roots0 items0 : List Nat) (ts0 : List T)
    (hi : c.index < 65536) (hcap : 1 ≤ Build.cap c o)
    (hs : Store.Sorted st.store) (hw : Store.WF st.store)
    (old : Old c st.store roots0 items0 ts0) (hnone : st.cancelAt = none) (hfresh : FreshSupplyOf mk)
    (h : Build.buildWith mk c o fuel st = .ok ((), st')) :
    ∃ roots' ts', BuildOut c o st.store st'.store roots0 ts0 roots' ts' := by
  rw [buildWith_eq] at h
  obtain ⟨st3, p, hc3, k3⟩ := buildPrefix_ok_inv c hs hw hi h
  clear h
  have hs3 := p.step.sorted hs
  have hw3 := p.step.wf hw
  have hsitems : Sorted (st.store.keysOf c.index modeItem) := Store.keysOf_sorted hs hw _ _ hi (by decide)
  split at k3
  · -- the index fits in one bucket
    rename_i hfit
    obtain ⟨sstep, smeta, sother, sforest⟩ := singleLeaf_spec c _ hw3 hi hsitems k3
    refine ⟨_, _, BuildOut.of_prefix p sstep sother smeta sforest (fun _ => ⟨rfl, rfl⟩) ?_ ?_ ?_⟩
    · intro hnf; rw [hfit] at hnf; cases hnf
    · intro _ t ht
      split at ht
      · cases ht
      · simp only [List.mem_singleton] at ht
        subst ht; trivial
    · intro _ t ht bk hbk
      split at ht
      · cases ht
      · simp only [List.mem_singleton] at ht
        subst ht
        simp only [T.buckets, List.mem_singleton] at hbk
        subst hbk
        simpa [fits] using hfit
  · -- the main path
    rename_i hfit
    rw [bind'_getStore, bind'_of_ok (usedTreeNode_of_none c (by rw [hc3, hnone])),
      rootsOf_congr p.meta, old.roots_eq] at k3
    have hused_lt : ∀ i ∈ st3.store.keysOf c.index modeTree, i < 4294967296 := by
      intro i hi'
      rw [Store.mem_keysOf_iff hw3 _ _ _ hi (by decide)] at hi'
      exact lt_of_isSome_tree hw3 hi'
    obtain ⟨roots', ts', a1, a2, a3, a4, a5, a6, a7⟩ :=
      afterUsedWith_spec _ c o fuel _ _ roots0 _ items0 ts0
        { st3 with polls := st3.polls + (st3.store.keysOf c.index modeTree).length } st' hi hcap hw3 (old.forest.frame p.tree) hsitems
        (Store.keysOf_sorted hs hw _ _ hi (by decide)) (fun x hx => old.mem_items_iff hw hi hx)
        (fun i hi' => (Store.mem_keysOf_iff hw3 _ _ _ hi (by decide)).2 hi')
        (hfresh _ (Store.keysOf_sorted hs3 hw3 _ _ hi (by decide)) hused_lt) k3
    rw [show Build.treeCtx c o st3.store = Build.treeCtx c o st.store from treeCtx_stable c o p.vec] at a6
    refine ⟨roots', ts', BuildOut.of_prefix p a3 (fun k h1 h2 _ => a4 k h1 h2) a1 a2 ?_ (fun _ => a5) a6 a7⟩
    intro hf
    rw [hf] at hfit
    exact absurd rfl hfit

end Arroy
