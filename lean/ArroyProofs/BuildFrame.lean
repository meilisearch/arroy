import ArroyProofs.StoreOk
/-! What `Writer::build` keeps, compositionally.

`BuildKeeps c P S`: the store invariant `S` survives the primitive writes of a build of index `c`, where
`P` is what the split nodes read off an `S`-store give for their normals and what the split nodes written
need of theirs. Every helper of `Build.lean` then keeps `BInv P S`: `S` of the store and `P` of what is left
of the oracle's normals. The DotProduct preprocessing is a hypothesis of its own.

A store preorder `R` closed under the writes (`OpsClosed`) is the case `S := R s₀`: "what a build may
touch" (`StorePres R`) comes out of the same walk. -/
namespace Arroy
open Generated BuildM

structure BuildKeeps (c : Cfg) (P : List Nat → Prop) (S : Store → Prop) : Prop where
  /-- the normal of a random split -/
  zero : ∀ n, P n → P (List.replicate n.length 0)
  read : ∀ s id l r n, S s → Store.get s (c.treeKey id) = some (.split l r n) → P n
  putTree : ∀ s id v, S s → Val.NOk P v → S (Store.put s (c.treeKey id) v)
  putMeta : ∀ s it r, S s → S (Store.put s c.metaKey (.metadata c.metric.nameBytes c.dims it r))
  putVersion : ∀ s, S s →
    S (Store.put s c.versionKey (.version crateVersion.1 crateVersion.2.1 crateVersion.2.2))
  /-- updated marks, tree nodes, and whatever non-item child id `delete_tree` follows -/
  erase : ∀ s m id, m ≠ modeItem → S s → S (Store.erase s ⟨c.index, m, id⟩)
  /-- the tree range deletion of the single-bucket shortcut -/
  delRange : ∀ s, S s → S (Store.deleteRange s (c.treeKey 0) (c.treeKey IdGen.u32Max))

/-- the invariant of the build state: the store, and the normals left in the oracle -/
def BInv (P : List Nat → Prop) (S : Store → Prop) (st : BState) : Prop :=
  S st.store ∧ ∀ n ∈ st.normals, P n

namespace Tr
variable {α : Type} {P : List Nat → Prop} {S : Store → Prop}

/-- a computation that leaves the store and the oracle's normals alone -/
theorem of_same {m : BuildM α}
    (h : ∀ st a st', m st = .ok (a, st') → st'.store = st.store ∧ st'.normals = st.normals) :
    Tr (BInv P S) m (fun _ => True) := by
  intro st a st' hI e
  obtain ⟨h1, h2⟩ := h _ _ _ e
  exact ⟨by unfold BInv; rw [h1, h2]; exact hI, trivial⟩

theorem poll : Tr (BInv P S) BuildM.poll (fun _ => True) :=
  of_same fun st _ st' h => by rw [BuildM.poll_ok h]; exact ⟨rfl, rfl⟩

theorem pollN (k : Nat) : Tr (BInv P S) (BuildM.pollN k) (fun _ => True) := by
  induction k with
  | zero => exact pure () trivial
  | succ k ih => exact bind' poll (fun _ _ => ih)

theorem nextBatch : Tr (BInv P S) BuildM.nextBatch (fun _ => True) :=
  of_same fun st _ st' h => by rw [BuildM.nextBatch_ok h]; exact ⟨rfl, rfl⟩

theorem usedTreeNode (c : Cfg) : Tr (BInv P S) (Build.usedTreeNode c) (fun _ => True) :=
  of_same fun st _ st' h => by obtain ⟨p, rfl⟩ := Build.usedTreeNode_ok h; exact ⟨rfl, rfl⟩

theorem setRands (r : List Bool) :
    Tr (BInv P S) (fun s => .ok ((), { s with rands := r }) : BuildM Unit) (fun _ => True) :=
  of_same fun st _ st' h => by cases h; exact ⟨rfl, rfl⟩

theorem getStore : Tr (BInv P S) BuildM.getStore S := by
  intro st a st' hI h
  cases h
  exact ⟨hI, hI.1⟩

theorem peek : Tr (BInv P S) (fun s => .ok (s, s) : BuildM BState) (BInv P S) := by
  intro st a st' hI h
  cases h
  exact ⟨hI, hI⟩

theorem setNormalsRands (ns : List (List Nat)) (r : List Bool) (hns : ∀ n ∈ ns, P n) :
    Tr (BInv P S) (fun s => .ok ((), { s with normals := ns, rands := r }) : BuildM Unit) (fun _ => True) := by
  intro st b st' hI h
  cases h
  exact ⟨⟨hI.1, hns⟩, trivial⟩

theorem modifyStore (f : Store → Store) (hf : ∀ s, S s → S (f s)) :
    Tr (BInv P S) (BuildM.modifyStore f) (fun _ => True) := by
  intro st b st' hI h
  cases h
  exact ⟨⟨hf _ hI.1, hI.2⟩, trivial⟩

theorem setStore (s : Store) (hs : S s) : Tr (BInv P S) (BuildM.setStore s) (fun _ => True) := by
  intro st b st' hI h
  cases h
  exact ⟨⟨hs, hI.2⟩, trivial⟩

theorem reifyRoot {c : Cfg} (h : BuildKeeps c P S) (s : Store) (root : Nat) (hs : S s) :
    Tr (BInv P S) (Build.reifyRoot c s root) (TOk P) := by
  unfold Build.reifyRoot
  split
  · rename_i t ht
    exact pure _ (reify_tok (fun id l r n => h.read s id l r n hs) _ _ _ ht)
  · exact fail _

end Tr

namespace Build
variable {c : Cfg} {P : List Nat → Prop} {S : Store → Prop}

theorem preProcessItems_keeps (hdot : c.metric = .dot → ∀ s, S s → S (preprocessDot c s)) :
    Tr (BInv P S) (preProcessItems c) (fun _ => True) := by
  unfold preProcessItems
  apply Tr.bind Tr.poll; intro _ _
  split
  · rename_i hm
    exact Tr.modifyStore _ (hdot hm)
  · exact Tr.pure _ trivial

theorem itemIndices_keeps : Tr (BInv P S) (itemIndices c) (fun _ => True) := by
  unfold itemIndices
  apply Tr.bind Tr.getStore; intro s _
  apply Tr.bind (Tr.pollN _); intro _ _
  exact Tr.pure _ trivial

theorem resetUpdated_keeps (h : BuildKeeps c P S) : Tr (BInv P S) (resetUpdated c) (fun _ => True) := by
  unfold resetUpdated
  apply Tr.bind Tr.getStore; intro _ _
  apply Tr.bind (Q := fun _ => True)
  · apply Tr.forEach; intro id _
    apply Tr.bind Tr.poll; intro _ _
    exact Tr.modifyStore _ (fun s => h.erase s modeUpdated id (by decide))
  · intro _ _; exact Tr.pure _ trivial

theorem writeMetadata_keeps (h : BuildKeeps c P S) (items roots : List Nat) :
    Tr (BInv P S) (writeMetadata c items roots) (fun _ => True) :=
  Tr.modifyStore _ (fun s => h.putMeta s items roots)

theorem singleLeaf_keeps (h : BuildKeeps c P S) (items : List Nat) :
    Tr (BInv P S) (singleLeaf c items) (fun _ => True) := by
  -- what follows the `if`, for whichever roots
  have rest : ∀ r, Tr (BInv P S) (do
      poll
      writeMetadata c items r
      modifyStore fun st => Store.put st c.versionKey
        (.version crateVersion.1 crateVersion.2.1 crateVersion.2.2) : BuildM Unit) (fun _ => True) :=
    fun r => Tr.bind Tr.poll fun _ _ => Tr.bind (writeMetadata_keeps h items r) fun _ _ =>
      Tr.modifyStore _ h.putVersion
  unfold singleLeaf
  exact Tr.bind (Tr.modifyStore _ h.delRange) fun _ _ =>
    Tr.ite (Tr.bind (Tr.modifyStore _ fun s hs => h.putTree s 0 (.desc items) hs trivial) fun _ _ => rest _) (rest _)

theorem deleteTree_keeps (h : BuildKeeps c P S) : ∀ (fuel : Nat) (ref : NodeId) (s s' : Store),
    deleteTree c fuel ref s = .ok s' → S s → S s' := by
  intro fuel
  induction fuel with
  | zero => intro ref s s' e; simp [deleteTree] at e
  | succ fuel ih =>
    intro ref s s' e hs
    unfold deleteTree at e
    split at e
    · cases e; exact hs
    · rename_i hitem
      have hm : ref.mode ≠ modeItem := by
        intro e'; apply hitem; simp [NodeId.isItem, e']
      split at e
      · cases e
      · split at e
        · cases e
        · rename_i s1 h1
          split at e
          · cases e
          · rename_i s2 h2
            cases e
            exact h.erase _ _ _ hm (ih _ _ _ h2 (ih _ _ _ h1 hs))
      · cases e; exact h.erase _ _ _ hm hs
      · cases e; exact hs

theorem deleteExtraTrees_keeps (h : BuildKeeps c P S) : ∀ (k : Nat) (roots : List Nat),
    Tr (BInv P S) (deleteExtraTrees c k roots) (fun _ => True) := by
  intro k
  induction k with
  | zero => intro roots; unfold deleteExtraTrees; exact Tr.pure _ trivial
  | succ k ih =>
    intro roots
    unfold deleteExtraTrees
    apply Tr.bind Tr.poll; intro _ _
    split
    · exact Tr.pure _ trivial
    · rename_i root rest
      apply Tr.bind Tr.getStore; intro s hs
      apply Tr.bind (Tr.liftExcept _); intro s' hs'
      apply Tr.bind (Tr.setStore _ (deleteTree_keeps h _ _ _ _ hs' hs)); intro _ _
      exact ih _

theorem writeBack_keeps (h : BuildKeeps c P S) (removed : List Nat) (puts : List (Nat × Val)) (remap : Nat → Nat)
    (hp : PutsOk P puts) : Tr (BInv P S) (writeBack c removed puts remap) (fun _ => True) := by
  unfold writeBack
  apply Tr.bind (Q := fun _ => True)
  · apply Tr.forEach; intro id _
    apply Tr.bind Tr.poll; intro _ _
    exact Tr.modifyStore _ (fun s => h.erase s modeTree id (by decide))
  · intro _ _
    apply Tr.forEach; intro p hpm
    apply Tr.bind Tr.poll; intro _ _
    exact Tr.modifyStore _ (fun s hs => h.putTree s _ _ hs (hp p (List.mem_filter.1 hpm).1))

theorem deleteLoop_keeps (h : BuildKeeps c P S) (o : BuildOpts) (D : List Nat) (s : Store) (hs : S s) :
    ∀ roots, Tr (BInv P S) (deleteLoop c o D s roots) (fun x => PutsOk P x.2.1) := by
  intro roots
  induction roots with
  | nil => unfold deleteLoop; exact Tr.pure _ (by simp)
  | cons root rest ih =>
    unfold deleteLoop
    apply Tr.bind Tr.poll; intro _ _
    apply Tr.bind (Tr.reifyRoot h s root hs); intro t ht
    apply Tr.bind (Tr.pollN _); intro _ _
    apply Tr.bind ih; intro x hx
    obtain ⟨a, b, e⟩ := x
    exact Tr.pure _ (by simp only [putsOk_append]; exact ⟨(delT_tok _ _ _ ht).2, hx⟩)

theorem deleteItemsFromTrees_keeps (h : BuildKeeps c P S) (o : BuildOpts) (roots D : List Nat) :
    Tr (BInv P S) (deleteItemsFromTrees c o roots D) (fun _ => True) := by
  unfold deleteItemsFromTrees
  apply Tr.bind Tr.getStore; intro s hs
  apply Tr.bind (deleteLoop_keeps h o D s hs roots); intro x hx
  obtain ⟨a, b, e⟩ := x
  apply Tr.bind (writeBack_keeps h _ _ _ hx); intro _ _
  exact Tr.pure _ trivial

theorem insertRoots_keeps (h : BuildKeeps c P S) (o : BuildOpts) (snapshot : Store) (hs : S snapshot)
    (batch : List Nat) :
    ∀ roots g, Tr (BInv P S) (insertRoots c o snapshot batch roots g) (fun x => ∀ puts ∈ x.1, PutsOk P puts) := by
  intro roots
  induction roots with
  | nil => intro g; unfold insertRoots; exact Tr.pure _ (by simp)
  | cons root rest ih =>
    intro g
    unfold insertRoots
    apply Tr.bind Tr.poll; intro _ _
    apply Tr.bind (Tr.reifyRoot h snapshot root hs); intro t ht
    apply Tr.bind Tr.peek; intro st _
    apply Tr.bind (Tr.liftExcept _); intro r hr
    apply Tr.bind (Tr.setRands _); intro _ _
    apply Tr.bind (Tr.pollN _); intro _ _
    apply Tr.bind (ih _); intro x hx
    obtain ⟨a, b, e⟩ := x
    refine Tr.pure _ ?_
    intro puts hp
    rcases List.mem_cons.1 hp with rfl | hp
    · exact (insertT_tok _ _ _ _ _ _ hr ht).2
    · exact hx puts hp

theorem insertItemsInCurrentTrees_keeps (h : BuildKeeps c P S) (o : BuildOpts) (roots : List Nat) :
    ∀ (fuel : Nat) (toInsert : List Nat) (g : IdGen),
      Tr (BInv P S) (insertItemsInCurrentTrees c o roots fuel toInsert g) (fun _ => True) := by
  intro fuel
  induction fuel with
  | zero => intro toInsert g; unfold insertItemsInCurrentTrees; exact Tr.fail _
  | succ fuel ih =>
    intro toInsert g
    unfold insertItemsInCurrentTrees
    apply Tr.ite (Tr.pure _ trivial)
    apply Tr.bind Tr.poll; intro _ _
    apply Tr.bind Tr.getStore; intro snapshot hs
    apply Tr.bind Tr.nextBatch; intro k _
    refine Tr.ite (Tr.fail _) ?_
    apply Tr.bind (insertRoots_keeps h o snapshot hs _ _ _); intro x hx
    obtain ⟨putss, large, g'⟩ := x
    apply Tr.bind (Q := fun _ => True)
    · apply Tr.forEach; intro puts hp; exact writeBack_keeps h _ _ _ (hx puts hp)
    intro _ _
    apply Tr.bind (ih _ _); intro y _
    obtain ⟨large', g''⟩ := y
    exact Tr.pure _ trivial

theorem newTrees_keeps (h : BuildKeeps c P S) (items : List Nat) :
    ∀ (k : Nat) (roots large : List Nat) (g : IdGen),
      Tr (BInv P S) (newTrees c items k roots large g) (fun _ => True) := by
  intro k
  induction k with
  | zero => intro roots large g; unfold newTrees; exact Tr.pure _ trivial
  | succ k ih =>
    intro roots large g
    unfold newTrees
    apply Tr.bind (Tr.liftExcept _); intro x _
    obtain ⟨id, g'⟩ := x
    apply Tr.bind (Tr.modifyStore _ (fun s hs => h.putTree s id (.desc items) hs trivial)); intro _ _
    exact ih _ _ _

theorem incrementalIndexLargeDescendants_keeps (h : BuildKeeps c P S) (o : BuildOpts) :
    ∀ (fuel : Nat) (large : List Nat) (g : IdGen),
      Tr (BInv P S) (incrementalIndexLargeDescendants c o fuel large g) (fun _ => True) := by
  intro fuel
  induction fuel with
  | zero =>
    intro large g; unfold incrementalIndexLargeDescendants
    exact Tr.ite (Tr.pure _ trivial) (Tr.fail _)
  | succ fuel ih =>
    intro large g
    unfold incrementalIndexLargeDescendants
    split
    · exact Tr.pure _ trivial
    · rename_i b large'
      apply Tr.bind Tr.poll; intro _ _
      apply Tr.bind Tr.getStore; intro s _
      split
      · rename_i ids hget
        apply Tr.bind Tr.nextBatch; intro k _
        refine Tr.ite (Tr.fail _) ?_
        apply Tr.bind Tr.peek; intro st hst
        apply Tr.bind (Tr.liftExcept _); intro r hr
        obtain ⟨r1, r2, r3⟩ := makeT_tok h.zero _ _ _ _ _ _ _ hr hst.2
        apply Tr.bind (Tr.setNormalsRands _ _ r3); intro _ _
        apply Tr.bind (Tr.pollN _); intro _ _
        apply Tr.bind (writeBack_keeps h _ _ _ r2); intro _ _
        apply Tr.bind (insertItemsInCurrentTrees_keeps h o _ _ _ _); intro x _
        obtain ⟨large'', g'⟩ := x
        exact ih _ _
      · exact Tr.fail _

/-- what `build` does after `pre_process_items`, `item_indices` and `reset_and_retrieve_updated_items`
    (the right-hand side of `Transp.build_eq` from there on) -/
theorem afterReset_keeps (h : BuildKeeps c P S) (o : BuildOpts) (fuel : Nat) (items updated : List Nat) :
    Tr (BInv P S) (if fits (cap c o) items.length then singleLeaf c items else
      bind' getStore fun s => bind' (usedTreeNode c) (Transp.afterUsed c o fuel items updated (Transp.rootsOf c s)))
      (fun _ => True) := by
  apply Tr.ite (singleLeaf_keeps h _)
  apply Tr.bind' Tr.getStore; intro s _
  apply Tr.bind' (Tr.usedTreeNode c); intro used _
  unfold Transp.afterUsed
  dsimp only
  apply Tr.bind (deleteExtraTrees_keeps h _ _); intro roots _
  apply Tr.bind (deleteItemsFromTrees_keeps h o _ _); intro roots' _
  apply Tr.bind (insertItemsInCurrentTrees_keeps h o _ _ _ _); intro x _
  obtain ⟨large, g⟩ := x
  apply Tr.bind (newTrees_keeps h _ _ _ _ _); intro y _
  obtain ⟨roots'', large', g'⟩ := y
  apply Tr.bind (incrementalIndexLargeDescendants_keeps h o _ _ _); intro _ _
  exact writeMetadata_keeps h _ _

/-- **one build** keeps `BInv P S` -/
theorem build_keeps (h : BuildKeeps c P S) (hdot : c.metric = .dot → ∀ s, S s → S (preprocessDot c s))
    (o : BuildOpts) (fuel : Nat) : Tr (BInv P S) (build c o fuel) (fun _ => True) := by
  rw [Transp.build_eq]
  apply Tr.bind' (preProcessItems_keeps hdot); intro _ _
  apply Tr.bind' itemIndices_keeps; intro items _
  apply Tr.bind' (resetUpdated_keeps h); intro updated _
  exact afterReset_keeps h o fuel items updated

/-! ### computations that write nothing -/

theorem itemIndices_noWrite (c : Cfg) : NoWrite (itemIndices c) := by
  unfold itemIndices
  exact NoWrite.bind NoWrite.getStore (fun _ => NoWrite.bind (NoWrite.pollN _) (fun _ => NoWrite.pure _))

theorem deleteLoop_noWrite (c : Cfg) (o : BuildOpts) (D : List Nat) (s : Store) :
    ∀ roots, NoWrite (deleteLoop c o D s roots) := by
  intro roots
  induction roots with
  | nil => unfold deleteLoop; exact NoWrite.pure _
  | cons root rest ih =>
    unfold deleteLoop
    refine NoWrite.bind NoWrite.poll (fun _ => ?_)
    refine NoWrite.bind (NoWrite.reifyRoot _ _ _) (fun t => ?_)
    refine NoWrite.bind (NoWrite.pollN _) (fun _ => ?_)
    refine NoWrite.bind ih (fun x => ?_)
    obtain ⟨a, b, d⟩ := x
    exact NoWrite.pure _

theorem insertRoots_noWrite (c : Cfg) (o : BuildOpts) (snapshot : Store) (batch : List Nat) :
    ∀ roots g, NoWrite (insertRoots c o snapshot batch roots g) := by
  intro roots
  induction roots with
  | nil => intro g; unfold insertRoots; exact NoWrite.pure _
  | cons root rest ih =>
    intro g
    unfold insertRoots
    refine NoWrite.bind NoWrite.poll (fun _ => ?_)
    refine NoWrite.bind (NoWrite.reifyRoot _ _ _) (fun t => ?_)
    refine NoWrite.bind NoWrite.peek (fun st => ?_)
    refine NoWrite.bind (NoWrite.liftExcept _) (fun r => ?_)
    refine NoWrite.bind (NoWrite.setRands _) (fun _ => ?_)
    refine NoWrite.bind (NoWrite.pollN _) (fun _ => ?_)
    refine NoWrite.bind (ih _) (fun x => ?_)
    obtain ⟨a, b, d⟩ := x
    exact NoWrite.pure _

end Build

/-! ### the DotProduct preprocessing -/

/-- every leaf the DotProduct preprocessing rewrites is a leaf of the store under an item key of the index -/
theorem dotLeaves_mem (c : Cfg) (s : Store) : ∀ kv ∈ dotLeaves c s, ∃ h, (kv.1, Val.leaf h kv.2) ∈ s ∧
    isPrefixOf (encodePrefix c.index (some modeItem)) (encodeKey kv.1) = true := by
  intro kv hkv
  unfold dotLeaves at hkv
  rw [List.mem_filterMap] at hkv
  obtain ⟨⟨k0, v0⟩, hin, hv⟩ := hkv
  simp only [Store.prefixIter, List.mem_filter] at hin
  cases v0 with
  | leaf h v =>
    simp only [Option.some.injEq] at hv
    subst hv
    exact ⟨h, hin.1, hin.2⟩
  | _ => simp at hv

/-- induction principle for the DotProduct preprocessing: it is a sequence of `put`s of a leaf with a
    new header (that of `dotVal`) and the **same** vector words, under item keys of the index that hold a
    leaf in `s` -/
theorem Build.preprocessDot_inv (P : Store → Prop) (c : Cfg) (s : Store) (h0 : P s)
    (hstep : ∀ st kv hdr h, dotVal c s kv = .leaf hdr kv.2 → (kv.1, Val.leaf h kv.2) ∈ s →
      isPrefixOf (encodePrefix c.index (some modeItem)) (encodeKey kv.1) = true →
      P st → P (Store.put st kv.1 (.leaf hdr kv.2))) :
    P (Build.preprocessDot c s) := by
  rw [preprocessDot_eq]
  have hmem := dotLeaves_mem c s
  generalize dotLeaves c s = leaves at hmem
  suffices hgen : ∀ st, P st →
      P (List.foldl (fun st (kv : Key × List Nat) => Store.put st kv.1 (dotVal c s kv)) st leaves) from hgen s h0
  induction leaves with
  | nil => intro st h; exact h
  | cons kv rest ih =>
    intro st h
    rw [List.foldl_cons]
    apply ih (fun kv' hkv' => hmem kv' (List.mem_cons_of_mem _ hkv'))
    obtain ⟨hh, h1, h2⟩ := hmem kv List.mem_cons_self
    exact hstep st kv _ hh rfl h1 h2 h

/-! ### store preorders -/

/-- `R` is a preorder closed under the store writes of a build on `c` (all but the DotProduct
    preprocessing, which is handled apart):
    puts under tree / metadata keys of the index, deletions of non-item keys of the index, and the
    tree range deletion of the single-bucket shortcut. -/
structure OpsClosed (c : Cfg) (R : Store → Store → Prop) : Prop extends StoreRel R where
  put : ∀ s m id v, (m = modeTree ∨ m = modeMetadata) → R s (Store.put s ⟨c.index, m, id⟩ v)
  erase : ∀ s m id, m ≠ modeItem → R s (Store.erase s ⟨c.index, m, id⟩)
  delRange : ∀ s, R s (Store.deleteRange s (c.treeKey 0) (c.treeKey IdGen.u32Max))

namespace OpsClosed
variable {α : Type} {c : Cfg} {R : Store → Store → Prop}

theorem mono {R' : Store → Store → Prop} (h : OpsClosed c R) (hR' : StoreRel R')
    (himp : ∀ s s', R s s' → R' s s') : OpsClosed c R' where
  toStoreRel := hR'
  put := fun s m id v hm => himp _ _ (h.put s m id v hm)
  erase := fun s m id hm => himp _ _ (h.erase s m id hm)
  delRange := fun s => himp _ _ (h.delRange s)

/-- "related to `s₀`" is kept by the writes of a build -/
theorem keeps (h : OpsClosed c R) (s₀ : Store) : BuildKeeps c (fun _ => True) (R s₀) where
  zero := fun _ _ => trivial
  read := fun _ _ _ _ _ _ _ => trivial
  putTree := fun s id v hs _ => h.trans hs (h.put s modeTree id v (Or.inl rfl))
  putMeta := fun s _ _ hs => h.trans hs (h.put s modeMetadata _ _ (Or.inr rfl))
  putVersion := fun s hs => h.trans hs (h.put s modeMetadata _ _ (Or.inr rfl))
  erase := fun s m id hm hs => h.trans hs (h.erase s m id hm)
  delRange := fun s hs => h.trans hs (h.delRange s)

/-- what every `BuildKeeps` invariant survives, `R` survives -/
theorem pres (h : OpsClosed c R) {m : BuildM α} {Q : α → Prop}
    (hm : ∀ {S : Store → Prop}, BuildKeeps c (fun _ => True) S → Tr (BInv (fun _ => True) S) m Q) :
    StorePres R m :=
  fun st a st' e => (hm (h.keeps st.store) st a st' ⟨h.refl _, fun _ _ => trivial⟩ e).1.1

end OpsClosed

/-- `pre_process_items`: it is enough that `R` relates a store to its DotProduct preprocessing -/
theorem Build.preProcessItems_pres {c : Cfg} {R : Store → Store → Prop} (hR : StoreRel R)
    (hdot : c.metric = .dot → ∀ s, R s (Build.preprocessDot c s)) : StorePres R (Build.preProcessItems c) :=
  fun st a st' e => (Build.preProcessItems_keeps (P := fun _ => True) (fun hm s hs => hR.trans hs (hdot hm s))
    st a st' ⟨hR.refl _, fun _ _ => trivial⟩ e).1.1

/-- the whole `build`, given what the DotProduct preprocessing does -/
theorem Build.build_pres {c : Cfg} {R : Store → Store → Prop} (h : OpsClosed c R)
    (hdot : c.metric = .dot → ∀ s, R s (Build.preprocessDot c s)) (o : BuildOpts) (fuel : Nat) :
    StorePres R (Build.build c o fuel) :=
  fun st a st' e => (Build.build_keeps (h.keeps st.store) (fun hm s hs => h.trans hs (hdot hm s)) o fuel
    st a st' ⟨h.refl _, fun _ _ => trivial⟩ e).1.1

end Arroy
