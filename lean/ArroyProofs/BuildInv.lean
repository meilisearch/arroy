import ArroyProofs.Staged
import ArroyProofs.Properties.C05
/-! Inversion lemmas for `.ok` runs of `BuildM` programs, a pointwise list relation, and the
structural closure `StoreStep` (puts of well-formed keys and filters) that carries `Store.Sorted`,
`Store.WF` and `ItemsAreLeaves` through a build. -/
namespace Arroy
open BuildM Generated

theorem pure_ok_inv {α : Type} {a : α} {st : BState} {r : α × BState}
    (h : (pure a : BuildM α) st = .ok r) : r = (a, st) := by
  simp only [pure, pure'] at h; cases h; rfl

theorem getStore_ok {st : BState} {r : Store × BState} (h : getStore st = .ok r) : r = (st.store, st) := by
  simp only [getStore] at h; cases h; rfl

theorem setStore_ok {s : Store} {st : BState} {r : Unit × BState} (h : setStore s st = .ok r) :
    r = ((), { st with store := s }) := by
  simp only [setStore] at h; cases h; rfl

theorem modifyStore_ok {f : Store → Store} {st : BState} {r : Unit × BState} (h : modifyStore f st = .ok r) :
    r = ((), { st with store := f st.store }) := by
  simp only [modifyStore] at h; cases h; rfl

theorem liftExcept_ok {α : Type} {x : Except Err α} {st : BState} {r : α × BState}
    (h : BuildM.liftExcept x st = .ok r) : x = .ok r.1 ∧ r.2 = st := by
  unfold BuildM.liftExcept at h
  cases x with
  | ok a => simp only at h; cases h; exact ⟨rfl, rfl⟩
  | error e => simp only at h; cases h

theorem fail_ok {α : Type} {e : Err} {st : BState} {r : α × BState} (h : (fail e : BuildM α) st = .ok r) : False := by
  simp only [fail] at h; cases h

theorem poll_store {st : BState} {r : Unit × BState} (h : poll st = .ok r) : r.2.store = st.store := by
  obtain ⟨u, st'⟩ := r
  rw [poll_ok h]

theorem pollN_store {k : Nat} {st : BState} {r : Unit × BState} (h : pollN k st = .ok r) : r.2.store = st.store := by
  obtain ⟨u, st'⟩ := r
  rw [pollN_ok h]

/-! the same, with the result given as a pair and equations oriented for `subst` -/

theorem getStore_ok' {st st' : BState} {s : Store} (h : getStore st = .ok (s, st')) : st.store = s ∧ st = st' := by
  simp only [getStore] at h; cases h; exact ⟨rfl, rfl⟩

theorem setStore_ok' {s : Store} {st st' : BState} {u : Unit} (h : setStore s st = .ok (u, st')) :
    { st with store := s } = st' := by
  simp only [setStore] at h; cases h; rfl

theorem modifyStore_ok' {f : Store → Store} {st st' : BState} {u : Unit} (h : modifyStore f st = .ok (u, st')) :
    { st with store := f st.store } = st' := by
  simp only [modifyStore] at h; cases h; rfl

theorem liftExcept_ok' {α : Type} {x : Except Err α} {st st' : BState} {a : α}
    (h : BuildM.liftExcept x st = .ok (a, st')) : x = .ok a ∧ st = st' :=
  ⟨(BuildM.liftExcept_ok h).1, (BuildM.liftExcept_ok h).2.symm⟩

theorem peek_ok' {st st1 st' : BState} (h : (fun s => .ok (s, s) : BuildM BState) st = .ok (st1, st')) :
    st = st1 ∧ st = st' := by
  simp only at h; cases h; exact ⟨rfl, rfl⟩

def All2 {α β : Type} (R : α → β → Prop) : List α → List β → Prop
  | [], [] => True
  | a :: as, b :: bs => R a b ∧ All2 R as bs
  | _, _ => False

namespace All2
variable {α β γ : Type}

theorem nil {R : α → β → Prop} : All2 R [] [] := trivial

theorem cons {R : α → β → Prop} {a : α} {b : β} {as : List α} {bs : List β} (h : R a b) (t : All2 R as bs) :
    All2 R (a :: as) (b :: bs) := ⟨h, t⟩

theorem length {R : α → β → Prop} : ∀ {as : List α} {bs : List β}, All2 R as bs → as.length = bs.length
  | [], [], _ => rfl
  | _ :: _, _ :: _, h => by simp [length h.2]
  | [], _ :: _, h => h.elim
  | _ :: _, [], h => h.elim

theorem mono {R S : α → β → Prop} (hRS : ∀ a b, R a b → S a b) :
    ∀ {as : List α} {bs : List β}, All2 R as bs → All2 S as bs
  | [], [], _ => trivial
  | _ :: _, _ :: _, h => ⟨hRS _ _ h.1, mono hRS h.2⟩
  | [], _ :: _, h => h.elim
  | _ :: _, [], h => h.elim

/-- like `mono`, but the implication may use membership -/
theorem mono_mem {R S : α → β → Prop} :
    ∀ {as : List α} {bs : List β}, All2 R as bs → (∀ a ∈ as, ∀ b ∈ bs, R a b → S a b) → All2 S as bs
  | [], [], _, _ => trivial
  | a :: as, b :: bs, h, hRS =>
    ⟨hRS a (by simp) b (by simp) h.1,
      mono_mem h.2 (fun a' ha b' hb => hRS a' (List.mem_cons_of_mem _ ha) b' (List.mem_cons_of_mem _ hb))⟩
  | [], _ :: _, h, _ => h.elim
  | _ :: _, [], h, _ => h.elim

theorem refl {R : α → α → Prop} (h : ∀ a, R a a) : ∀ (as : List α), All2 R as as
  | [] => trivial
  | _ :: as => ⟨h _, refl h as⟩

theorem refl_mem {R : α → α → Prop} : ∀ (as : List α), (∀ a ∈ as, R a a) → All2 R as as
  | [], _ => trivial
  | a :: as, h => ⟨h a (by simp), refl_mem as (fun x hx => h x (List.mem_cons_of_mem _ hx))⟩

theorem comp {R : α → β → Prop} {S : β → γ → Prop} {Q : α → γ → Prop} (hQ : ∀ a b c, R a b → S b c → Q a c) :
    ∀ {as : List α} {bs : List β} {cs : List γ}, All2 R as bs → All2 S bs cs → All2 Q as cs
  | [], [], [], _, _ => trivial
  | _ :: _, _ :: _, _ :: _, h1, h2 => ⟨hQ _ _ _ h1.1 h2.1, comp hQ h1.2 h2.2⟩
  | [], _ :: _, _, h, _ => h.elim
  | _ :: _, [], _, h, _ => h.elim
  | [], [], _ :: _, _, h => h.elim
  | _ :: _, _ :: _, [], _, h => h.elim

theorem and {R S : α → β → Prop} : ∀ {as : List α} {bs : List β}, All2 R as bs → All2 S as bs →
    All2 (fun a b => R a b ∧ S a b) as bs
  | [], [], _, _ => trivial
  | _ :: _, _ :: _, h1, h2 => ⟨⟨h1.1, h2.1⟩, and h1.2 h2.2⟩
  | [], _ :: _, h, _ => h.elim
  | _ :: _, [], h, _ => h.elim

theorem mem_right {R : α → β → Prop} : ∀ {as : List α} {bs : List β}, All2 R as bs → ∀ b ∈ bs, ∃ a ∈ as, R a b
  | [], [], _, b, hb => by cases hb
  | a :: as, b' :: bs, h, b, hb => by
    rcases List.mem_cons.1 hb with rfl | hb
    · exact ⟨a, by simp, h.1⟩
    · obtain ⟨a', ha', hr⟩ := mem_right h.2 b hb
      exact ⟨a', List.mem_cons_of_mem _ ha', hr⟩
  | [], _ :: _, h, _, _ => h.elim
  | _ :: _, [], h, _, _ => h.elim

theorem mem_left {R : α → β → Prop} : ∀ {as : List α} {bs : List β}, All2 R as bs → ∀ a ∈ as, ∃ b ∈ bs, R a b
  | [], [], _, a, ha => by cases ha
  | a' :: as, b :: bs, h, a, ha => by
    rcases List.mem_cons.1 ha with rfl | ha
    · exact ⟨b, by simp, h.1⟩
    · obtain ⟨b', hb', hr⟩ := mem_left h.2 a ha
      exact ⟨b', List.mem_cons_of_mem _ hb', hr⟩
  | [], _ :: _, h, _, _ => h.elim
  | _ :: _, [], h, _, _ => h.elim

/-- a function of the related pairs that agrees gives equal maps -/
theorem map_eq {R : α → β → Prop} {f : α → γ} {g : β → γ} (hfg : ∀ a b, R a b → g b = f a) :
    ∀ {as : List α} {bs : List β}, All2 R as bs → bs.map g = as.map f
  | [], [], _ => rfl
  | _ :: _, _ :: _, h => by simp [hfg _ _ h.1, map_eq hfg h.2]
  | [], _ :: _, h => h.elim
  | _ :: _, [], h => h.elim

theorem of_map {R : α → β → Prop} (f : α → β) : ∀ (as : List α), (∀ a ∈ as, R a (f a)) → All2 R as (as.map f)
  | [], _ => trivial
  | a :: as, h => ⟨h a (by simp), of_map f as (fun x hx => h x (List.mem_cons_of_mem _ hx))⟩

theorem map_right {R : α → γ → Prop} (f : β → γ) :
    ∀ {as : List α} {bs : List β}, All2 (fun a b => R a (f b)) as bs → All2 R as (bs.map f)
  | [], [], _ => trivial
  | _ :: _, _ :: _, h => ⟨h.1, map_right f h.2⟩
  | [], _ :: _, h => h.elim
  | _ :: _, [], h => h.elim

end All2

/-- `s'` is obtained from `s` by puts (of well-formed keys; a leaf under an item key of index `c`)
    and filters -/
inductive StoreStep (c : Cfg) : Store → Store → Prop
  | refl (s : Store) : StoreStep c s s
  | put {s s' : Store} (k : Key) (v : Val) : k.wf → (k.index = c.index → k.mode = modeItem → C05.isLeaf v = true) →
      StoreStep c s s' → StoreStep c s (s'.put k v)
  | filter {s s' : Store} (p : Key × Val → Bool) : StoreStep c s s' → StoreStep c s (s'.filter p)

namespace StoreStep

theorem trans {c : Cfg} {s1 s2 s3 : Store} (h1 : StoreStep c s1 s2) (h2 : StoreStep c s2 s3) : StoreStep c s1 s3 := by
  induction h2 with
  | refl => exact h1
  | put k v hk hl _ ih => exact .put k v hk hl ih
  | filter p _ ih => exact .filter p ih

theorem erase {c : Cfg} {s s' : Store} (h : StoreStep c s s') (k : Key) : StoreStep c s (s'.erase k) :=
  .filter _ h

theorem deleteRange {c : Cfg} {s s' : Store} (h : StoreStep c s s') (lo hi : Key) :
    StoreStep c s (s'.deleteRange lo hi) := .filter _ h

theorem sorted {c : Cfg} {s s' : Store} (h : StoreStep c s s') (hs : Store.Sorted s) : Store.Sorted s' := by
  induction h with
  | refl => exact hs
  | put k v _ _ _ ih => exact Store.put_sorted ih k v
  | filter p _ ih => exact Store.filter_sorted ih p

theorem wf {c : Cfg} {s s' : Store} (h : StoreStep c s s') (hs : Store.WF s) : Store.WF s' := by
  induction h with
  | refl => exact hs
  | put k v hk _ _ ih => exact Store.put_wf ih hk v
  | filter p _ ih => exact Store.filter_wf ih p

theorem leaves {c : Cfg} {s s' : Store} (h : StoreStep c s s') (hs : C05.ItemsAreLeaves c s) :
    C05.ItemsAreLeaves c s' := by
  induction h with
  | refl => exact hs
  | put k v _ hl _ ih =>
    intro kv hkv hi hm
    rcases Store.mem_put hkv with rfl | hmem
    · exact hl hi hm
    · exact ih kv hmem hi hm
  | filter p _ ih =>
    intro kv hkv hi hm
    exact ih kv (List.mem_filter.1 hkv).1 hi hm

/-- putting a non-item key of the index -/
theorem put_tree {c : Cfg} {s s' : Store} (h : StoreStep c s s') (k : Key) (v : Val) (hk : k.wf)
    (hm : k.mode ≠ modeItem) : StoreStep c s (s'.put k v) :=
  .put k v hk (fun _ e => absurd e hm) h

end StoreStep

theorem Cfg.treeKey_wf (c : Cfg) (id : Nat) (hi : c.index < 65536) (hid : id < 4294967296) : (c.treeKey id).wf := by
  simp only [Cfg.treeKey, Key.mkTree, Key.wf, modeTree]
  omega

theorem Cfg.treeKey_mode (c : Cfg) (id : Nat) : (c.treeKey id).mode ≠ modeItem := by
  simp [Cfg.treeKey, Key.mkTree, modeTree, modeItem]

theorem StoreStep.eraseAll {c : Cfg} {s s' : Store} (h : StoreStep c s s') (ids : List Nat) :
    StoreStep c s (eraseAll c s' ids) := by
  induction ids generalizing s' with
  | nil => exact h
  | cons i ids ih => exact ih (h.erase _)

theorem StoreStep.putAllMap {c : Cfg} {s s' : Store} (h : StoreStep c s s') (remap : Nat → Nat)
    (ps : List (Nat × Val)) (hi : c.index < 65536) (hps : ∀ p ∈ ps, remap p.1 < 4294967296) :
    StoreStep c s (putAllMap c remap s' ps) := by
  induction ps generalizing s' with
  | nil => exact h
  | cons p ps ih =>
    exact ih (h.put_tree _ _ (c.treeKey_wf _ hi (hps p (by simp))) (c.treeKey_mode _))
      (fun q hq => hps q (List.mem_cons_of_mem _ hq))

end Arroy
