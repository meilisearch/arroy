import ArroyModel.Build
/-! A small Hoare-style library for `BuildM`: what a successful run of a computation does to the state.

`Tr I m Q`      : from a state satisfying `I`, `m` ends in a state satisfying `I` with a result satisfying `Q`.
`StorePres R m` : `m` relates the store before and after by `R` (always a preorder, `StoreRel R`).
`NoWrite m`     : `m` leaves the store as it is. -/
namespace Arroy
open BuildM

/-- a reflexive and transitive relation on stores -/
structure StoreRel (R : Store → Store → Prop) : Prop where
  refl : ∀ s, R s s
  trans : ∀ {a b c}, R a b → R b c → R a c

def StorePres (R : Store → Store → Prop) (m : BuildM α) : Prop :=
  ∀ st a st', m st = .ok (a, st') → R st.store st'.store

def NoWrite (m : BuildM α) : Prop :=
  ∀ st a st', m st = .ok (a, st') → st'.store = st.store

namespace BuildM

theorem bind_eq (m : BuildM α) (f : α → BuildM β) : (m >>= f) = bind' m f := rfl
theorem pure_eq (a : α) : (pure a : BuildM α) = pure' a := rfl

theorem bind'_ok {m : BuildM α} {f : α → BuildM β} {st : BState} {b : β} {st' : BState} :
    bind' m f st = .ok (b, st') ↔ ∃ a st1, m st = .ok (a, st1) ∧ f a st1 = .ok (b, st') := by
  unfold bind'
  cases h : m st with
  | error e => simp
  | ok r =>
    obtain ⟨a, st1⟩ := r
    simp only [Except.ok.injEq, Prod.mk.injEq]
    constructor
    · intro e; exact ⟨a, st1, ⟨rfl, rfl⟩, e⟩
    · rintro ⟨a', st1', ⟨rfl, rfl⟩, e⟩; exact e

theorem bind_ok {m : BuildM α} {f : α → BuildM β} {st : BState} {b : β} {st' : BState} :
    (m >>= f) st = .ok (b, st') ↔ ∃ a st1, m st = .ok (a, st1) ∧ f a st1 = .ok (b, st') := bind'_ok

theorem pure_ok {a b : α} {st st' : BState} : (pure a : BuildM α) st = .ok (b, st') ↔ a = b ∧ st = st' := by
  show Except.ok (a, st) = .ok (b, st') ↔ _
  simp

/-! the monad laws, as equalities of functions -/

theorem bind'_assoc {γ : Type} (m : BuildM α) (f : α → BuildM β) (g : β → BuildM γ) :
    bind' (bind' m f) g = bind' m (fun a => bind' (f a) g) := by
  funext st
  unfold bind'
  cases m st with
  | error e => rfl
  | ok r => rfl


theorem bind'_pure' (m : BuildM α) : bind' m pure' = m := by
  funext st
  unfold bind'
  cases m st with
  | error e => rfl
  | ok r => rfl

theorem bind'_ite (p : Prop) [Decidable p] (a b : BuildM α) (h : α → BuildM β) :
    bind' (if p then a else b) h = if p then bind' a h else bind' b h := by
  split <;> rfl

/-- `bind'` along a known outcome of its first computation -/
theorem bind'_of_ok {m : BuildM α} {f : α → BuildM β} {st st1 : BState} {a : α} (h : m st = .ok (a, st1)) :
    bind' m f st = f a st1 := by
  simp [bind', h]

theorem bind'_of_err {m : BuildM α} {f : α → BuildM β} {st : BState} {e : Err} (h : m st = .error e) :
    bind' m f st = .error e := by
  simp [bind', h]

theorem poll_ok {st st' : BState} {u : Unit} (h : poll st = .ok (u, st')) :
    st' = { st with polls := st.polls + 1 } := by
  unfold poll at h
  split at h
  · split at h
    · cases h
    · cases h; rfl
  · cases h; rfl

theorem poll_none {st : BState} (h : st.cancelAt = none) :
    poll st = .ok ((), { st with polls := st.polls + 1 }) := by
  simp [poll, h]

theorem poll_ok_of_none {st : BState} (h : st.cancelAt = none) : poll st = .ok ((), { st with polls := st.polls + 1 }) :=
  poll_none h

theorem pollN_ok {k : Nat} {st st' : BState} (h : pollN k st = .ok ((), st')) :
    st' = { st with polls := st.polls + k } := by
  induction k generalizing st with
  | zero => simp only [pollN, pure, pure'] at h; cases h; rfl
  | succ k ih =>
    obtain ⟨_, s1, hp, h2⟩ := bind'_ok.1 h
    rw [ih h2, poll_ok hp]
    simp only [BState.mk.injEq, true_and, and_true]
    omega

theorem pollN_ok_of_none {k : Nat} {st : BState} (h : st.cancelAt = none) :
    pollN k st = .ok ((), { st with polls := st.polls + k }) := by
  induction k generalizing st with
  | zero => rfl
  | succ k ih =>
    simp only [pollN, bind', poll_ok_of_none h]
    rw [ih (by exact h)]
    simp only [Except.ok.injEq, Prod.mk.injEq, BState.mk.injEq, true_and, and_true]
    omega

theorem nextBatch_ok {st st' : BState} {k : Nat} (h : nextBatch st = .ok (k, st')) :
    st' = { st with batches := st.batches.tail } := by
  unfold nextBatch at h
  split at h
  · cases h
  · rename_i e; cases h; rw [e]; rfl

theorem liftExcept_ok {x : Except Err α} {st st' : BState} {a : α} (h : liftExcept x st = .ok (a, st')) :
    x = .ok a ∧ st' = st := by
  cases x with
  | error e => cases h
  | ok a' => cases h; exact ⟨rfl, rfl⟩

end BuildM

theorem bind'_pure'_left {α β : Type} (a : α) (h : α → BuildM β) : bind' (pure' a) h = h a := rfl

/-- `used_tree_node` only counts polls -/
theorem Build.usedTreeNode_ok {c : Cfg} {st st' : BState} {ids : List Nat}
    (h : Build.usedTreeNode c st = .ok (ids, st')) : ∃ p, st' = { st with polls := p } := by
  unfold Build.usedTreeNode at h
  dsimp only at h
  split at h
  · split at h <;> (cases h; exact ⟨_, rfl⟩)
  · cases h; exact ⟨_, rfl⟩

/-! ## `NoWrite` -/
namespace NoWrite

theorem pure (a : α) : NoWrite (pure a : BuildM α) := by
  intro st b st' h
  rw [BuildM.pure_ok] at h
  rw [h.2]

theorem pure' (a : α) : NoWrite (BuildM.pure' a) := NoWrite.pure a

theorem fail (e : Err) : NoWrite (BuildM.fail e : BuildM α) := by
  intro st b st' h; simp [BuildM.fail] at h

theorem bind' {m : BuildM α} {f : α → BuildM β} (hm : NoWrite m) (hf : ∀ a, NoWrite (f a)) :
    NoWrite (BuildM.bind' m f) := by
  intro st b st' h
  obtain ⟨a, st1, h1, h2⟩ := BuildM.bind'_ok.1 h
  rw [hf a _ _ _ h2, hm _ _ _ h1]

theorem bind {m : BuildM α} {f : α → BuildM β} (hm : NoWrite m) (hf : ∀ a, NoWrite (f a)) :
    NoWrite (m >>= f) := NoWrite.bind' hm hf

theorem getStore : NoWrite BuildM.getStore := by
  intro st b st' h; simp only [BuildM.getStore, Except.ok.injEq, Prod.mk.injEq] at h; rw [h.2]

theorem liftExcept (x : Except Err α) : NoWrite (BuildM.liftExcept x) := by
  intro st b st' h; rw [(BuildM.liftExcept_ok h).2]

theorem poll : NoWrite BuildM.poll := by
  intro st b st' h; rw [BuildM.poll_ok h]

theorem pollN (k : Nat) : NoWrite (BuildM.pollN k) := by
  induction k with
  | zero => exact NoWrite.pure ()
  | succ k ih => exact NoWrite.bind' NoWrite.poll (fun _ => ih)

theorem nextBatch : NoWrite BuildM.nextBatch := by
  intro st b st' h; rw [BuildM.nextBatch_ok h]

/-- the state-peeking lambda `fun s => .ok (s, s)` -/
theorem peek : NoWrite (fun s => .ok (s, s) : BuildM BState) := by
  intro st b st' h; simp only [Except.ok.injEq, Prod.mk.injEq] at h; rw [h.2]

theorem setRands (r : List Bool) : NoWrite (fun s => .ok ((), { s with rands := r }) : BuildM Unit) := by
  intro st b st' h; simp only [Except.ok.injEq, Prod.mk.injEq] at h; rw [← h.2]

theorem forEach (l : List α) (f : α → BuildM Unit) (hf : ∀ a, NoWrite (f a)) : NoWrite (BuildM.forEach l f) := by
  induction l with
  | nil => exact NoWrite.pure ()
  | cons x xs ih => exact NoWrite.bind' (hf x) (fun _ => ih)

theorem usedTreeNode (c : Cfg) : NoWrite (Build.usedTreeNode c) := by
  intro st b st' h
  obtain ⟨p, rfl⟩ := Build.usedTreeNode_ok h
  rfl

theorem reifyRoot (c : Cfg) (s : Store) (root : Nat) : NoWrite (Build.reifyRoot c s root) := by
  unfold Build.reifyRoot
  split
  · exact NoWrite.pure _
  · exact NoWrite.fail _

theorem ite {p : Prop} [Decidable p] {a b : BuildM α} (ha : NoWrite a) (hb : NoWrite b) :
    NoWrite (if p then a else b) := by
  split <;> assumption

end NoWrite

/-! ## `StorePres` -/
namespace StorePres
variable {R : Store → Store → Prop}

theorem of_noWrite (hR : StoreRel R) {m : BuildM α} (h : NoWrite m) : StorePres R m := by
  intro st a st' e
  rw [h st a st' e]
  exact hR.refl _

theorem mono {R' : Store → Store → Prop} (hRR : ∀ s s', R s s' → R' s s') {m : BuildM α} (h : StorePres R m) :
    StorePres R' m := fun st a st' e => hRR _ _ (h st a st' e)

theorem pure (hR : StoreRel R) (a : α) : StorePres R (pure a : BuildM α) := of_noWrite hR (NoWrite.pure a)
theorem pure' (hR : StoreRel R) (a : α) : StorePres R (BuildM.pure' a) := of_noWrite hR (NoWrite.pure a)
theorem fail (e : Err) : StorePres R (BuildM.fail e : BuildM α) := by
  intro st b st' h; simp [BuildM.fail] at h

theorem bind' (hR : StoreRel R) {m : BuildM α} {f : α → BuildM β} (hm : StorePres R m)
    (hf : ∀ a, StorePres R (f a)) : StorePres R (BuildM.bind' m f) := by
  intro st b st' h
  obtain ⟨a, st1, h1, h2⟩ := BuildM.bind'_ok.1 h
  exact hR.trans (hm _ _ _ h1) (hf a _ _ _ h2)

theorem bind (hR : StoreRel R) {m : BuildM α} {f : α → BuildM β} (hm : StorePres R m)
    (hf : ∀ a, StorePres R (f a)) : StorePres R (m >>= f) := bind' hR hm hf

theorem setRands (hR : StoreRel R) (r : List Bool) :
    StorePres R (fun s => .ok ((), { s with rands := r }) : BuildM Unit) := of_noWrite hR (NoWrite.setRands r)
theorem reifyRoot (hR : StoreRel R) (c : Cfg) (s : Store) (root : Nat) : StorePres R (Build.reifyRoot c s root) :=
  of_noWrite hR (NoWrite.reifyRoot c s root)

theorem modifyStore (f : Store → Store) (h : ∀ s, R s (f s)) : StorePres R (BuildM.modifyStore f) := by
  intro st a st' e
  simp only [BuildM.modifyStore, Except.ok.injEq, Prod.mk.injEq] at e
  rw [← e.2]; exact h _

theorem forEach (hR : StoreRel R) (l : List α) (f : α → BuildM Unit) (hf : ∀ a, StorePres R (f a)) :
    StorePres R (BuildM.forEach l f) := by
  induction l with
  | nil => exact pure hR ()
  | cons x xs ih => exact bind' hR (hf x) (fun _ => ih)

theorem ite {p : Prop} [Decidable p] {a b : BuildM α} (ha : StorePres R a) (hb : StorePres R b) :
    StorePres R (if p then a else b) := by
  split <;> assumption

end StorePres

/-- `StorePres` under a precondition on the initial store -/
def StorePresFrom (P : Store → Prop) (R : Store → Store → Prop) (m : BuildM α) : Prop :=
  ∀ st a st', P st.store → m st = .ok (a, st') → R st.store st'.store

/-! ## `Tr` -/

/-- every successful run of `m` from a state satisfying `I` ends in a state satisfying `I`, with a
    result satisfying `Q` -/
def Tr {α : Type} (I : BState → Prop) (m : BuildM α) (Q : α → Prop) : Prop :=
  ∀ st a st', I st → m st = .ok (a, st') → I st' ∧ Q a

namespace Tr
variable {α β : Type} {I : BState → Prop}

theorem pure {Q : α → Prop} (a : α) (h : Q a) : Tr I (Pure.pure a : BuildM α) Q := by
  intro st b st' hI e
  rw [BuildM.pure_ok] at e
  obtain ⟨rfl, rfl⟩ := e
  exact ⟨hI, h⟩

theorem fail {Q : α → Prop} (e : Err) : Tr I (BuildM.fail e : BuildM α) Q := by
  intro st b st' _ h; simp [BuildM.fail] at h

theorem bind' {Q : α → Prop} {Q' : β → Prop} {m : BuildM α} {f : α → BuildM β} (hm : Tr I m Q)
    (hf : ∀ a, Q a → Tr I (f a) Q') : Tr I (BuildM.bind' m f) Q' := by
  intro st b st' hI h
  obtain ⟨a, st1, h1, h2⟩ := BuildM.bind'_ok.1 h
  obtain ⟨hI1, hQ⟩ := hm _ _ _ hI h1
  exact hf a hQ _ _ _ hI1 h2

theorem bind {Q : α → Prop} {Q' : β → Prop} {m : BuildM α} {f : α → BuildM β} (hm : Tr I m Q)
    (hf : ∀ a, Q a → Tr I (f a) Q') : Tr I (m >>= f) Q' := bind' hm hf

theorem weaken {Q Q' : α → Prop} {m : BuildM α} (hm : Tr I m Q) (h : ∀ a, Q a → Q' a) : Tr I m Q' := by
  intro st a st' hI e
  obtain ⟨h1, h2⟩ := hm _ _ _ hI e
  exact ⟨h1, h a h2⟩

theorem ite {Q : α → Prop} {p : Prop} [Decidable p] {a b : BuildM α} (ha : Tr I a Q) (hb : Tr I b Q) :
    Tr I (if p then a else b) Q := by
  split <;> assumption

theorem forEach (l : List α) (f : α → BuildM Unit) (hf : ∀ a ∈ l, Tr I (f a) (fun _ => True)) :
    Tr I (BuildM.forEach l f) (fun _ => True) := by
  induction l with
  | nil => exact pure () trivial
  | cons x xs ih =>
    exact bind' (hf x (by simp)) (fun _ _ => ih (fun a ha => hf a (List.mem_cons_of_mem _ ha)))

theorem liftExcept (x : Except Err α) : Tr I (BuildM.liftExcept x) (fun a => x = .ok a) := by
  intro st a st' hI h
  obtain ⟨e, rfl⟩ := BuildM.liftExcept_ok h
  exact ⟨hI, e⟩

end Tr

end Arroy
