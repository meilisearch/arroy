import ArroyProofs.StoreLaws
import ArroyModel.Build
namespace Arroy.Build
open Arroy Generated BuildM

/-! A successful `Build.build` always ends by writing the metadata record with the name of the writer's metric
(used by C18: after a metric change and a build, the old metric is refused). -/

/-- postcondition on the final state of a successful run -/
def EnsuresFinal {α : Type} (m : BuildM α) (P : BState → Prop) : Prop := ∀ s a s', m s = .ok (a, s') → P s'

theorem ensuresFinal_bind {α β : Type} {m : BuildM α} {f : α → BuildM β} {P : BState → Prop}
    (h : ∀ a, EnsuresFinal (f a) P) : EnsuresFinal (m >>= f) P := by
  intro s b s' hb
  change BuildM.bind' m f s = _ at hb
  unfold BuildM.bind' at hb
  split at hb
  · exact h _ _ _ _ hb
  · cases hb

def MetaNamed (c : Cfg) (st : BState) : Prop :=
  ∃ items roots, Store.get st.store c.metaKey = some (.metadata c.metric.nameBytes c.dims items roots)

theorem ensuresFinal_writeMetadata (c : Cfg) (items roots : List Nat) : EnsuresFinal (writeMetadata c items roots) (MetaNamed c) := by
  intro s a s' h
  unfold writeMetadata modifyStore at h
  cases h
  exact ⟨items, roots, Store.get_put_same _ _ _⟩

theorem ensuresFinal_build (c : Cfg) (o : BuildOpts) (fuel : Nat) : EnsuresFinal (build c o fuel) (MetaNamed c) := by
  -- one `ensuresFinal_bind` per statement of `Build.build`: only the last write matters
  unfold build
  apply ensuresFinal_bind; intro _         -- preProcessItems
  apply ensuresFinal_bind; intro items     -- itemIndices
  apply ensuresFinal_bind; intro updated   -- resetUpdated
  split
  · unfold singleLeaf
    apply ensuresFinal_bind; intro _       -- the delete_range
    have tail : EnsuresFinal (do
        poll
        writeMetadata c items (if items.isEmpty = true then [] else [0])
        modifyStore fun st =>
          st.put c.versionKey (Val.version crateVersion.fst crateVersion.snd.fst crateVersion.snd.snd) : BuildM Unit)
        (MetaNamed c) := by
      apply ensuresFinal_bind; intro _
      intro s a s' h
      change BuildM.bind' _ _ s = _ at h
      unfold BuildM.bind' writeMetadata modifyStore at h
      simp only at h
      cases h
      refine ⟨items, (if items.isEmpty = true then [] else [0]), ?_⟩
      show Store.get (Store.put _ _ _) _ = _
      rw [Store.get_put, if_neg, Store.get_put_same]
      intro e
      exact absurd (congrArg Key.item e) (show ¬ metadataKeyItem = versionKeyItem by decide)
    dsimp only
    split
    · apply ensuresFinal_bind; intro _
      exact tail
    · exact tail
  · dsimp only
    apply ensuresFinal_bind; intro s       -- getStore
    apply ensuresFinal_bind; intro used    -- usedTreeNode
    apply ensuresFinal_bind; intro roots   -- deleteExtraTrees
    apply ensuresFinal_bind; intro roots   -- deleteItemsFromTrees
    apply ensuresFinal_bind; intro p       -- insertItemsInCurrentTrees
    obtain ⟨large, g⟩ := p
    dsimp only
    apply ensuresFinal_bind; intro p       -- newTrees
    obtain ⟨roots, large, g⟩ := p
    dsimp only
    apply ensuresFinal_bind; intro _       -- incrementalIndexLargeDescendants
    exact ensuresFinal_writeMetadata c items roots

/-- **a successful build leaves a metadata record carrying the name of the writer's metric** -/
theorem build_metaNamed {c : Cfg} {o : BuildOpts} {fuel : Nat} {st st' : BState}
    (h : build c o fuel st = .ok ((), st')) :
    ∃ items roots, Store.get st'.store c.metaKey = some (.metadata c.metric.nameBytes c.dims items roots) :=
  ensuresFinal_build c o fuel st () st' h

end Arroy.Build
