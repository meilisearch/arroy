import ArroyProofs.BuildTouch
/-! A post-condition of a successful `build`: the updated marks of the index are gone. (That the metadata record
is written is `Build.build_metaNamed`, `BuildMeta.lean`.) -/
namespace Arroy
open Generated BuildM

def Post (Q : Store → Prop) (m : BuildM α) : Prop :=
  ∀ st a st', m st = .ok (a, st') → Q st'.store

namespace Post
variable {Q : Store → Prop}

/-- a post-condition established by `m` survives `f` if `f` preserves a relation that transports it -/
theorem bind_pres {R : Store → Store → Prop} {m : BuildM α} {f : α → BuildM β} (hm : Post Q m)
    (hf : ∀ a, StorePres R (f a)) (hRQ : ∀ s s', R s s' → Q s → Q s') : Post Q (m >>= f) := by
  intro st b st' h
  obtain ⟨a, st1, h1, h2⟩ := BuildM.bind_ok.1 h
  exact hRQ _ _ (hf a _ _ _ h2) (hm _ _ _ h1)
end Post

namespace Build

/-! ### `reset_and_retrieve_updated_items` erases every updated mark -/

theorem mem_keys_foldl_erase (key : Nat → Key) (ids : List Nat) (s : Store) (k : Key)
    (h : k ∈ Frame.keys (ids.foldl (fun s id => Store.erase s (key id)) s)) :
    k ∈ Frame.keys s ∧ ∀ id ∈ ids, k ≠ key id := by
  induction ids generalizing s with
  | nil => exact ⟨h, fun _ h => by cases h⟩
  | cons id rest ih =>
    obtain ⟨h1, h2⟩ := ih _ h
    obtain ⟨h3, h4⟩ := Frame.mem_keys_erase h1
    refine ⟨h3, fun id' hid' => ?_⟩
    rcases List.mem_cons.1 hid' with rfl | hid'
    · exact h4
    · exact h2 _ hid'

/-- no key under the `(i, Updated)` prefix -/
def NoUpdated (i : Nat) (s : Store) : Prop :=
  ∀ k ∈ Frame.keys s, isPrefixOf (encodePrefix i (some modeUpdated)) (encodeKey k) = false

theorem NoUpdated.prefixIter_nil {i : Nat} {s : Store} (h : NoUpdated i s) :
    Store.prefixIter s i (some modeUpdated) = [] := by
  unfold Store.prefixIter
  rw [List.filter_eq_nil_iff]
  intro kv hkv
  rw [h kv.1 (List.mem_map_of_mem hkv)]
  simp

theorem NoUpdated.of_noNew {i : Nat} {s s' : Store} (hR : NoNewUpdated i s s') (h : NoUpdated i s) :
    NoUpdated i s' := by
  intro k hk
  cases hp : isPrefixOf (encodePrefix i (some modeUpdated)) (encodeKey k)
  · rfl
  · rw [← h k (hR k hp hk), hp]

theorem resetUpdated_post (c : Cfg) (hi : c.index < 65536) (st st' : BState) (upd : List Nat)
    (hwf : ∀ k ∈ Frame.keys st.store,
      isPrefixOf (encodePrefix c.index (some modeUpdated)) (encodeKey k) = true → k.wf)
    (h : resetUpdated c st = .ok (upd, st')) : NoUpdated c.index st'.store := by
  obtain ⟨rfl, spec, _⟩ := resetUpdated_spec c h
  intro k hk
  cases hp : isPrefixOf (encodePrefix c.index (some modeUpdated)) (encodeKey k)
  · rfl
  · exfalso
    rw [spec] at hk
    obtain ⟨hk1, hk2⟩ := mem_keys_foldl_erase (fun id => c.updatedKey id) _ _ _ hk
    have kwf := hwf k hk1 hp
    obtain ⟨e1, e2⟩ := (isPrefixOf_kind c.index modeUpdated k kwf hi (by decide)).1 hp
    apply hk2 k.item
    · simp only [Store.keysOf, Store.prefixIter, List.mem_map, List.mem_filter]
      simp only [Frame.keys, List.mem_map] at hk1
      obtain ⟨kv, hkv, rfl⟩ := hk1
      exact ⟨kv, ⟨hkv, hp⟩, rfl⟩
    · cases k
      simp only at e1 e2
      subst e1 e2
      rfl

/-- after a successful build no key under the `(index, Updated)` prefix is left -/
theorem build_noUpdated (c : Cfg) (hi : c.index < 65536) (o : BuildOpts) (fuel : Nat) (st st' : BState)
    (hwf : ∀ k ∈ Frame.keys st.store,
      isPrefixOf (encodePrefix c.index (some modeUpdated)) (encodeKey k) = true → k.wf)
    (h : build c o fuel st = .ok ((), st')) : NoUpdated c.index st'.store := by
  rw [Transp.build_eq] at h
  obtain ⟨_, st1, h1, h2⟩ := BuildM.bind'_ok.1 h
  obtain ⟨items, st2, h3, h4⟩ := BuildM.bind'_ok.1 h2
  obtain ⟨upd, st3, h5, h6⟩ := BuildM.bind'_ok.1 h4
  have r1 := preProcessItems_pres (NoNewUpdated.storeRel _) (fun _ s => preprocessDot_noNewUpdated c s) _ _ _ h1
  have r2 := itemIndices_noWrite c _ _ _ h3
  have hwf2 : ∀ k ∈ Frame.keys st2.store,
      isPrefixOf (encodePrefix c.index (some modeUpdated)) (encodeKey k) = true → k.wf := by
    intro k hk hp
    rw [r2] at hk
    exact hwf k (r1 k hp hk) hp
  have n3 := resetUpdated_post c hi st2 st3 upd hwf2 h5
  exact NoUpdated.of_noNew ((NoNewUpdated.opsClosed c).pres (afterReset_keeps · o fuel items upd) _ _ _ h6) n3

end Build
end Arroy
