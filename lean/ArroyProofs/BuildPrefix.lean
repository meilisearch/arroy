import ArroyProofs.ForestDefs
import ArroyProofs.TransparentBuild
/-! The first three steps of `build` (`pre_process_items`, `item_indices`,
`reset_and_retrieve_updated_items`): they keep every tree key, the metadata, the presence and the
vector of every item; the second returns the stored item ids, the third returns and erases the marks. ("Prefix" here means these three
steps only: `PrefixOut`, `buildPrefix_ok_inv`. `buildPrefix` of NoFuel.lean is something else — everything before
the re-split loop.) -/
namespace Arroy
open BuildM Generated Transp

theorem foldl_put_step (c : Cfg) {β : Type} (L : List (Key × β)) (g : Key × β → Val)
    (hL : ∀ x ∈ L, x.1.wf ∧ (x.1.index = c.index → x.1.mode = modeItem → C05.isLeaf (g x) = true))
    {s0 s : Store} (h : StoreStep c s0 s) : StoreStep c s0 (L.foldl (fun st kv => st.put kv.1 (g kv)) s) := by
  induction L generalizing s with
  | nil => exact h
  | cons x xs ih =>
    simp only [List.foldl_cons]
    exact ih (fun y hy => hL y (List.mem_cons_of_mem _ hy)) (.put _ _ (hL x (by simp)).1 (hL x (by simp)).2 h)

theorem foldl_put_get_of_not {β : Type} (L : List (Key × β)) (g : Key × β → Val) (s : Store) (k : Key)
    (h : ∀ x ∈ L, x.1 ≠ k) : Store.get (L.foldl (fun st kv => st.put kv.1 (g kv)) s) k = Store.get s k := by
  induction L generalizing s with
  | nil => rfl
  | cons x xs ih =>
    simp only [List.foldl_cons]
    rw [ih _ (fun y hy => h y (List.mem_cons_of_mem _ hy)), Store.get_put_other _ _ _ _ (Ne.symm (h x (by simp)))]

theorem foldl_put_get_of_mem {β : Type} (L : List (Key × β)) (g : Key × β → Val) (s : Store) (k : Key)
    (h : ∃ x ∈ L, x.1 = k) :
    ∃ x ∈ L, x.1 = k ∧ Store.get (L.foldl (fun st kv => st.put kv.1 (g kv)) s) k = some (g x) := by
  induction L generalizing s with
  | nil => obtain ⟨x, hx, _⟩ := h; cases hx
  | cons x xs ih =>
    simp only [List.foldl_cons]
    by_cases hxs : ∃ y ∈ xs, y.1 = k
    · obtain ⟨y, hy, hk, hg⟩ := ih (s.put x.1 (g x)) hxs
      exact ⟨y, List.mem_cons_of_mem _ hy, hk, hg⟩
    · have hx : x.1 = k := by
        obtain ⟨y, hy, hk⟩ := h
        rcases List.mem_cons.1 hy with rfl | hy
        · exact hk
        · exact absurd ⟨y, hy, hk⟩ hxs
      refine ⟨x, by simp, hx, ?_⟩
      rw [foldl_put_get_of_not _ _ _ _ (fun y hy e => hxs ⟨y, hy, e⟩), ← hx, Store.get_put_same]

/-! ## what the item-level part of a build keeps -/

/-- `s'` has the same keys outside the item keys of index `c`, the same items, and the same item
    vectors as `s` (only the headers of the leaves may differ) -/
structure ItemsKept (c : Cfg) (s s' : Store) : Prop where
  step : StoreStep c s s'
  other : ∀ k : Key, (k.index ≠ c.index ∨ k.mode ≠ modeItem) → Store.get s' k = Store.get s k
  vec : ∀ id, vecOf c s' id = vecOf c s id
  present : ∀ id, (Store.get s' (c.itemKey id)).isSome = (Store.get s (c.itemKey id)).isSome

theorem ItemsKept.refl (c : Cfg) (s : Store) : ItemsKept c s s :=
  ⟨.refl s, fun _ _ => rfl, fun _ => rfl, fun _ => rfl⟩

theorem ItemsKept.tree {c : Cfg} {s s' : Store} (h : ItemsKept c s s') (i : Nat) :
    Store.get s' (c.treeKey i) = Store.get s (c.treeKey i) :=
  h.other _ (Or.inr (c.treeKey_mode i))

theorem Cfg.metaKey_mode (c : Cfg) : c.metaKey.mode ≠ modeItem := by
  simp [Cfg.metaKey, Key.mkMetadata, metadataKeyMode, modeMetadata, modeItem]

theorem Cfg.updatedKey_mode (c : Cfg) (id : Nat) : (c.updatedKey id).mode ≠ modeItem := by
  simp [Cfg.updatedKey, Key.mkUpdated, modeUpdated, modeItem]

/-! the keys of an index only depend on its number -/

theorem Cfg.treeKey_congr {c c' : Cfg} (h : c'.index = c.index) (i : Nat) : c'.treeKey i = c.treeKey i := by
  simp only [Cfg.treeKey, h]

theorem Cfg.itemKey_congr {c c' : Cfg} (h : c'.index = c.index) (i : Nat) : c'.itemKey i = c.itemKey i := by
  simp only [Cfg.itemKey, h]

theorem Cfg.updatedKey_congr {c c' : Cfg} (h : c'.index = c.index) (i : Nat) : c'.updatedKey i = c.updatedKey i := by
  simp only [Cfg.updatedKey, h]

theorem Cfg.metaKey_congr {c c' : Cfg} (h : c'.index = c.index) : c'.metaKey = c.metaKey := by
  simp only [Cfg.metaKey, h]

theorem Cfg.treeKey_ne_itemKey2 (c c' : Cfg) (i id : Nat) : c.treeKey i ≠ c'.itemKey id :=
  Key.ne_of_mode_ne (show modeTree ≠ modeItem by decide)

theorem Cfg.treeKey_ne_updatedKey (c c' : Cfg) (i id : Nat) : c.treeKey i ≠ c'.updatedKey id :=
  Key.ne_of_mode_ne (show modeTree ≠ modeUpdated by decide)

theorem ItemsKept.meta {c : Cfg} {s s' : Store} (h : ItemsKept c s s') :
    Store.get s' c.metaKey = Store.get s c.metaKey := h.other _ (Or.inr c.metaKey_mode)

theorem ItemsKept.updated {c : Cfg} {s s' : Store} (h : ItemsKept c s s') (id : Nat) :
    Store.get s' (c.updatedKey id) = Store.get s (c.updatedKey id) := h.other _ (Or.inr (c.updatedKey_mode id))

theorem keysOf_congr {s s' : Store} (hs : Store.Sorted s) (hw : Store.WF s) (hs' : Store.Sorted s') (hw' : Store.WF s')
    (i m : Nat) (hi : i < 65536) (hm : m < 256)
    (h : ∀ id, (Store.get s' ⟨i, m, id⟩).isSome = (Store.get s ⟨i, m, id⟩).isSome) :
    Store.keysOf s' i m = Store.keysOf s i m := by
  apply IdSet.sorted_ext (Store.keysOf_sorted hs' hw' i m hi hm) (Store.keysOf_sorted hs hw i m hi hm)
  intro id
  rw [Store.mem_keysOf_iff hw' i m id hi hm, Store.mem_keysOf_iff hw i m id hi hm, h]

theorem ItemsKept.keysOf_item {c : Cfg} {s s' : Store} (h : ItemsKept c s s') (hs : Store.Sorted s) (hw : Store.WF s)
    (hi : c.index < 65536) : Store.keysOf s' c.index modeItem = Store.keysOf s c.index modeItem :=
  keysOf_congr hs hw (h.step.sorted hs) (h.step.wf hw) _ _ hi (by decide) (fun id => h.present id)

theorem ItemsKept.keysOf_updated {c : Cfg} {s s' : Store} (h : ItemsKept c s s') (hs : Store.Sorted s) (hw : Store.WF s)
    (hi : c.index < 65536) : Store.keysOf s' c.index modeUpdated = Store.keysOf s c.index modeUpdated :=
  keysOf_congr hs hw (h.step.sorted hs) (h.step.wf hw) _ _ hi (by decide) (fun id => by
    have := h.updated id
    simp only [Cfg.updatedKey, Key.mkUpdated] at this
    rw [this])

/-- the leaves `preprocessDot` rewrites -/
def dotLeaves (c : Cfg) (s : Store) : List (Key × List Nat) :=
  (s.prefixIter c.index (some modeItem)).filterMap fun kv =>
    match kv.2 with | .leaf _ v => some (kv.1, v) | _ => none

/-- the new value of a rewritten leaf -/
def dotVal (c : Cfg) (s : Store) (kv : Key × List Nat) : Val :=
  let maxNorm := (dotLeaves c s).foldl (fun mx kv => F32.max mx (c.metric.normNoHeader c.host kv.2)) F32.zero
  let nn := c.metric.normNoHeader c.host kv.2
  let diff := F32.sub (F32.mul maxNorm maxNorm) (F32.mul nn nn)
  let hdr := c.metric.header.map fun
    | .norm => F32.mul maxNorm maxNorm
    | .extraDim => F32.sqrt diff
    | _ => F32.zero
  .leaf hdr kv.2

theorem preprocessDot_eq (c : Cfg) (s : Store) :
    Build.preprocessDot c s = (dotLeaves c s).foldl (fun st kv => st.put kv.1 (dotVal c s kv)) s := rfl

theorem preprocessDot_kept (c : Cfg) (s : Store) (hs : Store.Sorted s) (hw : Store.WF s) (hi : c.index < 65536) :
    ItemsKept c s (Build.preprocessDot c s) := by
  -- the entries the fold rewrites
  have hL : ∀ x ∈ dotLeaves c s,
      x.1.wf ∧ x.1.index = c.index ∧ x.1.mode = modeItem ∧ ∃ h, Store.get s x.1 = some (.leaf h x.2) := by
    intro x hx
    obtain ⟨kv, hkv, hm⟩ := List.mem_filterMap.1 hx
    rw [Store.mem_prefixIter_iff hw _ _ hi (by decide)] at hkv
    obtain ⟨hmem, h1, h2⟩ := hkv
    obtain ⟨k, v⟩ := kv
    cases v with
    | leaf h v =>
      simp only [Option.some.injEq] at hm
      subst hm
      exact ⟨hw _ hmem, h1, h2, h, (Store.get_eq_some_iff hs _ _).2 hmem⟩
    | _ => simp at hm
  rw [preprocessDot_eq]
  refine ⟨?_, ?_, ?_, ?_⟩
  · apply foldl_put_step
    · intro x hx
      exact ⟨(hL x hx).1, fun _ _ => rfl⟩
    · exact .refl s
  · intro k hk
    apply foldl_put_get_of_not
    intro x hx e
    obtain ⟨_, h1, h2, _⟩ := hL x hx
    subst e
    rcases hk with hk | hk
    · exact hk h1
    · exact hk h2
  · intro id
    by_cases hex : ∃ x ∈ dotLeaves c s, x.1 = c.itemKey id
    · obtain ⟨x, hx, hk, hg⟩ := foldl_put_get_of_mem _ (dotVal c s) s _ hex
      obtain ⟨_, _, _, h, hget⟩ := hL x hx
      rw [hk] at hget
      simp only [vecOf]
      rw [hg, hget]
      rfl
    · simp only [vecOf]
      rw [foldl_put_get_of_not _ _ _ _ (fun x hx e => hex ⟨x, hx, e⟩)]
  · intro id
    by_cases hex : ∃ x ∈ dotLeaves c s, x.1 = c.itemKey id
    · obtain ⟨x, hx, hk, hg⟩ := foldl_put_get_of_mem _ (dotVal c s) s _ hex
      obtain ⟨_, _, _, h, hget⟩ := hL x hx
      rw [hk] at hget
      rw [hg, hget]; rfl
    · rw [foldl_put_get_of_not _ _ _ _ (fun x hx e => hex ⟨x, hx, e⟩)]

theorem preProcessItems_spec (c : Cfg) {st st' : BState} (h : Build.preProcessItems c st = .ok ((), st'))
    (hs : Store.Sorted st.store) (hw : Store.WF st.store) (hi : c.index < 65536) :
    ItemsKept c st.store st'.store ∧ st'.cancelAt = st.cancelAt := by
  refine ⟨?_, ((preProcessItems_tr c st).ok _ _ h).2.2.1⟩
  unfold Build.preProcessItems at h
  obtain ⟨u, st1, h1, h⟩ := BuildM.bind_ok.1 h
  have e1 := poll_store h1
  simp only at e1
  split at h
  · have := modifyStore_ok h
    cases this
    simp only [e1]
    exact preprocessDot_kept c st.store hs hw hi
  · have := pure_ok_inv h
    cases this
    rw [e1]
    exact ItemsKept.refl c st.store

theorem itemIndices_spec (c : Cfg) {st st' : BState} {ids : List Nat} (h : Build.itemIndices c st = .ok (ids, st')) :
    ids = st.store.keysOf c.index modeItem ∧ st'.store = st.store ∧ st'.cancelAt = st.cancelAt := by
  have hc := ((itemIndices_tr c st).ok _ _ h).2.2.1
  unfold Build.itemIndices at h
  obtain ⟨s, st1, h1, h⟩ := BuildM.bind_ok.1 h
  cases getStore_ok h1
  obtain ⟨u, st2, h2, h⟩ := BuildM.bind_ok.1 h
  cases pure_ok_inv h
  exact ⟨rfl, pollN_store h2, hc⟩

/-- erasing the marks `ids` of index `c` -/
def eraseMarks (c : Cfg) (s : Store) (ids : List Nat) : Store :=
  ids.foldl (fun st id => st.erase (c.updatedKey id)) s

theorem get_eraseMarks_of_not (c : Cfg) (s : Store) (ids : List Nat) (k : Key)
    (h : ∀ i ∈ ids, k ≠ c.updatedKey i) : Store.get (eraseMarks c s ids) k = Store.get s k := by
  induction ids generalizing s with
  | nil => rfl
  | cons i ids ih =>
    simp only [eraseMarks, List.foldl_cons]
    have := ih (s.erase (c.updatedKey i)) (fun j hj => h j (List.mem_cons_of_mem _ hj))
    simp only [eraseMarks] at this
    rw [this, Store.get_erase_other _ _ _ (h i (by simp))]

theorem get_eraseMarks_of_mem (c : Cfg) (s : Store) (ids : List Nat) (i : Nat) (h : i ∈ ids) :
    Store.get (eraseMarks c s ids) (c.updatedKey i) = none := by
  induction ids generalizing s with
  | nil => cases h
  | cons j ids ih =>
    simp only [eraseMarks, List.foldl_cons]
    by_cases hm : i ∈ ids
    · exact ih _ hm
    · have hij : i = j := by
        rcases List.mem_cons.1 h with e | e
        · exact e
        · exact absurd e hm
      subst hij
      have := get_eraseMarks_of_not c (s.erase (c.updatedKey i)) ids (c.updatedKey i) (by
        intro j hj e
        have := (Cfg.updatedKey_eq_iff c c j i).1 e
        exact hm (by rw [this.2]; exact hj))
      simp only [eraseMarks] at this
      rw [this, Store.get_erase_same]

theorem eraseMarks_step (c : Cfg) {s0 s : Store} (h : StoreStep c s0 s) (ids : List Nat) :
    StoreStep c s0 (eraseMarks c s ids) := by
  induction ids generalizing s with
  | nil => exact h
  | cons i ids ih => exact ih (h.erase _)

theorem resetUpdated_spec (c : Cfg) {st st' : BState} {ids : List Nat} (h : Build.resetUpdated c st = .ok (ids, st')) :
    ids = st.store.keysOf c.index modeUpdated ∧ st'.store = eraseMarks c st.store ids ∧
    st'.cancelAt = st.cancelAt := by
  unfold Build.resetUpdated at h
  obtain ⟨s, st1, h1, h⟩ := BuildM.bind_ok.1 h
  cases getStore_ok h1
  obtain ⟨u, st2, h2, h⟩ := BuildM.bind_ok.1 h
  cases pure_ok_inv h
  rw [forEach_poll_modify (fun id st => st.erase (c.updatedKey id)) _ h2]
  exact ⟨rfl, rfl, rfl⟩

theorem not_mem_keysOf_updated_iff {c : Cfg} {s : Store} (hw : Store.WF s) (hi : c.index < 65536) (x : Nat) :
    x ∉ s.keysOf c.index modeUpdated ↔ (Store.get s (c.updatedKey x)).isNone = true := by
  rw [Store.mem_keysOf_iff hw _ _ _ hi (by decide)]
  show ¬ (Store.get s (c.updatedKey x)).isSome = true ↔ _
  cases Store.get s (c.updatedKey x) <;> simp

/-- after `resetUpdated`: no mark of the index is left, everything else is as before -/
theorem eraseMarks_all (c : Cfg) (s : Store) (hw : Store.WF s) (hi : c.index < 65536) :
    (∀ id, Store.get (eraseMarks c s (s.keysOf c.index modeUpdated)) (c.updatedKey id) = none) ∧
    (∀ k, (∀ id, k ≠ c.updatedKey id) → Store.get (eraseMarks c s (s.keysOf c.index modeUpdated)) k = Store.get s k) := by
  refine ⟨?_, fun k hk => get_eraseMarks_of_not c s _ k (fun i _ => hk i)⟩
  intro id
  by_cases hm : id ∈ s.keysOf c.index modeUpdated
  · exact get_eraseMarks_of_mem c s _ id hm
  · rw [get_eraseMarks_of_not c s _ _ (by
      intro j hj e
      have := (Cfg.updatedKey_eq_iff c c j id).1 e
      exact hm (by rw [this.2]; exact hj))]
    exact Option.isNone_iff_eq_none.1 ((not_mem_keysOf_updated_iff hw hi id).1 hm)

theorem vecOf_congr {c : Cfg} {s s' : Store} {id : Nat}
    (h : Store.get s' (c.itemKey id) = Store.get s (c.itemKey id)) : vecOf c s' id = vecOf c s id := by
  simp only [vecOf, h]

/-- what the first three steps of a build leave behind: no mark of the index, every other key outside its item
    keys untouched, the items and their vectors kept -/
structure PrefixOut (c : Cfg) (s s3 : Store) : Prop where
  step : StoreStep c s s3
  no_marks : ∀ id, Store.get s3 (c.updatedKey id) = none
  kept : ∀ k : Key, (∀ id, k ≠ c.updatedKey id) → (k.index ≠ c.index ∨ k.mode ≠ modeItem) →
    Store.get s3 k = Store.get s k
  vec : ∀ id, vecOf c s3 id = vecOf c s id
  present : ∀ id, (Store.get s3 (c.itemKey id)).isSome = (Store.get s (c.itemKey id)).isSome

namespace PrefixOut
variable {c : Cfg} {s s3 : Store}

theorem tree (p : PrefixOut c s s3) (i : Nat) : Store.get s3 (c.treeKey i) = Store.get s (c.treeKey i) :=
  p.kept _ (c.treeKey_ne_updatedKey c i) (Or.inr (c.treeKey_mode i))

theorem other (p : PrefixOut c s s3) (k : Key) (hk : k.index ≠ c.index) : Store.get s3 k = Store.get s k :=
  p.kept k (fun id e => hk (by rw [e]; rfl)) (Or.inl hk)

end PrefixOut

theorem PrefixOut.meta {c : Cfg} {s s3 : Store} (p : PrefixOut c s s3) : Store.get s3 c.metaKey = Store.get s c.metaKey :=
  p.kept _ (fun id => c.metaKey_ne_updatedKey c id) (Or.inr c.metaKey_mode)

/-- a successful run of the first three steps followed by `k`: the state `st3` in between, and the stored item
    ids and marks of the start state as the arguments of `k` -/
theorem buildPrefix_ok_inv (c : Cfg) {α : Type} {k : List Nat → List Nat → BuildM α} {st st' : BState} {a : α}
    (hs : Store.Sorted st.store) (hw : Store.WF st.store) (hi : c.index < 65536)
    (h : bind' (Build.preProcessItems c) (fun _ => bind' (Build.itemIndices c) (fun items =>
      bind' (Build.resetUpdated c) (fun updated => k items updated))) st = .ok (a, st')) :
    ∃ st3, PrefixOut c st.store st3.store ∧ st3.cancelAt = st.cancelAt ∧
      k (st.store.keysOf c.index modeItem) (st.store.keysOf c.index modeUpdated) st3 = .ok (a, st') := by
  obtain ⟨u1, st1, h1, h⟩ := BuildM.bind'_ok.1 h
  obtain ⟨kept1, c1⟩ := preProcessItems_spec c h1 hs hw hi
  obtain ⟨items, st2, h2, h⟩ := BuildM.bind'_ok.1 h
  obtain ⟨rfl, e2, c2⟩ := itemIndices_spec c h2
  obtain ⟨updated, st3, h3, h⟩ := BuildM.bind'_ok.1 h
  obtain ⟨rfl, e3, c3⟩ := resetUpdated_spec c h3
  rw [e2] at e3 h
  rw [kept1.keysOf_item hs hw hi, kept1.keysOf_updated hs hw hi] at h
  obtain ⟨marks_none, marks_other⟩ := eraseMarks_all c st1.store (kept1.step.wf hw) hi
  rw [← e3] at marks_none marks_other
  have hitem : ∀ id, Store.get st3.store (c.itemKey id) = Store.get st1.store (c.itemKey id) :=
    fun id => marks_other _ (fun id' => c.itemKey_ne_updatedKey c id' id)
  refine ⟨st3, ⟨?_, marks_none, ?_, ?_, ?_⟩, by rw [c3, c2, c1], h⟩
  · rw [e3]; exact eraseMarks_step c kept1.step _
  · intro k hu hm
    rw [marks_other k hu, kept1.other k hm]
  · intro id
    rw [vecOf_congr (hitem id), kept1.vec]
  · intro id
    rw [hitem, kept1.present]

end Arroy
