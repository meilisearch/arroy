import ArroyProofs.PreprocessFrame
/-! For every helper of `Build.lean` and for `Build.build`: `StorePres (Untouched c.index)` (frame),
`StorePres (OtherSame c.index)` (frame, dump form), `StorePres (OnlyTreeMarksMeta c.index)` (what a build
may touch) and `StorePres (NoNewUpdated c.index)`, each out of the walk of `BuildFrame.lean`. -/
namespace Arroy
open Generated

theorem Untouched.opsClosed (c : Cfg) (hi : c.index < 65536) : OpsClosed c (Untouched c.index) :=
  (FrameNI.opsClosed c hi).mono (Untouched.storeRel _) (fun _ _ h => h.untouched)

theorem OnlyTreeMarksMeta.opsClosed (c : Cfg) (hi : c.index < 65536) : OpsClosed c (OnlyTreeMarksMeta c.index) :=
  (FrameNI.opsClosed c hi).mono (OnlyTreeMarksMeta.storeRel _) (fun _ _ h => h.onlyTreeMarksMeta)

/-- `R`, between sorted stores -/
def SortedTo (R : Store → Store → Prop) (s s' : Store) : Prop :=
  Store.Sorted s → Store.Sorted s' ∧ R s s'

theorem OpsClosed.sortedTo {c : Cfg} {R : Store → Store → Prop} (h : OpsClosed c R) : OpsClosed c (SortedTo R) where
  refl := fun s hs => ⟨hs, h.refl s⟩
  trans := fun h1 h2 hs => ⟨(h2 (h1 hs).1).1, h.trans (h1 hs).2 (h2 (h1 hs).1).2⟩
  put := fun s m id v hm hs => ⟨Store.put_sorted hs _ v, h.put s m id v hm⟩
  erase := fun s m id hm hs => ⟨Store.erase_sorted hs _, h.erase s m id hm⟩
  delRange := fun s hs => ⟨Store.filter_sorted hs _, h.delRange s⟩

theorem Build.preprocessDot_sorted (c : Cfg) (s : Store) (hs : Store.Sorted s) :
    Store.Sorted (Build.preprocessDot c s) :=
  Build.preprocessDot_inv Store.Sorted c s hs (fun _ _ _ _ _ _ _ hst => Store.put_sorted hst _ _)

namespace Build
variable (c : Cfg) (hi : c.index < 65536)
include hi

/-! ### the helpers: `Untouched` -/
omit hi in
theorem itemIndices_untouched : StorePres (Untouched c.index) (itemIndices c) :=
  StorePres.of_noWrite (Untouched.storeRel _) (itemIndices_noWrite c)
theorem resetUpdated_untouched : StorePres (Untouched c.index) (resetUpdated c) :=
  (Untouched.opsClosed c hi).pres resetUpdated_keeps
theorem singleLeaf_untouched (items : List Nat) : StorePres (Untouched c.index) (singleLeaf c items) :=
  (Untouched.opsClosed c hi).pres (singleLeaf_keeps · items)
omit hi in
theorem usedTreeNode_untouched : StorePres (Untouched c.index) (usedTreeNode c) :=
  StorePres.of_noWrite (Untouched.storeRel _) (NoWrite.usedTreeNode c)
theorem deleteTree_untouched (fuel : Nat) (ref : NodeId) (s s' : Store) (e : deleteTree c fuel ref s = .ok s') :
    Untouched c.index s s' :=
  deleteTree_keeps ((Untouched.opsClosed c hi).keeps s) fuel ref s s' e ((Untouched.storeRel _).refl s)
theorem deleteExtraTrees_untouched (k : Nat) (roots : List Nat) :
    StorePres (Untouched c.index) (deleteExtraTrees c k roots) :=
  (Untouched.opsClosed c hi).pres (deleteExtraTrees_keeps · k roots)
theorem writeBack_untouched (removed : List Nat) (puts : List (Nat × Val)) (remap : Nat → Nat) :
    StorePres (Untouched c.index) (writeBack c removed puts remap) :=
  (Untouched.opsClosed c hi).pres (writeBack_keeps · removed puts remap (fun p _ => p.2.nok_true))
omit hi in
theorem deleteLoop_untouched (o : BuildOpts) (D : List Nat) (s : Store) (roots : List Nat) :
    StorePres (Untouched c.index) (deleteLoop c o D s roots) :=
  StorePres.of_noWrite (Untouched.storeRel _) (deleteLoop_noWrite c o D s roots)
theorem deleteItemsFromTrees_untouched (o : BuildOpts) (roots D : List Nat) :
    StorePres (Untouched c.index) (deleteItemsFromTrees c o roots D) :=
  (Untouched.opsClosed c hi).pres (deleteItemsFromTrees_keeps · o roots D)
omit hi in
theorem insertRoots_untouched (o : BuildOpts) (snapshot : Store) (batch roots : List Nat) (g : IdGen) :
    StorePres (Untouched c.index) (insertRoots c o snapshot batch roots g) :=
  StorePres.of_noWrite (Untouched.storeRel _) (insertRoots_noWrite c o snapshot batch roots g)
theorem insertItemsInCurrentTrees_untouched (o : BuildOpts) (roots : List Nat) (fuel : Nat) (toInsert : List Nat)
    (g : IdGen) : StorePres (Untouched c.index) (insertItemsInCurrentTrees c o roots fuel toInsert g) :=
  (Untouched.opsClosed c hi).pres (insertItemsInCurrentTrees_keeps · o roots fuel toInsert g)
theorem newTrees_untouched (items : List Nat) (k : Nat) (roots large : List Nat) (g : IdGen) :
    StorePres (Untouched c.index) (newTrees c items k roots large g) :=
  (Untouched.opsClosed c hi).pres (newTrees_keeps · items k roots large g)
theorem incrementalIndexLargeDescendants_untouched (o : BuildOpts) (fuel : Nat) (large : List Nat) (g : IdGen) :
    StorePres (Untouched c.index) (incrementalIndexLargeDescendants c o fuel large g) :=
  (Untouched.opsClosed c hi).pres (incrementalIndexLargeDescendants_keeps · o fuel large g)
theorem writeMetadata_untouched (items roots : List Nat) : StorePres (Untouched c.index) (writeMetadata c items roots) :=
  (Untouched.opsClosed c hi).pres (writeMetadata_keeps · items roots)

/-! ### the helpers: `OnlyTreeMarksMeta` -/
omit hi in
theorem itemIndices_onlyTreeMarksMeta : StorePres (OnlyTreeMarksMeta c.index) (itemIndices c) :=
  StorePres.of_noWrite (OnlyTreeMarksMeta.storeRel _) (itemIndices_noWrite c)
theorem resetUpdated_onlyTreeMarksMeta : StorePres (OnlyTreeMarksMeta c.index) (resetUpdated c) :=
  (OnlyTreeMarksMeta.opsClosed c hi).pres resetUpdated_keeps
theorem singleLeaf_onlyTreeMarksMeta (items : List Nat) : StorePres (OnlyTreeMarksMeta c.index) (singleLeaf c items) :=
  (OnlyTreeMarksMeta.opsClosed c hi).pres (singleLeaf_keeps · items)
omit hi in
theorem usedTreeNode_onlyTreeMarksMeta : StorePres (OnlyTreeMarksMeta c.index) (usedTreeNode c) :=
  StorePres.of_noWrite (OnlyTreeMarksMeta.storeRel _) (NoWrite.usedTreeNode c)
theorem deleteTree_onlyTreeMarksMeta (fuel : Nat) (ref : NodeId) (s s' : Store)
    (e : deleteTree c fuel ref s = .ok s') : OnlyTreeMarksMeta c.index s s' :=
  deleteTree_keeps ((OnlyTreeMarksMeta.opsClosed c hi).keeps s) fuel ref s s' e
    ((OnlyTreeMarksMeta.storeRel _).refl s)
theorem deleteExtraTrees_onlyTreeMarksMeta (k : Nat) (roots : List Nat) :
    StorePres (OnlyTreeMarksMeta c.index) (deleteExtraTrees c k roots) :=
  (OnlyTreeMarksMeta.opsClosed c hi).pres (deleteExtraTrees_keeps · k roots)
theorem writeBack_onlyTreeMarksMeta (removed : List Nat) (puts : List (Nat × Val)) (remap : Nat → Nat) :
    StorePres (OnlyTreeMarksMeta c.index) (writeBack c removed puts remap) :=
  (OnlyTreeMarksMeta.opsClosed c hi).pres (writeBack_keeps · removed puts remap (fun p _ => p.2.nok_true))
omit hi in
theorem deleteLoop_onlyTreeMarksMeta (o : BuildOpts) (D : List Nat) (s : Store) (roots : List Nat) :
    StorePres (OnlyTreeMarksMeta c.index) (deleteLoop c o D s roots) :=
  StorePres.of_noWrite (OnlyTreeMarksMeta.storeRel _) (deleteLoop_noWrite c o D s roots)
theorem deleteItemsFromTrees_onlyTreeMarksMeta (o : BuildOpts) (roots D : List Nat) :
    StorePres (OnlyTreeMarksMeta c.index) (deleteItemsFromTrees c o roots D) :=
  (OnlyTreeMarksMeta.opsClosed c hi).pres (deleteItemsFromTrees_keeps · o roots D)
omit hi in
theorem insertRoots_onlyTreeMarksMeta (o : BuildOpts) (snapshot : Store) (batch roots : List Nat) (g : IdGen) :
    StorePres (OnlyTreeMarksMeta c.index) (insertRoots c o snapshot batch roots g) :=
  StorePres.of_noWrite (OnlyTreeMarksMeta.storeRel _) (insertRoots_noWrite c o snapshot batch roots g)
theorem insertItemsInCurrentTrees_onlyTreeMarksMeta (o : BuildOpts) (roots : List Nat) (fuel : Nat)
    (toInsert : List Nat) (g : IdGen) :
    StorePres (OnlyTreeMarksMeta c.index) (insertItemsInCurrentTrees c o roots fuel toInsert g) :=
  (OnlyTreeMarksMeta.opsClosed c hi).pres (insertItemsInCurrentTrees_keeps · o roots fuel toInsert g)
theorem newTrees_onlyTreeMarksMeta (items : List Nat) (k : Nat) (roots large : List Nat) (g : IdGen) :
    StorePres (OnlyTreeMarksMeta c.index) (newTrees c items k roots large g) :=
  (OnlyTreeMarksMeta.opsClosed c hi).pres (newTrees_keeps · items k roots large g)
theorem incrementalIndexLargeDescendants_onlyTreeMarksMeta (o : BuildOpts) (fuel : Nat) (large : List Nat)
    (g : IdGen) : StorePres (OnlyTreeMarksMeta c.index) (incrementalIndexLargeDescendants c o fuel large g) :=
  (OnlyTreeMarksMeta.opsClosed c hi).pres (incrementalIndexLargeDescendants_keeps · o fuel large g)
theorem writeMetadata_onlyTreeMarksMeta (items roots : List Nat) :
    StorePres (OnlyTreeMarksMeta c.index) (writeMetadata c items roots) :=
  (OnlyTreeMarksMeta.opsClosed c hi).pres (writeMetadata_keeps · items roots)

/-- Why `OnlyTreeMarksMeta` excludes *every* non-item key of the index and not only the three kinds
    tree / updated / metadata: `delete_tree` erases the key `(index, kind, id)` of a child id of **any**
    kind but item. Here a split node points to a child of kind 7 and the entry under `(0, 7, 0)` goes.
    (Unreachable in the crate: `NodeId::from_bytes` only yields the four kinds.) -/
example : ∃ s', deleteTree ⟨0, .euclidean, 2, {}⟩ 3 (NodeId.mkTree 0)
      [(⟨0, modeTree, 0⟩, .split ⟨7, 0⟩ ⟨modeItem, 5⟩ []), (⟨0, 7, 0⟩, .desc [])] = .ok s' ∧
    Store.get s' ⟨0, 7, 0⟩ = none := ⟨_, rfl, rfl⟩

/-! ### `Build.build` -/
theorem build_otherSame (o : BuildOpts) (fuel : Nat) : StorePres (OtherSame c.index) (build c o fuel) :=
  build_pres (OtherSame.opsClosed c hi) (fun _ s => preprocessDot_otherSame c hi s) o fuel

theorem build_untouched (o : BuildOpts) (fuel : Nat) : StorePres (Untouched c.index) (build c o fuel) :=
  (build_otherSame c hi o fuel).mono (fun _ _ h => h.untouched)

omit hi in
theorem build_noNewUpdated (o : BuildOpts) (fuel : Nat) : StorePres (NoNewUpdated c.index) (build c o fuel) :=
  build_pres (NoNewUpdated.opsClosed c) (fun _ s => preprocessDot_noNewUpdated c s) o fuel

/-- from a sorted store: with duplicate keys the rewrite of a header by the DotProduct preprocessing could
    resurrect a shadowed vector -/
theorem build_onlyTreeMarksMeta (o : BuildOpts) (fuel : Nat) :
    StorePresFrom Store.Sorted (OnlyTreeMarksMeta c.index) (build c o fuel) :=
  fun st a st' hs e => (build_pres (OnlyTreeMarksMeta.opsClosed c hi).sortedTo
    (fun _ s hs => ⟨preprocessDot_sorted c s hs, preprocessDot_onlyTreeMarksMeta c hi s hs⟩) o fuel st a st' e hs).2

/-- for every metric but DotProduct a build changes no item value and no key of another index,
    whatever the store -/
theorem build_frameNI (hm : c.metric ≠ .dot) (o : BuildOpts) (fuel : Nat) :
    StorePres (FrameNI c.index) (build c o fuel) :=
  build_pres (FrameNI.opsClosed c hi) (fun e => absurd e hm) o fuel

end Build
end Arroy
