import ArroyProofs.StoreFold
import ArroyProofs.WriterLaws
import ArroyProofs.Properties.C05
import ArroyProofs.BQLemmas
/-! `Writer.prepareChangingDistance` in closed form: a key-preserving map over the store without the forest
and the metadata of the index. -/
namespace Arroy
open Generated Store

namespace Writer

/-- the leaf written back for a stored leaf -/
def reencVal (c : Cfg) (m' : Metric) : Val → Val
  | .leaf _ vec => ({ c with metric := m' } : Cfg).mkLeaf ((c.metric.toVec vec).take c.dims)
  | other => other

/-- the key is visited by the item cursor of the index -/
def underItems (c : Cfg) (k : Key) : Bool := isPrefixOf (encodePrefix c.index (some modeItem)) (encodeKey k)

def reencAt (c : Cfg) (m' : Metric) (k : Key) (v : Val) : Val := if underItems c k = true then reencVal c m' v else v

/-- `reencode` in closed form: the key-preserving map if every value under an item key is a leaf; otherwise the
    panic of the first other value (the real code runs into `unreachable!`) -/
theorem reencode_eq (c : Cfg) (m' : Metric) (l : Store) :
    ((∀ kv ∈ l, underItems c kv.1 = true → C05.isLeaf kv.2 = true) ∧
      reencode c m' l = .ok (l.map (fun kv => (kv.1, reencAt c m' kv.1 kv.2)))) ∨
    ((∃ kv ∈ l, underItems c kv.1 = true ∧ C05.isLeaf kv.2 = false) ∧
      reencode c m' l = .error (.panic "prepare_changing_distance: tree node under an item key")) := by
  induction l with
  | nil => exact Or.inl ⟨(fun _ h => by cases h), rfl⟩
  | cons kv rest ih =>
    obtain ⟨k, v⟩ := kv
    unfold reencode
    by_cases hp : underItems c k = true
    · simp only [show isPrefixOf (encodePrefix c.index (some modeItem)) (encodeKey k) = true from hp, if_true]
      by_cases hv : C05.isLeaf v = true
      · obtain ⟨hd, vec, rfl⟩ := (C05.isLeaf_iff v).1 hv
        rcases ih with ⟨hall, e⟩ | ⟨⟨x, hx, h1, h2⟩, e⟩
        · refine Or.inl ⟨fun x hx => (List.mem_cons.1 hx).elim (fun e _ => e ▸ hv) (hall x), ?_⟩
          simp only [e, List.map_cons, reencAt, hp, if_true, reencVal]
        · exact Or.inr ⟨⟨x, List.mem_cons_of_mem _ hx, h1, h2⟩, by simp only [e]⟩
      · refine Or.inr ⟨⟨(k, v), List.mem_cons_self .., hp, by simpa using hv⟩, ?_⟩
        cases v <;> first | rfl | exact absurd rfl hv
    · have hp' : isPrefixOf (encodePrefix c.index (some modeItem)) (encodeKey k) = false :=
        Bool.eq_false_iff.2 hp
      simp only [hp', Bool.false_eq_true, if_false]
      rcases ih with ⟨hall, e⟩ | ⟨⟨x, hx, h1, h2⟩, e⟩
      · refine Or.inl ⟨fun x hx => ?_, ?_⟩
        · rcases List.mem_cons.1 hx with rfl | hx
          · exact fun h => absurd h hp
          · exact hall x hx
        · simp only [e, List.map_cons, reencAt, hp, Bool.false_eq_true, if_false]
      · exact Or.inr ⟨⟨x, List.mem_cons_of_mem _ hx, h1, h2⟩, by simp only [e]⟩

theorem reencode_ok (c : Cfg) (m' : Metric) (l : Store)
    (h : ∀ kv ∈ l, underItems c kv.1 = true → C05.isLeaf kv.2 = true) :
    reencode c m' l = .ok (l.map (fun kv => (kv.1, reencAt c m' kv.1 kv.2))) := by
  rcases reencode_eq c m' l with ⟨_, e⟩ | ⟨⟨x, hx, h1, h2⟩, _⟩
  · exact e
  · rw [h x hx h1] at h2; cases h2

theorem reencode_err (c : Cfg) (m' : Metric) (l : Store)
    (h : ∃ kv ∈ l, underItems c kv.1 = true ∧ C05.isLeaf kv.2 = false) :
    ∃ e, reencode c m' l = .error e := by
  rcases reencode_eq c m' l with ⟨hall, _⟩ | ⟨_, e⟩
  · obtain ⟨x, hx, h1, h2⟩ := h
    rw [hall x hx h1] at h2; cases h2
  · exact ⟨_, e⟩

theorem mem_clearTreeNodes {c : Cfg} {s : Store} {x : Key × Val} (h : x ∈ clearTreeNodes c s) : x ∈ s := by
  unfold clearTreeNodes Store.deletePrefix Store.erase at h
  exact (List.mem_filter.1 (List.mem_filter.1 h).1).1

theorem get_clearTreeNodes (c : Cfg) (s : Store) (k : Key) :
    Store.get (clearTreeNodes c s) k =
      if isPrefixOf (encodePrefix c.index (some modeTree)) (encodeKey k) = true then none
      else if k = c.metaKey then none else Store.get s k := by
  unfold clearTreeNodes
  rw [get_deletePrefix, get_erase]

theorem clearTreeNodes_sorted {c : Cfg} {s : Store} (h : Sorted s) : Sorted (clearTreeNodes c s) :=
  deletePrefix_sorted (erase_sorted h _) _ _

theorem clearTreeNodes_wf {c : Cfg} {s : Store} (h : WF s) : WF (clearTreeNodes c s) :=
  deletePrefix_wf (erase_wf h _) _ _

theorem underItems_iff (c : Cfg) (k : Key) (hk : k.wf) (hi : c.index < 65536) :
    underItems c k = true ↔ k.index = c.index ∧ k.mode = modeItem :=
  isPrefixOf_kind c.index modeItem k hk hi (by decide)

theorem underItems_itemKey (c : Cfg) (id : Nat) : underItems c (c.itemKey id) = true :=
  isPrefixOf_kind_self (c.itemKey id)

/-- the store after a change of metric, explicitly -/
def changed (c : Cfg) (m' : Metric) (s : Store) : Store :=
  (clearTreeNodes c s).map (fun kv => (kv.1, reencAt c m' kv.1 kv.2))

theorem prepare_same (c : Cfg) (s : Store) : prepareChangingDistance c c.metric s = .ok s := by
  unfold prepareChangingDistance; rw [if_pos rfl]

theorem prepare_ok (c : Cfg) (m' : Metric) (s : Store) (hne : m' ≠ c.metric) (hw : WF s) (hi : c.index < 65536)
    (hl : C05.ItemsAreLeaves c s) : prepareChangingDistance c m' s = .ok (changed c m' s) := by
  unfold prepareChangingDistance
  rw [if_neg hne]
  apply reencode_ok
  intro kv hkv hp
  have hm := mem_clearTreeNodes hkv
  have := (underItems_iff c kv.1 (hw kv hm) hi).1 hp
  exact hl kv hm this.1 this.2

theorem get_changed (c : Cfg) (m' : Metric) (s : Store) (k : Key) :
    Store.get (changed c m' s) k = (Store.get (clearTreeNodes c s) k).map (reencAt c m' k) :=
  get_map_val _ _ k

/-- the database after the change, under **every** key -/
theorem get_changed_full (c : Cfg) (m' : Metric) (s : Store) (hw : Store.WF s) (hi : c.index < 65536) (k : Key) :
    Store.get (changed c m' s) k =
      if k.index = c.index ∧ k.mode = modeTree then none
      else if k = c.metaKey then none
      else if k.index = c.index ∧ k.mode = modeItem then (Store.get s k).map (reencVal c m')
      else Store.get s k := by
  rw [get_changed, get_clearTreeNodes]
  cases hg : Store.get s k with
  | none => simp only [Option.map_none, ite_self]
  | some v =>
    have hk : k.wf := hw _ (mem_of_get hg)
    have e1 := isPrefixOf_kind c.index modeTree k hk hi (by decide)
    have e2 := underItems_iff c k hk hi
    by_cases h1 : k.index = c.index ∧ k.mode = modeTree
    · rw [if_pos (e1.2 h1), if_pos h1]; rfl
    · rw [if_neg (fun h => h1 (e1.1 h)), if_neg h1]
      by_cases h2 : k = c.metaKey
      · rw [if_pos h2, if_pos h2]; rfl
      · rw [if_neg h2, if_neg h2]
        by_cases h3 : k.index = c.index ∧ k.mode = modeItem
        · rw [if_pos h3]; simp only [Option.map_some, reencAt, if_pos (e2.2 h3)]
        · rw [if_neg h3]; simp only [Option.map_some, reencAt, if_neg (fun h => h3 (e2.1 h))]

theorem get_changed_item (c : Cfg) (m' : Metric) (s : Store) (hw : Store.WF s) (hi : c.index < 65536) (id : Nat) :
    Store.get (changed c m' s) (c.itemKey id) = (Store.get s (c.itemKey id)).map (reencVal c m') := by
  rw [get_changed_full c m' s hw hi,
    if_neg (fun h => absurd (show modeItem = modeTree from h.2) (by decide)),
    if_neg (fun h => Cfg.metaKey_ne_itemKey c c id h.symm), if_pos ⟨rfl, rfl⟩]

/-! ## quantised vectors: length and range of `BQ.unpack` -/

theorem mem_bqUnpackWord {n w x : Nat} (h : x ∈ BQ.unpackWord n w) : x = F32.one ∨ x = F32.negOne := by
  induction n generalizing w with
  | zero => cases h
  | succ n ih =>
    simp only [BQ.unpackWord, List.mem_cons] at h
    rcases h with h | h
    · rw [h]; split
      · exact Or.inl rfl
      · exact Or.inr rfl
    · exact ih h

theorem bqUnpack_length (ws : List Nat) : (BQ.unpack ws).length = quantizedWordBits * ws.length := by
  unfold BQ.unpack
  induction ws with
  | nil => rfl
  | cons w ws ih =>
    rw [List.flatMap_cons, List.length_append, ih, BQL.unpackWord_length, List.length_cons, Nat.mul_succ, Nat.add_comm]

theorem mem_bqUnpack {ws : List Nat} {x : Nat} (h : x ∈ BQ.unpack ws) : x = F32.one ∨ x = F32.negOne := by
  unfold BQ.unpack at h
  obtain ⟨w, _, hx⟩ := List.mem_flatMap.1 h
  exact mem_bqUnpackWord hx

/-- up to 64 components are packed into one word (`chunks` is defined by well-founded recursion and does not
    evaluate by `rfl`) -/
theorem bqPack_short (xs : List Nat) (h0 : xs ≠ []) (h : xs.length ≤ quantizedWordBits) :
    BQ.pack xs = [BQ.packWord xs] := by
  unfold BQ.pack
  rw [BQL.chunks_short _ xs (by decide) h0 h]
  rfl

end Writer
end Arroy
