import ArroyProofs.RoaringLemmas
import ArroyProofs.Properties.C16
/-! Helper lemmas for C16 (codec half): vectors, node values, metadata records. -/
namespace Arroy
namespace CodecL
open Generated IdSet Roaring

theorem wordBytes_pos (m : Metric) : 0 < m.wordBytes := by cases m <;> decide

theorem wordBytes_cases (m : Metric) : m.wordBytes = 4 ∨ m.wordBytes = 8 := by cases m <;> decide

theorem encodeVec_length (m : Metric) (v : List Nat) : (encodeVec m v).length = m.wordBytes * v.length :=
  length_flatMap_leBytes _ v

theorem decodeVec_encodeVec (m : Metric) (v : List Nat) (h : ∀ x ∈ v, x < 256 ^ m.wordBytes) :
    decodeVec m (encodeVec m v) = some v := by
  unfold decodeVec
  rw [encodeVec_length, Nat.mul_mod_right]
  simp only [ne_eq, not_true_eq_false, if_false]
  unfold encodeVec
  rw [ofLe_chunks_flatMap_leBytes (wordBytes_pos m) v h]

theorem encodeVal_leaf_eq (m : Metric) (hdr vec : List Nat) :
    encodeVal m (.leaf hdr vec) = leafTag :: (hdr.flatMap (le 4) ++ encodeVec m vec) := by
  simp [encodeVal]

theorem encodeVal_desc_eq (m : Metric) (ids : List Nat) :
    encodeVal m (.desc ids) = descendantsTag :: Roaring.encode ids := by
  simp [encodeVal]

theorem encodeVal_split_eq (m : Metric) (l r : NodeId) (n : List Nat) :
    encodeVal m (.split l r n) = splitTag :: (encodeNodeId l ++ (encodeNodeId r ++ encodeVec m n)) := by
  simp [encodeVal]

theorem decodeNode_leaf (m : Metric) (hdr vec : List Nat) (hl : hdr.length = m.header.length)
    (hh : ∀ x ∈ hdr, x < 2 ^ 32) (hv : ∀ x ∈ vec, x < 256 ^ m.wordBytes) :
    decodeNode m (encodeVal m (.leaf hdr vec)) = some (.leaf hdr vec) := by
  rw [encodeVal_leaf_eq]
  unfold decodeNode
  simp only [if_true]
  have hlen : (hdr.flatMap (le 4)).length = 4 * m.header.length := by rw [length_flatMap_leBytes, hl]
  have h1 : ¬ ((hdr.flatMap (le 4) ++ encodeVec m vec).length < 4 * m.header.length) := by
    rw [List.length_append, hlen]; omega
  rw [if_neg h1, List.take_left' hlen, List.drop_left' hlen, decodeVec_encodeVec m vec hv,
    ofLe_chunks_flatMap_leBytes (by decide) hdr hh]
  rfl

theorem validMode_lt {n : Nat} (h : C16.validMode n) : n < 256 := by
  rcases h with h | h | h | h <;> rw [h] <;> decide

theorem decodeNode_split (m : Metric) (l r : NodeId) (n : List Nat)
    (hl2 : l.item < 256 ^ 4) (hl3 : C16.validMode l.mode)
    (hr2 : r.item < 256 ^ 4) (hr3 : C16.validMode r.mode)
    (hv : ∀ x ∈ n, x < 256 ^ m.wordBytes) :
    decodeNode m (encodeVal m (.split l r n)) = some (.split l r n) := by
  rw [encodeVal_split_eq]
  unfold decodeNode
  have h1 : ¬ (splitTag = leafTag) := by decide
  simp only [h1, if_false, if_true]
  rw [C16.C16_nodeid_roundtrip l (validMode_lt hl3) hl2 hl3]
  simp only [Option.bind_eq_bind, Option.bind_some]
  rw [C16.C16_nodeid_roundtrip r (validMode_lt hr3) hr2 hr3]
  simp only [Option.bind_some]
  rw [decodeVec_encodeVec m n hv]
  rfl

theorem decodeNode_desc (m : Metric) (ids : List Nat) (hs : Sorted ids) (hb : ∀ x ∈ ids, x < 2 ^ 32) :
    decodeNode m (encodeVal m (.desc ids)) = some (.desc ids) := by
  rw [encodeVal_desc_eq]
  unfold decodeNode
  have h1 : ¬ (descendantsTag = leafTag) := by decide
  have h2 : ¬ (descendantsTag = splitTag) := by decide
  simp only [h1, h2, if_false, if_true]
  have := decode_encode ids hs hb []
  rw [List.append_nil] at this
  rw [this]
  rfl

theorem splitAtNul_append (name rest : Bytes) (h : ∀ b ∈ name, b ≠ 0) :
    splitAtNul (name ++ 0 :: rest) = some (name, rest) := by
  induction name with
  | nil => simp [splitAtNul]
  | cons b bs ih =>
    have hb : b ≠ 0 := h b (by simp)
    simp only [List.cons_append, splitAtNul, hb, if_false]
    rw [ih (fun c hc => h c (by simp [hc]))]
    rfl

theorem encodeVal_metadata_eq (m : Metric) (name : Bytes) (dims : Nat) (items roots : List Nat) :
    encodeVal m (.metadata name dims items roots) =
      name ++ 0 :: (be 4 dims ++ (be 4 (Roaring.serializedSize items) ++
        (Roaring.encode items ++ roots.flatMap (le 4)))) := by
  simp [encodeVal, Generated.metadataLayout, metaFieldBytes]

theorem roots_parse (roots : List Nat) (h : ∀ r ∈ roots, r < 2 ^ 32) :
    (chunks 4 (roots.flatMap (le 4))).filterMap (fun c => if c.length = 4 then some (ofLe c) else none)
      = roots := by
  rw [chunks_flatMap_leBytes (by decide)]
  induction roots with
  | nil => rfl
  | cons r rs ih =>
    simp only [List.map_cons, List.filterMap_cons, le_length, if_true]
    rw [ofLe_le 4 r (h r (by simp)), ih (fun x hx => h x (by simp [hx]))]

theorem decodeMeta_encode (m : Metric) (name : Bytes) (dims : Nat) (items roots : List Nat)
    (hname : ∀ b ∈ name, b ≠ 0) (hdims : dims < 2 ^ 32) (hs : Sorted items)
    (hb : ∀ x ∈ items, x < 2 ^ 32) (hr : ∀ r ∈ roots, r < 2 ^ 32) :
    decodeMeta (encodeVal m (.metadata name dims items roots)) = some (.metadata name dims items roots) := by
  rw [encodeVal_metadata_eq]
  unfold decodeMeta
  rw [splitAtNul_append _ _ hname]
  simp only [Option.bind_eq_bind, Option.bind_some]
  have hsz := serializedSize_lt items hs hb
  have hlen := encode_length items
  generalize hE : Roaring.encode items = E at *
  generalize hR : roots.flatMap (le 4) = R at *
  have h1 : ¬ ((be 4 dims ++ (be 4 (serializedSize items) ++ (E ++ R))).length < 8) := by
    simp only [List.length_append, be_length]; omega
  have h2 : (be 4 dims ++ (be 4 (serializedSize items) ++ (E ++ R))).take 4 = be 4 dims :=
    List.take_left' (be_length _ _)
  have h3 : ((be 4 dims ++ (be 4 (serializedSize items) ++ (E ++ R))).drop 4).take 4
      = be 4 (serializedSize items) := by
    rw [List.drop_left' (be_length _ _), List.take_left' (be_length _ _)]
  have h4 : (be 4 dims ++ (be 4 (serializedSize items) ++ (E ++ R))).drop 8 = E ++ R := by
    rw [← List.append_assoc]
    exact List.drop_left' (by simp [be_length])
  rw [if_neg h1, h2, h3, h4, ofBe_be 4 _ hdims, ofBe_be 4 _ hsz]
  have h5 : ¬ ((E ++ R).length < serializedSize items) := by
    rw [List.length_append, hlen]; omega
  rw [if_neg h5, List.take_left' hlen, List.drop_left' hlen]
  have := decode_encode items hs hb []
  rw [List.append_nil, hE] at this
  rw [this]
  simp only [Option.bind_some]
  rw [← hR, roots_parse roots hr]
  rfl

end CodecL
end Arroy
