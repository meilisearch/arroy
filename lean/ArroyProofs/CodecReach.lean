import ArroyProofs.StoreOkBuild
import ArroyProofs.F32Width
import ArroyProofs.Properties.C16Codec
import ArroyProofs.Properties.C17Reachable
import ArroyProofs.Properties.C05History
import ArroyProofs.Properties.C19History
/-! Helper lemmas for `Properties/C16Reachable.lean`: every entry of a reachable store meets the hypotheses of
the codec theorems of `Properties/C16.lean` / `C16Codec.lean`.

* `EntryOk m k v`: the part of `C16.ValOk` that is NOT a consequence of the index invariant (`IndexInv`): the
  shape and word range of a leaf stored under an item key, the word range of a split normal stored under a tree
  key, the name and dimension of a metadata record, the fields of a version record.
* `QAt i m`: `EntryOk m` for the entries of index `i`; `StoreOk (QAt i m) s` is preserved by every step of a
  history under the decidable side condition `opCodec i m` (`step_storeOk`), the metric `m` following the
  `prepare`s of the index (`C05.metricStep`); builds go through `Build.build_storeOk` (`ArroyProofs/StoreOkBuild.lean`).
* `tree_entry_ok`, `meta_entry_ok`: what `IndexInv` gives of tree nodes (bucket id sets strictly increasing
  `u32`s, child pointers valid `u32` node ids) and of the metadata record (item set, roots). -/
namespace Arroy.C16
open Arroy Generated IdSet C01

/-- a stored leaf fits the codec of metric `m`: one `u32` word per header field, vector words of the word size -/
def LeafOk (m : Metric) (h w : List Nat) : Prop :=
  h.length = m.header.length ∧ (∀ x ∈ h, x < 2 ^ 32) ∧ VecOk m w

/-- what the index invariant does not say of an entry (see the header of the file) -/
def EntryOk (m : Metric) (k : Key) : Val → Prop
  | .leaf h w => k.mode = modeItem → LeafOk m h w
  | .split _ _ n => k.mode = modeTree → VecOk m n
  | .metadata nm d _ _ => k.mode = metadataKeyMode → (∀ b ∈ nm, b ≠ 0) ∧ d < 2 ^ 32
  | .version a b c => k.mode = versionKeyMode → a < 2 ^ 32 ∧ b < 2 ^ 32 ∧ c < 2 ^ 32
  | _ => True

/-- `EntryOk m` for the entries of index `i` (the index of an ill-formed key is read modulo `2^16`, as the key
    codec does: this makes the predicate independent of the well-formedness of the store) -/
def QAt (i : Nat) (m : Metric) (k : Key) (v : Val) : Prop := k.index % 65536 = i → EntryOk m k v

/-- only leaves under item keys and split nodes under tree keys depend on the metric -/
theorem EntryOk.of_mode {m m' : Metric} {k : Key} {v : Val} (h1 : k.mode ≠ modeItem) (h2 : k.mode ≠ modeTree)
    (h : EntryOk m k v) : EntryOk m' k v := by
  cases v with
  | leaf hd w => exact fun e => absurd e h1
  | split l r n => exact fun e => absurd e h2
  | _ => exact h

theorem EntryOk.of_item_not_leaf {m m' : Metric} {k : Key} {v : Val} (h1 : k.mode = modeItem)
    (hv : ∀ hd w, v ≠ .leaf hd w) (h : EntryOk m k v) : EntryOk m' k v := by
  cases v with
  | leaf hd w => exact absurd rfl (hv hd w)
  | split l r n => exact fun e => absurd (h1.symm.trans e) (by decide)
  | _ => exact h

theorem EntryOk.unit (m : Metric) (k : Key) : EntryOk m k .unit := trivial
theorem EntryOk.desc (m : Metric) (k : Key) (ids : List Nat) : EntryOk m k (.desc ids) := trivial

theorem QAt.of_index {i : Nat} {m : Metric} {k : Key} {v : Val} (h : k.index % 65536 ≠ i) : QAt i m k v :=
  fun e => absurd e h

theorem pow_wordBytes_bq {m : Metric} (h : m.isBq = true) : 256 ^ m.wordBytes = 2 ^ 64 := by
  unfold Metric.wordBytes; rw [h]; decide

theorem pow_wordBytes_f32 {m : Metric} (h : m.isBq = false) : 256 ^ m.wordBytes = 2 ^ 32 := by
  unfold Metric.wordBytes; rw [h]; decide

theorem vecOk_of_f32 {m : Metric} (h : m.isBq = false) {v : List Nat} (hv : ∀ x ∈ v, x < 2 ^ 32) : VecOk m v := by
  intro x hx; rw [pow_wordBytes_f32 h]; exact hv x hx

theorem vecOk_f32 {m : Metric} (h : m.isBq = false) {v : List Nat} (hv : VecOk m v) : ∀ x ∈ v, x < 2 ^ 32 := by
  intro x hx; have := hv x hx; rwa [pow_wordBytes_f32 h] at this

theorem vecOk_replicate_zero (m : Metric) (k : Nat) : VecOk m (List.replicate k 0) := by
  intro x hx
  rw [(List.mem_replicate.1 hx).2]
  exact Nat.pow_pos (by decide)

/-- `from_slice` always produces words of the word size (`f32` metrics: given 32-bit components) -/
theorem vecOk_fromSlice (m : Metric) (xs : List Nat) (hx : m.isBq = false → ∀ x ∈ xs, x < 2 ^ 32) :
    VecOk m (m.fromSlice xs) := by
  unfold Metric.fromSlice
  cases hb : m.isBq with
  | false => simp only [Bool.false_eq_true, if_false]; exact vecOk_of_f32 hb (hx hb)
  | true =>
    simp only [if_true]
    intro x hxm; rw [pow_wordBytes_bq hb]; exact BQL.pack_lt xs x hxm

theorem unpackWord_lt (n w : Nat) : ∀ x ∈ BQ.unpackWord n w, x < 2 ^ 32 := by
  induction n generalizing w with
  | zero => intro x hx; simp [BQ.unpackWord] at hx
  | succ n ih =>
    intro x hx
    simp only [BQ.unpackWord, List.mem_cons] at hx
    rcases hx with rfl | hx
    · split
      · exact F32.one_lt
      · exact F32.negOne_lt
    · exact ih _ x hx

/-- the `f32` view of stored words: 32-bit components (`f32` metrics: given 32-bit words) -/
theorem toVec_lt (m : Metric) (ws : List Nat) (hw : VecOk m ws) : ∀ x ∈ m.toVec ws, x < 2 ^ 32 := by
  unfold Metric.toVec
  cases hb : m.isBq with
  | false => simp only [Bool.false_eq_true, if_false]; exact vecOk_f32 hb hw
  | true =>
    simp only [if_true]
    intro x hx
    obtain ⟨w, _, hxw⟩ := List.mem_flatMap.1 hx
    exact unpackWord_lt _ _ x hxw

/-- **a leaf made by `Cfg.mkLeaf` fits the codec of its metric** -/
theorem leafOk_mkLeaf (c : Cfg) (xs : List Nat) (hx : c.metric.isBq = false → ∀ x ∈ xs, x < 2 ^ 32)
    (k : Key) : EntryOk c.metric k (c.mkLeaf xs) :=
  fun _ => ⟨Metric.newHeader_length _ _ _, Metric.newHeader_lt _ _ _, vecOk_fromSlice _ _ hx⟩

/-- the header the dot-product preprocessing writes: one 32-bit word per header field -/
theorem leafOk_dotVal (c : Cfg) (s : Store) (k : Key) (w : List Nat) :
    ∃ hdr, dotVal c s (k, w) = .leaf hdr w ∧ hdr.length = c.metric.header.length ∧ ∀ x ∈ hdr, x < 2 ^ 32 := by
  refine ⟨_, rfl, ?_, ?_⟩
  · rw [List.length_map]
  · intro x hx
    obtain ⟨f, _, rfl⟩ := List.mem_map.1 hx
    cases f
    · exact F32.zero_lt
    · exact F32.mul_lt _ _
    · exact F32.sqrt_lt _
    · exact F32.zero_lt

theorem name_no_nul (m : Metric) : ∀ b ∈ m.nameBytes, b ≠ 0 := by
  cases m <;> decide

/-- a build of the index itself, by a writer of the metric of the index -/
theorem buildQ_same (c : Cfg) (hi : c.index < 65536) (hd : c.dims < 2 ^ 32) :
    BuildQ c (VecOk c.metric) (QAt c.index c.metric) where
  zero := fun n _ => vecOk_replicate_zero _ _
  tree := by
    intro id v hv _
    cases v with
    | split l r n => exact fun _ => hv
    | leaf h w => exact fun e => absurd (show modeTree = modeItem from e) (by decide)
    | metadata nm d it r => exact fun e => absurd (show modeTree = metadataKeyMode from e) (by decide)
    | version a b e => exact fun e => absurd (show modeTree = versionKeyMode from e) (by decide)
    | _ => trivial
  ofTree := by
    intro id l r n h
    exact h (Nat.mod_eq_of_lt hi) rfl
  metadata := fun it r _ _ => ⟨name_no_nul _, hd⟩
  version := fun _ _ => by decide
  dot := by
    intro _ k h w s _ hq hidx
    have hq' : k.mode = modeItem → LeafOk c.metric h w := hq hidx
    show EntryOk c.metric k (dotVal c s (k, w))
    obtain ⟨hdr, e, hlen, hlt⟩ := leafOk_dotVal c s k w
    rw [e]
    exact fun hmode => ⟨hlen, hlt, (hq' hmode).2.2⟩

/-- a build of another index -/
theorem buildQ_other (c : Cfg) (hi : c.index < 65536) (i : Nat) (hne : c.index ≠ i) (m : Metric) :
    BuildQ c (fun _ => True) (QAt i m) where
  zero := fun _ _ => trivial
  tree := fun id v _ => QAt.of_index (by rw [show (c.treeKey id).index = c.index from rfl, Nat.mod_eq_of_lt hi]; exact hne)
  ofTree := fun _ _ _ _ _ => trivial
  metadata := fun _ _ => QAt.of_index (by rw [show c.metaKey.index = c.index from rfl, Nat.mod_eq_of_lt hi]; exact hne)
  version := QAt.of_index (by rw [show c.versionKey.index = c.index from rfl, Nat.mod_eq_of_lt hi]; exact hne)
  dot := by
    intro _ k h w s hp _
    apply QAt.of_index
    rw [((isPrefixOf_kind_all c.index modeItem k).1 hp).1, Nat.mod_eq_of_lt hi]
    exact hne

/-- **the side condition on one operation**, for index `i` whose current metric is `m`: the writers that add to
    the index, change its metric or build it are writers of metric `m`; the components of the vectors added under
    an `f32` metric are 32-bit patterns; the declared dimension of a build fits the `u32` of the metadata record;
    the words of the normals the oracle supplies to a build of the index fit the word size of the metric.
    (Rejected `add`s — wrong length — are not constrained; the other indexes are not constrained.) -/
def opCodec (i : Nat) (m : Metric) : Op → Prop
  | .add c _ v => c.index = i → v.length = c.dims → c.metric = m ∧ (m.isBq = false → ∀ x ∈ v, x < 2 ^ 32)
  | .append c _ v => c.index = i → v.length = c.dims → c.metric = m ∧ (m.isBq = false → ∀ x ∈ v, x < 2 ^ 32)
  | .prepare c _ => c.index = i → c.metric = m
  | .build c _ _ env => c.index = i → c.metric = m ∧ c.dims < 2 ^ 32 ∧ ∀ n ∈ env.normals, VecOk m n
  | _ => True

instance (i : Nat) (m : Metric) (op : Op) : Decidable (opCodec i m op) := by
  cases op <;> unfold opCodec <;> infer_instance

/-- **the side condition on a history**, for index `i` starting with metric `m`: every operation meets `opCodec`
    for the metric the index has at that point (`C05.metricStep`: the target of the last `prepare` of the index) -/
def CodecTyped (i : Nat) : Metric → List Op → Prop
  | _, [] => True
  | m, op :: ops => opCodec i m op ∧ CodecTyped i (C05.metricStep i m op) ops

instance decCodecTyped (i : Nat) : (m : Metric) → (ops : List Op) → Decidable (CodecTyped i m ops)
  | _, [] => isTrue trivial
  | m, op :: ops =>
    have := decCodecTyped i (C05.metricStep i m op) ops
    by unfold CodecTyped; infer_instance

theorem codecTyped_append (i : Nat) (ops : List Op) (op : Op) : ∀ m,
    CodecTyped i m (ops ++ [op]) ↔ CodecTyped i m ops ∧ opCodec i (C05.metricOf i m ops) op := by
  induction ops with
  | nil => intro m; simp [CodecTyped, C05.metricOf]
  | cons a ops ih =>
    intro m
    simp only [List.cons_append, CodecTyped, ih, C05.metricOf, List.foldl_cons, and_assoc]

theorem mem_clearTreeNodes_not_tree {c : Cfg} {s : Store} {x : Key × Val} (h : x ∈ Writer.clearTreeNodes c s) :
    isPrefixOf (encodePrefix c.index (some modeTree)) (encodeKey x.1) = false := by
  unfold Writer.clearTreeNodes Store.deletePrefix at h
  have := (List.mem_filter.1 h).2
  simpa using this

/-- **one step of a history keeps the invariant** (the metric following a `prepare` of the index) -/
theorem step_storeOk (i : Nat) (hi : i < 65536) (m : Metric) (s : Store) (op : Op) (hop : op.wf)
    (ht : opCodec i m op) (hinv : ∀ c : Cfg, c.index < 65536 → IndexInv c s) (hQ : StoreOk (QAt i m) s) :
    StoreOk (QAt i (C05.metricStep i m op)) (step s op) := by
  have hadd : ∀ (c : Cfg) (id : Nat) (vec : List Nat) (s' : Store), c.index < 65536 →
      (c.index = i → vec.length = c.dims → c.metric = m ∧ (m.isBq = false → ∀ x ∈ vec, x < 2 ^ 32)) →
      Writer.addItem c s id vec = .ok s' → StoreOk (QAt i m) s' := by
    intro c id vec s' hc ht h
    refine hQ.addItem h (fun hl hidx => ?_) (fun _ => trivial)
    have hci : c.index = i := by
      rw [show (c.itemKey id).index = c.index from rfl, Nat.mod_eq_of_lt hc] at hidx; exact hidx
    obtain ⟨hm, hx⟩ := ht hci hl
    subst hm
    exact leafOk_mkLeaf c vec hx _
  cases op with
  | add c id vec =>
    show StoreOk (QAt i m) _
    simp only [step]
    cases h : Writer.addItem c s id vec with
    | error e => exact hQ
    | ok s' => exact hadd c id vec s' hop.1 ht h
  | append c id vec =>
    show StoreOk (QAt i m) _
    simp only [step]
    cases h : Writer.appendItem c s id vec with
    | error e => exact hQ
    | ok s' => exact hadd c id vec s' hop.1 ht (Writer.appendItem_ok_eq_addItem (hinv c hop.1).sorted h)
  | del c id =>
    show StoreOk (QAt i m) _
    exact hQ.delItem c id (fun _ => trivial)
  | clear c =>
    show StoreOk (QAt i m) _
    exact hQ.deletePrefix _ _
  | build c o fuel env =>
    show StoreOk (QAt i m) _
    simp only [step]
    cases h : Build.build c o fuel { env with store := s } with
    | error e => exact hQ
    | ok r =>
      obtain ⟨u, st'⟩ := r
      by_cases hci : c.index = i
      · obtain ⟨hm, hd, hN⟩ := ht hci
        subst hci; subst hm
        exact Build.build_storeOk (buildQ_same c hop.1 hd) o fuel _ st' h hQ hN
      · exact Build.build_storeOk (buildQ_other c hop.1 i hci m) o fuel _ st' h hQ (fun _ _ => trivial)
  | prepare c m' =>
    simp only [step]
    have hc : c.index < 65536 := hop
    by_cases hne : m' = c.metric
    · subst hne
      rw [C18.C18_same]
      have : C05.metricStep i m (.prepare c c.metric) = m := by
        show (if c.index = i then c.metric else m) = m
        split
        · rename_i hci; exact ht hci
        · rfl
      rw [this]; exact hQ
    · have hinvc := hinv c hc
      rw [Writer.prepare_ok c m' s hne hinvc.wf hc hinvc.leaves]
      intro kv' hkv'
      obtain ⟨kv, hkv, rfl⟩ := List.mem_map.1 hkv'
      have hmem : kv ∈ s := Writer.mem_clearTreeNodes hkv
      have hk : kv.1.wf := hinvc.wf kv hmem
      have hold := hQ kv hmem
      intro hidx
      have hidx' : kv.1.index = i := by rwa [Nat.mod_eq_of_lt hk.1] at hidx
      show EntryOk (if c.index = i then m' else m) kv.1 (Writer.reencAt c m' kv.1 kv.2)
      unfold Writer.reencAt
      by_cases hu : Writer.underItems c kv.1 = true
      · obtain ⟨h1, h2⟩ := (Writer.underItems_iff c kv.1 hk hc).1 hu
        have hci : c.index = i := h1.symm.trans hidx'
        have hm : c.metric = m := ht hci
        rw [if_pos hu, if_pos hci]
        cases hv : kv.2 with
        | leaf hd vec =>
          have hvec : VecOk c.metric vec := by
            have := hold hidx
            rw [hv] at this
            rw [hm]
            exact (this h2).2.2
          exact leafOk_mkLeaf ({ c with metric := m' } : Cfg) ((c.metric.toVec vec).take c.dims)
            (fun _ x hx => toVec_lt c.metric vec hvec x (List.mem_of_mem_take hx)) _
        | _ =>
          have := hold hidx
          rw [hv] at this
          exact EntryOk.of_item_not_leaf h2 (fun _ _ e => by cases e) this
      · rw [if_neg hu]
        by_cases hci : c.index = i
        · rw [if_pos hci]
          have hnI : kv.1.mode ≠ modeItem := fun e =>
            hu ((Writer.underItems_iff c kv.1 hk hc).2 ⟨hidx'.trans hci.symm, e⟩)
          have hnT : kv.1.mode ≠ modeTree := by
            intro e
            have := mem_clearTreeNodes_not_tree hkv
            rw [(isPrefixOf_kind c.index modeTree kv.1 hk hc (by decide)).2 ⟨hidx'.trans hci.symm, e⟩] at this
            cases this
          exact EntryOk.of_mode hnI hnT (hold hidx)
        · rw [if_neg hci]; exact hold hidx

theorem foldl_storeOk (i : Nat) (hi : i < 65536) (ops : List Op) (hops : ∀ op ∈ ops, op.wf) :
    ∀ (m : Metric) (s : Store), CodecTyped i m ops → (∀ c : Cfg, c.index < 65536 → IndexInv c s) →
      StoreOk (QAt i m) s → StoreOk (QAt i (C05.metricOf i m ops)) (ops.foldl step s) := by
  induction ops with
  | nil => intro m s _ _ h; exact h
  | cons op ops ih =>
    intro m s ht hinv hQ
    simp only [List.foldl_cons, C05.metricOf]
    have hop := hops op (by simp)
    exact ih (fun op' h' => hops op' (List.mem_cons_of_mem _ h')) _ _ ht.2
      (C01_inv_step freshSupply s op hop hinv) (step_storeOk i hi m s op hop ht.1 hinv hQ)

/-- **the invariant over histories**: in the store reached by a well-formed history meeting the side condition for
    index `i`, every entry of index `i` satisfies `EntryOk` for the metric the index has at the end -/
theorem run_storeOk (i : Nat) (hi : i < 65536) (m0 : Metric) (ops : List Op) (hops : ∀ op ∈ ops, op.wf)
    (ht : CodecTyped i m0 ops) : StoreOk (QAt i (C05.metricOf i m0 ops)) (run ops) :=
  foldl_storeOk i hi ops hops m0 [] ht (fun c _ => C01_inv_empty c) (StoreOk.nil _)

theorem pow_256_4 : (256 : Nat) ^ 4 = 2 ^ 32 := by decide

theorem item_lt_of_isSome {s : Store} (hw : Store.WF s) {k : Key} (h : (Store.get s k).isSome = true) :
    k.item < 2 ^ 32 := by
  cases hg : Store.get s k with
  | none => rw [hg] at h; cases h
  | some v =>
    have := (hw _ (Store.mem_of_get hg)).2.2
    rwa [pow_256_4] at this

theorem items_lt {c : Cfg} {s : Store} {items : List Nat} (hw : Store.WF s) (hm : MarksComplete c s items) :
    ∀ x ∈ items, x < 2 ^ 32 := by
  intro x hx
  have hu : (Store.get s (c.updatedKey x)).isNone = true ∨ x < 2 ^ 32 := by
    cases hg : Store.get s (c.updatedKey x) with
    | none => exact Or.inl rfl
    | some v => exact Or.inr (item_lt_of_isSome (k := c.updatedKey x) hw (by rw [hg]; rfl))
  rcases hu with hu | hu
  · exact item_lt_of_isSome (k := c.itemKey x) hw ((hm x hu).1 hx)
  · exact hu

/-- **a tree node of a reachable store**: a bucket holding a strictly increasing list of `u32`s, or a split node
    whose two children are valid `u32` node ids -/
theorem tree_entry_ok {c : Cfg} {s : Store} (hinv : IndexInv c s) {id : Nat} {v : Val}
    (hg : Store.get s (c.treeKey id) = some v) :
    (∃ its, v = .desc its ∧ IdsOk its) ∨ (∃ l r n, v = .split l r n ∧ NodeIdOk l ∧ NodeIdOk r) := by
  have hw : Store.WF s := hinv.wf
  rcases hinv.1.2.2.2 with hu | ⟨name, dims, items, roots, _, _, ⟨ts, f⟩, hmarks⟩
  · rw [hu.2 id] at hg; cases hg
  · have hid : id ∈ ts.flatMap T.ids := (f.cover id).1 (by rw [hg]; rfl)
    obtain ⟨t, ht, hidt⟩ := List.mem_flatMap.1 hid
    have hc : (id, v) ∈ t.cells := (f.holds t ht).cell_of_get hidt hg
    have hitems : ∀ x ∈ t.items, x < 2 ^ 32 := fun x hx => items_lt hw hmarks x ((f.reach t ht x).1 hx)
    have hids : ∀ x ∈ t.ids, x < 2 ^ 32 := fun x hx =>
      item_lt_of_isSome (k := c.treeKey x) hw ((f.cover x).2 (List.mem_flatMap.2 ⟨t, ht, hx⟩))
    have href : ∀ x, C17.RefIn t x → NodeIdOk x := by
      rintro x (⟨a, b⟩ | ⟨a, b⟩)
      · exact ⟨Or.inr (Or.inr (Or.inr a)), hitems _ b⟩
      · exact ⟨Or.inr (Or.inr (Or.inl a)), hids _ b⟩
    rcases C17.cells_ok t (f.wf t ht) _ hc with ⟨its, e, hs, hm⟩ | ⟨a, b, nn, e, ha, hb⟩
    · exact Or.inl ⟨its, e, hs, fun x hx => hitems x (hm x hx)⟩
    · exact Or.inr ⟨a, b, nn, e, href a ha, href b hb⟩

/-- **the metadata record of a reachable store**: a strictly increasing list of `u32` item ids, `u32` roots -/
theorem meta_entry_ok {c : Cfg} {s : Store} (hinv : IndexInv c s) {nm : Bytes} {d : Nat} {its roots : List Nat}
    (hg : Store.get s c.metaKey = some (.metadata nm d its roots)) : IdsOk its ∧ ∀ r ∈ roots, r < 2 ^ 32 := by
  have hw : Store.WF s := hinv.wf
  rcases hinv.1.2.2.2 with hu | ⟨name, dims, items, roots', hmeta, hsorted, ⟨ts, f⟩, hmarks⟩
  · rw [hu.1] at hg; cases hg
  · rw [hg] at hmeta
    simp only [Option.some.injEq, Val.metadata.injEq] at hmeta
    obtain ⟨_, _, rfl, rfl⟩ := hmeta
    refine ⟨⟨hsorted, items_lt hw hmarks⟩, ?_⟩
    intro r hr
    rw [f.roots_eq] at hr
    obtain ⟨t, ht, rfl⟩ := List.mem_map.1 hr
    exact item_lt_of_isSome (k := c.treeKey t.ref.item) hw ((f.cover _).2 (f.mem_ids_of_root ht))

/-- **what the invariants of a history say of an entry, whatever the metrics**: it is a value of the kind its key
    announces, and well-formed as soon as it is `EntryOk` (bucket id sets, child pointers, the item set and the
    roots of the metadata record are derived from `IndexInv`) -/
theorem reachable_holds (ops : List Op) (hops : ∀ op ∈ ops, op.wf) (k : Key) (v : Val) (hmem : (k, v) ∈ run ops) :
    Holds k v ∧ ∀ m, EntryOk m k v → ValOk m v := by
  have hs : Store.Sorted (run ops) := C19.run_sorted ops hops
  have hg : Store.get (run ops) k = some v := (Store.get_eq_some_iff hs k v).2 hmem
  let c0 : Cfg := { index := k.index, metric := .euclidean, dims := 0 }
  have hk : k.wf := C19.run_wf ops hops _ hmem
  have hinv : IndexInv c0 (run ops) := C01_invariant ops hops c0 hk.1
  rcases C17.C17_reachable_entries ops hops k v hg with hmode | hmode | ⟨hmode, rfl⟩ | ⟨hk', nm, d, it, r, rfl⟩ |
      ⟨hk', a, b, c', rfl⟩
  · -- an item key: a leaf
    obtain ⟨hd, w, rfl⟩ := (C05.isLeaf_iff v).1 (hinv.leaves (k, v) hmem rfl hmode)
    exact ⟨Or.inl hmode, fun _ hE => hE hmode⟩
  · -- a tree key: a bucket or a split node
    have hkey : k = c0.treeKey k.item := Key.eq_of_fields rfl hmode rfl
    rw [hkey] at hg
    rcases tree_entry_ok hinv hg with ⟨its, rfl, hok⟩ | ⟨l, r, n, rfl, hl, hr⟩
    · exact ⟨Or.inr hmode, fun _ _ => hok⟩
    · exact ⟨Or.inr hmode, fun _ hE => ⟨hl, hr, hE hmode⟩⟩
  · exact ⟨hmode, fun _ _ => trivial⟩
  · have h1 : k.mode = metadataKeyMode := congrArg Key.mode hk'
    have hkey : k = c0.metaKey := hk'
    rw [hkey] at hg
    obtain ⟨hit, hr⟩ := meta_entry_ok hinv hg
    exact ⟨⟨h1, congrArg Key.item hk'⟩, fun _ hE => ⟨(hE h1).1, (hE h1).2, hit, hr⟩⟩
  · have h1 : k.mode = versionKeyMode := congrArg Key.mode hk'
    exact ⟨⟨h1, congrArg Key.item hk'⟩, fun _ hE => hE h1⟩

/-- **the entries of index `i` of a reachable store are well-formed values of the kind their key announces**, for
    the metric the index has at the end of the history -/
theorem reachable_valOk (ops : List Op) (hops : ∀ op ∈ ops, op.wf) (i : Nat) (m0 : Metric)
    (ht : CodecTyped i m0 ops) (k : Key) (v : Val) (hmem : (k, v) ∈ run ops) (hidx : k.index = i) :
    Holds k v ∧ ValOk (C05.metricOf i m0 ops) v := by
  have hlt : k.index < 65536 :=
    (C19.run_wf ops hops _ hmem).1
  obtain ⟨h1, h2⟩ := reachable_holds ops hops k v hmem
  exact ⟨h1, h2 _ (run_storeOk i (hidx ▸ hlt) m0 ops hops ht (k, v) hmem
    (show k.index % 65536 = i by rw [Nat.mod_eq_of_lt hlt, hidx]))⟩

def opIndex : Op → Nat
  | .add c _ _ => c.index
  | .append c _ _ => c.index
  | .del c _ => c.index
  | .clear c => c.index
  | .build c _ _ _ => c.index
  | .prepare c _ => c.index

/-- an index the history never mentions meets the side condition trivially -/
theorem codecTyped_of_not_mem (i : Nat) (ops : List Op) (h : ∀ op ∈ ops, opIndex op ≠ i) :
    ∀ m, CodecTyped i m ops := by
  induction ops with
  | nil => intro m; trivial
  | cons op ops ih =>
    intro m
    refine ⟨?_, ih (fun op' h' => h op' (List.mem_cons_of_mem _ h')) _⟩
    have hne := h op (by simp)
    cases op <;> first | trivial | exact fun e => absurd e hne

theorem metricOf_of_not_mem (i : Nat) : ∀ (ops : List Op), (∀ op ∈ ops, opIndex op ≠ i) →
    ∀ m, C05.metricOf i m ops = m
  | [], _, _ => rfl
  | op :: ops, h, m => by
    have hne := h op (by simp)
    have hstep : C05.metricStep i m op = m := by
      cases op <;> first | rfl | exact if_neg hne
    show C05.metricOf i (C05.metricStep i m op) ops = m
    rw [hstep]
    exact metricOf_of_not_mem i ops (fun op' h' => h op' (List.mem_cons_of_mem _ h')) m

/-- **the side condition for every index** (decidable): it is enough to check the indexes the history mentions;
    `M0 i` is the metric index `i` starts with -/
def CodecTypedAll (M0 : Nat → Metric) (ops : List Op) : Prop :=
  ∀ i ∈ ops.map opIndex, CodecTyped i (M0 i) ops

instance (M0 : Nat → Metric) (ops : List Op) : Decidable (CodecTypedAll M0 ops) := by
  unfold CodecTypedAll; infer_instance

theorem CodecTypedAll.at {M0 : Nat → Metric} {ops : List Op} (h : CodecTypedAll M0 ops) (i : Nat) :
    CodecTyped i (M0 i) ops := by
  by_cases hi : i ∈ ops.map opIndex
  · exact h i hi
  · apply codecTyped_of_not_mem
    intro op hop e
    exact hi (List.mem_map.2 ⟨op, hop, e⟩)

end Arroy.C16
