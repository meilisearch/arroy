import ArroyProofs.Staged
/-! Specification of `delT` (the tree-level mirror of `delete_items_in_file`). One induction over the
tree (`delT_spec`) proves the whole record `DelSpec`: returned bitmap, live items of the new tree,
shape, polls, bucket capacity, routing, and what the staged puts and removals are relative to the
old and the new tree. The named theorems are read off it. -/
namespace Arroy
open IdSet

/-- buckets hold strictly increasing item lists (they are `RoaringBitmap`s) -/
def T.WF : T → Prop
  | .leaf _ => True
  | .bucket _ s => Sorted s
  | .node _ _ l r => l.WF ∧ r.WF

/-- the result is the same item, a bucket holding the returned bitmap, or a split node
    holding more than `cap` live items -/
inductive DelShape (cap : Nat) (t : T) : DelRes → Prop
  | leaf (i items puts removed polls) : t = .leaf i → DelShape cap t ⟨.leaf i, items, puts, removed, polls⟩
  | bucket (id items puts removed polls) : DelShape cap t ⟨.bucket id items, items, puts, removed, polls⟩
  | node (id n a b items puts removed polls) : cap < items.length →
      DelShape cap t ⟨.node id n a b, items, puts, removed, polls⟩

/-- the returned bitmap describes the new tree: for an item reference it says whether the item is
    deleted; otherwise it has exactly the members of the new tree's items -/
def Live (D : List Nat) (r : DelRes) : Prop :=
  (∀ i, r.tree = .leaf i → r.items = if D.contains i then [] else [i]) ∧
  ((∀ i, r.tree ≠ .leaf i) → ∀ x, x ∈ r.tree.items ↔ x ∈ r.items)

theorem Live.of_nonempty {D : List Nat} {r : DelRes} (h : Live D r) (hne : r.items.isEmpty = false) :
    ∀ x, x ∈ r.tree.items ↔ x ∈ r.items := by
  cases ht : r.tree with
  | leaf i =>
    have := h.1 i ht
    split at this
    · rw [this] at hne; simp at hne
    · rw [this]; simp [T.items]
  | bucket id s => rw [← ht]; exact h.2 (by simp [ht])
  | node id n a b => rw [← ht]; exact h.2 (by simp [ht])

theorem Live.length_le_one {D : List Nat} {r : DelRes} (h : Live D r) {i : Nat} (hi : r.tree = .leaf i) :
    r.items.length ≤ 1 := by
  rw [h.1 i hi]; split <;> simp

/-- every item below a split node with a non-zero normal lies on the side of the plane it is stored on
    (`side n x`: `some true` = right, `some false` = left, `none` = undecided) -/
def RoutedD (isZero : List Nat → Bool) (side : List Nat → Nat → Option Bool) : T → Prop
  | .leaf _ => True
  | .bucket _ _ => True
  | .node _ n l r =>
    (isZero n = false → (∀ x ∈ l.items, side n x ≠ some true) ∧ (∀ x ∈ r.items, side n x ≠ some false)) ∧
    RoutedD isZero side l ∧ RoutedD isZero side r

/-- the four things `delete_items_in_file` does at a split node, given the results `a`, `b` for the
    children and the union `tot` of their bitmaps: collapse into a bucket, point to the right child,
    point to the left child, keep the split -/
theorem delT_node_cases (cap : Nat) (D : List Nat) (id : Nat) (n : List Nat) (l r : T) {a b : DelRes} {tot : List Nat}
    (ha : delT cap D l = a) (hb : delT cap D r = b) (ht : union a.items b.items = tot) :
    (tot.length ≤ cap ∧ delT cap D (.node id n l r) =
      ⟨.bucket id tot, tot, a.puts ++ b.puts ++ [(id, .desc tot)],
        a.removed ++ b.removed ++ a.tree.treeId? ++ b.tree.treeId?, 1 + a.polls + b.polls⟩) ∨
    (cap < tot.length ∧ a.items = [] ∧ delT cap D (.node id n l r) =
      ⟨b.tree, tot, a.puts ++ b.puts, a.removed ++ b.removed ++ a.tree.treeId? ++ [id], 1 + a.polls + b.polls⟩) ∨
    (cap < tot.length ∧ b.items = [] ∧ delT cap D (.node id n l r) =
      ⟨a.tree, tot, a.puts ++ b.puts, a.removed ++ b.removed ++ b.tree.treeId? ++ [id], 1 + a.polls + b.polls⟩) ∨
    (cap < tot.length ∧ a.items ≠ [] ∧ b.items ≠ [] ∧ delT cap D (.node id n l r) =
      ⟨.node id n a.tree b.tree, tot,
        a.puts ++ b.puts ++ (if a.tree.ref ≠ l.ref ∨ b.tree.ref ≠ r.ref then [(id, .split a.tree.ref b.tree.ref n)] else []),
        a.removed ++ b.removed, 1 + a.polls + b.polls⟩) := by
  subst ha hb ht
  simp only [delT, fits, decide_eq_true_eq, List.isEmpty_iff]
  split
  · rename_i hf; exact Or.inl ⟨hf, rfl⟩
  · rename_i hf
    split
    · rename_i h0; exact Or.inr (Or.inl ⟨by omega, h0, rfl⟩)
    · rename_i h0
      split
      · rename_i h1; exact Or.inr (Or.inr (Or.inl ⟨by omega, h1, rfl⟩))
      · rename_i h1; exact Or.inr (Or.inr (Or.inr ⟨by omega, h0, h1, rfl⟩))

/-- everything `delT` guarantees about its result `r` on the tree `t` -/
structure DelSpec (cap : Nat) (D : List Nat) (t : T) (r : DelRes) : Prop where
  /-- the returned bitmap only contains items of the tree -/
  items_sub : ∀ x ∈ r.items, x ∈ t.items
  /-- items only disappear -/
  tree_items_sub : ∀ x ∈ r.tree.items, x ∈ t.items
  live : Live D r
  /-- a result that is an item reference comes from that very item (needs `1 ≤ cap`: a node whose live
      items fit in a bucket is collapsed, so a surviving child always holds at least two items) -/
  leaf : 1 ≤ cap → ∀ i, r.tree = .leaf i → t = .leaf i
  /-- a result that is a bucket holds exactly the returned bitmap -/
  bucket : ∀ id s, r.tree = .bucket id s → r.items = s
  /-- a result that is a split node holds more than `cap` live items -/
  big : ∀ id n a b, r.tree = .node id n a b → cap < r.items.length
  /-- for a tree of strictly increasing buckets: the bitmap is strictly increasing and is `items(t) ∖ D`;
      the new buckets are strictly increasing; no item occurs twice in the new tree if none did in the old -/
  sorted : Sorted D → t.WF → Sorted r.items ∧ (∀ x, x ∈ r.items ↔ x ∈ t.items ∧ x ∉ D) ∧ r.tree.WF ∧
    (t.items.Nodup → r.tree.items.Nodup)
  capacity : (∀ b ∈ t.buckets, b.2.length ≤ cap) → ∀ b ∈ r.tree.buckets, b.2.length ≤ cap
  /-- items only disappear, and the planes above a surviving item are unchanged or removed -/
  routed : ∀ isZero side, RoutedD isZero side t → RoutedD isZero side r.tree
  /-- one call of the cancellation callback per tree node visited -/
  polls : r.polls = t.ids.length
  /-- nothing leaks: the ids of the new tree together with the removed ids are exactly the ids of the old
      tree, with multiplicity -/
  perm : (r.tree.ids ++ r.removed).Perm t.ids
  /-- every put is a cell of the new tree or at a removed id (the latter are dropped by `TmpNodes`) -/
  puts : ∀ p ∈ r.puts, p ∈ r.tree.cells ∨ p.1 ∈ r.removed
  /-- a cell of the new tree that is not put is a cell of the old tree, unchanged -/
  unput : ∀ cell ∈ r.tree.cells, cell.1 ∉ r.puts.map (·.1) → cell ∈ t.cells

namespace DelSpec
variable {cap : Nat} {D : List Nat} {t : T} {r : DelRes}

/-- a result whose bitmap fits in a bucket is not a split node: its only tree id is its root
    (this is why removing the root id of a collapsed child is enough) -/
theorem small (h : DelSpec cap D t r) (hs : r.items.length ≤ cap) : r.tree.ids = r.tree.treeId? := by
  cases ht : r.tree with
  | leaf i => rfl
  | bucket id s => rfl
  | node id n a b => have := h.big id n a b ht; omega

theorem puts_small (h : DelSpec cap D t r) (hs : r.items.length ≤ cap) :
    ∀ p ∈ r.puts, p.1 ∈ r.tree.treeId? ∨ p.1 ∈ r.removed :=
  fun p hp => (h.puts p hp).imp (fun hc => h.small hs ▸ mem_ids_of_mem_cells hc) id

end DelSpec

theorem delT_spec (cap : Nat) (D : List Nat) (t : T) : DelSpec cap D t (delT cap D t) := by
  induction t with
  | leaf i =>
    have hi : ∀ x, x ∈ (if D.contains i then [] else [i]) ↔ x = i ∧ x ∉ D := by
      intro x
      split
      · rename_i h
        simp only [List.not_mem_nil, false_iff, not_and, Classical.not_not]
        rintro rfl; simpa using h
      · rename_i h
        simp only [List.mem_singleton, iff_self_and]
        rintro rfl; simpa using h
    exact {
      items_sub := fun x hx => by simp only [T.items, List.mem_singleton]; exact ((hi x).1 hx).1
      tree_items_sub := fun _ h => h
      live := ⟨fun j hj => by cases hj; rfl, fun h => absurd rfl (h i)⟩
      leaf := fun _ _ h => h
      bucket := fun _ _ h => nomatch h
      big := fun _ _ _ _ h => nomatch h
      sorted := fun _ _ => ⟨by simp only [delT]; split <;> trivial,
        fun x => by simp only [T.items, List.mem_singleton]; exact hi x, trivial, fun h => h⟩
      capacity := fun _ _ h => nomatch h
      routed := fun _ _ _ => trivial
      polls := rfl
      perm := List.Perm.refl _
      puts := fun _ h => nomatch h
      unput := fun _ h => nomatch h }
  | bucket id s =>
    exact {
      items_sub := fun _ hx => mem_of_mem_diff hx
      tree_items_sub := fun _ hx => mem_of_mem_diff hx
      live := ⟨fun _ h => (nomatch h), fun _ _ => Iff.rfl⟩
      leaf := fun _ _ h => nomatch h
      bucket := fun _ _ h => by cases h; rfl
      big := fun _ _ _ _ h => nomatch h
      sorted := fun hD hw => ⟨sorted_diff D hw, fun _ => mem_diff hw hD, sorted_diff D hw,
        fun _ => (sorted_diff D hw).nodup⟩
      capacity := fun h b hb => by
        simp only [delT, T.buckets, List.mem_singleton] at hb
        subst hb
        exact Nat.le_trans (length_diff_le s D) (h (id, s) (by simp [T.buckets]))
      routed := fun _ _ _ => trivial
      polls := rfl
      perm := List.Perm.refl _
      puts := fun p hp => by
        simp only [delT] at hp ⊢
        split at hp
        · exact Or.inl hp
        · cases hp
      unput := fun cell hc hnp => by
        simp only [delT, T.cells, List.mem_singleton] at hc hnp ⊢
        split at hnp
        · simp [hc] at hnp
        · rename_i hlen
          rw [hc, diff_eq_of_length_eq (by omega)] }
  | node id n l r A B =>
    generalize ha : delT cap D l = a at A
    generalize hb : delT cap D r = b at B
    obtain ⟨tot, ht⟩ : ∃ tot, union a.items b.items = tot := ⟨_, rfl⟩
    -- what the four outcomes have in common: the bitmap `tot` and the polls
    have hsub : ∀ x ∈ tot, x ∈ (T.node id n l r).items := by
      intro x hx
      rw [← ht, mem_union] at hx
      exact List.mem_append.2 (hx.imp (A.items_sub x) (B.items_sub x))
    have hsorted : Sorted D → (T.node id n l r).WF →
        Sorted tot ∧ ∀ x, x ∈ tot ↔ x ∈ (T.node id n l r).items ∧ x ∉ D := by
      intro hD hw
      obtain ⟨sa, ma, _⟩ := A.sorted hD hw.1
      obtain ⟨sb, mb, _⟩ := B.sorted hD hw.2
      refine ⟨ht ▸ sorted_union sa sb, fun x => ?_⟩
      rw [← ht, mem_union, ma, mb, T.items, List.mem_append, or_and_right]
    have hpolls : 1 + a.polls + b.polls = (T.node id n l r).ids.length := by
      simp only [A.polls, B.polls, T.ids, List.length_cons, List.length_append]; omega
    have la : a.items.length ≤ tot.length := ht ▸ length_le_union_left _ _
    have lb : b.items.length ≤ tot.length := ht ▸ length_le_union_right _ _
    have permA := fun i => A.perm.count_eq i
    have permB := fun i => B.perm.count_eq i
    rcases delT_node_cases cap D id n l r ha hb ht with ⟨hf, e⟩ | ⟨hf, a0, e⟩ | ⟨hf, b0, e⟩ | ⟨hf, a0, b0, e⟩ <;>
      rw [e]
    · -- collapse into a bucket: both children fit, so each is its own root (or an item) and is removed
      have sa := A.small (Nat.le_trans la hf)
      have sb := B.small (Nat.le_trans lb hf)
      exact {
        items_sub := hsub
        tree_items_sub := hsub
        live := ⟨fun _ h => (nomatch h), fun _ _ => Iff.rfl⟩
        leaf := fun _ _ h => nomatch h
        bucket := fun _ _ h => by cases h; rfl
        big := fun _ _ _ _ h => nomatch h
        sorted := fun hD hw => ⟨(hsorted hD hw).1, (hsorted hD hw).2, (hsorted hD hw).1, fun _ => (hsorted hD hw).1.nodup⟩
        capacity := fun _ b hb => by
          simp only [T.buckets, List.mem_singleton] at hb
          subst hb; exact hf
        routed := fun _ _ _ => trivial
        polls := hpolls
        perm := List.perm_iff_count.2 (fun i => by
          have := permA i; have := permB i
          simp only [sa, sb, T.ids, List.count_append, List.count_cons, List.count_nil] at *
          omega)
        puts := fun p hp => by
          simp only [T.cells, List.mem_append, List.mem_singleton] at hp ⊢
          rcases hp with (hp | hp) | hp
          · rcases A.puts_small (Nat.le_trans la hf) p hp with h | h <;> simp [h]
          · rcases B.puts_small (Nat.le_trans lb hf) p hp with h | h <;> simp [h]
          · exact Or.inl hp
        unput := fun cell hc hnp => by
          simp only [T.cells, List.mem_singleton] at hc
          simp [hc] at hnp }
    · -- point to the right child
      have e0 : tot = b.items := by rw [← ht, a0, union_nil_left]
      have sa := A.small (t := l) (by simp [a0])
      exact {
        items_sub := hsub
        tree_items_sub := fun x hx => List.mem_append_right _ (B.tree_items_sub x hx)
        live := by simpa only [Live, e0] using B.live
        leaf := fun h1 i hi => by have := B.live.length_le_one hi; rw [e0] at hf; omega
        bucket := fun id s h => e0 ▸ B.bucket id s h
        big := fun _ _ _ _ _ => hf
        sorted := fun hD hw =>
          ⟨(hsorted hD hw).1, (hsorted hD hw).2, (B.sorted hD hw.2).2.2.1,
            fun hn => (B.sorted hD hw.2).2.2.2 (List.nodup_append.1 hn).2.1⟩
        capacity := fun h => B.capacity (fun q hq => h q (List.mem_append_right _ hq))
        routed := fun _ _ h => B.routed _ _ h.2.2
        polls := hpolls
        perm := List.perm_iff_count.2 (fun i => by
          have := permA i; have := permB i
          simp only [sa, T.ids, List.count_append, List.count_cons, List.count_nil] at *
          omega)
        puts := fun p hp => by
          simp only [List.mem_append, List.mem_singleton] at hp ⊢
          rcases hp with hp | hp
          · rcases A.puts_small (by simp [a0]) p hp with h | h <;> simp [h]
          · rcases B.puts p hp with h | h <;> simp [h]
        unput := fun cell hc hnp => by
          simp only [List.map_append, List.mem_append, not_or] at hnp
          simp only [T.cells, List.mem_cons, List.mem_append]
          exact Or.inr (Or.inr (B.unput cell hc hnp.2)) }
    · -- point to the left child
      have e0 : tot = a.items := by rw [← ht, b0, union_nil_right]
      have sb := B.small (t := r) (by simp [b0])
      exact {
        items_sub := hsub
        tree_items_sub := fun x hx => List.mem_append_left _ (A.tree_items_sub x hx)
        live := by simpa only [Live, e0] using A.live
        leaf := fun h1 i hi => by have := A.live.length_le_one hi; rw [e0] at hf; omega
        bucket := fun id s h => e0 ▸ A.bucket id s h
        big := fun _ _ _ _ _ => hf
        sorted := fun hD hw =>
          ⟨(hsorted hD hw).1, (hsorted hD hw).2, (A.sorted hD hw.1).2.2.1,
            fun hn => (A.sorted hD hw.1).2.2.2 (List.nodup_append.1 hn).1⟩
        capacity := fun h => A.capacity (fun q hq => h q (List.mem_append_left _ hq))
        routed := fun _ _ h => A.routed _ _ h.2.1
        polls := hpolls
        perm := List.perm_iff_count.2 (fun i => by
          have := permA i; have := permB i
          simp only [sb, T.ids, List.count_append, List.count_cons, List.count_nil] at *
          omega)
        puts := fun p hp => by
          simp only [List.mem_append, List.mem_singleton] at hp ⊢
          rcases hp with hp | hp
          · rcases A.puts p hp with h | h <;> simp [h]
          · rcases B.puts_small (by simp [b0]) p hp with h | h <;> simp [h]
        unput := fun cell hc hnp => by
          simp only [List.map_append, List.mem_append, not_or] at hnp
          simp only [T.cells, List.mem_cons, List.mem_append]
          exact Or.inr (Or.inl (A.unput cell hc hnp.1)) }
    · -- keep the split
      have na : a.items.isEmpty = false := by simpa using a0
      have nb : b.items.isEmpty = false := by simpa using b0
      exact {
        items_sub := hsub
        tree_items_sub := fun x hx => by
          simp only [T.items, List.mem_append] at hx ⊢
          exact hx.imp (A.tree_items_sub x) (B.tree_items_sub x)
        live := ⟨fun _ h => (nomatch h), fun _ x => by
          simp only [T.items, List.mem_append, ← ht, mem_union, A.live.of_nonempty na, B.live.of_nonempty nb]⟩
        leaf := fun _ _ h => nomatch h
        bucket := fun _ _ h => nomatch h
        big := fun _ _ _ _ _ => hf
        sorted := fun hD hw => by
          obtain ⟨_, _, wa, da⟩ := A.sorted hD hw.1
          obtain ⟨_, _, wb, db⟩ := B.sorted hD hw.2
          refine ⟨(hsorted hD hw).1, (hsorted hD hw).2, ⟨wa, wb⟩, fun hn => ?_⟩
          simp only [T.items, List.nodup_append] at hn ⊢
          exact ⟨da hn.1, db hn.2.1, fun x hx y hy =>
            hn.2.2 x (A.tree_items_sub x hx) y (B.tree_items_sub y hy)⟩
        capacity := fun h q hq => by
          simp only [T.buckets, List.mem_append] at hq
          exact hq.elim (A.capacity (fun q hq => h q (List.mem_append_left _ hq)) q)
            (B.capacity (fun q hq => h q (List.mem_append_right _ hq)) q)
        routed := fun _ _ h =>
          ⟨fun hz => ⟨fun x hx => (h.1 hz).1 x (A.tree_items_sub x hx), fun x hx => (h.1 hz).2 x (B.tree_items_sub x hx)⟩,
            A.routed _ _ h.2.1, B.routed _ _ h.2.2⟩
        polls := hpolls
        perm := List.perm_iff_count.2 (fun i => by
          have := permA i; have := permB i
          simp only [T.ids, List.count_append, List.count_cons] at *
          omega)
        puts := fun p hp => by
          simp only [T.cells, List.mem_cons, List.mem_append] at hp ⊢
          rcases hp with (hp | hp) | hp
          · rcases A.puts p hp with h | h <;> simp [h]
          · rcases B.puts p hp with h | h <;> simp [h]
          · split at hp
            · exact Or.inl (Or.inl (List.mem_singleton.1 hp))
            · cases hp
        unput := fun cell hc hnp => by
          simp only [List.map_append, List.mem_append, not_or] at hnp
          simp only [T.cells, List.mem_cons, List.mem_append] at hc ⊢
          rcases hc with rfl | hc | hc
          · left
            split at hnp
            · simp at hnp
            · rename_i hne
              simp only [not_or, Decidable.not_not] at hne
              rw [hne.1, hne.2]
          · exact Or.inr (Or.inl (A.unput cell hc hnp.1.1))
          · exact Or.inr (Or.inr (B.unput cell hc hnp.1.2)) }

theorem delT_polls (cap : Nat) (D : List Nat) (t : T) : (delT cap D t).polls = t.ids.length :=
  (delT_spec cap D t).polls

theorem delT_items (cap : Nat) (D : List Nat) (t : T) (hD : Sorted D) (hw : t.WF) :
    Sorted (delT cap D t).items ∧ ∀ x, x ∈ (delT cap D t).items ↔ x ∈ t.items ∧ x ∉ D :=
  ⟨((delT_spec cap D t).sorted hD hw).1, ((delT_spec cap D t).sorted hD hw).2.1⟩

theorem delT_ref_tree {cap : Nat} {D : List Nat} {t : T} (h1 : 1 ≤ cap) (ht : ∀ i, t ≠ .leaf i) :
    ∀ i, (delT cap D t).tree ≠ .leaf i := fun i h => ht i ((delT_spec cap D t).leaf h1 i h)

theorem delT_shape (cap : Nat) (D : List Nat) (t : T) (h1 : 1 ≤ cap) : DelShape cap t (delT cap D t) := by
  have S := delT_spec cap D t
  generalize delT cap D t = r at S
  obtain ⟨tree, items, puts, removed, polls⟩ := r
  cases tree with
  | leaf i => exact .leaf i _ _ _ _ (S.leaf h1 i rfl)
  | bucket id s => obtain rfl : items = s := S.bucket id s rfl; exact .bucket id _ _ _ _
  | node id n a b => exact .node id n a b _ _ _ _ (S.big id n a b rfl)

theorem delT_live (cap : Nat) (D : List Nat) (t : T) : Live D (delT cap D t) := (delT_spec cap D t).live

theorem delT_tree_items {cap : Nat} {D : List Nat} {t : T} (h1 : 1 ≤ cap) (hD : Sorted D) (hw : t.WF)
    (ht : ∀ i, t ≠ .leaf i) : ∀ x, x ∈ (delT cap D t).tree.items ↔ x ∈ t.items ∧ x ∉ D := by
  intro x
  rw [(delT_live cap D t).2 (delT_ref_tree h1 ht) x]
  exact (delT_items cap D t hD hw).2 x

theorem delT_capacity (cap : Nat) (D : List Nat) (t : T) (h : ∀ b ∈ t.buckets, b.2.length ≤ cap) :
    ∀ b ∈ (delT cap D t).tree.buckets, b.2.length ≤ cap := (delT_spec cap D t).capacity h

theorem delT_routed (isZero : List Nat → Bool) (side : List Nat → Nat → Option Bool) (cap : Nat) (D : List Nat) (t : T)
    (h : RoutedD isZero side t) : RoutedD isZero side (delT cap D t).tree := (delT_spec cap D t).routed isZero side h

theorem delT_ids_perm (cap : Nat) (D : List Nat) (t : T) :
    ((delT cap D t).tree.ids ++ (delT cap D t).removed).Perm t.ids := (delT_spec cap D t).perm

theorem delT_ids_sub (cap : Nat) (D : List Nat) (t : T) :
    (∀ i ∈ (delT cap D t).tree.ids, i ∈ t.ids) ∧
    (∀ p ∈ (delT cap D t).puts, p.1 ∈ t.ids) ∧
    (∀ i ∈ (delT cap D t).removed, i ∈ t.ids) := by
  have S := delT_spec cap D t
  have l : ∀ i ∈ (delT cap D t).tree.ids, i ∈ t.ids := fun i hi => S.perm.subset (List.mem_append_left _ hi)
  have r : ∀ i ∈ (delT cap D t).removed, i ∈ t.ids := fun i hi => S.perm.subset (List.mem_append_right _ hi)
  exact ⟨l, fun p hp => (S.puts p hp).elim (fun hc => l _ (mem_ids_of_mem_cells hc)) (r _), r⟩

/-- all the facts about node ids for a tree with pairwise distinct ids -/
structure DelIds (t : T) (r : DelRes) : Prop where
  /-- ids of the new tree are old ids -/
  sub : ∀ i ∈ r.tree.ids, i ∈ t.ids
  /-- still pairwise distinct -/
  nodup : r.tree.ids.Nodup
  /-- puts are at ids of the new tree or at removed ids -/
  puts : ∀ p ∈ r.puts, p.1 ∈ r.tree.ids ∨ p.1 ∈ r.removed
  /-- removals are old ids -/
  rem_sub : ∀ i ∈ r.removed, i ∈ t.ids
  /-- no id is removed twice -/
  rem_nodup : r.removed.Nodup
  /-- no id of the new tree is removed -/
  disj : ∀ i ∈ r.removed, i ∉ r.tree.ids
  /-- nothing leaks: every old id is still in the tree or is removed -/
  cover : ∀ i ∈ t.ids, i ∈ r.tree.ids ∨ i ∈ r.removed

theorem delT_ids (cap : Nat) (D : List Nat) (t : T) (hnd : t.ids.Nodup) : DelIds t (delT cap D t) := by
  have S := delT_spec cap D t
  have hn := S.perm.nodup_iff.2 hnd
  rw [List.nodup_append] at hn
  obtain ⟨n1, n2, dj⟩ := hn
  exact ⟨(delT_ids_sub cap D t).1, n1, fun p hp => (S.puts p hp).imp_left mem_ids_of_mem_cells,
    (delT_ids_sub cap D t).2.2, n2, fun i hi hi' => dj i hi' i hi rfl,
    fun i hi => List.mem_append.1 (S.perm.symm.subset hi)⟩

theorem delT_adequate (c : Cfg) (cap : Nat) (D : List Nat) (t : T) (s : Store) (hh : Holds c s t) (hnd : t.ids.Nodup) :
    Adequate c (delT cap D t).removed (delT cap D t).puts s (delT cap D t).tree := by
  have S := delT_spec cap D t
  have I := delT_ids cap D t hnd
  exact Adequate.of_cells I.nodup I.disj
    (fun p hp hid => (S.puts p hp).resolve_right (fun hr => I.disj _ hr hid))
    (fun cell hc hnp => hh cell (S.unput cell hc hnp))

end Arroy
