import ArroyProofs.DelT
/-! `delete_items_from_trees`: the forest-level lift of the `delT` specification. All roots share one
`TmpNodes`; the trees having pairwise disjoint node ids makes the concatenated staged writes adequate
for each of them. -/
namespace Arroy
open BuildM IdSet

theorem reifyRoot_ok {c : Cfg} {s : Store} {root : Nat} {st st' : BState} {t : T}
    (h : Build.reifyRoot c s root st = .ok (t, st')) :
    reify c s (s.length + 1) (NodeId.mkTree root) = some t ∧ st' = st := by
  unfold Build.reifyRoot at h
  cases hre : reify c s (s.length + 1) (NodeId.mkTree root) with
  | none => rw [hre] at h; simp [fail] at h
  | some t' =>
    rw [hre] at h
    simp only [pure, pure'] at h
    cases h
    exact ⟨rfl, rfl⟩

theorem deleteLoop_spec (c : Cfg) (o : BuildOpts) (D : List Nat) (s : Store) (roots : List Nat) :
    ∀ {st st' : BState} {res : List Nat × List (Nat × Val) × List Nat},
    Build.deleteLoop c o D s roots st = .ok (res, st') →
    ∃ ts : List T,
      roots.map (fun root => reify c s (s.length + 1) (NodeId.mkTree root)) = ts.map some ∧
      res = (ts.map (fun t => (delT (Build.cap c o) D t).tree.ref.item),
             ts.flatMap (fun t => (delT (Build.cap c o) D t).puts),
             ts.flatMap (fun t => (delT (Build.cap c o) D t).removed)) ∧
      st' = { st with polls := st.polls + roots.length + (ts.flatMap T.ids).length } := by
  induction roots with
  | nil =>
    intro st st' res h
    simp only [Build.deleteLoop, pure, pure'] at h
    cases h
    exact ⟨[], rfl, rfl, rfl⟩
  | cons root rest ih =>
    intro st st' res h
    simp only [Build.deleteLoop] at h
    obtain ⟨_, s1, hp, h⟩ := bind_ok.1 h
    obtain ⟨t, s2, hr, h⟩ := bind_ok.1 h
    obtain ⟨_, s3, hpn, h⟩ := bind_ok.1 h
    obtain ⟨⟨roots', puts, removed⟩, s4, hloop, h⟩ := bind_ok.1 h
    obtain ⟨rfl, rfl⟩ := pure_ok.1 h
    obtain ⟨hreify, rfl⟩ := reifyRoot_ok hr
    obtain ⟨ts, hf, hres, rfl⟩ := ih hloop
    simp only [Prod.mk.injEq] at hres
    obtain ⟨rfl, rfl, rfl⟩ := hres
    refine ⟨t :: ts, by simp only [List.map_cons, hreify, hf], rfl, ?_⟩
    rw [pollN_ok hpn, poll_ok hp]
    simp only [delT_polls, List.length_cons, List.flatMap_cons, List.length_append, BState.mk.injEq,
      true_and, and_true]
    omega

/-! ## enough fuel: a held tree with distinct ids is no deeper than the store is long -/

theorem Store.length_erase_lt {s : Store} {k : Key} {v : Val} (h : Store.get s k = some v) :
    (Store.erase s k).length < s.length := by
  induction s with
  | nil => simp [Store.get] at h
  | cons kv rest ih =>
    obtain ⟨k', v'⟩ := kv
    by_cases hk : k' = k
    · subst hk
      have : (Store.erase ((k', v') :: rest) k').length = (Store.erase rest k').length := by
        simp [Store.erase]
      rw [this]
      have := List.length_filter_le (fun kv : Key × Val => decide (kv.1 ≠ k')) rest
      simp only [Store.erase, List.length_cons]
      omega
    · simp only [Store.get, hk, ↓reduceIte] at h
      have := ih h
      simp only [Store.erase, List.filter_cons, ne_eq, hk, not_false_eq_true, decide_true, ↓reduceIte,
        List.length_cons] at this ⊢
      omega

theorem length_le_of_distinct_keys (c : Cfg) (ids : List Nat) (hnd : ids.Nodup) :
    ∀ (s : Store), (∀ i ∈ ids, (Store.get s (c.treeKey i)).isSome) → ids.length ≤ s.length := by
  induction ids with
  | nil => intro s _; simp
  | cons i ids ih =>
    intro s hs
    rw [List.nodup_cons] at hnd
    have hi := hs i (by simp)
    obtain ⟨v, hv⟩ := Option.isSome_iff_exists.1 hi
    have hlt := Store.length_erase_lt hv
    have := ih hnd.2 (Store.erase s (c.treeKey i)) (by
      intro j hj
      have hne : c.treeKey j ≠ c.treeKey i := fun e => hnd.1 (Cfg.treeKey_inj.1 e ▸ hj)
      rw [Store.get_erase_other _ _ _ hne]
      exact hs j (List.mem_cons_of_mem _ hj))
    simp only [List.length_cons]
    omega

theorem T.depth_le_ids (t : T) : t.depth ≤ t.ids.length + 1 := by
  induction t with
  | leaf i => simp [T.depth]
  | bucket id s => simp [T.depth]
  | node id n l r ihl ihr =>
    simp only [T.depth, T.ids, List.length_cons, List.length_append]
    omega

/-- a held tree with distinct node ids is no deeper than the store is long -/
theorem depth_le_store_length (c : Cfg) (s : Store) (t : T) (h : Holds c s t) (hnd : t.ids.Nodup) :
    t.depth ≤ s.length + 1 := by
  have h1 := T.depth_le_ids t
  have h2 := length_le_of_distinct_keys c t.ids hnd s (by
    intro i hi
    rw [← cells_ids] at hi
    obtain ⟨cell, hc, rfl⟩ := List.mem_map.1 hi
    rw [h cell hc]; rfl)
  omega

theorem reify_of_holds_nodup (c : Cfg) (s : Store) (t : T) (h : Holds c s t) (hnd : t.ids.Nodup) :
    reify c s (s.length + 1) t.ref = some t :=
  reify_of_holds c s t h _ (depth_le_store_length c s t h hnd)

theorem reify_roots {c : Cfg} {s : Store} {roots : List Nat} {ts : List T}
    (hroots : ts.map T.ref = roots.map NodeId.mkTree) (hholds : ∀ t ∈ ts, Holds c s t)
    (hnd : (ts.flatMap T.ids).Nodup) :
    roots.map (fun root => reify c s (s.length + 1) (NodeId.mkTree root)) = ts.map some := by
  have e : roots.map (fun root => reify c s (s.length + 1) (NodeId.mkTree root)) =
      (roots.map NodeId.mkTree).map (reify c s (s.length + 1)) := by
    rw [List.map_map]; rfl
  rw [e, ← hroots, List.map_map]
  exact List.map_congr_left (fun t ht =>
    reify_of_holds_nodup c s t (hholds t ht) ((List.pairwise_flatMap.1 hnd).1 t ht))

section forest
variable (cap : Nat) (D : List Nat)

/-- all puts staged for the forest `ts` -/
def forestPuts (ts : List T) : List (Nat × Val) := ts.flatMap (fun t => (delT cap D t).puts)
/-- all removals staged for the forest `ts` -/
def forestRemoved (ts : List T) : List Nat := ts.flatMap (fun t => (delT cap D t).removed)
/-- the node ids of the new forest -/
def forestNewIds (ts : List T) : List Nat := ts.flatMap (fun t => (delT cap D t).tree.ids)

theorem forestPuts_sub (ts : List T) : ∀ p ∈ forestPuts cap D ts, p.1 ∈ ts.flatMap T.ids := by
  intro p hp
  obtain ⟨t, ht, hp⟩ := List.mem_flatMap.1 hp
  exact List.mem_flatMap.2 ⟨t, ht, (delT_ids_sub cap D t).2.1 p hp⟩

/-- nothing leaks at the forest level: new ids and removed ids together are exactly the old ids -/
theorem forest_ids_perm (ts : List T) :
    (forestNewIds cap D ts ++ forestRemoved cap D ts).Perm (ts.flatMap T.ids) := by
  induction ts with
  | nil => simp [forestNewIds, forestRemoved]
  | cons t ts ih =>
    have ht := delT_ids_perm cap D t
    rw [List.perm_iff_count] at ih ht ⊢
    intro i
    have h1 := ih i
    have h2 := ht i
    simp only [forestNewIds, forestRemoved, List.flatMap_cons, List.count_append] at h1 h2 ⊢
    omega

theorem forestRemoved_sub (ts : List T) : ∀ i ∈ forestRemoved cap D ts, i ∈ ts.flatMap T.ids :=
  fun _ hi => (forest_ids_perm cap D ts).subset (List.mem_append_right _ hi)

theorem forestNewIds_sub (ts : List T) : ∀ i ∈ forestNewIds cap D ts, i ∈ ts.flatMap T.ids :=
  fun _ hi => (forest_ids_perm cap D ts).subset (List.mem_append_left _ hi)

/-- the concatenated staged writes are adequate for each tree, because the trees' ids are disjoint -/
theorem forest_adequate (c : Cfg) (s : Store) (ts : List T) (hh : ∀ t ∈ ts, Holds c s t)
    (hnd : (ts.flatMap T.ids).Nodup) :
    ∀ t ∈ ts, Adequate c (forestRemoved cap D ts) (forestPuts cap D ts) s (delT cap D t).tree :=
  Adequate.flatMap T.ids _ _ (fun t => (delT cap D t).tree) ts hnd
    (fun t _ => (delT_ids_sub cap D t).1) (fun t _ => (delT_ids_sub cap D t).2.1) (fun t _ => (delT_ids_sub cap D t).2.2)
    (fun t ht => delT_adequate c cap D t s (hh t ht) ((List.pairwise_flatMap.1 hnd).1 t ht))

end forest

/-- what `delete_items_from_trees` guarantees, for trees `ts` read at `roots` whose node ids are pairwise
    distinct (inside each tree and across trees) -/
structure DeleteForestSpec (c : Cfg) (cap : Nat) (D : List Nat) (roots : List Nat) (ts : List T)
    (st st' : BState) (roots' : List Nat) : Prop where
  /-- the new roots: the root ids of the new trees, sorted -/
  roots_eq : roots' = IdSet.ofList (ts.map (fun t => (delT cap D t).tree.ref.item))
  /-- the new store holds every new tree -/
  holds : ∀ t ∈ ts, Holds c st'.store (delT cap D t).tree
  /-- node ids of the new forest are pairwise distinct (inside and across trees) -/
  nodup : (forestNewIds cap D ts).Nodup
  /-- new ids ∪ removed ids = old ids, nothing twice -/
  perm : (forestNewIds cap D ts ++ forestRemoved cap D ts).Perm (ts.flatMap T.ids)
  /-- removed ids are not ids of the new forest -/
  disj : ∀ i ∈ forestRemoved cap D ts, i ∉ forestNewIds cap D ts
  /-- removed ids are no longer tree keys of the store -/
  gone : ∀ i ∈ forestRemoved cap D ts, Store.get st'.store (c.treeKey i) = none
  /-- every key that is not a tree key of an old node id is unchanged -/
  frame : ∀ k, (∀ i ∈ ts.flatMap T.ids, k ≠ c.treeKey i) → Store.get st'.store k = Store.get st.store k
  /-- cost: one poll per root, one per visited node, one per write -/
  polls : st'.polls = st.polls + roots.length + (ts.flatMap T.ids).length + (forestRemoved cap D ts).length +
      ((forestPuts cap D ts).filter (fun p => !((forestRemoved cap D ts).contains p.1))).length
  /-- nothing else in the build state moves -/
  rest : st'.cancelAt = st.cancelAt ∧ st'.normals = st.normals ∧ st'.rands = st.rands ∧ st'.batches = st.batches
  /-- the new store, literally: erasures first, then the puts that survive -/
  store_eq : st'.store = putAllMap c id (eraseAll c st.store (IdSet.ofList (forestRemoved cap D ts)))
    ((forestPuts cap D ts).filter (fun p => !((forestRemoved cap D ts).contains p.1)))

/-- main lemma, in terms of what `reifyRoot` reads -/
theorem deleteItemsFromTrees_spec_reify (c : Cfg) (o : BuildOpts) (roots : List Nat) (D : List Nat) (ts : List T)
    {st st' : BState} {roots' : List Nat}
    (hr : roots.map (fun root => reify c st.store (st.store.length + 1) (NodeId.mkTree root)) = ts.map some)
    (hnd : (ts.flatMap T.ids).Nodup)
    (h : Build.deleteItemsFromTrees c o roots D st = .ok (roots', st')) :
    DeleteForestSpec c (Build.cap c o) D roots ts st st' roots' := by
  unfold Build.deleteItemsFromTrees at h
  obtain ⟨s, s0, hs, h⟩ := bind_ok.1 h
  cases hs
  obtain ⟨⟨r0, puts, removed⟩, s1, hloop, h⟩ := bind_ok.1 h
  obtain ⟨_, s2, hwb, h⟩ := bind_ok.1 h
  obtain ⟨rfl, rfl⟩ := pure_ok.1 h
  obtain ⟨ts', hr', hres, e1⟩ := deleteLoop_spec c o D st.store roots hloop
  obtain rfl : ts = ts' := (List.map_inj_right (fun _ _ => Option.some.inj)).1 (hr ▸ hr')
  simp only [Prod.mk.injEq] at hres
  obtain ⟨rfl, e2, e3⟩ := hres
  obtain rfl : puts = forestPuts (Build.cap c o) D ts := e2
  obtain rfl : removed = forestRemoved (Build.cap c o) D ts := e3
  obtain ⟨hget, hpolls, hrest⟩ := writeBack_store c _ _ hwb
  have hs1 : s1.store = st.store := by rw [e1]
  rw [hs1] at hget
  have hperm := forest_ids_perm (Build.cap c o) D ts
  have hn := hperm.nodup_iff.2 hnd
  rw [List.nodup_append] at hn
  obtain ⟨n1, n2, dj⟩ := hn
  have hholds : ∀ t ∈ ts, Holds c st.store t := by
    intro t ht
    obtain ⟨root, _, hroot⟩ := List.mem_map.1 (hr ▸ List.mem_map_of_mem (f := some) ht)
    exact (holds_of_reify c st.store _ _ t hroot).1
  refine ⟨rfl, ?_, n1, hperm, fun i hi hi' => dj i hi' i hi rfl, ?_, ?_, ?_, ?_, ?_⟩
  · intro t ht
    have := writeback (forest_adequate (Build.cap c o) D c st.store ts hholds hnd t ht)
    exact this.frame (fun i _ => hget _)
  · intro i hi
    rw [hget, applyStaged_get, if_pos hi]
  · intro k hk
    rw [hget]
    by_cases hex : ∃ i, k = c.treeKey i
    · obtain ⟨i, rfl⟩ := hex
      have hi : i ∉ ts.flatMap T.ids := fun e => hk i e rfl
      rw [applyStaged_get, if_neg (fun e => hi (forestRemoved_sub _ _ _ i e)),
        lastPut_none (i := i) (fun p hp e => hi (e ▸ forestPuts_sub _ _ _ p hp))]
      rfl
    · exact applyStaged_get_other _ _ _ _ _ (fun i e => hex ⟨i, e⟩)
  · rw [hpolls, e1, length_ofList n2]
  · rw [e1] at hrest; exact hrest
  · rw [writeBack_eq c _ _ id hwb, hs1]

theorem deleteItemsFromTrees_spec (c : Cfg) (o : BuildOpts) (roots : List Nat) (D : List Nat) (ts : List T)
    {st st' : BState} {roots' : List Nat}
    (hroots : ts.map T.ref = roots.map NodeId.mkTree)
    (hholds : ∀ t ∈ ts, Holds c st.store t)
    (hnd : (ts.flatMap T.ids).Nodup)
    (h : Build.deleteItemsFromTrees c o roots D st = .ok (roots', st')) :
    DeleteForestSpec c (Build.cap c o) D roots ts st st' roots' :=
  deleteItemsFromTrees_spec_reify c o roots D ts (reify_roots hroots hholds hnd) hnd h

theorem T.ref_eq_mkTree_of_not_leaf {t : T} (h : ∀ i, t ≠ .leaf i) :
    t.ref = NodeId.mkTree t.ref.item ∧ t.ref.item ∈ t.ids := by
  cases t with
  | leaf i => exact absurd rfl (h i)
  | bucket id s => simp [T.ref, T.ids]
  | node id n l r => simp [T.ref, T.ids]

theorem T.not_leaf_of_ref {t : T} {root : Nat} (h : t.ref = NodeId.mkTree root) : ∀ i, t ≠ .leaf i := by
  rintro i rfl
  have := congrArg NodeId.isItem h
  simp [T.ref] at this

theorem not_leaf_of_refs {ts : List T} {roots : List Nat} (h : ts.map T.ref = roots.map NodeId.mkTree) :
    ∀ t ∈ ts, ∀ i, t ≠ .leaf i := by
  intro t ht
  have : t.ref ∈ roots.map NodeId.mkTree := h ▸ List.mem_map_of_mem ht
  obtain ⟨r, _, hr⟩ := List.mem_map.1 this
  exact T.not_leaf_of_ref hr.symm

theorem refs_length {ts : List T} {roots : List Nat} (h : ts.map T.ref = roots.map NodeId.mkTree) :
    ts.length = roots.length := by
  have := congrArg List.length h
  simpa using this

theorem roots_nodup_of_ids_nodup {ts : List T} (hnl : ∀ t ∈ ts, ∀ i, t ≠ .leaf i) (hnd : (ts.flatMap T.ids).Nodup) :
    (ts.map (fun t => t.ref.item)).Nodup := by
  rw [List.Nodup, List.pairwise_map]
  refine (List.pairwise_flatMap.1 hnd).2.imp_of_mem (fun {t t'} ht ht' hR => ?_)
  exact hR _ (T.ref_eq_mkTree_of_not_leaf (hnl t ht)).2 _ (T.ref_eq_mkTree_of_not_leaf (hnl t' ht')).2

/-- with `1 ≤ cap` the new roots are pairwise distinct, so the sorted root list has as many entries as before -/
theorem deleteItemsFromTrees_roots (c : Cfg) (o : BuildOpts) (roots : List Nat) (D : List Nat) (ts : List T)
    {st st' : BState} {roots' : List Nat}
    (hcap : 1 ≤ Build.cap c o)
    (hroots : ts.map T.ref = roots.map NodeId.mkTree)
    (hholds : ∀ t ∈ ts, Holds c st.store t)
    (hnd : (ts.flatMap T.ids).Nodup)
    (h : Build.deleteItemsFromTrees c o roots D st = .ok (roots', st')) :
    (ts.map (fun t => (delT (Build.cap c o) D t).tree.ref.item)).Nodup ∧ roots'.length = roots.length := by
  have spec := deleteItemsFromTrees_spec c o roots D ts hroots hholds hnd h
  have hnodup : (ts.map (fun t => (delT (Build.cap c o) D t).tree.ref.item)).Nodup := by
    have := roots_nodup_of_ids_nodup (ts := ts.map (fun t => (delT (Build.cap c o) D t).tree))
      (List.forall_mem_map.2 (fun t ht => delT_ref_tree hcap (not_leaf_of_refs hroots t ht)))
      (by rw [List.flatMap_map]; exact spec.nodup)
    rwa [List.map_map] at this
  exact ⟨hnodup, by rw [spec.roots_eq, length_ofList hnodup, List.length_map, refs_length hroots]⟩

theorem reifyRoot_of_reify {c : Cfg} {s : Store} {root : Nat} {t : T}
    (h : reify c s (s.length + 1) (NodeId.mkTree root) = some t) (st : BState) :
    Build.reifyRoot c s root st = .ok (t, st) := by
  unfold Build.reifyRoot; rw [h]; rfl

theorem deleteLoop_ok_of_none (c : Cfg) (o : BuildOpts) (D : List Nat) (s : Store) (roots : List Nat) :
    ∀ (ts : List T) (st : BState),
    roots.map (fun root => reify c s (s.length + 1) (NodeId.mkTree root)) = ts.map some →
    st.cancelAt = none → ∃ res st', Build.deleteLoop c o D s roots st = .ok (res, st') := by
  induction roots with
  | nil => intro ts st _ _; exact ⟨_, _, rfl⟩
  | cons root rest ih =>
    intro ts st hr hc
    cases ts with
    | nil => simp at hr
    | cons t ts =>
      simp only [List.map_cons, List.cons.injEq] at hr
      simp only [Build.deleteLoop, bind, bind', poll_ok_of_none hc, reifyRoot_of_reify hr.1]
      rw [pollN_ok_of_none (by exact hc)]
      simp only
      obtain ⟨res, st', h⟩ := ih ts { st with polls := st.polls + 1 + (delT (Build.cap c o) D t).polls } hr.2 hc
      rw [h]
      exact ⟨_, _, rfl⟩

theorem deleteItemsFromTrees_ok_of_none (c : Cfg) (o : BuildOpts) (roots : List Nat) (D : List Nat) (ts : List T)
    {st : BState}
    (hroots : ts.map T.ref = roots.map NodeId.mkTree)
    (hholds : ∀ t ∈ ts, Holds c st.store t)
    (hnd : (ts.flatMap T.ids).Nodup)
    (hc : st.cancelAt = none) :
    ∃ roots' st', Build.deleteItemsFromTrees c o roots D st = .ok (roots', st') := by
  have hr := reify_roots hroots hholds hnd
  obtain ⟨res, s1, hloop⟩ := deleteLoop_ok_of_none c o D st.store roots ts st hr hc
  obtain ⟨_, _, _, e1⟩ := deleteLoop_spec c o D st.store roots hloop
  obtain ⟨r0, puts, removed⟩ := res
  obtain ⟨s2, hwb⟩ := writeBack_ok_of_none c removed puts id (st := s1) (by rw [e1]; exact hc)
  unfold Build.deleteItemsFromTrees
  simp only [bind, bind', getStore, hloop, hwb, pure, pure']
  exact ⟨_, _, rfl⟩

/-! ## non-vacuity: a concrete forest satisfying the hypotheses -/

namespace DeleteForestExample
def c : Cfg := { index := 0, metric := .euclidean, dims := 2 }
def o : BuildOpts := { splitAfter := some 2 }
def t0 : T := .node 0 [1, 2] (.bucket 1 [1, 2]) (.node 2 [3, 4] (.leaf 3) (.bucket 4 [4, 5, 6]))
def t1 : T := .bucket 7 [1, 2, 3, 4, 5, 6]
def store : Store :=
  ((((Store.put [] (c.treeKey 0) (.split (NodeId.mkTree 1) (NodeId.mkTree 2) [1, 2])).put
    (c.treeKey 1) (.desc [1, 2])).put
    (c.treeKey 2) (.split (NodeId.mkItem 3) (NodeId.mkTree 4) [3, 4])).put
    (c.treeKey 4) (.desc [4, 5, 6])).put
    (c.treeKey 7) (.desc [1, 2, 3, 4, 5, 6])
def st : BState := { store := store }

example : [t0, t1].map T.ref = [0, 7].map NodeId.mkTree := by decide
example : ∀ t ∈ [t0, t1], Holds c st.store t := by unfold Holds; decide
example : ([t0, t1].flatMap T.ids).Nodup := by decide
example : 1 ≤ Build.cap c o := by decide
example : Sorted [2, 3, 5] ∧ t0.WF ∧ t1.WF := by simp [t0, t1, T.WF, Sorted]
example : ∃ roots' st', Build.deleteItemsFromTrees c o [0, 7] [2, 3, 5] st = .ok (roots', st') :=
  deleteItemsFromTrees_ok_of_none c o [0, 7] [2, 3, 5] [t0, t1] (by decide) (by unfold Holds; decide) (by decide) rfl
/-- the right subtree of `t0` collapses into a bucket (two live items), the split above it stays -/
example : (delT 2 [2, 3, 5] t0).tree = .node 0 [1, 2] (.bucket 1 [1]) (.bucket 2 [4, 6]) ∧
    (delT 2 [2, 3, 5] t0).removed = [4] := by decide +kernel
end DeleteForestExample

end Arroy
