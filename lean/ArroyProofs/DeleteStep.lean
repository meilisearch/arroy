import ArroyProofs.ExtraTrees
/-! `delete_items_from_trees` on a forest: the result is a forest on the new roots that reaches the
old items minus the deleted ones. -/
namespace Arroy
open BuildM Generated IdSet

theorem lt_of_isSome_tree {c : Cfg} {s : Store} (hw : Store.WF s) {i : Nat}
    (h : (Store.get s (c.treeKey i)).isSome = true) : i < 4294967296 := by
  obtain ⟨v, hv⟩ := (Store.get_isSome_iff s _).1 h
  have := (hw _ hv).2.2
  simpa [Cfg.treeKey, Key.mkTree] using this

/-- what the deletion step does to one tree -/
def DelRel (cx : TreeCtx) (D : List Nat) (t t' : T) : Prop := t' = (delT cx.cap D t).tree

theorem deleteItemsFromTrees_forest (c : Cfg) (o : BuildOpts) (roots items items' D : List Nat) (ts : List T)
    {st st' : BState} {roots' : List Nat}
    (f : Forest c st.store roots items ts)
    (hcap : 1 ≤ Build.cap c o) (hD : Sorted D)
    (hitems : ∀ x, x ∈ items' ↔ x ∈ items ∧ x ∉ D)
    (hw : Store.WF st.store) (hi : c.index < 65536)
    (h : Build.deleteItemsFromTrees c o roots D st = .ok (roots', st')) :
    ∃ ts', Forest c st'.store roots' items' ts' ∧
      (∀ t' ∈ ts', ∃ t ∈ ts, t' = (delT (Build.cap c o) D t).tree) ∧
      StoreStep c st.store st'.store ∧ TreeFrame c st.store st'.store ∧
      roots'.length = roots.length ∧
      (∀ i, (Store.get st'.store (c.treeKey i)).isSome = true → (Store.get st.store (c.treeKey i)).isSome = true) := by
  have spec := deleteItemsFromTrees_spec c o roots D ts f.refs f.holds f.ids_nodup h
  have hroots := deleteItemsFromTrees_roots c o roots D ts hcap f.refs f.holds f.ids_nodup h
  have hstep : StoreStep c st.store st'.store := by
    rw [spec.store_eq]
    apply StoreStep.putAllMap ((StoreStep.refl _).eraseAll _) id _ hi
    intro p hp
    obtain ⟨t, ht, hit⟩ := List.mem_flatMap.1 (forestPuts_sub _ D ts p (List.mem_filter.1 hp).1)
    exact lt_of_isSome_tree hw ((f.holds t ht).isSome hit)
  have hnl := not_leaf_of_refs f.refs
  -- the forest of the new trees, in the order of the old ones
  have hids : (ts.map (fun t => (delT (Build.cap c o) D t).tree)).flatMap T.ids =
      forestNewIds (Build.cap c o) D ts := by
    rw [List.flatMap_map]; rfl
  have hcover : ∀ id, (Store.get st'.store (c.treeKey id)).isSome = true ↔ id ∈ forestNewIds (Build.cap c o) D ts := by
    intro id
    constructor
    · intro hsome
      by_cases hnew : id ∈ forestNewIds (Build.cap c o) D ts
      · exact hnew
      · exfalso
        by_cases hold : id ∈ ts.flatMap T.ids
        · have := spec.perm.mem_iff.2 hold
          rcases List.mem_append.1 this with hm | hm
          · exact hnew hm
          · rw [spec.gone id hm] at hsome; simp at hsome
        · rw [spec.frame _ (fun i hi' e => hold (by rw [Cfg.treeKey_inj.1 e]; exact hi'))] at hsome
          exact hold ((f.cover id).1 hsome)
    · intro hm
      obtain ⟨t, ht, hit⟩ := List.mem_flatMap.1 hm
      exact (spec.holds t ht).isSome hit
  have f1 : Forest c st'.store ((ts.map (fun t => (delT (Build.cap c o) D t).tree)).map (fun t => t.ref.item)) items'
      (ts.map (fun t => (delT (Build.cap c o) D t).tree)) := by
    have hsorted := fun t ht => (delT_spec (Build.cap c o) D t).sorted hD ((TWF_iff t).2 (f.wf t ht))
    refine ⟨refs_of_not_leaf (List.forall_mem_map.2 (fun t ht => delT_ref_tree hcap (hnl t ht))),
      List.forall_mem_map.2 spec.holds, hids ▸ spec.nodup, fun id => hids ▸ hcover id,
      List.forall_mem_map.2 (fun t ht => (TWF_iff _).1 (hsorted t ht).2.2.1),
      List.forall_mem_map.2 (fun t ht => (hsorted t ht).2.2.2 (f.items_nodup t ht)),
      List.forall_mem_map.2 (fun t ht x => ?_)⟩
    rw [delT_tree_items hcap hD ((TWF_iff t).2 (f.wf t ht)) (hnl t ht), f.reach t ht x, hitems]
  -- reorder to the sorted roots
  have hperm : ((ts.map (fun t => (delT (Build.cap c o) D t).tree)).map (fun t => t.ref.item)).Perm roots' := by
    rw [spec.roots_eq, List.map_map]
    exact (ofList_perm hroots.1).symm
  obtain ⟨ts', hp', f2⟩ := f1.reorder hperm.symm
  refine ⟨ts', f2, ?_, hstep, ?_, hroots.2, ?_⟩
  · intro t' ht'
    obtain ⟨t, ht, rfl⟩ := List.mem_map.1 (hp'.mem_iff.1 ht')
    exact ⟨t, ht, rfl⟩
  · intro k hk
    exact spec.frame k (fun i _ => hk i)
  · intro i hsome
    have := (hcover i).1 hsome
    exact (f.cover i).2 (forestNewIds_sub _ _ _ i this)

end Arroy
