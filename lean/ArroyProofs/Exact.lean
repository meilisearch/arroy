import ArroyProofs.Nns
/-! Exact search: on a valid forest, with a budget that cannot stop the traversal, `nnsByLeaf` returns the
exact answer over the items that pass the filter. Shared by C02 (no filter) and C03 (filter). At the end: the
header of the query leaf matters only through `built_distance` (`nnsByLeaf_congr_header`, `headerless`). -/
namespace Arroy
namespace Reader

/-- the oversampling factor is at least 1 unless it is set to 0 (the defaults are 1 and 3) -/
theorem oversampling_pos (m : Metric) (q : QueryOpts) (ho : q.oversampling ≠ some 0) :
    1 ≤ q.oversampling.getD m.oversampling := by
  cases h : q.oversampling with
  | none => cases m <;> decide
  | some k => exact Nat.pos_of_ne_zero (n := k) fun e => ho (by rw [h, e])

theorem satMul_usizeMax (b : Nat) (hb : 1 ≤ b) : satMul usizeMax b = usizeMax :=
  Nat.min_eq_right (Nat.le_mul_of_pos_right _ hb)

theorem budget_unlimited (m : Metric) (n : Nat) (q : QueryOpts) (hk : q.searchK = some usizeMax)
    (ho : q.oversampling ≠ some 0) : budget m n q = usizeMax := by
  unfold budget
  rw [hk]
  exact satMul_usizeMax _ (oversampling_pos m q ho)

theorem budget_saturated (m : Metric) (n : Nat) (q : QueryOpts) (hk : q.searchK = none)
    (hc : usizeMax ≤ q.count * n) (ho : q.oversampling ≠ some 0) : budget m n q = usizeMax := by
  have hs : satMul q.count n = usizeMax := Nat.min_eq_right hc
  unfold budget
  rw [hk, Option.getD_none, hs]
  exact satMul_usizeMax _ (oversampling_pos m q ho)

/-- the filter of `q` is usable by the merge-based intersection: it is sorted, and so are the buckets -/
def FilterOK (c : Cfg) (s : Store) (q : QueryOpts) : Prop :=
  q.candidates = none ∨ (DescSorted c s ∧ ∀ cs, q.candidates = some cs → IdSet.Sorted cs)

theorem mem_collect_of_filterOK {c : Cfg} {s : Store} {q : QueryOpts} (hf : FilterOK c s q) (t : T)
    (ht : Holds c s t) (x : Nat) : x ∈ t.collect q ↔ (x ∈ t.items ∧ inCandidates q x = true) := by
  rcases hf with hn | ⟨hd, hc⟩
  · rw [collect_none q hn]; simp [inCandidates, hn]
  · exact mem_collect q t hd ht hc x

/-- **`nns_by_leaf` on a valid forest** never fails: its traversal succeeds with candidates `nns`, part of what
the trees contribute under the filter (all of it unless the budget was met), all items of the index inside the
filter, and the answer is the exact answer over the deduplicated `nns` -/
theorem nnsByLeaf_forest {c : Cfg} {s : Store} {rd : ReaderState} {ts : List T} (F : ForestWith c s rd ts)
    (hne : rd.items ≠ []) (qh qv : List Nat) (q : QueryOpts) :
    ∃ nns left, traverse c s qv q (budget c.metric rd.roots.length q) (2 * s.length + rd.roots.length + 2)
        (rd.roots.map fun r => (F32.inf, NodeId.mkTree r)) [] = .ok nns ∧
      (nns ++ left).Perm (ts.flatMap (T.collect q)) ∧
      (budget c.metric rd.roots.length q ≤ nns.length ∨ left = []) ∧
      (∀ x ∈ nns, x ∈ rd.items ∧ inCandidates q x = true) ∧
      nnsByLeaf c s rd qh qv q = .ok (exactOver c s rd.dims qh qv q.count (IdSet.ofList nns)) := by
  obtain ⟨nns, left, hn, hp, hk⟩ := traverse_forest_split F qv q (budget c.metric rd.roots.length q)
  have hm := forest_split_mem F q hp
  exact ⟨nns, left, hn, hp, hk, hm, nnsByLeaf_of_traverse c s rd qh qv q nns hne hn
    fun id hid => F.stored id (hm id (IdSet.mem_ofList.1 hid)).1⟩

/-- on a valid forest, under a budget admitting trees × items candidates, the deduplicated candidate list
is the item list restricted to the filter -/
theorem candidates_exact {c : Cfg} {s : Store} {rd : ReaderState} {ts : List T} (F : ForestWith c s rd ts)
    (q : QueryOpts) (hf : FilterOK c s q)
    (hb : rd.roots.length * rd.items.length ≤ budget c.metric rd.roots.length q) {nns left : List Nat}
    (hp : (nns ++ left).Perm (ts.flatMap (T.collect q)))
    (hl : budget c.metric rd.roots.length q ≤ nns.length ∨ left = []) :
    IdSet.ofList nns = rd.items.filter (inCandidates q) := by
  -- the budget admits every candidate of every tree, so nothing is left behind
  have hlen := hp.length_eq
  have hle := Nat.le_trans (forest_candidates_le F q) hb
  rw [List.length_append] at hlen
  have : left = [] := hl.elim (fun h => List.length_eq_zero_iff.1 (by omega)) id
  subst this
  rw [List.append_nil] at hp
  apply IdSet.ofList_eq_of_mem (F.sorted.pairwise.filter _)
  intro x
  rw [hp.mem_iff, List.mem_flatMap, List.mem_filter]
  constructor
  · rintro ⟨t, ht, hx⟩
    have := (mem_collect_of_filterOK hf t (F.holds t ht) x).1 hx
    exact ⟨(F.reach t ht x).1 this.1, this.2⟩
  · rintro ⟨hx, hc⟩
    obtain ⟨t, ht⟩ := forest_exists_tree F (List.ne_nil_of_mem hx)
    exact ⟨t, ht, (mem_collect_of_filterOK hf t (F.holds t ht) x).2 ⟨(F.reach t ht x).2 hx, hc⟩⟩

theorem exactOver_nil (c : Cfg) (s : Store) (dims : Nat) (qh qv : List Nat) (count : Nat) :
    exactOver c s dims qh qv count [] = [] := by
  simp [exactOver, sortedScored, scored]

/-- **exact search**: valid forest + budget ≥ trees × items ⇒ `nnsByLeaf` is the exact answer over the items
inside the filter -/
theorem nnsByLeaf_exact {c : Cfg} {s : Store} {rd : ReaderState} (F : ForestOK c s rd)
    (qh qv : List Nat) (q : QueryOpts) (hf : FilterOK c s q)
    (hb : rd.roots.length * rd.items.length ≤ budget c.metric rd.roots.length q) :
    nnsByLeaf c s rd qh qv q =
      .ok (exactOver c s rd.dims qh qv q.count (rd.items.filter (inCandidates q))) := by
  obtain ⟨ts, F⟩ := F
  by_cases hne : rd.items = []
  · rw [nnsByLeaf_empty c s rd qh qv q hne, hne, List.filter_nil, exactOver_nil]
  · obtain ⟨nns, left, _, hp, hk, _, ha⟩ := nnsByLeaf_forest F hne qh qv q
    rw [ha, candidates_exact F q hf hb hp hk]

theorem filter_none (q : QueryOpts) (hq : q.candidates = none) (l : List Nat) :
    l.filter (inCandidates q) = l := by
  apply List.filter_eq_self.2
  intro x _; simp [inCandidates, hq]

/-- the metrics whose `built_distance` does not read the headers: all but cosine (BQ-cosine computes the
norms from the word counts) -/
def headerless (m : Metric) : Bool := m != .cosine

/-- in particular the quantised metrics (after repair J) -/
theorem headerless_of_isBq {m : Metric} (hm : m.isBq = true) : headerless m = true := by
  cases m <;> first | rfl | exact absurd hm (by decide)

theorem builtDistance_headerless (m : Metric) (hm : headerless m = true) (host : Host) (ph ph' pv qh qv : List Nat) :
    m.builtDistance host ph pv qh qv = m.builtDistance host ph' pv qh qv := by
  cases m <;> first | rfl | exact absurd hm (by decide)

/-- the header of the query leaf reaches the answer only through `built_distance` -/
theorem nnsByLeaf_congr_header (c : Cfg) (s : Store) (rd : ReaderState) (qh qh' qv : List Nat) (q : QueryOpts)
    (hd : ∀ h v, c.metric.builtDistance c.host qh qv h v = c.metric.builtDistance c.host qh' qv h v) :
    nnsByLeaf c s rd qh qv q = nnsByLeaf c s rd qh' qv q := by
  have hs : ∀ ids, scoreAll c s qh qv ids = scoreAll c s qh' qv ids := by
    intro ids
    induction ids with
    | nil => rfl
    | cons id rest ih => simp only [scoreAll, ih, hd]
  unfold nnsByLeaf
  simp only [hs]

/-- for every metric but cosine the header of the query leaf is irrelevant -/
theorem nnsByLeaf_headerless (c : Cfg) (s : Store) (rd : ReaderState) (hm : headerless c.metric = true)
    (qh qh' qv : List Nat) (q : QueryOpts) : nnsByLeaf c s rd qh qv q = nnsByLeaf c s rd qh' qv q :=
  nnsByLeaf_congr_header c s rd qh qh' qv q (fun h v => builtDistance_headerless c.metric hm c.host qh qh' qv h v)

end Reader
end Arroy
