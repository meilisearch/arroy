import ArroyProofs.ForestDefs
/-! `delete_tree` erases exactly the nodes of a held tree; `delete_extra_trees k` removes
`min k roots.length` whole trees and leaves a forest on the remaining roots. -/
namespace Arroy
open BuildM Generated

/-- keys that are not tree keys of index `c` are the same in both stores -/
def TreeFrame (c : Cfg) (s s' : Store) : Prop := ∀ k : Key, (∀ i, k ≠ c.treeKey i) → Store.get s' k = Store.get s k

theorem TreeFrame.refl (c : Cfg) (s : Store) : TreeFrame c s s := fun _ _ => rfl

theorem TreeFrame.trans {c : Cfg} {s1 s2 s3 : Store} (h1 : TreeFrame c s1 s2) (h2 : TreeFrame c s2 s3) :
    TreeFrame c s1 s3 := fun k hk => (h2 k hk).trans (h1 k hk)

theorem Cfg.itemKey_ne_treeKey (c : Cfg) (id i : Nat) : c.itemKey id ≠ c.treeKey i :=
  Key.ne_of_mode_ne (show modeItem ≠ modeTree by decide)

theorem Cfg.metaKey_ne_treeKey (c : Cfg) (i : Nat) : c.metaKey ≠ c.treeKey i :=
  Key.ne_of_mode_ne (show metadataKeyMode ≠ modeTree by decide)

theorem Cfg.versionKey_ne_treeKey (c : Cfg) (i : Nat) : c.versionKey ≠ c.treeKey i :=
  Key.ne_of_mode_ne (show versionKeyMode ≠ modeTree by decide)

theorem Cfg.updatedKey_ne_treeKey (c : Cfg) (id i : Nat) : c.updatedKey id ≠ c.treeKey i :=
  Key.ne_of_mode_ne (show modeUpdated ≠ modeTree by decide)

theorem TreeFrame.item {c : Cfg} {s s' : Store} (h : TreeFrame c s s') (id : Nat) :
    Store.get s' (c.itemKey id) = Store.get s (c.itemKey id) := h _ (c.itemKey_ne_treeKey id)

theorem TreeFrame.meta {c : Cfg} {s s' : Store} (h : TreeFrame c s s') :
    Store.get s' c.metaKey = Store.get s c.metaKey := h _ c.metaKey_ne_treeKey

theorem TreeFrame.updated {c : Cfg} {s s' : Store} (h : TreeFrame c s s') (id : Nat) :
    Store.get s' (c.updatedKey id) = Store.get s (c.updatedKey id) := h _ (c.updatedKey_ne_treeKey id)

theorem TreeFrame.treeCtx {c : Cfg} {s s' : Store} (h : TreeFrame c s s') (o : BuildOpts) :
    Build.treeCtx c o s' = Build.treeCtx c o s := treeCtx_stable c o (fun id => by simp only [vecOf, h.item])

/-- `delete_tree` on a held tree erases exactly the tree keys of its nodes -/
theorem deleteTree_spec (c : Cfg) (t : T) : ∀ (fuel : Nat) (s s' : Store), Holds c s t → t.ids.Nodup →
    Build.deleteTree c fuel t.ref s = .ok s' →
    StoreStep c s s' ∧ ∀ k, Store.get s' k = if k ∈ t.ids.map c.treeKey then none else Store.get s k := by
  have hkey : ∀ id, (⟨c.index, (NodeId.mkTree id).mode, (NodeId.mkTree id).item⟩ : Key) = c.treeKey id := fun _ => rfl
  induction t with
  | leaf i =>
    intro fuel s s' _ _ h
    cases fuel with
    | zero => simp [Build.deleteTree] at h
    | succ f =>
      simp only [Build.deleteTree, T.ref, NodeId.isItem_mkItem, ↓reduceIte, Except.ok.injEq] at h
      subst h
      exact ⟨.refl s, fun _ => rfl⟩
  | bucket id its =>
    intro fuel s s' hh _ h
    cases fuel with
    | zero => simp [Build.deleteTree] at h
    | succ f =>
      simp only [Build.deleteTree, T.ref, NodeId.isItem_mkTree, Bool.false_eq_true, ↓reduceIte, hkey, hh.bucket,
        Except.ok.injEq] at h
      subst h
      refine ⟨(StoreStep.refl s).erase _, fun k => ?_⟩
      by_cases hk : k = c.treeKey id
      · subst hk; simp [T.ids, Store.get_erase_same]
      · simp [T.ids, hk, Store.get_erase_other _ _ _ hk]
  | node id n l r ihl ihr =>
    intro fuel s s' hh hnd h
    cases fuel with
    | zero => simp [Build.deleteTree] at h
    | succ f =>
      simp only [T.ids, List.nodup_cons, List.nodup_append, List.mem_append, not_or] at hnd
      obtain ⟨_, hndl, hndr, hdisj⟩ := hnd
      simp only [Build.deleteTree, T.ref, NodeId.isItem_mkTree, Bool.false_eq_true, ↓reduceIte, hkey, hh.root] at h
      split at h
      · cases h
      · rename_i s1 h1
        obtain ⟨st1, f1⟩ := ihl f s s1 hh.left hndl h1
        -- erasing the left subtree does not touch the right one
        have hr1 : Holds c s1 r := hh.right.frame (fun i hi => by
          rw [f1, if_neg]
          intro hm
          obtain ⟨j, hj, e⟩ := List.mem_map.1 hm
          exact hdisj j hj i hi (Cfg.treeKey_inj.1 e))
        split at h
        · cases h
        · rename_i s2 h2
          obtain ⟨st2, f2⟩ := ihr f s1 s2 hr1 hndr h2
          cases h
          refine ⟨(st1.trans st2).erase _, fun k => ?_⟩
          by_cases hk : k = c.treeKey id
          · subst hk; simp [T.ids, Store.get_erase_same]
          · rw [Store.get_erase_other _ _ _ hk, f2, f1]
            by_cases m1 : k ∈ l.ids.map c.treeKey <;> by_cases m2 : k ∈ r.ids.map c.treeKey <;>
              simp [T.ids, hk, m1, m2]

theorem Forest.tail {c : Cfg} {s s' : Store} {r : Nat} {roots items : List Nat} {t : T} {ts : List T}
    (f : Forest c s (r :: roots) items (t :: ts))
    (gone : ∀ i ∈ t.ids, Store.get s' (c.treeKey i) = none)
    (same : ∀ k, (∀ i ∈ t.ids, k ≠ c.treeKey i) → Store.get s' k = Store.get s k) :
    Forest c s' roots items ts := by
  have hnd := f.ids_nodup
  simp only [List.flatMap_cons, List.nodup_append] at hnd
  obtain ⟨_, hnd2, hdisj⟩ := hnd
  have hrefs := f.refs
  simp only [List.map_cons, List.cons.injEq] at hrefs
  refine ⟨hrefs.2, ?_, hnd2, ?_, fun t' ht' => f.wf t' (List.mem_cons_of_mem _ ht'),
    fun t' ht' => f.items_nodup t' (List.mem_cons_of_mem _ ht'),
    fun t' ht' => f.reach t' (List.mem_cons_of_mem _ ht')⟩
  · intro t' ht'
    apply (f.holds t' (List.mem_cons_of_mem _ ht')).frame
    intro i hi
    apply same
    intro j hj e
    exact hdisj j hj i (List.mem_flatMap.2 ⟨t', ht', hi⟩) (Cfg.treeKey_inj.1 e).symm
  · intro id
    by_cases hid : id ∈ t.ids
    · rw [gone id hid]
      simp only [Option.isSome_none, Bool.false_eq_true, false_iff]
      intro hm
      exact hdisj id hid id hm rfl
    · rw [same _ (fun j hj e => hid (by rw [Cfg.treeKey_inj.1 e]; exact hj)), f.cover id]
      simp only [List.flatMap_cons, List.mem_append, hid, false_or]

theorem Build.swapRemove0_perm (x : Nat) (rest : List Nat) : (Build.swapRemove0 (x :: rest)).Perm rest := by
  cases rest with
  | nil => exact List.Perm.refl _
  | cons y ys =>
    show ((y :: ys).getLast?.toList ++ (y :: ys).dropLast).Perm (y :: ys)
    rcases List.eq_nil_or_concat (y :: ys) with h | ⟨l, b, h⟩
    · cases h
    · rw [h]
      simp only [List.concat_eq_append, List.getLast?_concat, Option.toList, List.dropLast_concat]
      exact List.perm_append_comm

theorem deleteExtraTrees_spec (c : Cfg) (items : List Nat) (k : Nat) :
    ∀ (roots : List Nat) (ts : List T) (st st' : BState) (roots' : List Nat),
    Forest c st.store roots items ts →
    Build.deleteExtraTrees c k roots st = .ok (roots', st') →
    ∃ ts', Forest c st'.store roots' items ts' ∧ (∀ t ∈ ts', t ∈ ts) ∧
      StoreStep c st.store st'.store ∧ TreeFrame c st.store st'.store ∧
      roots'.length = roots.length - k := by
  induction k with
  | zero =>
    intro roots ts st st' roots' f h
    simp only [Build.deleteExtraTrees] at h
    cases pure_ok_inv h
    exact ⟨ts, f, fun _ h => h, .refl _, TreeFrame.refl _ _, by simp⟩
  | succ k ih =>
    intro roots ts st st' roots' f h
    simp only [Build.deleteExtraTrees] at h
    obtain ⟨u, st1, h1, h⟩ := BuildM.bind_ok.1 h
    have e1 := NoWrite.poll _ _ _ h1
    cases roots with
    | nil =>
      simp only at h
      obtain ⟨rfl, rfl⟩ := BuildM.pure_ok.1 h
      rw [e1]
      exact ⟨ts, f, fun _ h => h, .refl _, TreeFrame.refl _ _, by simp⟩
    | cons root rest =>
      simp only at h
      obtain ⟨s, st2, h2, h⟩ := BuildM.bind_ok.1 h
      obtain ⟨rfl, rfl⟩ := getStore_ok' h2
      obtain ⟨s', st3, h3, h⟩ := BuildM.bind_ok.1 h
      obtain ⟨hd, rfl⟩ := liftExcept_ok' h3
      obtain ⟨u4, st4, h4, h⟩ := BuildM.bind_ok.1 h
      have e4 := setStore_ok' h4
      subst e4
      cases ts with
      | nil => have := f.length; simp at this
      | cons t ts =>
        have hrefs := f.refs
        simp only [List.map_cons, List.cons.injEq] at hrefs
        rw [e1] at hd
        rw [← hrefs.1] at hd
        obtain ⟨hstep, hget⟩ := deleteTree_spec c t _ _ _ (f.holds t (by simp)) (f.tree_nodup (by simp)) hd
        have hgone : ∀ i ∈ t.ids, Store.get s' (c.treeKey i) = none := fun i hi => by
          rw [hget, if_pos (List.mem_map_of_mem hi)]
        have hsame : ∀ k, (∀ i ∈ t.ids, k ≠ c.treeKey i) → Store.get s' k = Store.get st.store k := fun k hk => by
          rw [hget, if_neg]
          intro hm
          obtain ⟨i, hi, e⟩ := List.mem_map.1 hm
          exact hk i hi e.symm
        -- reorder the remaining trees like `swap_remove(0)` does
        obtain ⟨ts1, hp1, f1⟩ := (f.tail hgone hsame).reorder (Build.swapRemove0_perm root rest)
        obtain ⟨ts', f', hsub, hstep', hframe', hlen⟩ := ih (Build.swapRemove0 (root :: rest)) ts1 _ st' roots' f1 h
        refine ⟨ts', f', ?_, hstep.trans hstep', ?_, ?_⟩
        · intro t' ht'
          exact List.mem_cons_of_mem _ (hp1.mem_iff.1 (hsub t' ht'))
        · refine TreeFrame.trans ?_ hframe'
          intro k hk
          exact hsame k (fun i _ => hk i)
        · rw [hlen, (Build.swapRemove0_perm root rest).length_eq]
          simp only [List.length_cons]
          omega

end Arroy
