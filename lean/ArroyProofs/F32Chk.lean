import ArroyProofs.F32StdModel
import ArroyProofs.KernelRoundChkKernels
/-! Decidable (kernel-evaluable) side conditions under which the binary32 operations satisfy the
standard model: the operands are finite and the exact result `±m·2^e` is zero or has its leading bit in
`[2^-126, 2^127)`. (Sufficient, not necessary: exact results in the top binade `[2^127, 2^128)` are
rejected although most of them are fine.) -/
namespace Arroy
namespace SFR
open SF KernelRound

/-- the exact value `m·2^e` is zero or in `[2^-126, 2^127)` -/
def inRange (m : Nat) (e : Int) : Bool :=
  m == 0 || (decide (-125 ≤ e + (bitLen m : Int)) && decide (e + (bitLen m : Int) ≤ 127))

/-- the checks: finite operands, exact result (formed as the operation forms it) in range -/
def f32Checks : Checks Nat where
  add := fun a b => match unpack f32 a, unpack f32 b with
    | .fin n1 m1 e1, .fin n2 m2 e2 =>
      inRange (exactAdd n1 m1 e1 n2 m2 e2).2.1 (exactAdd n1 m1 e1 n2 m2 e2).2.2
    | _, _ => false
  sub := fun a b => match unpack f32 a, unpack f32 b with
    | .fin n1 m1 e1, .fin n2 m2 e2 =>
      inRange (exactAdd n1 m1 e1 (!n2) m2 e2).2.1 (exactAdd n1 m1 e1 (!n2) m2 e2).2.2
    | _, _ => false
  mul := fun a b => match unpack f32 a, unpack f32 b with
    | .fin _ m1 e1, .fin _ m2 e2 => inRange (m1 * m2) (e1 + e2)
    | _, _ => false
  fma := fun a b c => match unpack f32 a, unpack f32 b, unpack f32 c with
    | .fin s m1 e1, .fin t m2 e2, .fin w m3 e3 =>
      inRange (exactAdd (s != t) (m1 * m2) (e1 + e2) w m3 e3).2.1
        (exactAdd (s != t) (m1 * m2) (e1 + e2) w m3 e3).2.2
    | _, _, _ => false

/-- the instrumented binary32 arithmetic (computable: flags can be evaluated by `decide`) -/
def f32Chk : Arith (Nat × Bool) := chkArith f32Arith f32Checks

theorem inRange_sound (n : Bool) (m : Nat) (e : Int) (h : inRange m e = true) :
    NormalOrZero (sgn n * (m : ℝ) * (2 : ℝ) ^ e) := by
  unfold inRange at h
  by_cases h0 : m = 0
  · left; subst h0; simp
  · right
    have hb : (m == 0) = false := by simpa using h0
    simp only [hb, Bool.false_or, Bool.and_eq_true, decide_eq_true_eq] at h
    obtain ⟨x1, x2⟩ := mant_bounds (Nat.pos_of_ne_zero h0) e le_rfl zero_lt_one
    rw [add_zero] at x1 x2
    rw [mul_assoc, normalRange_sgn]
    unfold NormalRange
    rw [abs_of_pos (lt_of_lt_of_le (two_zpow_pos _) x1)]
    constructor
    · exact le_trans (zpow_le_zpow_right₀ one_le_two (by omega)) x1
    · have a3 : (2 : ℝ) ^ (127 : ℤ) ≤ (2 : ℝ) ^ (128 : ℤ) * (1 - (2 : ℝ) ^ (-25 : ℤ)) := by norm_num
      exact lt_of_lt_of_le x2 (le_trans (zpow_le_zpow_right₀ one_le_two h.2) a3)

/-- a passed two-operand check: both operands are finite and the check holds on their fields -/
theorem fin2_of_check {g : Bool → Nat → Int → Bool → Nat → Int → Bool} {a b : Nat}
    (h : (match unpack f32 a, unpack f32 b with
      | .fin n1 m1 e1, .fin n2 m2 e2 => g n1 m1 e1 n2 m2 e2
      | _, _ => false) = true) :
    ∃ n1 m1 e1 n2 m2 e2, unpack f32 a = .fin n1 m1 e1 ∧ unpack f32 b = .fin n2 m2 e2 ∧
      g n1 m1 e1 n2 m2 e2 = true := by
  cases hua : unpack f32 a with
  | nan => simp [hua] at h
  | inf s => simp [hua] at h
  | fin n1 m1 e1 =>
    cases hub : unpack f32 b with
    | nan => simp [hua, hub] at h
    | inf s => simp [hua, hub] at h
    | fin n2 m2 e2 =>
      simp only [hua, hub] at h
      exact ⟨_, _, _, _, _, _, rfl, rfl, h⟩

theorem chk_add_sound (a b : Nat) (h : f32Checks.add a b = true) :
    Finite a ∧ Finite b ∧ NormalOrZero (toReal a + toReal b) := by
  obtain ⟨n1, m1, e1, n2, m2, e2, hua, hub, hg⟩ := fin2_of_check h
  refine ⟨finite_of_unpack hua, finite_of_unpack hub, ?_⟩
  rw [toReal_of_unpack hua, toReal_of_unpack hub, ← exactAdd_real]
  exact inRange_sound _ _ _ hg

theorem chk_sub_sound (a b : Nat) (h : f32Checks.sub a b = true) :
    Finite a ∧ Finite b ∧ NormalOrZero (toReal a - toReal b) := by
  obtain ⟨n1, m1, e1, n2, m2, e2, hua, hub, hg⟩ := fin2_of_check h
  refine ⟨finite_of_unpack hua, finite_of_unpack hub, ?_⟩
  have e : toReal a - toReal b
      = sgn n1 * (m1 : ℝ) * (2 : ℝ) ^ e1 + sgn (!n2) * (m2 : ℝ) * (2 : ℝ) ^ e2 := by
    rw [toReal_of_unpack hua, toReal_of_unpack hub, sgn_not]; ring
  rw [e, ← exactAdd_real]
  exact inRange_sound _ _ _ hg

theorem chk_mul_sound (a b : Nat) (h : f32Checks.mul a b = true) :
    Finite a ∧ Finite b ∧ NormalOrZero (toReal a * toReal b) := by
  obtain ⟨n1, m1, e1, n2, m2, e2, hua, hub, hg⟩ := fin2_of_check h
  refine ⟨finite_of_unpack hua, finite_of_unpack hub, ?_⟩
  have e : toReal a * toReal b
      = sgn (n1 != n2) * ((m1 * m2 : ℕ) : ℝ) * (2 : ℝ) ^ (e1 + e2) := by
    rw [toReal_of_unpack hua, toReal_of_unpack hub, sgn_bne, zpow_add₀ two_ne_zero]
    push_cast; ring
  rw [e]
  exact inRange_sound _ _ _ hg

theorem chk_fma_sound (a b c : Nat) (h : f32Checks.fma a b c = true) :
    Finite a ∧ Finite b ∧ Finite c ∧ NormalOrZero (toReal a * toReal b + toReal c) := by
  unfold f32Checks at h
  simp only at h
  cases hua : unpack f32 a with
  | nan => simp [hua] at h
  | inf s => simp [hua] at h
  | fin n1 m1 e1 =>
    cases hub : unpack f32 b with
    | nan => simp [hua, hub] at h
    | inf s => simp [hua, hub] at h
    | fin n2 m2 e2 =>
      cases huc : unpack f32 c with
      | nan => simp [hua, hub, huc] at h
      | inf s => simp [hua, hub, huc] at h
      | fin n3 m3 e3 =>
        simp only [hua, hub, huc] at h
        refine ⟨finite_of_unpack hua, finite_of_unpack hub, finite_of_unpack huc, ?_⟩
        have e : toReal a * toReal b + toReal c
            = sgn (n1 != n2) * ((m1 * m2 : ℕ) : ℝ) * (2 : ℝ) ^ (e1 + e2)
              + sgn n3 * (m3 : ℝ) * (2 : ℝ) ^ e3 := by
          rw [toReal_of_unpack hua, toReal_of_unpack hub, toReal_of_unpack huc, sgn_bne,
            zpow_add₀ two_ne_zero]
          push_cast; ring
        rw [e, ← exactAdd_real]
        exact inRange_sound _ _ _ h

theorem f32_chk_model : ChkModel f32Arith toReal f32Checks u :=
  ChkModel.of_on f32_std_model_on f32Checks chk_add_sound chk_sub_sound chk_mul_sound chk_fma_sound

theorem f32_abs_chk (a b : Nat) (h : f32Checks.sub a b = true) :
    toReal (F32.abs (f32Arith.sub a b)) = |toReal (f32Arith.sub a b)| := by
  obtain ⟨fa, fb, hN⟩ := chk_sub_sound a b h
  exact (abs_real _ (sub_std a b fa fb hN).1).2

end SFR
end Arroy
