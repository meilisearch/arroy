import ArroyProofs.F32SqrtSq
import ArroyProofs.SoftFloatRange
/-! Division of binary32 values: a negated numerator only sets the sign bit; `i / D` for integers
`|i| ≤ D` lies in `[-1, 1]`; division by a power of two and `1 − a/2^j` are exact. -/
namespace Arroy
namespace F32L
open SF

theorem div_neg (a x : Nat) (ha : a < 0x7f800000) (ha0 : a / 2 ^ 23 ≠ 0)
    (hx : x < 0x7f800000) (hx0 : x / 2 ^ 23 ≠ 0) :
    F32.div (SF.neg F32.fmt a) x = F32.div a x + 2 ^ 31 := by
  have hu : SF.unpack F32.fmt (SF.neg F32.fmt a) = SF.negV (SF.unpack F32.fmt a) :=
    SF.unpack_neg F32.fmt (by decide) a
  have hfa := Nat.mod_lt a (Nat.two_pow_pos 23)
  have hfx := Nat.mod_lt x (Nat.two_pow_pos 23)
  have ua := unpack_normal a ha ha0
  have ux := unpack_normal x hx hx0
  rewrite [ua] at hu
  generalize hMa : a % 2 ^ 23 + 2 ^ 23 = Ma at *
  generalize hM : x % 2 ^ 23 + 2 ^ 23 = M at *
  generalize ((a / 2 ^ 23 : Nat) : Int) - 150 = Ea at *
  generalize ((x / 2 ^ 23 : Nat) : Int) - 150 = E at *
  have hM0 : (M == 0) = false := by
    have : M ≠ 0 := by omega
    simpa using this
  have hMa0 : (Ma == 0) = false := by
    have : Ma ≠ 0 := by omega
    simpa using this
  obtain ⟨exf, frac, h⟩ := SF.roundPack_shape F32.fmt (Ma * 2 ^ (F32.fmt.p + 3 + bitLen M) / M)
    (Ea - E - ((F32.fmt.p + 3 + bitLen M : Nat) : Int))
    (Ma * 2 ^ (F32.fmt.p + 3 + bitLen M) % M != 0)
  have e1 : F32.div a x = SF.packBits F32.fmt false exf frac := by
    unfold F32.div SF.div
    rewrite [ua, ux]
    simp only [hM0, hMa0, Bool.false_eq_true, if_false]
    exact h _
  have e2 : F32.div (SF.neg F32.fmt a) x = SF.packBits F32.fmt true exf frac := by
    unfold F32.div SF.div
    rewrite [hu, ux]
    simp only [SF.negV, hM0, hMa0, Bool.false_eq_true, if_false]
    exact h _
  rw [e1, e2, SF.packBits_true, signW_f32]

theorem zero_div_ofNat {d : Nat} (hd : 0 < d) : F32.div (F32.ofNat 0) (F32.ofNat d) = 0 := by
  rw [ofNat_zero]
  have hpos := ofNat_pos hd
  have hle := ofNat_le_inf d
  generalize F32.ofNat d = y at *
  unfold F32.div SF.div
  rw [show SF.unpack F32.fmt 0 = _ from unpack_zero]
  rcases Nat.lt_or_eq_of_le hle with h | h
  · rw [unpack_pos y h]
    by_cases hq : y / 2 ^ 23 = 0
    · rw [if_pos hq]
      have : y % 2 ^ 23 ≠ 0 := by omega
      simp [this, SF.packBits]
    · rw [if_neg hq]
      simp [SF.packBits]
  · subst h; rw [unpack_inf]; simp [SF.packBits]

theorem ofInt_natCast (n : Nat) : F32.ofInt (n : Int) = F32.ofNat n := by
  unfold F32.ofInt
  rw [if_neg (by omega), Int.natAbs_natCast]; rfl

/-- `(i as f32) / (D as f32)` for `|i| ≤ D < 2^62` is a number in `[-1, 1]`: conversion and division
are monotone, and the ends `±D / D` are exactly `±1` -/
theorem ofInt_div_range (D : Nat) (hD0 : 0 < D) (hD : D < 2 ^ 62) (i : Int) (hi : i.natAbs ≤ D) :
    F32.le F32.negOne (F32.div (F32.ofInt i) (F32.ofNat D)) = true
    ∧ F32.le (F32.div (F32.ofInt i) (F32.ofNat D)) F32.one = true := by
  obtain ⟨x1, x2⟩ := ofNat_field hD0 hD
  have hinf := ofNat_le_inf D
  have lo := F32M.div_ofNat_mono D hD0 (by omega) (F32M.ofInt_mono (show -(D : Int) ≤ i by omega))
  have hi' := F32M.div_ofNat_mono D hD0 (by omega) (F32M.ofInt_mono (show i ≤ (D : Int) by omega))
  have eneg : F32.ofInt (-(D : Int)) = SF.neg F32.fmt (F32.ofNat D) := by
    unfold F32.ofInt
    rw [if_pos (by omega), Int.natAbs_neg, Int.natAbs_natCast]; rfl
  rw [ofInt_natCast, div_self _ (by omega) (by omega)] at hi'
  rw [eneg, div_neg _ _ (by omega) (by omega) (by omega) (by omega), div_self _ (by omega) (by omega)] at lo
  exact ⟨lo, hi'⟩

/-- dividing `±a·2^e` by `2^j` only lowers the exponent -/
theorem div_pow2 (s : Bool) (a : Nat) (e : Int) (j y : Nat) (ha : 0 < a) (hL : bitLen a ≤ 24)
    (h1 : -125 ≤ e + bitLen a) (h2 : e + bitLen a ≤ 128)
    (hy : unpack f32 y = .fin false (2 ^ 23) ((j : Int) - 23)) :
    F32.div (roundPack f32 s a e false) y = roundPack f32 s a (e - j) false := by
  have hx := roundPack_exact s a e false ha hL h1 h2
  have hM : 0 < a * 2 ^ (24 - bitLen a) := Nat.mul_pos ha (Nat.two_pow_pos _)
  have hsc := F32M.roundPack_scale s a (52 - bitLen a) (e - j)
  rw [show a * 2 ^ (52 - bitLen a) = a * 2 ^ (24 - bitLen a) * 2 ^ 28 by
    rw [Nat.mul_assoc, ← Nat.pow_add]; congr 2; omega] at hsc
  generalize a * 2 ^ (24 - bitLen a) = M at hx hM hsc
  have hM0 : (M == 0) = false := by rw [beq_eq_false_iff_ne]; omega
  have h23 : ((2 : Nat) ^ 23 == 0) = false := by decide
  have hb : bitLen (2 ^ 23) = 24 := by decide
  unfold F32.div SF.div
  rw [show unpack F32.fmt (roundPack f32 s a e false) = _ from hx, show unpack F32.fmt y = _ from hy]
  simp only [hM0, h23, Bool.false_eq_true, if_false, fmt_p, hb]
  rw [show M * 2 ^ (24 + 3 + 24) / 2 ^ 23 = M * 2 ^ 28 by omega,
    show M * 2 ^ (24 + 3 + 24) % 2 ^ 23 = 0 by omega, Bool.bne_false,
    show ((0 : Nat) != 0) = false by decide,
    show e + (bitLen a : Int) - 24 - ((j : Int) - 23) - ((24 + 3 + 24 : Nat) : Int)
      = e - j - ((52 - bitLen a : Nat) : Int) by omega]
  exact hsc

/-- `1 − (±a/2^j) = k/2^j` exactly, when `k` has at most 24 bits -/
theorem one_sub_pow2 (s : Bool) (a k j : Nat) (ha : 0 < a) (hk : 0 < k) (hj : j ≤ 100)
    (hak : if s then 2 ^ j + a = k else a + k = 2 ^ j) (hL : bitLen a ≤ j + 1) (hL24 : bitLen a ≤ 24) :
    F32.sub F32.one (roundPack f32 s a (-(j : Int)) false) = roundPack f32 false k (-(j : Int)) false := by
  have hx := roundPack_exact s a (-(j : Int)) false ha hL24 (by omega) (by omega)
  have hsc := F32M.roundPack_scale false k (24 - bitLen a) (-(j : Int))
  have eA : 8388608 * 2 ^ ((-23 - (-(j : Int) + bitLen a - 24)).toNat) = 2 ^ j * 2 ^ (24 - bitLen a) := by
    rw [show (8388608 : Nat) = 2 ^ 23 from rfl, ← Nat.pow_add, ← Nat.pow_add]; congr 1; omega
  have hS : 2 ^ j * 2 ^ (24 - bitLen a) + (if s then a * 2 ^ (24 - bitLen a) else 0)
      = k * 2 ^ (24 - bitLen a) + (if s then 0 else a * 2 ^ (24 - bitLen a)) := by
    cases s
    · simp only [Bool.false_eq_true, if_false] at hak ⊢
      rw [← hak, Nat.add_mul]; omega
    · simp only [if_true] at hak ⊢
      rw [← hak, Nat.add_mul]; omega
  have hkP : 0 < k * 2 ^ (24 - bitLen a) := Nat.mul_pos hk (Nat.two_pow_pos _)
  generalize 2 ^ j * 2 ^ (24 - bitLen a) = DP at eA hS
  generalize a * 2 ^ (24 - bitLen a) = aP at hx hS
  generalize k * 2 ^ (24 - bitLen a) = kP at hsc hS hkP
  have hE : Min.min (-23 : Int) (-(j : Int) + bitLen a - 24) = -(j : Int) + bitLen a - 24 := by omega
  have hex : exactAdd false 8388608 (-23) (!s) aP (-(j : Int) + bitLen a - 24)
      = (false, kP, -(j : Int) + bitLen a - 24) := by
    unfold exactAdd
    simp only [hE, eA, Int.sub_self, Int.toNat_zero, Nat.pow_zero, Nat.mul_one, Bool.false_eq_true, if_false]
    cases s
    · simp only [Bool.not_false, if_true, Bool.false_eq_true, if_false] at hS ⊢
      refine Prod.ext ?_ (Prod.ext ?_ rfl)
      · simp only [decide_eq_false_iff_not]; omega
      · simp only; omega
    · simp only [Bool.not_true, Bool.false_eq_true, if_false, if_true] at hS ⊢
      refine Prod.ext ?_ (Prod.ext ?_ rfl)
      · simp only [decide_eq_false_iff_not]; omega
      · simp only; omega
  unfold F32.sub SF.sub
  rw [show unpack F32.fmt F32.one = _ from unpack_one,
    show unpack F32.fmt (roundPack f32 s a (-(j : Int)) false) = _ from hx]
  show addV f32 (.fin false 8388608 (-23)) (.fin (!s) aP (-(j : Int) + bitLen a - 24)) = _
  rw [addV_fin, hex]
  dsimp only
  rw [if_neg (by rw [beq_iff_eq]; omega)]
  rw [← hsc]
  congr 1; omega

theorem ofInt_eq (t : Int) : F32.ofInt t = roundPack f32 (decide (t < 0)) t.natAbs 0 false := by
  unfold F32.ofInt
  by_cases h : t < 0
  · rw [if_pos h, decide_eq_true h, F32M.roundPack_true]
    have : SF.ofNat F32.fmt t.natAbs ≤ 0x7f800000 := ofNat_le_inf t.natAbs
    exact neg_pos _ (by omega)
  · rw [if_neg h, decide_eq_false h]; rfl

theorem unpack_ofNat_pow2 (j : Nat) (hj : j ≤ 23) :
    unpack f32 (F32.ofNat (2 ^ j)) = .fin false (2 ^ 23) ((j : Int) - 23) := by
  have hb : bitLen (2 ^ j) = j + 1 := bitLen_eq (by omega) (Nat.le_refl _) (Nat.pow_lt_pow_right (by decide) (by omega))
  have := roundPack_exact false (2 ^ j) 0 false (Nat.two_pow_pos _) (by omega) (by omega) (by omega)
  rw [hb, ← Nat.pow_add, show j + (24 - (j + 1)) = 23 by omega,
    show (0 : Int) + ((j + 1 : Nat) : Int) - 24 = (j : Int) - 23 by omega] at this
  exact this

end F32L
end Arroy
