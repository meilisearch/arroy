import ArroyProofs.F32Chk
/-! The rounding-error bounds for the dispatching distance functions of the model (`dotProduct`,
`euclideanDistance`, `manhattanDistance` on binary32 bit patterns), under the decidable condition that
the flag of the instrumented run is set (no operation failed its check). -/
namespace Arroy
namespace SFR
open SF Kernel KernelRound Generated

/-- `dotProduct` over an arbitrary arithmetic (same dispatch) -/
def dotProductG {α : Type} (A : Arith α) (h : Host) (u v : List α) : α :=
  if h.avx && h.fma && decide (u.length ≥ minDimAvx) then Kernel.dotAvx A u v
  else if h.sse && decide (u.length ≥ minDimSimd) then Kernel.dotSse A u v
  else Kernel.dotScalar A u v

/-- `euclideanDistance` over an arbitrary arithmetic (same dispatch) -/
def euclideanDistanceG {α : Type} (A : Arith α) (h : Host) (u v : List α) : α :=
  if h.avx && h.fma && decide (u.length ≥ minDimAvx) then Kernel.euclidAvx A u v
  else if h.sse && decide (u.length ≥ minDimSimd) then Kernel.euclidSse A u v
  else Kernel.euclidScalar A u v

theorem dotProduct_eq (h : Host) (u v : List Nat) : dotProduct h u v = dotProductG f32Arith h u v := rfl
theorem euclideanDistance_eq (h : Host) (u v : List Nat) :
    euclideanDistance h u v = euclideanDistanceG f32Arith h u v := rfl

/-- the dispatch commutes with a homomorphism of arithmetics, as every kernel does -/
theorem dotProductG_map {β α : Type} {B : Arith β} {A : Arith α} (f : β → α) (hh : ArithHom f B A)
    (h : Host) (x y : List β) : dotProductG A h (x.map f) (y.map f) = f (dotProductG B h x y) := by
  unfold dotProductG
  rw [List.length_map]
  split
  · exact dotAvx_map f hh x y
  · split
    · exact dotSse_map f hh x y
    · exact dotScalar_map f hh x y

theorem euclideanDistanceG_map {β α : Type} {B : Arith β} {A : Arith α} (f : β → α) (hh : ArithHom f B A)
    (h : Host) (x y : List β) :
    euclideanDistanceG A h (x.map f) (y.map f) = f (euclideanDistanceG B h x y) := by
  unfold euclideanDistanceG
  rw [List.length_map]
  split
  · exact euclidAvx_map f hh x y
  · split
    · exact euclidSse_map f hh x y
    · exact euclidScalar_map f hh x y

/-- number of roundings on the longest path of the dot product the dispatch selects -/
def dotDepth (h : Host) (n : Nat) : Nat :=
  if h.avx && h.fma && decide (n ≥ minDimAvx) then n / 32 + n % 32 + 7
  else if h.sse && decide (n ≥ minDimSimd) then n / 16 + n % 16 + 6
  else n + 1

/-- … of the squared Euclidean distance -/
def euclidDepth (h : Host) (n : Nat) : Nat :=
  if h.avx && h.fma && decide (n ≥ minDimAvx) then n / 32 + n % 32 + 9
  else if h.sse && decide (n ≥ minDimSimd) then n / 16 + n % 16 + 8
  else n + 3

theorem dotDepth_le (h : Host) (n : Nat) : dotDepth h n ≤ n + 1 := by
  unfold dotDepth minDimAvx minDimSimd
  split
  · rename_i hc
    simp only [Bool.and_eq_true, decide_eq_true_eq] at hc
    have := Nat.div_add_mod n 32
    omega
  · split
    · rename_i _ hc
      simp only [Bool.and_eq_true, decide_eq_true_eq] at hc
      have := Nat.div_add_mod n 16
      omega
    · omega

theorem euclidDepth_eq (h : Host) (n : Nat) : euclidDepth h n = dotDepth h n + 2 := by
  unfold euclidDepth dotDepth
  split
  · rfl
  · split <;> rfl

theorem euclidDepth_le (h : Host) (n : Nat) : euclidDepth h n ≤ n + 3 := by
  have := dotDepth_le h n
  rw [euclidDepth_eq]; omega

theorem dotProduct_round (h : Host) (x y : List Nat) (hl : x.length = y.length)
    (hrun : (dotProductG f32Chk h (chkIn x) (chkIn y)).2 = true) :
    |toReal (dotProduct h x y) - (List.zipWith (fun a b => toReal a * toReal b) x y).sum|
      ≤ ((1 + u)^(dotDepth h x.length) - 1)
        * ((List.zipWith (fun a b => toReal a * toReal b) x y).map (fun z => |z|)).sum := by
  rw [dotProduct_eq]
  unfold dotProductG dotDepth at *
  rw [chkIn_length] at hrun
  split
  · rename_i hc
    rw [if_pos hc] at hrun
    exact dotAvx_round_chk f32_chk_model x y hl hrun
  · rename_i hc
    rw [if_neg hc] at hrun
    split
    · rename_i hc2
      rw [if_pos hc2] at hrun
      exact dotSse_round_chk f32_chk_model x y hl hrun
    · rename_i hc2
      rw [if_neg hc2] at hrun
      exact dotScalar_round_chk f32_chk_model x y x.length rfl hl.symm hrun

theorem euclideanDistance_round (h : Host) (x y : List Nat) (hl : x.length = y.length)
    (hrun : (euclideanDistanceG f32Chk h (chkIn x) (chkIn y)).2 = true) :
    |toReal (euclideanDistance h x y)
        - (List.zipWith (fun a b => (toReal a - toReal b) * (toReal a - toReal b)) x y).sum|
      ≤ ((1 + u)^(euclidDepth h x.length) - 1)
        * ((List.zipWith (fun a b => (toReal a - toReal b) * (toReal a - toReal b)) x y).map
            (fun z => |z|)).sum := by
  rw [euclideanDistance_eq]
  unfold euclideanDistanceG euclidDepth at *
  rw [chkIn_length] at hrun
  split
  · rename_i hc
    rw [if_pos hc] at hrun
    exact euclidAvx_round_chk f32_chk_model x y hl hrun
  · rename_i hc
    rw [if_neg hc] at hrun
    split
    · rename_i hc2
      rw [if_pos hc2] at hrun
      exact euclidSse_round_chk f32_chk_model x y hl hrun
    · rename_i hc2
      rw [if_neg hc2] at hrun
      exact euclidScalar_round_chk f32_chk_model x y x.length rfl hl.symm hrun

theorem manhattanDistance_round (x y : List Nat) (hl : x.length = y.length)
    (hrun : (manhattanWith f32Chk (fun c => (F32.abs c.1, c.2)) (chkIn x) (chkIn y)).2 = true) :
    |toReal (manhattanDistance x y) - (List.zipWith (fun a b => |toReal a - toReal b|) x y).sum|
      ≤ ((1 + u)^(x.length + 1) - 1)
        * ((List.zipWith (fun a b => |toReal a - toReal b|) x y).map (fun z => |z|)).sum :=
  manhattan_round_chk f32_chk_model F32.abs f32_abs_chk x y x.length rfl hl.symm hrun

theorem pow_sub_one_mono {k k' : Nat} (h : k ≤ k') : (1 + u)^k - 1 ≤ (1 + u)^k' - 1 :=
  E_mono u_nonneg h

end SFR
end Arroy
