import ArroyProofs.SoftFloatBits
/-! Monotonicity of binary32 rounding (`SF.roundPack`), core Lean only.

`RP m e st` is the bit pattern of the rounded positive value `(m + st·ε)·2^e`. It is a closed formula
`min (encOf m e st) +inf` (`RP_eq`), monotone in the key `2 m + st` at a fixed exponent (`RP_mono`),
invariant under rescaling `(m·2^d, e − d)` (`RP_scale`) and under moving low bits of the significand
into the sticky bit (`RP_coarsen`). The negative results are the same patterns with the sign bit set
(`roundPack_true`). -/
namespace Arroy
namespace F32M
open SF

/-- the rounded positive value `(m + st·ε)·2^e`, as a bit pattern -/
def RP (m : Nat) (e : Int) (st : Bool) : Nat := roundPack f32 false m e st

theorem key_le {m1 m2 : Nat} {st1 st2 : Bool} (hk : 2 * m1 + st1.toNat ≤ 2 * m2 + st2.toNat) : m1 ≤ m2 := by
  cases st1 <;> cases st2 <;> simp at hk <;> omega

theorem roundMant_mono (m1 m2 s : Nat) (st1 st2 : Bool) (hs : 0 < s)
    (hk : 2 * m1 + st1.toNat ≤ 2 * m2 + st2.toNat) :
    roundMant m1 s st1 ≤ roundMant m2 s st2 := by
  obtain ⟨q1, r1, H, hP, hH, hH0, hq1, -, hm1, hr1, hR1⟩ := roundMant_cases m1 s st1 hs
  obtain ⟨q2, r2, H', -, hH', -, hq2, -, hm2, hr2, hR2⟩ := roundMant_cases m2 s st2 hs
  have : H = H' := by omega
  subst this
  have hq : q1 ≤ q2 := by rw [← hq1, ← hq2]; exact Nat.div_le_div_right (key_le hk)
  rw [hR1, hR2]
  rcases Nat.lt_or_eq_of_le hq with hlt | heq
  · split <;> split <;> omega
  · -- same quotient: the remainders are ordered like the keys
    subst heq
    have up : (H < r1 ∨ (r1 = H ∧ (st1 = true ∨ q1 % 2 = 1))) → (H < r2 ∨ (r2 = H ∧ (st2 = true ∨ q1 % 2 = 1))) := by
      cases st1 <;> cases st2 <;>
        simp only [Bool.toNat_false, Bool.toNat_true, Bool.false_eq_true, false_or, true_or, and_true] at hk ⊢ <;>
        intro h <;> omega
    by_cases c : H < r1 ∨ (r1 = H ∧ (st1 = true ∨ q1 % 2 = 1))
    · rw [if_pos c, if_pos (up c)]; exact Nat.le_refl _
    · rw [if_neg c]; split <;> omega

/-- the low `d` bits of the significand can be moved into the sticky bit -/
theorem roundMant_coarsen (n d s : Nat) (st : Bool) (hs : 0 < s) :
    roundMant n (s + d) st = roundMant (n / 2 ^ d) s (st || n % 2 ^ d != 0) := by
  have hP := two_pow_pred hs
  have hsd : s + d - 1 = (s - 1) + d := by omega
  have e1 : 2 ^ (s + d) = 2 ^ d * 2 ^ s := by rw [Nat.pow_add, Nat.mul_comm]
  have e2 : 2 ^ (s + d - 1) = 2 ^ (s - 1) * 2 ^ d := by rw [hsd, Nat.pow_add]
  have hdiv : n / 2 ^ (s + d) = n / 2 ^ d / 2 ^ s := by rw [e1, Nat.div_div_eq_div_mul]
  have hmod : n % 2 ^ (s + d) = (n / 2 ^ d % 2 ^ s) * 2 ^ d + n % 2 ^ d := by
    rw [e1, Nat.mod_mul, Nat.add_comm, Nat.mul_comm]
  have hr0 := Nat.mod_lt n (Nat.two_pow_pos d)
  have hr1 := Nat.mod_lt (n / 2 ^ d) (Nat.two_pow_pos s)
  rw [roundMant_spec, roundMant_spec, hdiv, hmod, e2]
  generalize n / 2 ^ d / 2 ^ s = hi
  generalize n / 2 ^ d % 2 ^ s = r at *
  generalize n % 2 ^ d = r0 at *
  generalize 2 ^ (s - 1) = H at *
  generalize 2 ^ d = P at *
  clear hdiv hmod e1 e2 hsd hP hr1
  -- comparing `r·P + r0` with `H·P` is comparing `(r, r0)` with `(H, 0)`
  have cmp : (H * P < r * P + r0 ↔ (H < r ∨ (r = H ∧ r0 ≠ 0))) ∧ (r * P + r0 = H * P ↔ (r = H ∧ r0 = 0)) := by
    rcases Nat.lt_trichotomy r H with h | h | h
    · have := Nat.mul_le_mul_right P (show r + 1 ≤ H from h)
      rw [Nat.add_mul] at this
      omega
    · subst h; omega
    · have := Nat.mul_le_mul_right P (show H + 1 ≤ r from h)
      rw [Nat.add_mul] at this
      omega
  simp only [cmp.1, cmp.2]
  clear cmp hr0
  cases st <;> simp only [Bool.false_or, Bool.true_or, bne_iff_ne, ne_eq, Bool.false_eq_true, false_or, true_or,
    and_true] <;> split <;> split <;> omega

theorem roundMant_exact (a s : Nat) : roundMant (a * 2 ^ s) s false = a := by
  have hH : 0 < 2 ^ (s - 1) := Nat.two_pow_pos _
  rw [roundMant_spec, Nat.mul_mod_left, Nat.mul_div_cancel _ (Nat.two_pow_pos s), if_neg (by omega)]

/-- the significand after rounding at the position `qOf` (may be `2^24`: carry) -/
def mantOf (m : Nat) (e : Int) (st : Bool) : Nat :=
  if qOf f32 m e - e ≤ 0 then m * 2 ^ ((qOf f32 m e - e).natAbs)
  else roundMant m (qOf f32 m e - e).toNat st

/-- exponent and significand laid out as a number; not below the pattern of `+inf` on overflow -/
def encOf (m : Nat) (e : Int) (st : Bool) : Nat := (qOf f32 m e + 149).toNat * 2 ^ 23 + mantOf m e st

theorem finish_enc (mant : Nat) (q : Int) (hq : -149 ≤ q) (hm : mant ≤ 2 ^ 24)
    (hsub : mant < 2 ^ 23 → q = -149) :
    finish f32 false mant q = Min.min ((q + 149).toNat * 2 ^ 23 + mant) 0x7f800000 := by
  obtain ⟨c1, c2, c3, c4, c5⟩ := f32_consts
  unfold finish infBits packBits
  simp only [c1, c2, c3, Bool.false_eq_true, if_false]
  split
  · rename_i h
    have := hsub h
    subst this
    omega
  · split
    · omega
    · omega

theorem mantOf_bounds {m : Nat} (hm : 0 < m) (e : Int) (st : Bool) :
    mantOf m e st ≤ 2 ^ 24 ∧ (e + (bitLen m : Int) - 24 ≥ -149 → 2 ^ 23 ≤ mantOf m e st) := by
  obtain ⟨hn0, hn1, hn2⟩ := bitLen_bounds hm
  unfold mantOf
  rw [qOf_f32]
  generalize hL : bitLen m = L at *
  by_cases hnorm : e + (L : Int) - 24 ≥ -149
  · have hq : Max.max (e + (L : Int) - 24) (-149) = e + (L : Int) - 24 := by omega
    rw [hq]
    by_cases hsh : e + (L : Int) - 24 - e ≤ 0
    · rw [if_pos hsh]
      have hna : (e + (L : Int) - 24 - e).natAbs = 24 - L := by omega
      rw [hna]
      have := shl_bitLen_bounds hm (p := 24) (by omega)
      rw [hL] at this
      omega
    · rw [if_neg hsh]
      have hna : (e + (L : Int) - 24 - e).toNat = L - 24 := by omega
      rw [hna]
      have := roundMant_range m (L - 24) st
        (by have : 23 + (L - 24) = L - 1 := by omega
            rw [this]; exact hn1)
        (by have : 24 + (L - 24) = L := by omega
            rw [this]; exact hn2)
      omega
  · have hq : Max.max (e + (L : Int) - 24) (-149) = -149 := by omega
    rw [hq]
    refine ⟨?_, fun h => absurd h hnorm⟩
    by_cases hsh : (-149 : Int) - e ≤ 0
    · rw [if_pos hsh]
      have : m * 2 ^ ((-149 - e).natAbs) < 2 ^ L * 2 ^ ((-149 - e).natAbs) :=
        Nat.mul_lt_mul_of_pos_right hn2 (Nat.two_pow_pos _)
      rw [← Nat.pow_add] at this
      have h2 : 2 ^ (L + (-149 - e).natAbs) ≤ 2 ^ 24 := Nat.pow_le_pow_right (by decide) (by omega)
      omega
    · rw [if_neg hsh]
      have h1 := roundMant_le_succ m ((-149 - e).toNat) st
      have h2 : m / 2 ^ ((-149 - e).toNat) < 2 ^ 23 := by
        rw [Nat.div_lt_iff_lt_mul (Nat.two_pow_pos _), ← Nat.pow_add]
        exact Nat.lt_of_lt_of_le hn2 (Nat.pow_le_pow_right (by decide) (by omega))
      omega

theorem RP_eq {m : Nat} (hm : 0 < m) (e : Int) (st : Bool) :
    RP m e st = Min.min (encOf m e st) 0x7f800000 := by
  obtain ⟨c1, c2, c3, c4, c5⟩ := f32_consts
  have hm0 := nz_of_pos hm st
  obtain ⟨b1, b2⟩ := mantOf_bounds hm e st
  have hq0 : -149 ≤ qOf f32 m e := by rw [qOf_f32]; omega
  have hsub : mantOf m e st < 2 ^ 23 → qOf f32 m e = -149 := by
    intro h
    rw [qOf_f32]
    by_cases hn : e + (bitLen m : Int) - 24 ≥ -149
    · have := b2 hn; omega
    · omega
  unfold RP encOf
  rw [roundPack_eq f32 false m e st hm0]
  unfold mantOf at *
  generalize qOf f32 m e = q at *
  by_cases hsh : q - e ≤ 0
  · rw [if_pos hsh] at b1 hsub ⊢
    rw [if_pos hsh]
    exact finish_enc _ _ hq0 b1 hsub
  · rw [if_neg hsh] at b1 hsub ⊢
    rw [if_neg hsh, c1]
    generalize roundMant m (q - e).toNat st = r at *
    by_cases hc : r = 2 ^ 24
    · have hb : (r == 2 ^ 24) = true := by rw [beq_iff_eq]; exact hc
      have h23 : (2 : Nat) ^ (24 - 1) = 8388608 := by decide
      rw [if_pos hb, h23, finish_enc 8388608 (q + 1) (by omega) (by omega) (fun h => by omega)]
      have h24 : r = 16777216 := hc
      have : (q + 1 + 149).toNat = (q + 149).toNat + 1 := by omega
      rw [this, h24]
      clear b1 hsub hb hc h24 this b2
      generalize (q + 149).toNat = a
      omega
    · have hb : (r == 2 ^ 24) = false := by rw [beq_eq_false_iff_ne]; exact hc
      simp only [hb, Bool.false_eq_true, if_false]
      exact finish_enc _ _ hq0 b1 hsub

theorem roundMant_zero (s : Nat) (st : Bool) : roundMant 0 s st = 0 := by
  have hH : 0 < 2 ^ (s - 1) := Nat.two_pow_pos _
  rw [roundMant_spec, Nat.zero_mod, Nat.zero_div, if_neg (by omega)]

theorem finish_zero (q : Int) : finish f32 false 0 q = 0 := by
  unfold finish packBits; simp [f32]

theorem RP_zero (e : Int) (st : Bool) : RP 0 e st = 0 := by
  cases st
  · unfold RP roundPack; simp [packBits]
  · unfold RP
    rw [roundPack_eq f32 false 0 e true (by simp)]
    rw [roundMant_zero, Nat.zero_mul]
    have : ((0 : Nat) == 2 ^ f32.p) = false := by decide
    simp only [this, Bool.false_eq_true, if_false, finish_zero, ite_self]

theorem RP_le_inf (m : Nat) (e : Int) (st : Bool) : RP m e st ≤ 0x7f800000 := by
  rcases Nat.eq_zero_or_pos m with h | h
  · subst h; rw [RP_zero]; omega
  · rw [RP_eq h]; omega

/-- **rounding is monotone**: at a fixed exponent the rounded pattern is monotone in the key
`2 m + sticky` (the exact values `(m + st·ε)·2^e`, `0 < ε < 1`, are ordered like their keys) -/
theorem RP_mono (e : Int) (m1 m2 : Nat) (st1 st2 : Bool)
    (hk : 2 * m1 + st1.toNat ≤ 2 * m2 + st2.toNat) : RP m1 e st1 ≤ RP m2 e st2 := by
  have hm := key_le hk
  rcases Nat.eq_zero_or_pos m1 with h | h
  · subst h; rw [RP_zero]; omega
  · have h2 : 0 < m2 := by omega
    rw [RP_eq h, RP_eq h2]
    suffices encOf m1 e st1 ≤ encOf m2 e st2 by omega
    have hL := bitLen_mono h hm
    obtain ⟨a1, a2⟩ := mantOf_bounds h e st1
    obtain ⟨b1, b2⟩ := mantOf_bounds h2 e st2
    have hq1 := qOf_f32 m1 e
    have hq2 := qOf_f32 m2 e
    unfold encOf
    by_cases hq : qOf f32 m1 e = qOf f32 m2 e
    · have : mantOf m1 e st1 ≤ mantOf m2 e st2 := by
        unfold mantOf
        rw [hq]
        split
        · exact Nat.mul_le_mul_right _ hm
        · exact roundMant_mono _ _ _ _ _ (by omega) hk
      rw [hq]; omega
    · have hlt : qOf f32 m1 e < qOf f32 m2 e := by omega
      -- a higher exponent field outweighs any significand
      have := Nat.mul_le_mul_right (2 ^ 23)
        (show (qOf f32 m1 e + 149).toNat + 1 ≤ (qOf f32 m2 e + 149).toNat by omega)
      have := b2 (by omega)
      omega

theorem bitLen_mul_pow {m : Nat} (hm : 0 < m) (d : Nat) : bitLen (m * 2 ^ d) = bitLen m + d := by
  obtain ⟨h0, h1, h2⟩ := bitLen_bounds hm
  apply bitLen_eq (by omega)
  · have : bitLen m + d - 1 = (bitLen m - 1) + d := by omega
    rw [this, Nat.pow_add]; exact Nat.mul_le_mul_right _ h1
  · rw [Nat.pow_add]; exact Nat.mul_lt_mul_of_pos_right h2 (Nat.two_pow_pos _)

theorem bitLen_div_pow {n : Nat} (d : Nat) (hm : 0 < n / 2 ^ d) : bitLen n = bitLen (n / 2 ^ d) + d := by
  obtain ⟨h0, h1, h2⟩ := bitLen_bounds hm
  have hd := Nat.div_add_mod n (2 ^ d)
  have hr := Nat.mod_lt n (Nat.two_pow_pos d)
  apply bitLen_eq (by omega)
  · have : bitLen (n / 2 ^ d) + d - 1 = (bitLen (n / 2 ^ d) - 1) + d := by omega
    rw [this, Nat.pow_add]
    have := Nat.mul_le_mul_right (2 ^ d) h1
    rw [Nat.mul_comm (n / 2 ^ d)] at this
    omega
  · rw [Nat.pow_add]
    have : (n / 2 ^ d + 1) * 2 ^ d ≤ 2 ^ bitLen (n / 2 ^ d) * 2 ^ d := Nat.mul_le_mul_right _ h2
    rw [Nat.add_mul, Nat.mul_comm (n / 2 ^ d)] at this
    omega

/-- **coarsening**: the low `d` bits of a significand with at least `25 + d` bits can be moved into
the sticky bit (the rounding position is above them) -/
theorem RP_coarsen (n d : Nat) (e : Int) (st : Bool) (h : 2 ^ 24 ≤ n / 2 ^ d) :
    RP n e st = RP (n / 2 ^ d) (e + d) (st || n % 2 ^ d != 0) := by
  have hm : 0 < n / 2 ^ d := by omega
  have hn : 0 < n := by
    rcases Nat.eq_zero_or_pos n with h0 | h0
    · subst h0; simp at hm
    · exact h0
  have hL := bitLen_div_pow d hm
  obtain ⟨h0, h1, h2⟩ := bitLen_bounds hm
  have hL25 : 25 ≤ bitLen (n / 2 ^ d) := by
    have : 2 ^ 24 < 2 ^ bitLen (n / 2 ^ d) := by omega
    have := (Nat.pow_lt_pow_iff_right (by decide : 1 < 2)).mp this
    omega
  rw [RP_eq hn, RP_eq hm]
  unfold encOf mantOf
  have hq : qOf f32 n e = qOf f32 (n / 2 ^ d) (e + d) := by
    rw [qOf_f32, qOf_f32, hL]; omega
  rw [hq]
  have hq' := qOf_f32 (n / 2 ^ d) (e + d)
  generalize qOf f32 (n / 2 ^ d) (e + d) = q at *
  have c1 : ¬ (q - e ≤ 0) := by omega
  have c2 : ¬ (q - (e + d) ≤ 0) := by omega
  rw [if_neg c1, if_neg c2]
  have : (q - e).toNat = (q - (e + (d : Int))).toNat + d := by omega
  rw [this, roundMant_coarsen _ _ _ _ (by omega)]

/-- **rescaling**: `(m·2^d)·2^(e−d)` rounds like `m·2^e` -/
theorem RP_scale (m d : Nat) (e : Int) : RP (m * 2 ^ d) (e - d) false = RP m e false := by
  rcases Nat.eq_zero_or_pos m with h | h
  · subst h; rw [Nat.zero_mul, RP_zero, RP_zero]
  · have hmd : 0 < m * 2 ^ d := Nat.mul_pos h (Nat.two_pow_pos _)
    have hL := bitLen_mul_pow h d
    rw [RP_eq hmd, RP_eq h]
    unfold encOf mantOf
    have hq : qOf f32 (m * 2 ^ d) (e - d) = qOf f32 m e := by
      rw [qOf_f32, qOf_f32, hL]; omega
    rw [hq]
    generalize qOf f32 m e = q at *
    congr 2
    by_cases c1 : q - e ≤ 0
    · rw [if_pos c1]
      by_cases c2 : q - (e - d) ≤ 0
      · rw [if_pos c2, Nat.mul_assoc, ← Nat.pow_add]
        congr 2; omega
      · rw [if_neg c2]
        have e1 : m * 2 ^ d = (m * 2 ^ ((q - e).natAbs)) * 2 ^ ((q - (e - (d : Int))).toNat) := by
          rw [Nat.mul_assoc, ← Nat.pow_add]; congr 2; omega
        rw [e1, roundMant_exact]
    · rw [if_neg c1]
      have c2 : ¬ (q - (e - d) ≤ 0) := by omega
      rw [if_neg c2]
      have : (q - (e - (d : Int))).toNat = (q - e).toNat + d := by omega
      rw [this, roundMant_coarsen _ _ _ _ (by omega), Nat.mul_div_cancel _ (Nat.two_pow_pos _),
        Nat.mul_mod_left]
      rfl

/-- rescaling, in the form the operations need it: any exponent below -/
theorem RP_scale' (m : Nat) (e e' : Int) (h : e' ≤ e) :
    RP m e false = RP (m * 2 ^ ((e - e').toNat)) e' false := by
  have := RP_scale m (e - e').toNat e
  have h2 : e - ((e - e').toNat : Int) = e' := by omega
  rw [h2] at this
  exact this.symm

theorem roundPack_true (m : Nat) (e : Int) (st : Bool) :
    roundPack f32 true m e st = RP m e st + 2 ^ 31 := by
  obtain ⟨ex, frac, h⟩ := roundPack_shape f32 m e st
  unfold RP
  rw [h true, h false, packBits_true]
  rfl

/-- rescaling, with either sign -/
theorem roundPack_scale (s : Bool) (m d : Nat) (e : Int) :
    roundPack f32 s (m * 2 ^ d) (e - d) false = roundPack f32 s m e false := by
  cases s
  · exact RP_scale m d e
  · rw [roundPack_true, roundPack_true, RP_scale]

end F32M
end Arroy
