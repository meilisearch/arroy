import ArroyProofs.F32MonoOps
/-! Monotonicity of `F32.div` in the numerator, for a fixed finite positive divisor (core Lean only).
The truncated exact quotient is rounded with a sticky bit; the numerator is first brought to a common
exponent (`gdiv_scale`: the result does not change, by `RP_coarsen`), where the key
`2·⌊x⌋ + [x ∉ ℤ]` is monotone in the operand. -/
namespace Arroy
namespace F32M
open SF F32L

/-- `SF.div` on unpacked operands -/
def divV (x y : V) : Nat :=
  match x, y with
  | .nan, _ | _, .nan => qnan f32
  | .inf _, .inf _ => qnan f32
  | .inf s, .fin t _ _ => infBits f32 (s != t)
  | .fin s _ _, .inf t => packBits f32 (s != t) 0 0
  | .fin s m1 e1, .fin t m2 e2 =>
    if m2 == 0 then (if m1 == 0 then qnan f32 else infBits f32 (s != t))
    else if m1 == 0 then packBits f32 (s != t) 0 0
    else
      let k := f32.p + 3 + bitLen m2
      let num := m1 * 2^k
      roundPack f32 (s != t) (num / m2) (e1 - e2 - (k : Int)) (num % m2 != 0)

theorem div_eq (a b : Nat) : F32.div a b = divV (unpack f32 a) (unpack f32 b) := rfl

/-- the key `2·⌊A/c⌋ + [c ∤ A]` is monotone in `A` -/
theorem divKey_mono {A B c : Nat} (hc : 0 < c) (h : A ≤ B) :
    2 * (A / c) + (A % c != 0).toNat ≤ 2 * (B / c) + (B % c != 0).toNat := by
  have hq : A / c ≤ B / c := Nat.div_le_div_right h
  have ha := Nat.div_add_mod A c
  have hb := Nat.div_add_mod B c
  have t1 : (A % c != 0).toNat ≤ 1 := Bool.toNat_le _
  rcases Nat.lt_or_eq_of_le hq with hlt | heq
  · omega
  · rw [← heq] at hb ⊢
    have hr : A % c ≤ B % c := by omega
    by_cases h0 : A % c = 0
    · simp [h0]
    · have h1 : B % c ≠ 0 := by omega
      have e1 : (A % c != 0) = true := by simpa using h0
      have e2 : (B % c != 0) = true := by simpa using h1
      rw [e1, e2]; omega

/-- the quotient of the magnitude `M·2^E` by `mc·2^ec`, rounded (`k` extra quotient bits) -/
def gdiv (mc : Nat) (ec : Int) (k : Nat) (E : Int) (M : Nat) : Nat :=
  RP (M * 2 ^ k / mc) (E - ec - (k : Int)) (M * 2 ^ k % mc != 0)

theorem gdiv_zero (mc : Nat) (ec : Int) (k : Nat) (E : Int) : gdiv mc ec k E 0 = 0 := by
  unfold gdiv; rw [Nat.zero_mul, Nat.zero_div]; exact RP_zero _ _

theorem gdiv_mono (mc : Nat) (ec : Int) (k : Nat) (E : Int) (hmc : 0 < mc) {M1 M2 : Nat} (h : M1 ≤ M2) :
    gdiv mc ec k E M1 ≤ gdiv mc ec k E M2 :=
  RP_mono _ _ _ _ _ (divKey_mono hmc (Nat.mul_le_mul_right _ h))

/-- the rounded quotient does not depend on the exponent at which the numerator is written -/
theorem gdiv_scale (mc : Nat) (ec : Int) (k : Nat) (hmc : 0 < mc) (hk : 2 ^ 24 * mc ≤ 2 ^ k)
    (m : Nat) (hm : 0 < m) (e E : Int) (hE : E ≤ e) :
    gdiv mc ec k E (m * 2 ^ ((e - E).toNat)) = gdiv mc ec k e m := by
  unfold gdiv
  generalize hd : (e - E).toNat = d
  have hN : m * 2 ^ d * 2 ^ k = m * 2 ^ k * 2 ^ d := Nat.mul_right_comm _ _ _
  rw [hN]
  generalize hNN : m * 2 ^ k = N
  have hNge : 2 ^ 24 * mc ≤ N := by
    rw [← hNN]
    exact Nat.le_trans hk (Nat.le_mul_of_pos_left _ hm)
  have hP : 0 < 2 ^ d := Nat.two_pow_pos d
  have hdiv : N * 2 ^ d / mc / 2 ^ d = N / mc := by
    rw [Nat.div_div_eq_div_mul, Nat.mul_div_mul_right _ _ hP]
  have hbig : 2 ^ 24 ≤ N * 2 ^ d / mc / 2 ^ d := by
    rw [hdiv, Nat.le_div_iff_mul_le hmc]; exact hNge
  rw [RP_coarsen _ d _ _ hbig, hdiv]
  have he : E - ec - (k : Int) + (d : Int) = e - ec - (k : Int) := by omega
  rw [he]
  congr 1
  -- the sticky bits agree
  have k1 : N * 2 ^ d % (mc * 2 ^ d) = N * 2 ^ d % mc + mc * (N * 2 ^ d / mc % 2 ^ d) := Nat.mod_mul
  have k2 : N * 2 ^ d % (mc * 2 ^ d) = N % mc * 2 ^ d := Nat.mul_mod_mul_right _ _ _
  rw [k2] at k1
  generalize N * 2 ^ d % mc = r1 at *
  generalize N * 2 ^ d / mc % 2 ^ d = r2 at *
  generalize N % mc = r at *
  rw [Bool.eq_iff_iff]
  simp only [Bool.or_eq_true, bne_iff_ne, ne_eq]
  constructor
  · intro h hr
    rw [hr, Nat.zero_mul] at k1
    have h1 : r1 = 0 := by omega
    have h2 : mc * r2 = 0 := by omega
    rcases Nat.mul_eq_zero.mp h2 with h3 | h3
    · omega
    · rcases h with h | h
      · exact h h1
      · exact h h3
  · intro h
    by_cases h1 : r1 = 0
    · right
      intro h2
      rw [h1, h2, Nat.mul_zero] at k1
      rcases Nat.mul_eq_zero.mp k1 with h3 | h3
      · exact h h3
      · omega
    · exact Or.inl h1

/-- the quotient by a finite positive value at any exponent `E` of the numerator -/
theorem divV_out (mc : Nat) (ec : Int) (hmc : mc ≠ 0) (n : Bool) (m : Nat) (e E : Int) (hE : E ≤ e) :
    Out (divV (.fin n m e) (.fin false mc ec))
      (ext (gdiv mc ec (24 + 3 + bitLen mc) E) (V.mag E (.fin n m e))) := by
  rw [← sv_eq_ext _ (gdiv_zero _ _ _ _)]
  have hb : (mc == 0) = false := by simpa using hmc
  have hmc' : 0 < mc := Nat.pos_of_ne_zero hmc
  by_cases hm : m = 0
  · subst hm
    have : divV (.fin n 0 e) (.fin false mc ec) = packBits f32 (n != false) 0 0 := by
      simp [divV, hb]
    rw [this, Nat.zero_mul, gdiv_zero]
    have : sv n 0 = 0 := by cases n <;> rfl
    rw [this]
    exact out_zero _
  · have hm0 : (m == 0) = false := by simpa using hm
    have hm' : 0 < m := Nat.pos_of_ne_zero hm
    have hp : f32.p = 24 := rfl
    have : divV (.fin n m e) (.fin false mc ec) =
        roundPack f32 n (m * 2 ^ (24 + 3 + bitLen mc) / mc) (e - ec - ((24 + 3 + bitLen mc : Nat) : Int))
          (m * 2 ^ (24 + 3 + bitLen mc) % mc != 0) := by
      simp only [divV, hb, hm0, Bool.false_eq_true, if_false, Bool.bne_false, hp]
    rw [this]
    have hk : 2 ^ 24 * mc ≤ 2 ^ (24 + 3 + bitLen mc) := by
      obtain ⟨_, _, h3⟩ := bitLen_bounds hmc'
      have : 24 + 3 + bitLen mc = 24 + (3 + bitLen mc) := by omega
      rw [this, Nat.pow_add]
      apply Nat.mul_le_mul_left
      have : 2 ^ bitLen mc ≤ 2 ^ (3 + bitLen mc) := Nat.pow_le_pow_right (by decide) (by omega)
      omega
    rw [gdiv_scale mc ec _ hmc' hk m hm' e E hE]
    exact out_roundPack _ _ _ _

theorem divV_mono (mc : Nat) (ec : Int) (hmc : mc ≠ 0) {x y : V} (h : leV x y) :
    F32.le (divV x (.fin false mc ec)) (divV y (.fin false mc ec)) = true := by
  apply lift_mono (fun v => divV v (.fin false mc ec)) 0
    (fun E z => ext (gdiv mc ec (24 + 3 + bitLen mc) E) z) _ _ _ h
  · intro a; cases a <;> rfl
  · intro n m e E h1 _
    exact divV_out mc ec hmc n m e E h1
  · intro E z1 z2 hz
    exact ext_mono _ (fun a b hab => gdiv_mono mc ec _ E (Nat.pos_of_ne_zero hmc) hab) hz

theorem div_mono {a b : Nat} (c : Nat) (mc : Nat) (ec : Int) (hc : unpack f32 c = .fin false mc ec)
    (hmc : mc ≠ 0) (h : F32.le a b = true) : F32.le (F32.div a c) (F32.div b c) = true := by
  rw [le_iff_leV] at h
  rw [div_eq, div_eq, hc]
  exact divV_mono mc ec hmc h

/-- a positive finite pattern (`0 < c < +inf`) as a divisor -/
theorem div_mono_pos {a b : Nat} (c : Nat) (hc0 : 0 < c) (hc : c < 0x7f800000) (h : F32.le a b = true) :
    F32.le (F32.div a c) (F32.div b c) = true := by
  have hu := unpack_pos c hc
  by_cases hq : c / 2 ^ 23 = 0
  · rw [if_pos hq] at hu
    exact div_mono c _ _ hu (by omega) h
  · rw [if_neg hq] at hu
    exact div_mono c _ _ hu (by omega) h

theorem div_ofNat_mono {a b : Nat} (n : Nat) (hn : 0 < n) (hb : n < 2 ^ 127) (h : F32.le a b = true) :
    F32.le (F32.div a (F32.ofNat n)) (F32.div b (F32.ofNat n)) = true := by
  have hpos := ofNat_pos hn
  have hlt : F32.ofNat n < 0x7f800000 := by
    have h2 : F32.ofNat (2 ^ 127) = 0x7f000000 := by decide +kernel
    have := ofNat_mono (a := n) (b := 2 ^ 127) (by omega)
    omega
  exact div_mono_pos _ hpos hlt h

theorem div_two_mono {a b : Nat} (h : F32.le a b = true) :
    F32.le (F32.div a F32.two) (F32.div b F32.two) = true :=
  div_mono_pos F32.two (by decide) (by decide) h

end F32M
end Arroy
