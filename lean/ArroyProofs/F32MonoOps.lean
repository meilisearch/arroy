import ArroyProofs.F32MonoOrd
/-! Monotonicity of the binary32 operations w.r.t. `F32.le` (core Lean only), from the monotonicity of
rounding (`F32M.RP_mono`): `neg` (antitone), `max · 0`, `add`/`sub` with a fixed finite operand, `ofInt`
(`div` and `sqrt`: `F32MonoDiv`, `F32MonoSqrt`). -/
namespace Arroy
namespace F32M
open SF F32L

theorem le_trans {a b c : Nat} (h1 : F32.le a b = true) (h2 : F32.le b c = true) : F32.le a c = true := by
  rw [le_iff_key] at *
  refine ⟨h1.1, h2.2.1, ?_⟩
  have := h1.2.2
  have := h2.2.2
  unfold SF.klt at *
  omega

theorem le_refl {a : Nat} (h : F32.isNaN a = false) : F32.le a a = true := by
  rw [le_iff_key]
  refine ⟨h, h, ?_⟩
  unfold SF.klt; omega

theorem unpack_neg (a : Nat) : unpack f32 (F32.neg a) = negV (unpack f32 a) :=
  SF.unpack_neg f32 (by decide) a

theorem neg_antitone {a b : Nat} (h : F32.le a b = true) : F32.le (F32.neg b) (F32.neg a) = true := by
  rw [le_iff_leV] at *
  rw [unpack_neg, unpack_neg]
  exact leV_negV h

theorem max_zero_mono {a b : Nat} (h : F32.le a b = true) :
    F32.le (F32.max a F32.zero) (F32.max b F32.zero) = true := by
  have hk := (le_iff_key a b).1 h
  obtain ⟨na, nb, hab⟩ := hk
  have n0 : isNaN f32 F32.zero = false := by decide
  have ea : isNaN F32.fmt a = false := na
  have eb : isNaN F32.fmt b = false := nb
  have e0 : isNaN F32.fmt F32.zero = false := n0
  unfold F32.max SF.max
  simp only [ea, eb, e0, Bool.false_eq_true, if_false]
  have la := lt_iff_of_notNaN f32 a F32.zero na n0
  have lb := lt_iff_of_notNaN f32 b F32.zero nb n0
  by_cases ha : lt F32.fmt a F32.zero = true
  · rw [if_pos ha]
    by_cases hb : lt F32.fmt b F32.zero = true
    · rw [if_pos hb]; exact le_refl n0
    · rw [if_neg hb]
      rw [le_iff_key]
      refine ⟨n0, nb, fun hh => hb (lb.2 hh)⟩
  · rw [if_neg ha]
    by_cases hb : lt F32.fmt b F32.zero = true
    · exfalso
      have h1 := lb.1 hb
      have h2 : ¬ SF.klt (SF.key f32 a) (SF.key f32 F32.zero) := fun hh => ha (la.2 hh)
      unfold SF.klt at *
      omega
    · rw [if_neg hb]; exact h

/-- the signed pattern of the rounded value `z·2^e` -/
def rs (e : Int) (z : Int) : Int := ext (fun a => RP a e false) z

theorem rs_mono (e : Int) {z1 z2 : Int} (h : z1 ≤ z2) : rs e z1 ≤ rs e z2 :=
  ext_mono _ (fun a b hab => RP_mono e a b false false (by simp; omega)) h

theorem sv_rs (E : Int) (S : Int) (P : Nat) (hP : 0 < P) :
    sv (decide (S < 0)) (RP (S.natAbs * P) E false) = rs E (S * (P : Int)) := by
  unfold rs ext sv
  have e1 : (S * (P : Int)).natAbs = S.natAbs * P := by rw [Int.natAbs_mul, Int.natAbs_natCast]
  have hP' : (0 : Int) < P := by omega
  rw [e1]
  by_cases h : S < 0
  · have : S * (P : Int) < 0 := Int.mul_neg_of_neg_of_pos h hP'
    simp only [h, this, decide_true, if_true]
  · have : ¬ (S * (P : Int) < 0) := by
      have : 0 ≤ S * (P : Int) := Int.mul_nonneg (by omega) (by omega)
      omega
    simp only [h, this, decide_false, Bool.false_eq_true, if_false]

theorem rs_zero (E : Int) : rs E 0 = 0 := by
  unfold rs ext; simp [RP_zero]

/-- the sum of two finite values, rounded, at any common exponent `E` -/
theorem addV_out (n1 : Bool) (m1 : Nat) (e1 : Int) (n2 : Bool) (m2 : Nat) (e2 : Int) (E : Int)
    (h1 : E ≤ e1) (h2 : E ≤ e2) :
    Out (addV f32 (.fin n1 m1 e1) (.fin n2 m2 e2))
      (rs E (V.mag E (.fin n1 m1 e1) + V.mag E (.fin n2 m2 e2))) := by
  have hx : exactAdd n1 m1 e1 n2 m2 e2 =
      (decide (V.mag (Min.min e1 e2) (.fin n1 m1 e1) + V.mag (Min.min e1 e2) (.fin n2 m2 e2) < 0),
       (V.mag (Min.min e1 e2) (.fin n1 m1 e1) + V.mag (Min.min e1 e2) (.fin n2 m2 e2)).natAbs,
       Min.min e1 e2) := rfl
  have s1 := mag_scale E (Min.min e1 e2) n1 m1 e1 (by omega) (by omega)
  have s2 := mag_scale E (Min.min e1 e2) n2 m2 e2 (by omega) (by omega)
  rw [addV_fin, hx, s1, s2, ← Int.add_mul]
  generalize V.mag (Min.min e1 e2) (.fin n1 m1 e1) + V.mag (Min.min e1 e2) (.fin n2 m2 e2) = S
  simp only
  by_cases h0 : S.natAbs = 0
  · have : S = 0 := by omega
    subst this
    simp only [Int.natAbs_zero, beq_self_eq_true, if_true, Int.zero_mul, rs_zero]
    exact out_zero _
  · have hb : (S.natAbs == 0) = false := by simpa using h0
    simp only [hb, Bool.false_eq_true, if_false]
    have := out_roundPack (decide (S < 0)) S.natAbs (Min.min e1 e2) false
    rw [RP_scale' S.natAbs (Min.min e1 e2) E (by omega), sv_rs E S _ (Nat.two_pow_pos _)] at this
    exact this

theorem addV_mono (nc : Bool) (mc : Nat) (ec : Int) {x y : V} (h : leV x y) :
    F32.le (addV f32 x (.fin nc mc ec)) (addV f32 y (.fin nc mc ec)) = true := by
  apply lift_mono (fun v => addV f32 v (.fin nc mc ec)) ec
    (fun E z => rs E (z + V.mag E (.fin nc mc ec))) _ _ _ h
  · intro a; rfl
  · intro n m e E h1 h2
    exact addV_out n m e nc mc ec E h1 h2
  · intro E z1 z2 hz
    exact rs_mono E (by omega)

theorem fin_of_isFin {c : Nat} (hc : isFin f32 c = true) : ∃ n m e, unpack f32 c = .fin n m e := by
  unfold isFin at hc
  cases h : unpack f32 c <;> simp [h] at hc
  exact ⟨_, _, _, rfl⟩

theorem add_mono_left {a b : Nat} (c : Nat) (hc : isFin f32 c = true) (h : F32.le a b = true) :
    F32.le (F32.add a c) (F32.add b c) = true := by
  obtain ⟨nc, mc, ec, hu⟩ := fin_of_isFin hc
  rw [le_iff_leV] at h
  show F32.le (addV f32 (unpack f32 a) (unpack f32 c)) (addV f32 (unpack f32 b) (unpack f32 c)) = true
  rw [hu]
  exact addV_mono nc mc ec h

theorem add_mono_right {a b : Nat} (c : Nat) (hc : isFin f32 c = true) (h : F32.le a b = true) :
    F32.le (F32.add c a) (F32.add c b) = true := by
  have e1 : F32.add c a = F32.add a c := SF.add_comm _ _ _
  have e2 : F32.add c b = F32.add b c := SF.add_comm _ _ _
  rw [e1, e2]; exact add_mono_left c hc h

theorem sub_mono_left {a b : Nat} (c : Nat) (hc : isFin f32 c = true) (h : F32.le a b = true) :
    F32.le (F32.sub a c) (F32.sub b c) = true := by
  obtain ⟨nc, mc, ec, hu⟩ := fin_of_isFin hc
  rw [le_iff_leV] at h
  show F32.le (addV f32 (unpack f32 a) (negV (unpack f32 c)))
    (addV f32 (unpack f32 b) (negV (unpack f32 c))) = true
  rw [hu]
  exact addV_mono (!nc) mc ec h

theorem sub_antitone {a b : Nat} (c : Nat) (hc : isFin f32 c = true) (h : F32.le a b = true) :
    F32.le (F32.sub c b) (F32.sub c a) = true := by
  obtain ⟨nc, mc, ec, hu⟩ := fin_of_isFin hc
  rw [le_iff_leV] at h
  show F32.le (addV f32 (unpack f32 c) (negV (unpack f32 b)))
    (addV f32 (unpack f32 c) (negV (unpack f32 a))) = true
  rw [hu, addV_comm, addV_comm f32 _ (negV (unpack f32 a))]
  exact addV_mono nc mc ec (leV_negV h)

theorem out_ofInt (i : Int) : Out (F32.ofInt i) (rs 0 i) := by
  unfold F32.ofInt rs ext
  have hN : ∀ n, SF.ofNat F32.fmt n = RP n 0 false := fun _ => rfl
  by_cases h : i < 0
  · rw [if_pos h, if_pos h, hN]
    have hle := RP_le_inf i.natAbs 0 false
    rw [neg_pos _ (by omega)]
    exact ⟨true, _, rfl, hle, rfl⟩
  · rw [if_neg h, if_neg h, hN]
    exact ⟨false, _, rfl, RP_le_inf _ _ _, rfl⟩

theorem ofInt_mono {i j : Int} (h : i ≤ j) : F32.le (F32.ofInt i) (F32.ofInt j) = true :=
  le_of_out (out_ofInt i) (out_ofInt j) (rs_mono 0 h)

/-- signed key of the exact value `(-1)^neg·(m + st·ε)·2^e` at a fixed exponent -/
def skey (neg : Bool) (m : Nat) (st : Bool) : Int :=
  if neg then -((2 * m + st.toNat : Nat) : Int) else ((2 * m + st.toNat : Nat) : Int)

/-- **`SF.roundPack` is monotone in the exact value it rounds**, for binary32 and two values written at
a common exponent `e`: a larger signed key `±(2 m + sticky)` never gives a smaller result in the float
order. Bringing values at different exponents to a common one (`RP_scale'`, `RP_coarsen`) is left to
the caller. -/
theorem roundPack_mono (e : Int) (n1 n2 : Bool) (m1 m2 : Nat) (st1 st2 : Bool)
    (hk : skey n1 m1 st1 ≤ skey n2 m2 st2) :
    F32.le (roundPack f32 n1 m1 e st1) (roundPack f32 n2 m2 e st2) = true := by
  apply le_of_out (out_roundPack n1 m1 e st1) (out_roundPack n2 m2 e st2)
  unfold skey at hk
  cases n1 <;> cases n2 <;> simp only [sv, Bool.false_eq_true, if_false, if_true] at hk ⊢
  · have := RP_mono e m1 m2 st1 st2 (by omega); omega
  · have h1 : m1 = 0 := by omega
    have h2 : m2 = 0 := by omega
    subst h1; subst h2
    rw [RP_zero, RP_zero]; omega
  · omega
  · have := RP_mono e m2 m1 st2 st1 (by omega); omega

end F32M
end Arroy
