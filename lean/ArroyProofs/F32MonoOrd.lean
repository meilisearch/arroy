import ArroyProofs.F32Mono
import ArroyProofs.FloatOrd
import ArroyProofs.F32Order
/-! The float order `F32.le` on canonical result patterns and on unpacked operands (core Lean only):
`Out p v` says that `p` is a non-NaN result pattern (sign bit plus a pattern up to `+inf`) whose signed
pattern is the integer `v`; `F32.le` on such patterns is `≤` on the integers (`le_of_out`).
`leV` is `F32.le` on unpacked operands; `lift_mono` lifts a monotone function of the scaled signed
magnitude to a monotone operation. -/
namespace Arroy
namespace F32M
open SF F32L

/-- a pattern `P` up to `+inf` with the sign bit `neg` -/
def sp (neg : Bool) (P : Nat) : Nat := if neg then P + 2 ^ 31 else P
/-- its position in the order: the signed pattern -/
def sv (neg : Bool) (P : Nat) : Int := if neg then -(P : Int) else (P : Int)

/-- `p` is a non-NaN result pattern at position `v` of the order -/
def Out (p : Nat) (v : Int) : Prop := ∃ s P, p = sp s P ∧ P ≤ 0x7f800000 ∧ sv s P = v

theorem Out.bound {p : Nat} {v : Int} (h : Out p v) : -0x7f800000 ≤ v ∧ v ≤ 0x7f800000 := by
  obtain ⟨s, P, -, hP, rfl⟩ := h
  cases s <;> simp [sv] <;> omega

theorem out_infBits (a : Bool) : Out (infBits f32 a) (sv a 0x7f800000) := by
  refine ⟨a, 0x7f800000, ?_, Nat.le_refl _, rfl⟩
  cases a <;> decide

theorem out_zero (s : Bool) : Out (packBits f32 s 0 0) 0 := by
  refine ⟨s, 0, ?_, by omega, by cases s <;> rfl⟩
  cases s
  · rfl
  · show 2 ^ (f32.width - 1) + 0 * 2 ^ (f32.p - 1) + 0 = 0 + 2 ^ 31
    have : f32.width = 32 := rfl
    rw [this]
    simp only [Nat.zero_mul, Nat.add_zero, Nat.zero_add]

theorem out_roundPack (s : Bool) (m : Nat) (e : Int) (st : Bool) :
    Out (roundPack f32 s m e st) (sv s (RP m e st)) := by
  refine ⟨s, RP m e st, ?_, RP_le_inf m e st, rfl⟩
  cases s
  · simp only [sp, Bool.false_eq_true, if_false, RP]
  · simp only [sp, if_true]; exact roundPack_true m e st

theorem key_nonneg {x : Nat} (hx : x ≤ 0x7f800000) : 0 ≤ (SF.key f32 x).1 ∧ 0 ≤ (SF.key f32 x).2 := by
  unfold SF.key
  rcases Nat.lt_or_eq_of_le hx with h | h
  · have := unpack_pos x h
    have e : unpack f32 x = unpack F32.fmt x := rfl
    rw [e, this]
    split
    · exact ⟨Int.le_refl _, by simp only [V.mag, Bool.false_eq_true, if_false]; exact Int.natCast_nonneg _⟩
    · exact ⟨Int.le_refl _, by simp only [V.mag, Bool.false_eq_true, if_false]; exact Int.natCast_nonneg _⟩
  · subst h
    have : unpack f32 0x7f800000 = .inf false := unpack_inf
    rw [this]; simp [V.cls, V.mag]

theorem le_iff_key (a b : Nat) :
    F32.le a b = true ↔ (isNaN f32 a = false ∧ isNaN f32 b = false ∧ ¬ SF.klt (SF.key f32 b) (SF.key f32 a)) := by
  unfold F32.le SF.le
  constructor
  · intro h
    simp only [Bool.and_eq_true, Bool.not_eq_true'] at h
    obtain ⟨⟨h1, h2⟩, h3⟩ := h
    refine ⟨h1, h2, ?_⟩
    rw [← lt_iff_of_notNaN f32 b a h2 h1]
    simp [h3]
  · intro ⟨h1, h2, h3⟩
    rw [← lt_iff_of_notNaN f32 b a h2 h1] at h3
    have e1 : isNaN F32.fmt a = false := h1
    have e2 : isNaN F32.fmt b = false := h2
    have e3 : lt F32.fmt b a = false := by simpa using h3
    simp [e1, e2, e3]

theorem isNaN_sp (s : Bool) {P : Nat} (hP : P ≤ 0x7f800000) : isNaN f32 (sp s P) = false := by
  have h0 : isNaN f32 P = false := isNaN_false_of_le hP
  cases s
  · exact h0
  · rw [isNaN_false_iff] at h0 ⊢
    show (unpack f32 (P + 2 ^ 31)).notNaN
    have := unpack_add_sign P
    rw [show unpack f32 (P + 2 ^ 31) = unpack F32.fmt (P + 2 ^ 31) from rfl, this]
    exact notNaN_negV.2 h0

theorem key_sp_true {P : Nat} (hP : P ≤ 0x7f800000) :
    SF.key f32 (sp true P) = (-(SF.key f32 P).1, -(SF.key f32 P).2) := by
  have h0 : isNaN f32 P = false := isNaN_false_of_le hP
  rw [isNaN_false_iff] at h0
  unfold SF.key
  show ((unpack f32 (P + 2 ^ 31)).cls, (unpack f32 (P + 2 ^ 31)).mag f32.qmin) = _
  have := unpack_add_sign P
  rw [show unpack f32 (P + 2 ^ 31) = unpack F32.fmt (P + 2 ^ 31) from rfl, this]
  rw [cls_negV h0, mag_negV]

/-- **the float order on result patterns** is the order of the signed patterns -/
theorem le_of_out {p1 p2 : Nat} {v1 v2 : Int} (h1 : Out p1 v1) (h2 : Out p2 v2) (h : v1 ≤ v2) :
    F32.le p1 p2 = true := by
  obtain ⟨s1, P1, rfl, hP1, rfl⟩ := h1
  obtain ⟨s2, P2, rfl, hP2, rfl⟩ := h2
  obtain ⟨a1, a2⟩ := key_nonneg hP1
  obtain ⟨b1, b2⟩ := key_nonneg hP2
  have n1 : isNaN f32 P1 = false := isNaN_false_of_le hP1
  have n2 : isNaN f32 P2 = false := isNaN_false_of_le hP2
  cases s1 <;> cases s2
  · -- both non-negative
    have hle : P1 ≤ P2 := by simpa [sv] using h
    exact le_of_bits_le hle hP2
  · -- `P1 ≤ -P2`: both zero
    have : P1 = 0 ∧ P2 = 0 := by simp [sv] at h; omega
    obtain ⟨rfl, rfl⟩ := this
    rfl
  · rw [le_iff_key]
    refine ⟨isNaN_sp true hP1, isNaN_sp false hP2, ?_⟩
    rw [key_sp_true hP1]
    show ¬ SF.klt (SF.key f32 P2) _
    unfold SF.klt; simp only; omega
  · rw [le_iff_key]
    refine ⟨isNaN_sp true hP1, isNaN_sp true hP2, ?_⟩
    rw [key_sp_true hP1, key_sp_true hP2]
    have hle : P2 ≤ P1 := by simp [sv] at h; omega
    have := lt_false_of_bits_le hle hP1
    have e : lt f32 P1 P2 = false := this
    have hk : ¬ SF.klt (SF.key f32 P1) (SF.key f32 P2) := by
      rw [← lt_iff_of_notNaN f32 P1 P2 n1 n2]; simp [e]
    unfold SF.klt at hk ⊢; simp only at hk ⊢; omega

/-- `F32.le` on unpacked values -/
def leV (x y : V) : Prop := x.notNaN ∧ y.notNaN ∧ ltV y x = false

theorem le_iff_leV (a b : Nat) : F32.le a b = true ↔ leV (unpack f32 a) (unpack f32 b) := by
  have e : F32.le a b = (!(isNaN f32 a) && !(isNaN f32 b) && !(ltV (unpack f32 b) (unpack f32 a))) := rfl
  rw [e]
  unfold leV
  rw [← isNaN_false_iff, ← isNaN_false_iff]
  simp only [Bool.and_eq_true, Bool.not_eq_true']
  constructor
  · intro h; exact ⟨h.1.1, h.1.2, h.2⟩
  · intro h; exact ⟨⟨h.1, h.2.1⟩, h.2.2⟩

theorem ltV_negV (x y : V) (hx : x.notNaN) (hy : y.notNaN) : ltV (negV x) (negV y) = ltV y x := by
  rw [Bool.eq_iff_iff]
  -- a common exponent below all exponents involved
  have key : ∀ q, x.okExp q → y.okExp q → (ltV (negV x) (negV y) = true ↔ ltV y x = true) := by
    intro q ox oy
    have ox' : (negV x).okExp q := by cases x <;> simp_all [negV, V.okExp]
    have oy' : (negV y).okExp q := by cases y <;> simp_all [negV, V.okExp]
    rw [ltV_iff q _ _ ox' oy' (notNaN_negV.2 hx) (notNaN_negV.2 hy), ltV_iff q _ _ oy ox hy hx,
      cls_negV hx, cls_negV hy, mag_negV, mag_negV]
    omega
  cases x with
  | nan => exact absurd hx id
  | inf a =>
    cases y with
    | nan => exact absurd hy id
    | inf b => exact key 0 trivial trivial
    | fin n m e => exact key e trivial (by simp [V.okExp])
  | fin n1 m1 e1 =>
    cases y with
    | nan => exact absurd hy id
    | inf b => exact key e1 (by simp [V.okExp]) trivial
    | fin n2 m2 e2 =>
      exact key (Min.min e1 e2) (by simp [V.okExp]; omega) (by simp [V.okExp]; omega)

theorem leV_negV {x y : V} (h : leV x y) : leV (negV y) (negV x) := by
  obtain ⟨h1, h2, h3⟩ := h
  refine ⟨notNaN_negV.2 h2, notNaN_negV.2 h1, ?_⟩
  rw [ltV_negV x y h1 h2]; exact h3

theorem leV_fin {n1 n2 : Bool} {m1 m2 : Nat} {e1 e2 : Int} (h : leV (.fin n1 m1 e1) (.fin n2 m2 e2))
    (q : Int) (h1 : q ≤ e1) (h2 : q ≤ e2) :
    V.mag q (.fin n1 m1 e1) ≤ V.mag q (.fin n2 m2 e2) := by
  have := ltV_fin q n2 m2 e2 n1 m1 e1 h2 h1
  rw [h.2.2] at this
  have : ¬ (V.mag q (.fin n2 m2 e2) < V.mag q (.fin n1 m1 e1)) := fun hh => by
    have := this.2 hh; cases this
  omega

/-- rescaling the signed magnitude -/
theorem mag_scale (q q' : Int) (n : Bool) (m : Nat) (e : Int) (h1 : q ≤ q') (h2 : q' ≤ e) :
    V.mag q (.fin n m e) = V.mag q' (.fin n m e) * ((2 ^ ((q' - q).toNat) : Nat) : Int) := by
  have ha : m * 2 ^ ((e - q).toNat) = (m * 2 ^ ((e - q').toNat)) * 2 ^ ((q' - q).toNat) := by
    rw [Nat.mul_assoc, ← Nat.pow_add]; congr 2; omega
  simp only [V.mag]
  rw [ha]
  cases n <;> simp [Int.neg_mul]

/-- the odd extension of a function on magnitudes to signed magnitudes -/
def ext (g : Nat → Nat) (z : Int) : Int := if z < 0 then -(g z.natAbs : Int) else (g z.natAbs : Int)

theorem ext_mono (g : Nat → Nat) (hg : ∀ a b, a ≤ b → g a ≤ g b) {z1 z2 : Int} (h : z1 ≤ z2) :
    ext g z1 ≤ ext g z2 := by
  unfold ext
  by_cases h1 : z1 < 0
  · by_cases h2 : z2 < 0
    · rw [if_pos h1, if_pos h2]
      have := hg z2.natAbs z1.natAbs (by omega); omega
    · rw [if_pos h1, if_neg h2]; omega
  · have h2 : ¬ z2 < 0 := by omega
    rw [if_neg h1, if_neg h2]
    have := hg z1.natAbs z2.natAbs (by omega); omega

/-- the signed pattern of a result computed from the magnitude is the odd extension at the signed
magnitude (a zero magnitude must give the pattern `0`) -/
theorem sv_eq_ext (g : Nat → Nat) (h0 : g 0 = 0) (q : Int) (n : Bool) (m : Nat) (e : Int) :
    sv n (g (m * 2 ^ ((e - q).toNat))) = ext g (V.mag q (.fin n m e)) := by
  unfold sv ext
  cases n
  · simp only [V.mag, Bool.false_eq_true, if_false]
    generalize m * 2 ^ ((e - q).toNat) = M
    have : ¬ ((M : Int) < 0) := by omega
    rw [if_neg this, Int.natAbs_natCast]
  · simp only [V.mag, if_true]
    generalize m * 2 ^ ((e - q).toNat) = M
    rcases Nat.eq_zero_or_pos M with h | h
    · subst h; simp [h0]
    · have : (-(M : Int) < 0) := by omega
      rw [if_pos this, Int.natAbs_neg, Int.natAbs_natCast]

/-- an operation on unpacked values that passes infinities through and is, on finite values, a
monotone function `G E` of the signed magnitude at any common exponent `E ≤ E0`, is monotone -/
theorem lift_mono (op : V → Nat) (E0 : Int) (G : Int → Int → Int)
    (hinf : ∀ a, op (.inf a) = infBits f32 a)
    (hfin : ∀ n m e E, E ≤ e → E ≤ E0 → Out (op (.fin n m e)) (G E (V.mag E (.fin n m e))))
    (hG : ∀ E z1 z2, z1 ≤ z2 → G E z1 ≤ G E z2)
    {x y : V} (h : leV x y) : F32.le (op x) (op y) = true := by
  cases x with
  | nan => exact absurd h.1 id
  | inf a =>
    rw [hinf]
    cases y with
    | nan => exact absurd h.2.1 id
    | inf b =>
      rw [hinf]
      apply le_of_out (out_infBits a) (out_infBits b)
      have := h.2.2
      cases a <;> cases b <;> simp [ltV, sv] at this ⊢
    | fin n m e =>
      have ho := hfin n m e (Min.min e E0) (by omega) (by omega)
      apply le_of_out (out_infBits a) ho
      have := h.2.2
      cases a
      · simp [ltV] at this
      · have := ho.bound; simp [sv]; omega
  | fin n1 m1 e1 =>
    cases y with
    | nan => exact absurd h.2.1 id
    | inf b =>
      rw [hinf]
      have ho := hfin n1 m1 e1 (Min.min e1 E0) (by omega) (by omega)
      apply le_of_out ho (out_infBits b)
      have := h.2.2
      cases b
      · have := ho.bound; simp [sv]; omega
      · simp [ltV] at this
    | fin n2 m2 e2 =>
      have hE1 : Min.min (Min.min e1 e2) E0 ≤ e1 := by omega
      have hE2 : Min.min (Min.min e1 e2) E0 ≤ e2 := by omega
      have hE0 : Min.min (Min.min e1 e2) E0 ≤ E0 := by omega
      generalize Min.min (Min.min e1 e2) E0 = E at *
      exact le_of_out (hfin n1 m1 e1 E hE1 hE0) (hfin n2 m2 e2 E hE2 hE0) (hG E _ _ (leV_fin h E hE1 hE2))

end F32M
end Arroy
