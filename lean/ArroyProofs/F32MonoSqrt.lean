import ArroyProofs.F32MonoDiv
import ArroyProofs.F32SqrtSq
/-! Monotonicity of `F32.sqrt` on non-negative values (core Lean only): the integer square root with
its inexact flag is monotone (`sqrtKey_mono`), and the result does not depend on the exponent at
which the operand is written (`gsq_scale`, by `RP_coarsen`). -/
namespace Arroy
namespace F32M
open SF F32L

theorem sqrt_mono' {A B : Nat} (h : A ≤ B) : Nat.sqrt A ≤ Nat.sqrt B :=
  le_natSqrt (Nat.le_trans (Nat.sqrt_le A) h)

/-- the key `2·⌊√A⌋ + [A not a square]` is monotone in `A` -/
theorem sqrtKey_mono {A B : Nat} (h : A ≤ B) :
    2 * Nat.sqrt A + (Nat.sqrt A * Nat.sqrt A != A).toNat
      ≤ 2 * Nat.sqrt B + (Nat.sqrt B * Nat.sqrt B != B).toNat := by
  have hq := sqrt_mono' h
  have ha := Nat.sqrt_le A
  have hb := Nat.sqrt_le B
  have t1 : (Nat.sqrt A * Nat.sqrt A != A).toNat ≤ 1 := Bool.toNat_le _
  rcases Nat.lt_or_eq_of_le hq with hlt | heq
  · omega
  · rw [← heq] at hb ⊢
    by_cases h0 : Nat.sqrt A * Nat.sqrt A = A
    · simp [h0]
    · have h1 : Nat.sqrt A * Nat.sqrt A ≠ B := by omega
      have e1 : (Nat.sqrt A * Nat.sqrt A != A) = true := by simpa using h0
      have e2 : (Nat.sqrt A * Nat.sqrt A != B) = true := by simpa using h1
      rw [e1, e2]; omega

/-- `⌊√(4m)⌋` is `2⌊√m⌋` or `2⌊√m⌋ + 1`, the latter only if `m` is not a square -/
theorem sqrt_four (m : Nat) :
    Nat.sqrt (m * 4) / 2 = Nat.sqrt m ∧
    ((Nat.sqrt (m * 4) * Nat.sqrt (m * 4) != m * 4 || Nat.sqrt (m * 4) % 2 != 0)
      = (Nat.sqrt m * Nat.sqrt m != m)) := by
  have r1 := Nat.sqrt_le m
  have r2 : m < (Nat.sqrt m + 1) * (Nat.sqrt m + 1) := Nat.lt_succ_sqrt m
  have R1 := Nat.sqrt_le (m * 4)
  generalize Nat.sqrt m = r at *
  have lo : 2 * r ≤ Nat.sqrt (m * 4) := by
    apply le_natSqrt
    have : 2 * r * (2 * r) = r * r * 4 := by rw [Nat.mul_mul_mul_comm]; omega
    omega
  have hi : Nat.sqrt (m * 4) < 2 * r + 2 := by
    apply natSqrt_lt
    have : (2 * r + 2) * (2 * r + 2) = (r + 1) * (r + 1) * 4 := by
      have : 2 * r + 2 = 2 * (r + 1) := by omega
      rw [this, Nat.mul_mul_mul_comm]; omega
    omega
  generalize Nat.sqrt (m * 4) = R at *
  refine ⟨by omega, ?_⟩
  have hR : R = 2 * r ∨ R = 2 * r + 1 := by omega
  rcases hR with rfl | rfl
  · have e : 2 * r * (2 * r) = r * r * 4 := by rw [Nat.mul_mul_mul_comm]; omega
    rw [e]
    have : 2 * r % 2 = 0 := by omega
    rw [this]
    rw [Bool.eq_iff_iff]
    simp only [Bool.or_eq_true, bne_iff_ne, ne_eq, not_true_eq_false, or_false]
    omega
  · have e : (2 * r + 1) * (2 * r + 1) = r * r * 4 + 4 * r + 1 := by
      rw [sq_expand, Nat.mul_mul_mul_comm]; omega
    rw [e] at R1 ⊢
    have : (2 * r + 1) % 2 = 1 := by omega
    rw [this]
    rw [Bool.eq_iff_iff]
    simp only [Bool.or_eq_true, bne_iff_ne, ne_eq]
    constructor
    · intro _; omega
    · intro _; right; decide

/-- operand of the integer square root: even exponent, at least 52 extra bits -/
def sqArg (e : Int) (m : Nat) : Nat × Int :=
  if (e - 52) % 2 = 0 then (m * 2 ^ 52, e - 52) else (m * 2 ^ 53, e - 53)

/-- rounded square root of `m'·2^e'` (`e'` even) -/
def sqS (m' : Nat) (e' : Int) : Nat :=
  RP (Nat.sqrt m') (e' / 2) (Nat.sqrt m' * Nat.sqrt m' != m')

/-- rounded square root of the magnitude `M·2^E` -/
def gsq (E : Int) (M : Nat) : Nat := sqS (sqArg E M).1 (sqArg E M).2

theorem sqS_four (m' : Nat) (e' : Int) (hm : 2 ^ 48 ≤ m') (he : e' % 2 = 0) :
    sqS (m' * 4) (e' - 2) = sqS m' e' := by
  unfold sqS
  obtain ⟨h1, h2⟩ := sqrt_four m'
  have hbig : 2 ^ 24 ≤ Nat.sqrt (m' * 4) / 2 ^ 1 := by
    rw [show (2 : Nat) ^ 1 = 2 from rfl, h1]
    apply le_natSqrt
    have : (2 : Nat) ^ 24 * 2 ^ 24 = 2 ^ 48 := by decide
    omega
  rw [RP_coarsen _ 1 _ _ hbig]
  rw [show (2 : Nat) ^ 1 = 2 from rfl, h1, h2]
  have : (e' - 2) / 2 + ((1 : Nat) : Int) = e' / 2 := by omega
  rw [this]

theorem gsq_zero (E : Int) : gsq E 0 = 0 := by
  unfold gsq sqS sqArg
  split <;> simp only [Nat.zero_mul] <;> exact RP_zero _ _

theorem gsq_mono (E : Int) {M1 M2 : Nat} (h : M1 ≤ M2) : gsq E M1 ≤ gsq E M2 := by
  unfold gsq sqS sqArg
  split
  · exact RP_mono _ _ _ _ _ (sqrtKey_mono (Nat.mul_le_mul_right _ h))
  · exact RP_mono _ _ _ _ _ (sqrtKey_mono (Nat.mul_le_mul_right _ h))

theorem gsq_step (e : Int) (m : Nat) (hm : 0 < m) : gsq (e - 1) (m * 2) = gsq e m := by
  unfold gsq sqArg
  by_cases h : (e - 52) % 2 = 0
  · have h' : ¬ ((e - 1 - 52) % 2 = 0) := by omega
    rw [if_pos h, if_neg h']
    simp only
    have e1 : m * 2 * 2 ^ 53 = m * 2 ^ 52 * 4 := by omega
    have e2 : e - 1 - 53 = e - 52 - 2 := by omega
    rw [e1, e2]
    exact sqS_four _ _ (by omega) h
  · have h' : (e - 1 - 52) % 2 = 0 := by omega
    rw [if_neg h, if_pos h']
    simp only
    have e1 : m * 2 * 2 ^ 52 = m * 2 ^ 53 := by omega
    have e2 : e - 1 - 52 = e - 53 := by omega
    rw [e1, e2]

/-- the rounded square root does not depend on the exponent at which the operand is written -/
theorem gsq_scale (m : Nat) (hm : 0 < m) (e : Int) : ∀ d : Nat, gsq (e - d) (m * 2 ^ d) = gsq e m := by
  intro d
  induction d with
  | zero => simp
  | succ d ih =>
    have e1 : m * 2 ^ (d + 1) = m * 2 ^ d * 2 := by rw [Nat.pow_succ, Nat.mul_assoc]
    have e2 : e - ((d + 1 : Nat) : Int) = e - (d : Int) - 1 := by omega
    rw [e1, e2, gsq_step _ _ (Nat.mul_pos hm (Nat.two_pow_pos _)), ih]

/-- the odd extension of `SF.sqrt` to unpacked operands (agrees with it on non-negative values) -/
def sqrtV' (x : V) : Nat :=
  match x with
  | .nan => qnan f32
  | .inf s => infBits f32 s
  | .fin s m e => if m = 0 then packBits f32 s 0 0 else
      roundPack f32 s (Nat.sqrt (sqArg e m).1) ((sqArg e m).2 / 2)
        (Nat.sqrt (sqArg e m).1 * Nat.sqrt (sqArg e m).1 != (sqArg e m).1)

theorem sqrtV'_out (n : Bool) (m : Nat) (e E : Int) (hE : E ≤ e) :
    Out (sqrtV' (.fin n m e)) (ext (gsq E) (V.mag E (.fin n m e))) := by
  rw [← sv_eq_ext _ (gsq_zero E)]
  by_cases hm : m = 0
  · subst hm
    simp only [sqrtV', if_true, Nat.zero_mul, gsq_zero]
    have : sv n 0 = 0 := by cases n <;> rfl
    rw [this]
    exact out_zero _
  · simp only [sqrtV', if_neg hm]
    have hs := gsq_scale m (Nat.pos_of_ne_zero hm) e (e - E).toNat
    have : e - (((e - E).toNat : Nat) : Int) = E := by omega
    rw [this] at hs
    rw [hs]
    exact out_roundPack _ _ _ _

theorem sqrtV'_mono {x y : V} (h : leV x y) : F32.le (sqrtV' x) (sqrtV' y) = true := by
  apply lift_mono sqrtV' 0 (fun E z => ext (gsq E) z) _ _ _ h
  · intro a; rfl
  · intro n m e E h1 _
    exact sqrtV'_out n m e E h1
  · intro E z1 z2 hz
    exact ext_mono _ (fun a b hab => gsq_mono E hab) hz

/-- non-negative: `+inf`, or finite with a clear sign bit or a zero significand (`-0.0`) -/
def nonnegV : V → Prop
  | .nan => False
  | .inf s => s = false
  | .fin n m _ => n = false ∨ m = 0

theorem nonnegV_of_le {a : Nat} (h : F32.le F32.zero a = true) : nonnegV (unpack f32 a) := by
  rw [le_iff_leV] at h
  have hz : unpack f32 F32.zero = .fin false 0 (-149) := unpack_zero
  rw [hz] at h
  cases hu : unpack f32 a with
  | nan => rw [hu] at h; exact absurd h.2.1 id
  | inf s =>
    rw [hu] at h
    have := h.2.2
    cases s
    · rfl
    · simp [ltV] at this
  | fin n m e =>
    rw [hu] at h
    have := leV_fin h (Min.min e (-149)) (by omega) (by omega)
    cases n
    · exact Or.inl rfl
    · right
      simp only [V.mag, Bool.false_eq_true, if_false, if_true, Nat.zero_mul] at this
      have h0 : m * 2 ^ ((e - Min.min e (-149)).toNat) = 0 := by omega
      rcases Nat.mul_eq_zero.mp h0 with h1 | h1
      · exact h1
      · have := Nat.two_pow_pos ((e - Min.min e (-149)).toNat); omega

theorem sqrt_eq_sqrtV' {a : Nat} (h : nonnegV (unpack f32 a)) : F32.sqrt a = sqrtV' (unpack f32 a) := by
  cases hu : unpack f32 a with
  | nan => rw [hu] at h; exact absurd h id
  | inf s =>
    rw [hu] at h
    have hs : s = false := h
    subst hs
    unfold F32.sqrt SF.sqrt
    rw [show unpack F32.fmt a = unpack f32 a from rfl, hu]
    rfl
  | fin n m e =>
    rw [hu] at h
    by_cases hm : m = 0
    · subst hm
      unfold F32.sqrt SF.sqrt
      rw [show unpack F32.fmt a = unpack f32 a from rfl, hu]
      simp [sqrtV']
    · have hn : n = false := by
        rcases h with h | h
        · exact h
        · exact absurd h hm
      subst hn
      simp only [sqrtV', if_neg hm, sqArg]
      by_cases hp : (e - 52) % 2 = 0
      · rw [sqrt_even a m e hu hm hp]
        simp only [if_pos hp]
      · rw [sqrt_odd a m e hu hm (by omega)]
        simp only [if_neg hp]

/-- **`sqrt` is monotone** on non-negative values (`-0.0`, `+0.0`, positive finite, `+inf`) -/
theorem sqrt_mono {a b : Nat} (h0 : F32.le F32.zero a = true) (h : F32.le a b = true) :
    F32.le (F32.sqrt a) (F32.sqrt b) = true := by
  have hb := nonnegV_of_le (le_trans h0 h)
  rw [sqrt_eq_sqrtV' (nonnegV_of_le h0), sqrt_eq_sqrtV' hb]
  exact sqrtV'_mono ((le_iff_leV a b).1 h)

/-- the square root of a non-negative value is a non-negative number (never NaN) -/
theorem sqrt_nonneg {a : Nat} (h0 : F32.le F32.zero a = true) : F32.le F32.zero (F32.sqrt a) = true := by
  have := sqrt_mono (le_refl (a := F32.zero) (by decide)) h0
  have hz : F32.sqrt F32.zero = F32.zero := by decide +kernel
  rw [hz] at this
  exact this

end F32M
end Arroy
