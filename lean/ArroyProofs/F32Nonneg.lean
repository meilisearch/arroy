import ArroyProofs.F32MonoSqrt
import ArroyProofs.KernelLemmas
/-! The squared Euclidean distance of the model is never a negative number (core Lean only):
`NN x` — `x` is NaN or `0 ≤ x` — holds for `d*d`, is preserved by `+` and by `fma(d, d, ·)`, hence
holds for the result of each of the three kernels (`euclideanDistance_nn`), for all inputs. -/
namespace Arroy
namespace F32M
open SF F32L

/-- NaN or a non-negative number (`-0.0` included) -/
def NN (x : Nat) : Prop := F32.isNaN x = true ∨ F32.le F32.zero x = true

theorem nn_zero : NN F32.zero := Or.inr (by decide)
theorem nn_negZero : NN F32.negZero := Or.inr (by decide)

theorem nn_qnan : NN (qnan f32) := Or.inl (by decide)

theorem nn_of_le_inf {P : Nat} (h : P ≤ 0x7f800000) : NN P :=
  Or.inr (le_of_bits_le (Nat.zero_le _) h)

theorem nn_infBits : NN (infBits f32 false) := nn_of_le_inf (by decide)

theorem nn_roundPack (m : Nat) (e : Int) (st : Bool) : NN (roundPack f32 false m e st) :=
  nn_of_le_inf (RP_le_inf m e st)

theorem isNaN_unpack {x : Nat} (h : F32.isNaN x = false) : (unpack f32 x).notNaN :=
  (isNaN_false_iff f32 x).1 h

theorem unpack_of_isNaN {x : Nat} (h : F32.isNaN x = true) : unpack f32 x = .nan := by
  unfold F32.isNaN SF.isNaN at h
  cases hu : unpack f32 x <;> simp [show unpack F32.fmt x = unpack f32 x from rfl, hu] at h
  rfl

theorem nn_mul_self (d : Nat) : NN (F32.mul d d) := by
  unfold F32.mul SF.mul
  cases unpack F32.fmt d with
  | nan => exact nn_qnan
  | inf s => simp only [bne_self_eq_false]; exact nn_infBits
  | fin s m e => simp only [bne_self_eq_false]; exact nn_roundPack _ _ _

theorem mag_nonneg {n : Bool} {m : Nat} {e : Int} (h : nonnegV (.fin n m e)) (q : Int) :
    0 ≤ V.mag q (.fin n m e) := by
  simp only [V.mag]
  rcases h with h | h
  · subst h; simp only [Bool.false_eq_true, if_false]; exact Int.natCast_nonneg _
  · subst h; simp

theorem rs_nonneg (E : Int) {z : Int} (h : 0 ≤ z) : 0 ≤ rs E z := by
  have := rs_mono E h
  rw [rs_zero] at this
  exact this

theorem out_plusZero : Out F32.zero 0 := ⟨false, 0, rfl, by omega, rfl⟩

theorem nn_addV {x y : V} (hx : nonnegV x) (hy : nonnegV y) : NN (addV f32 x y) := by
  cases x with
  | nan => exact absurd hx id
  | inf a =>
    have ha : a = false := hx
    subst ha
    cases y with
    | nan => exact absurd hy id
    | inf b =>
      have hb : b = false := hy
      subst hb
      exact nn_infBits
    | fin n m e => exact nn_infBits
  | fin n1 m1 e1 =>
    cases y with
    | nan => exact absurd hy id
    | inf b =>
      have hb : b = false := hy
      subst hb
      exact nn_infBits
    | fin n2 m2 e2 =>
      have ho := addV_out n1 m1 e1 n2 m2 e2 (Min.min e1 e2) (by omega) (by omega)
      right
      apply le_of_out out_plusZero ho
      apply rs_nonneg
      have := mag_nonneg hx (Min.min e1 e2)
      have := mag_nonneg hy (Min.min e1 e2)
      omega

theorem nonnegV_of_nn {x : Nat} (h : NN x) (hn : F32.isNaN x = false) : nonnegV (unpack f32 x) := by
  rcases h with h | h
  · rw [hn] at h; cases h
  · exact nonnegV_of_le h

theorem nn_add {x y : Nat} (hx : NN x) (hy : NN y) : NN (F32.add x y) := by
  show NN (addV f32 (unpack f32 x) (unpack f32 y))
  by_cases h1 : F32.isNaN x = true
  · rw [unpack_of_isNaN h1]; exact nn_qnan
  · by_cases h2 : F32.isNaN y = true
    · rw [unpack_of_isNaN h2]
      cases unpack f32 x <;> exact nn_qnan
    · exact nn_addV (nonnegV_of_nn hx (by simpa using h1)) (nonnegV_of_nn hy (by simpa using h2))

theorem nn_fma_self (d : Nat) {c : Nat} (hc : NN c) : NN (F32.fma d d c) := by
  unfold F32.fma SF.fma
  by_cases h2 : F32.isNaN c = true
  · rw [show unpack F32.fmt c = unpack f32 c from rfl, unpack_of_isNaN h2]
    cases unpack F32.fmt d <;> exact nn_qnan
  · have hv := nonnegV_of_nn hc (by simpa using h2)
    rw [show unpack F32.fmt c = unpack f32 c from rfl]
    cases hd : unpack F32.fmt d with
    | nan => exact nn_qnan
    | inf s =>
      cases hu : unpack f32 c with
      | nan => rw [hu] at hv; exact absurd hv id
      | inf t =>
        rw [hu] at hv
        have ht : t = false := hv
        subst ht
        simp only [bne_self_eq_false, beq_self_eq_true, if_true]
        exact nn_infBits
      | fin u m3 e3 =>
        simp only [bne_self_eq_false]
        exact nn_infBits
    | fin s m e =>
      cases hu : unpack f32 c with
      | nan => rw [hu] at hv; exact absurd hv id
      | inf t =>
        rw [hu] at hv
        have ht : t = false := hv
        subst ht
        exact nn_infBits
      | fin u m3 e3 =>
        rw [hu] at hv
        simp only [bne_self_eq_false]
        have : NN (addV f32 (.fin false (m * m) (e + e)) (.fin u m3 e3)) :=
          nn_addV (Or.inl rfl) hv
        exact this

end F32M

namespace Kernel
variable {α : Type}

theorem zipWith3_pred (P : α → Prop) (step : α → α → α → α) (hs : ∀ a b c, P c → P (step a b c)) :
    ∀ (xs ys acc : List α), (∀ c ∈ acc, P c) → ∀ r ∈ zipWith3 step xs ys acc, P r := by
  intro xs
  induction xs with
  | nil => intro ys acc _ r hr; simp [zipWith3] at hr
  | cons x xs ih =>
    intro ys acc hacc r hr
    cases ys with
    | nil => simp [zipWith3] at hr
    | cons y ys =>
      cases acc with
      | nil => simp [zipWith3] at hr
      | cons c cs =>
        simp only [zipWith3, List.mem_cons] at hr
        rcases hr with rfl | hr
        · exact hs _ _ _ (hacc c (by simp))
        · exact ih ys cs (fun c' hc' => hacc c' (by simp [hc'])) r hr

theorem blockStep_pred (P : α → Prop) (lanes : Nat) (step : α → α → α → α)
    (hs : ∀ a b c, P c → P (step a b c)) (accs : List (List α)) (bu bv : List α)
    (h : ∀ acc ∈ accs, ∀ c ∈ acc, P c) :
    ∀ acc ∈ blockStep lanes step accs bu bv, ∀ c ∈ acc, P c := by
  intro acc hacc
  unfold blockStep at hacc
  obtain ⟨⟨j, a⟩, hja, rfl⟩ := List.mem_map.mp hacc
  have ha : a ∈ accs := (List.of_mem_zip hja).2
  exact zipWith3_pred P step hs _ _ a (h a ha)

theorem mainLoop_pred (P : α → Prop) (lanes : Nat) (step : α → α → α → α)
    (hs : ∀ a b c, P c → P (step a b c)) :
    ∀ (us vs accs : List (List α)), (∀ acc ∈ accs, ∀ c ∈ acc, P c) →
      ∀ acc ∈ mainLoop lanes step accs us vs, ∀ c ∈ acc, P c := by
  intro us
  induction us with
  | nil => intro vs accs h; simpa [mainLoop] using h
  | cons bu us ih =>
    intro vs accs h
    cases vs with
    | nil => simpa [mainLoop] using h
    | cons bv vs =>
      simp only [mainLoop]
      exact ih vs _ (blockStep_pred P lanes step hs accs bu bv h)

theorem foldl_zip_pred (P : α → Prop) (tail : α → α → α → α) (ht : ∀ r a b, P r → P (tail r a b)) :
    ∀ (l : List (α × α)) (r0 : α), P r0 → P (l.foldl (fun r (p : α × α) => tail r p.1 p.2) r0) := by
  intro l
  induction l with
  | nil => intro r0 h; exact h
  | cons p l ih => intro r0 h; exact ih _ (ht _ _ _ h)

theorem simd_pred (A : Arith α) (P : α → Prop) (lanes : Nat) (step : α → α → α → α) (hsum : List α → α)
    (tail : α → α → α → α) (h0 : P A.zero) (hadd : ∀ x y, P x → P y → P (A.add x y))
    (hs : ∀ a b c, P c → P (step a b c)) (hh : ∀ l, (∀ c ∈ l, P c) → P (hsum l))
    (ht : ∀ r a b, P r → P (tail r a b)) (u v : List α) : P (simd A lanes step hsum tail u v) := by
  unfold simd
  simp only
  apply foldl_zip_pred P tail ht
  have hacc := mainLoop_pred P lanes step hs
    (chunks (4 * lanes) (u.take (u.length - u.length % (4 * lanes))))
    (chunks (4 * lanes) (v.take (u.length - u.length % (4 * lanes))))
    (List.replicate 4 (List.replicate lanes A.zero))
    (by
      intro acc ha c hc
      rw [List.eq_of_mem_replicate ha] at hc
      rw [List.eq_of_mem_replicate hc]; exact h0)
  generalize mainLoop lanes step _ _ _ = accs at hacc
  have hL : ∀ x ∈ accs.map hsum, P x := by
    intro x hx
    obtain ⟨a, ha, rfl⟩ := List.mem_map.mp hx
    exact hh a (hacc a ha)
  generalize accs.map hsum = L at hL
  split
  · rename_i h1 h2 h3 h4
    exact hadd _ _ (hadd _ _ (hadd _ _ (hL h1 (by simp)) (hL h2 (by simp))) (hL h3 (by simp))) (hL h4 (by simp))
  · exact h0

theorem hsum128_pred (A : Arith α) (P : α → Prop) (h0 : P A.zero) (hadd : ∀ x y, P x → P y → P (A.add x y))
    (l : List α) (h : ∀ c ∈ l, P c) : P (hsum128 A l) := by
  unfold hsum128
  split
  · rename_i x0 x1 x2 x3
    exact hadd _ _ (hadd _ _ (h x0 (by simp)) (h x2 (by simp))) (hadd _ _ (h x1 (by simp)) (h x3 (by simp)))
  · exact h0

theorem hsum256_pred (A : Arith α) (P : α → Prop) (h0 : P A.zero) (hadd : ∀ x y, P x → P y → P (A.add x y))
    (l : List α) (h : ∀ c ∈ l, P c) : P (hsum256 A l) := by
  unfold hsum256
  split
  · rename_i x0 x1 x2 x3 x4 x5 x6 x7
    apply hsum128_pred A P h0 hadd
    intro c hc
    simp only [List.mem_cons, List.not_mem_nil, or_false] at hc
    rcases hc with rfl | rfl | rfl | rfl
    · exact hadd _ _ (h x4 (by simp)) (h x0 (by simp))
    · exact hadd _ _ (h x5 (by simp)) (h x1 (by simp))
    · exact hadd _ _ (h x6 (by simp)) (h x2 (by simp))
    · exact hadd _ _ (h x7 (by simp)) (h x3 (by simp))
  · exact h0

theorem foldl_pred (P : α → Prop) (add : α → α → α) (Q : α → Prop) (hadd : ∀ x y, P x → Q y → P (add x y)) :
    ∀ (l : List α) (r0 : α), P r0 → (∀ x ∈ l, Q x) → P (l.foldl add r0) := by
  intro l
  induction l with
  | nil => intro r0 h _; exact h
  | cons p l ih =>
    intro r0 h hl
    exact ih _ (hadd _ _ h (hl p (by simp))) (fun x hx => hl x (by simp [hx]))

end Kernel

namespace F32M
open Kernel

theorem exists_of_mem_zipWith {β : Type} (f : Nat → Nat → β) :
    ∀ (u v : List Nat) (x : β), x ∈ List.zipWith f u v → ∃ a b, x = f a b := by
  intro u
  induction u with
  | nil => intro v x hx; simp at hx
  | cons a u ih =>
    intro v x hx
    cases v with
    | nil => simp at hx
    | cons b v =>
      simp only [List.zipWith_cons_cons, List.mem_cons] at hx
      rcases hx with rfl | hx
      · exact ⟨a, b, rfl⟩
      · exact ih v x hx

theorem euclidScalar_nn (u v : List Nat) : NN (euclidScalar f32Arith u v) := by
  unfold euclidScalar
  apply foldl_pred NN _ NN (fun x y hx hy => nn_add hx hy) _ _ nn_negZero
  intro x hx
  obtain ⟨a, b, rfl⟩ := exists_of_mem_zipWith _ u v x hx
  exact nn_mul_self _

theorem euclidSse_nn (u v : List Nat) : NN (euclidSse f32Arith u v) := by
  apply simd_pred f32Arith NN 4 _ _ _ nn_zero (fun x y hx hy => nn_add hx hy)
  · intro a b c hc; exact nn_add (nn_mul_self _) hc
  · intro l hl; exact hsum128_pred f32Arith NN nn_zero (fun x y hx hy => nn_add hx hy) l hl
  · intro r a b hr; exact nn_add hr (nn_mul_self _)

theorem euclidAvx_nn (u v : List Nat) : NN (euclidAvx f32Arith u v) := by
  apply simd_pred f32Arith NN 8 _ _ _ nn_zero (fun x y hx hy => nn_add hx hy)
  · intro a b c hc; exact nn_fma_self _ hc
  · intro l hl; exact hsum256_pred f32Arith NN nn_zero (fun x y hx hy => nn_add hx hy) l hl
  · intro r a b hr; exact nn_add hr (nn_mul_self _)

/-- **the squared Euclidean distance is NaN or non-negative**, for every host and all inputs -/
theorem euclideanDistance_nn (h : Host) (u v : List Nat) : NN (euclideanDistance h u v) := by
  unfold euclideanDistance
  split
  · exact euclidAvx_nn u v
  · split
    · exact euclidSse_nn u v
    · exact euclidScalar_nn u v

end F32M
end Arroy
