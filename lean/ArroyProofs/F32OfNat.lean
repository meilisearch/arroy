import ArroyProofs.F32Mono
/-! `F32.ofNat` (`u32 as f32`) on bit patterns: it is the rounding `F32M.RP n 0 false`, so its closed
formula, its bounds and its monotonicity are those of `F32M.RP`. -/
namespace Arroy
namespace F32L
open SF F32M

theorem fmt_p : F32.fmt.p = 24 := rfl

theorem qOf_zero (n : Nat) : qOf f32 n 0 = (bitLen n : Int) - 24 := by
  rw [qOf_f32]; omega

/-- the rounded 24-bit significand of `n > 0` lies in `[2^23, 2^24]` (`2^24` = carry into the exponent) -/
theorem mantOf_zero_bounds {n : Nat} (h0 : 0 < n) : 2 ^ 23 ≤ mantOf n 0 false ∧ mantOf n 0 false ≤ 2 ^ 24 := by
  obtain ⟨b1, b2⟩ := mantOf_bounds h0 0 false
  exact ⟨b2 (by omega), b1⟩

theorem mantOf_zero_small {n : Nat} (hL : bitLen n ≤ 24) : mantOf n 0 false = n * 2 ^ (24 - bitLen n) := by
  unfold mantOf
  rw [qOf_zero, if_pos (by omega)]; congr 2; omega

/-- `n as f32`, as a bit pattern: exponent field and significand laid out as a number, capped at `+inf` -/
theorem ofNat_enc {n : Nat} (h0 : 0 < n) :
    F32.ofNat n = Min.min ((bitLen n + 125) * 2 ^ 23 + mantOf n 0 false) 0x7f800000 := by
  show RP n 0 false = _
  rw [RP_eq h0, encOf, qOf_zero]
  congr 3; omega

theorem ofNat_pos {n : Nat} (h0 : 0 < n) : 0 < F32.ofNat n := by
  rw [ofNat_enc h0]; omega

theorem ofNat_small (n : Nat) (h0 : 0 < n) (hL : bitLen n ≤ 24) :
    F32.ofNat n = (bitLen n + 126) * 2 ^ 23 + (n * 2 ^ (24 - bitLen n) - 2 ^ 23) := by
  have sb := mantOf_zero_bounds h0
  have hs := mantOf_zero_small hL
  rw [ofNat_enc h0, ← hs]
  omega

theorem ofNat_zero : F32.ofNat 0 = 0 := by decide

theorem ofNat_le_inf (n : Nat) : F32.ofNat n ≤ 0x7f800000 := RP_le_inf n 0 false

theorem ofNat_mono {a b : Nat} (hab : a ≤ b) : F32.ofNat a ≤ F32.ofNat b :=
  RP_mono 0 a b false false (by omega)

theorem enc_lt {La Lb sa sb : Nat} (hLb : Lb ≤ 24) (h : La < Lb ∨ (La = Lb ∧ sa < sb))
    (ha : sa < 2 ^ 24) (hb1 : 2 ^ 23 ≤ sb) :
    Min.min ((La + 125) * 2 ^ 23 + sa) 0x7f800000 < Min.min ((Lb + 125) * 2 ^ 23 + sb) 0x7f800000 := by
  omega

theorem ofNat_strict_mono {a b : Nat} (hab : a < b) (hb : b < 2 ^ 24) : F32.ofNat a < F32.ofNat b := by
  have hb0 : 0 < b := by omega
  have hLb : bitLen b ≤ 24 := bitLen_le hb
  have sb := mantOf_zero_bounds hb0
  rcases Nat.eq_zero_or_pos a with h | h
  · subst h; rw [ofNat_zero, ofNat_enc hb0]; omega
  · have hL := bitLen_mono h (Nat.le_of_lt hab)
    have hsa := mantOf_zero_small (show bitLen a ≤ 24 by omega)
    have hsb := mantOf_zero_small hLb
    -- no carry in the exact range
    have ha24 : mantOf a 0 false < 2 ^ 24 := by rw [hsa]; exact (shl_bitLen_bounds h (by omega)).2
    rw [ofNat_enc h, ofNat_enc hb0]
    apply enc_lt hLb _ ha24 sb.1
    rcases Nat.lt_or_eq_of_le hL with hlt | heq
    · exact Or.inl hlt
    · refine Or.inr ⟨heq, ?_⟩
      rw [hsa, hsb, heq]; exact Nat.mul_lt_mul_of_pos_right hab (Nat.two_pow_pos _)

end F32L
end Arroy
