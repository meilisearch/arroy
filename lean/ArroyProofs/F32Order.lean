import ArroyProofs.F32OfNat
/-! Non-negative binary32 bit patterns are ordered like their values (`F32.le` / `F32.lt`);
consequences for `F32.ofNat` and `f32::max(0.0)`; adding `2^31` to a pattern negates it. -/
namespace Arroy
namespace F32L
open SF

theorem unpack_pos (x : Nat) (hx : x < 0x7f800000) :
    SF.unpack F32.fmt x =
      if x / 2 ^ 23 = 0 then .fin false (x % 2 ^ 23) (-149)
      else .fin false (x % 2 ^ 23 + 2 ^ 23) (((x / 2 ^ 23 : Nat) : Int) - 150) := by
  have hu := SF.unpack_packBits F32.fmt (by decide) false (x / 2 ^ 23) (x % 2 ^ 23)
    (show x / 2 ^ 23 < 2 ^ 8 by omega) (Nat.mod_lt _ (Nat.two_pow_pos 23))
  have hx' : SF.packBits F32.fmt false (x / 2 ^ 23) (x % 2 ^ 23) = x := by
    show 0 + x / 2 ^ 23 * 2 ^ 23 + x % 2 ^ 23 = x
    omega
  obtain ⟨c1, c2, c3, c4, -⟩ := SF.f32_consts
  rw [hx', c1, c2, c3, c4, if_neg (by omega)] at hu
  rw [hu]
  split
  · rfl
  · congr 1; omega

/-- the value order of two finite non-negative patterns, in the form `ltV`/`exactAdd` use it -/
theorem scaled_le {x y : Nat} (hxy : x ≤ y) (hy : y < 0x7f800000) :
    ∀ mx ex my ey, SF.unpack F32.fmt x = .fin false mx ex → SF.unpack F32.fmt y = .fin false my ey →
      mx * 2 ^ ((ex - min ex ey).toNat) ≤ my * 2 ^ ((ey - min ex ey).toNat)
      ∧ (x < y → mx * 2 ^ ((ex - min ex ey).toNat) < my * 2 ^ ((ey - min ex ey).toNat)) := by
  intro mx ex my ey hux huy
  rw [unpack_pos x (by omega)] at hux
  rw [unpack_pos y hy] at huy
  have hdx := Nat.div_add_mod x (2 ^ 23)
  have hdy := Nat.div_add_mod y (2 ^ 23)
  have hq : x / 2 ^ 23 ≤ y / 2 ^ 23 := Nat.div_le_div_right hxy
  have hrx : x % 2 ^ 23 < 2 ^ 23 := Nat.mod_lt _ (by decide)
  have hry : y % 2 ^ 23 < 2 ^ 23 := Nat.mod_lt _ (by decide)
  generalize x / 2 ^ 23 = qx at *
  generalize y / 2 ^ 23 = qy at *
  generalize x % 2 ^ 23 = rx at *
  generalize y % 2 ^ 23 = ry at *
  by_cases hx0 : qx = 0
  · rw [if_pos hx0] at hux
    obtain ⟨-, rfl, rfl⟩ := V.fin.inj hux
    by_cases hy0 : qy = 0
    · rw [if_pos hy0] at huy
      obtain ⟨-, rfl, rfl⟩ := V.fin.inj huy
      have e0 : ((-149 : Int) - min (-149) (-149)).toNat = 0 := by omega
      rw [e0]; omega
    · rw [if_neg hy0] at huy
      obtain ⟨-, rfl, rfl⟩ := V.fin.inj huy
      have e0 : ((-149 : Int) - min (-149) ((qy : Int) - 150)).toNat = 0 := by omega
      have e1 : (((qy : Int) - 150) - min (-149) ((qy : Int) - 150)).toNat = qy - 1 := by omega
      rw [e0, e1]
      have := Nat.le_mul_of_pos_right (ry + 2 ^ 23) (Nat.two_pow_pos (qy - 1))
      omega
  · rw [if_neg hx0] at hux
    obtain ⟨-, rfl, rfl⟩ := V.fin.inj hux
    have hy0 : qy ≠ 0 := by omega
    rw [if_neg hy0] at huy
    obtain ⟨-, rfl, rfl⟩ := V.fin.inj huy
    have e0 : (((qx : Int) - 150) - min ((qx : Int) - 150) ((qy : Int) - 150)).toNat = 0 := by omega
    have e1 : (((qy : Int) - 150) - min ((qx : Int) - 150) ((qy : Int) - 150)).toNat = qy - qx := by omega
    rw [e0, e1]
    rcases Nat.lt_or_eq_of_le hq with hlt | heq
    · have h2 : 2 ^ 1 ≤ 2 ^ (qy - qx) := Nat.pow_le_pow_right (by decide) (by omega)
      have := Nat.mul_le_mul_left (ry + 2 ^ 23) h2
      omega
    · subst heq
      rw [Nat.sub_self]; omega

theorem isNaN_false_of_le {x : Nat} (hx : x ≤ 0x7f800000) : F32.isNaN x = false := by
  unfold F32.isNaN SF.isNaN
  rcases Nat.lt_or_eq_of_le hx with h | h
  · rw [unpack_pos x h]
    by_cases hq : x / 2 ^ 23 = 0
    · rw [if_pos hq]
    · rw [if_neg hq]
  · subst h; rfl

/-- non-negative bit patterns up to `+inf` are ordered like their values -/
theorem lt_false_of_bits_le {x y : Nat} (hxy : x ≤ y) (hy : y ≤ 0x7f800000) : F32.lt y x = false := by
  unfold F32.lt SF.lt
  rcases Nat.lt_or_eq_of_le hy with h | h
  · have ux := unpack_pos x (by omega)
    have uy := unpack_pos y h
    have hx' : ∃ mx ex, SF.unpack F32.fmt x = .fin false mx ex := by
      rw [ux]; split <;> exact ⟨_, _, rfl⟩
    have hy' : ∃ my ey, SF.unpack F32.fmt y = .fin false my ey := by
      rw [uy]; split <;> exact ⟨_, _, rfl⟩
    obtain ⟨mx, ex, hx'⟩ := hx'
    obtain ⟨my, ey, hy'⟩ := hy'
    have := (scaled_le hxy h mx ex my ey hx' hy').1
    rw [hx', hy']
    simp only [SF.ltV, SF.exactAdd, Bool.not_false, Bool.false_eq_true, if_false, if_true]
    rw [Int.min_comm] 
    generalize mx * 2 ^ ((ex - min ex ey).toNat) = a at *
    generalize my * 2 ^ ((ey - min ex ey).toNat) = b at *
    have : ¬ ((b : Int) + -(a : Int) < 0) := by omega
    simp [this]
  · subst h
    rw [unpack_inf]
    cases SF.unpack F32.fmt x <;> simp [SF.ltV]

theorem le_of_bits_le {x y : Nat} (hxy : x ≤ y) (hy : y ≤ 0x7f800000) : F32.le x y = true := by
  unfold F32.le SF.le
  have h1 := isNaN_false_of_le (x := x) (by omega)
  have h2 := isNaN_false_of_le hy
  have h3 := lt_false_of_bits_le hxy hy
  unfold F32.isNaN at h1 h2
  unfold F32.lt at h3
  simp [h1, h2, h3]

theorem lt_true_of_bits_lt {x y : Nat} (hxy : x < y) (hy : y ≤ 0x7f800000) : F32.lt x y = true := by
  unfold F32.lt SF.lt
  have ux := unpack_pos x (by omega)
  have hx' : ∃ mx ex, SF.unpack F32.fmt x = .fin false mx ex := by
    rw [ux]; by_cases hq : x / 2 ^ 23 = 0
    · rw [if_pos hq]; exact ⟨_, _, rfl⟩
    · rw [if_neg hq]; exact ⟨_, _, rfl⟩
  obtain ⟨mx, ex, hx'⟩ := hx'
  rcases Nat.lt_or_eq_of_le hy with h | h
  · have uy := unpack_pos y h
    have hy' : ∃ my ey, SF.unpack F32.fmt y = .fin false my ey := by
      rw [uy]; by_cases hq : y / 2 ^ 23 = 0
      · rw [if_pos hq]; exact ⟨_, _, rfl⟩
      · rw [if_neg hq]; exact ⟨_, _, rfl⟩
    obtain ⟨my, ey, hy'⟩ := hy'
    have := (scaled_le (Nat.le_of_lt hxy) h mx ex my ey hx' hy').2 hxy
    rw [hx', hy']
    simp only [SF.ltV, SF.exactAdd, Bool.not_false, Bool.false_eq_true, if_false, if_true]
    generalize mx * 2 ^ ((ex - min ex ey).toNat) = a at *
    generalize my * 2 ^ ((ey - min ex ey).toNat) = b at *
    have h1 : ((a : Int) + -(b : Int) < 0) := by omega
    have h2 : ((a : Int) + -(b : Int)).natAbs ≠ 0 := by omega
    simp [h1, h2]
  · subst h
    rw [unpack_inf, hx']
    simp [SF.ltV]

theorem ofNat_le {a b : Nat} (hab : a ≤ b) : F32.le (F32.ofNat a) (F32.ofNat b) = true :=
  le_of_bits_le (ofNat_mono hab) (ofNat_le_inf b)

theorem ofNat_lt {a b : Nat} (hab : a < b) (hb : b < 2 ^ 24) :
    F32.lt (F32.ofNat a) (F32.ofNat b) = true :=
  lt_true_of_bits_lt (ofNat_strict_mono hab hb) (ofNat_le_inf b)

theorem ofNat_not_nan (n : Nat) : F32.isNaN (F32.ofNat n) = false :=
  isNaN_false_of_le (ofNat_le_inf n)

theorem max_ofNat_zero (n : Nat) : F32.max (F32.ofNat n) F32.zero = F32.ofNat n := by
  have h1 := ofNat_not_nan n
  have h2 : F32.isNaN F32.zero = false := by decide
  have h3 : F32.lt (F32.ofNat n) F32.zero = false :=
    lt_false_of_bits_le (x := F32.zero) (Nat.zero_le _) (ofNat_le_inf n)
  unfold F32.isNaN at h1 h2
  unfold F32.lt at h3
  unfold F32.max SF.max
  simp [h1, h2, h3]

theorem mul_comm (a b : Nat) : F32.mul a b = F32.mul b a := SF.mul_comm _ a b

theorem signW_f32 : SF.signW F32.fmt = 2 ^ 31 := by decide

theorem unpack_add_sign (a : Nat) :
    SF.unpack F32.fmt (a + 2 ^ 31) = SF.negV (SF.unpack F32.fmt a) := by
  have h := SF.unpack_add_signW F32.fmt (Nat.le_of_ble_eq_true rfl) a
  rw [signW_f32] at h
  exact h

theorem neg_pos (a : Nat) (ha : a < 2 ^ 31) : SF.neg F32.fmt a = a + 2 ^ 31 := by
  unfold SF.neg
  rw [SF.f32_consts.2.2.2.2]
  have : (a / 2 ^ (32 - 1) % 2 == 1) = false := by
    have : a / 2 ^ (32 - 1) % 2 = 0 := by omega
    simp [this]
  simp only [this, Bool.false_eq_true, if_false]

end F32L
end Arroy
