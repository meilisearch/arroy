import ArroyProofs.SoftFloatRealDiv
import ArroyProofs.F32StdModel
import ArroyProofs.F32MonoOps
import ArroyProofs.BQCosine
import Mathlib.Tactic.NormNum
/-! `F32.lt` on finite values is `<` of the real values (`SFR.toReal`); small integers convert exactly;
strict monotonicity of the binary-quantised cosine distance `(1 − (D − 2h)/D)/2` in `h` for `D ≤ 2^21`
from the standard model of binary32 arithmetic (relative error `2^-24` per operation: two different `h`
change the exact value by at least `2/D ≥ 16·2^-24`, the three roundings by less). -/
namespace Arroy
namespace SFR
open SF

theorem mag_real (q : Int) (n : Bool) (m : Nat) (e : Int) (h : q ≤ e) :
    ((V.mag q (.fin n m e) : Int) : ℝ) * (2 : ℝ) ^ q = sgn n * (m : ℝ) * (2 : ℝ) ^ e := by
  have hp := pow_toNat_mul e q h
  simp only [V.mag]
  cases n
  · simp only [Bool.false_eq_true, if_false, sgn]
    push_cast
    rw [← hp]; ring
  · simp only [if_true, sgn]
    push_cast
    rw [← hp]; ring

theorem lt_iff_toReal (a b : Nat) (ha : Finite a) (hb : Finite b) :
    F32.lt a b = true ↔ toReal a < toReal b := by
  obtain ⟨s, m1, e1, hua⟩ := (finite_iff a).1 ha
  obtain ⟨t, m2, e2, hub⟩ := (finite_iff b).1 hb
  have e : F32.lt a b = ltV (unpack f32 a) (unpack f32 b) := rfl
  rw [e, hua, hub, ltV_fin (Min.min e1 e2) s m1 e1 t m2 e2 (by omega) (by omega),
    toReal_of_unpack hua, toReal_of_unpack hub,
    ← mag_real (Min.min e1 e2) s m1 e1 (by omega), ← mag_real (Min.min e1 e2) t m2 e2 (by omega)]
  have hE := two_zpow_pos (Min.min e1 e2)
  rw [mul_lt_mul_iff_of_pos_right hE]
  exact Int.cast_lt.symm

theorem finite_zero : Finite 0 := by decide

/-- an integer of at most 24 bits is converted exactly, with either sign -/
theorem toReal_roundPack_small (s : Bool) {a : Nat} (h0 : 0 < a) (ha : a < 2 ^ 24) :
    Finite (roundPack f32 s a 0 false) ∧ toReal (roundPack f32 s a 0 false) = sgn s * (a : ℝ) := by
  have h1 := (bitLen_bounds h0).1
  have hL := bitLen_le ha
  have hu := roundPack_exact s a 0 false h0 hL (by omega) (by omega)
  refine ⟨finite_of_unpack hu, ?_⟩
  rw [toReal_of_unpack hu]
  push_cast
  rw [mul_assoc, mul_assoc, ← zpow_natCast, ← zpow_add₀ two_ne_zero,
    show ((24 - bitLen a : Nat) : Int) + (0 + (bitLen a : Int) - 24) = 0 by omega, zpow_zero, mul_one]

theorem toReal_ofNat {n : Nat} (hn : n < 2 ^ 24) : Finite (F32.ofNat n) ∧ toReal (F32.ofNat n) = n := by
  rcases Nat.eq_zero_or_pos n with h | h0
  · subst h
    rw [F32L.ofNat_zero]
    refine ⟨finite_zero, ?_⟩
    show toReal F32.zero = ((0 : Nat) : ℝ)
    rw [toReal_zero]; simp
  · have := toReal_roundPack_small false h0 hn
    rw [show sgn false = 1 from rfl, one_mul] at this
    exact this

theorem vReal_negV (v : V) : vReal (negV v) = - vReal v := by
  cases v with
  | nan => simp [negV, vReal]
  | inf a => simp [negV, vReal]
  | fin n m e => simp only [negV, vReal, sgn_not]; ring

theorem toReal_neg (x : Nat) : toReal (F32.neg x) = - toReal x := by
  unfold toReal
  rw [F32M.unpack_neg, vReal_negV]

theorem finite_neg {x : Nat} (h : Finite x) : Finite (F32.neg x) := by
  obtain ⟨n, m, e, hu⟩ := (finite_iff x).1 h
  have : unpack f32 (F32.neg x) = .fin (!n) m e := by rw [F32M.unpack_neg, hu]; rfl
  exact finite_of_unpack this

theorem toReal_ofInt {i : Int} (hi : i.natAbs < 2 ^ 24) :
    Finite (F32.ofInt i) ∧ toReal (F32.ofInt i) = i := by
  rcases Nat.eq_zero_or_pos i.natAbs with h | h0
  · obtain rfl : i = 0 := by omega
    exact toReal_ofNat (n := 0) (by decide)
  · rw [F32L.ofInt_eq, ← sgn_natAbs]
    exact toReal_roundPack_small _ h0 hi

theorem toReal_one : Finite F32.one ∧ toReal F32.one = 1 := by
  refine ⟨finite_of_unpack unpack_one, ?_⟩
  rw [toReal_of_unpack unpack_one]
  simp only [sgn, Bool.false_eq_true, if_false, one_mul]
  rw [show ((-23 : Int)) = -((23 : Nat) : Int) from rfl, zpow_neg, zpow_natCast]
  norm_num

theorem toReal_two : Finite F32.two ∧ toReal F32.two = 2 := by
  refine ⟨finite_of_unpack unpack_two, ?_⟩
  rw [toReal_of_unpack unpack_two]
  simp only [sgn, Bool.false_eq_true, if_false, one_mul]
  rw [show ((-22 : Int)) = -((22 : Nat) : Int) from rfl, zpow_neg, zpow_natCast]
  norm_num

theorem u_eq : u = 1 / 16777216 := by
  unfold u
  rw [show ((-24 : Int)) = -((24 : Nat) : Int) from rfl, zpow_neg, zpow_natCast]
  norm_num

theorem normalRange_of_bounds {r : ℝ} (h1 : 1 / 1073741824 ≤ |r|) (h2 : |r| ≤ 4) : NormalRange r :=
  ⟨le_trans (by norm_num) h1, lt_of_le_of_lt h2 (by norm_num)⟩

theorem two_u_le_one : 2 * u ≤ 1 := by rw [u_eq]; norm_num
theorem u_le_one : u ≤ 1 := by linarith only [two_u_le_one, u_nonneg]

/-- a positive real number between `2^-30 = u/64` and `4` is in the normal range -/
theorem normalRange_of_pos {r : ℝ} (h1 : u ≤ 64 * r) (h2 : r ≤ 4) : NormalRange r := by
  have hr : 0 < r := by linarith only [h1, u_pos]
  rw [u_eq] at h1
  exact normalRange_of_bounds (by rw [abs_of_pos hr]; linarith only [h1]) (by rwa [abs_of_pos hr])

theorem two_uu_le : 2 * (u * u) ≤ u := by
  have := mul_le_mul_of_nonneg_right two_u_le_one u_nonneg
  linarith only [this]

theorem round_between {x lo hi δ : ℝ} (hlo : 0 ≤ lo) (hδ : |δ| ≤ u) (h1 : lo ≤ x) (h2 : x ≤ hi) :
    lo * (1 - u) ≤ x * (1 + δ) ∧ x * (1 + δ) ≤ hi * (1 + u) := by
  obtain ⟨d1, d2⟩ := abs_le.mp hδ
  have hx : 0 ≤ x := hlo.trans h1
  have := u_le_one
  exact ⟨mul_le_mul h1 (by linarith) (by linarith) hx,
    mul_le_mul h2 (by linarith) (by linarith) (hx.trans h2)⟩

theorem one_sub_round {X δ : ℝ} (hX0 : 0 ≤ X) (hX2 : X ≤ 2) (hδ : |δ| ≤ u) :
    X - u ≤ 1 - (1 - X) * (1 + δ) ∧ 1 - (1 - X) * (1 + δ) ≤ X + u := by
  have h1 : |(1 - X) * δ| ≤ 1 * u := by
    rw [abs_mul]
    exact mul_le_mul (abs_le.2 ⟨by linarith, by linarith⟩) hδ (abs_nonneg _) zero_le_one
  obtain ⟨a, b⟩ := abs_le.mp h1
  constructor <;> linarith

/-- the intermediate results `t ≈ X` and `s ≈ t·(1 ± u)` of the cosine formula, `16u ≤ X ≤ 2`, stay in
the normal range (`u` is kept symbolic: only `0 ≤ u ≤ 1/2` matters) -/
theorem stage_range_sub {X t : ℝ} (hX1 : 16 * u ≤ X) (hX2 : X ≤ 2) (t1 : X - u ≤ t) (t2 : t ≤ X + u) :
    NormalRange t :=
  normalRange_of_pos (by linarith only [hX1, t1, u_nonneg]) (by linarith only [hX2, t2, u_le_one])

theorem stage_range_half {X s : ℝ} (hX1 : 16 * u ≤ X) (hX2 : X ≤ 2)
    (s1 : (X - u) * (1 - u) ≤ s) (s2 : s ≤ (X + u) * (1 + u)) : NormalRange (s / 2) := by
  have a1 : 15 * u * (1 - u) ≤ (X - u) * (1 - u) :=
    mul_le_mul_of_nonneg_right (by linarith only [hX1]) (sub_nonneg.2 u_le_one)
  have a2 : (X + u) * (1 + u) ≤ (2 + u) * (1 + u) :=
    mul_le_mul_of_nonneg_right (by linarith only [hX2]) (by linarith only [u_nonneg])
  have uu := two_uu_le
  exact normalRange_of_pos (by linarith only [a1, s1, uu, u_nonneg])
    (by linarith only [a2, s2, uu, two_u_le_one])

/-- consecutive arguments `X = 2h/D`, `D ≤ 2^21`, are at least `2/D ≥ 2^-20 = 16u` apart -/
theorem ratio_gap {D h h' : Nat} (hD0 : 0 < D) (hD : D ≤ 2 ^ 21) (hlt : h < h') :
    2 * (h : ℝ) / D + 16 * u ≤ 2 * (h' : ℝ) / D := by
  have hDr : (0 : ℝ) < D := by exact_mod_cast hD0
  have hDle : (D : ℝ) ≤ 2097152 := by exact_mod_cast hD
  have hh : (h : ℝ) + 1 ≤ h' := by exact_mod_cast hlt
  rw [u_eq, ← le_sub_iff_add_le', ← sub_div, le_div_iff₀ hDr]
  linarith only [hDle, hh]

theorem ratio_le_two {D h : Nat} (hD0 : 0 < D) (hle : h ≤ D) : 2 * (h : ℝ) / D ≤ 2 := by
  have hDr : (0 : ℝ) < D := by exact_mod_cast hD0
  have hh : (h : ℝ) ≤ D := by exact_mod_cast hle
  rw [div_le_iff₀ hDr]
  linarith only [hh]

/-- the three roundings of `(1 − (D − 2h)/D)/2`, `1 ≤ h ≤ D ≤ 2^21`: the quotient is within `u` of
`1 − X`, `X = 2h/D ≥ 2^-20`, hence `1 − ·` within `u` of `X`; then two factors `1 ± u` -/
theorem cosine_stage (D h : Nat) (hD0 : 0 < D) (hD : D ≤ 2 ^ 21) (h1 : 1 ≤ h) (h2 : h ≤ D) :
    Finite (F32.div (F32.sub F32.one (F32.div (F32.ofInt ((D : Int) - 2 * (h : Int))) (F32.ofNat D))) F32.two)
    ∧ (2 * (h : ℝ) / D - u) * (1 - u) / 2 * (1 - u) ≤
        toReal (F32.div (F32.sub F32.one (F32.div (F32.ofInt ((D : Int) - 2 * (h : Int))) (F32.ofNat D))) F32.two)
    ∧ toReal (F32.div (F32.sub F32.one (F32.div (F32.ofInt ((D : Int) - 2 * (h : Int))) (F32.ofNat D))) F32.two)
        ≤ (2 * (h : ℝ) / D + u) * (1 + u) / 2 * (1 + u) := by
  obtain ⟨fa, ra⟩ := toReal_ofInt (i := (D : Int) - 2 * (h : Int)) (by omega)
  obtain ⟨fb, rb⟩ := toReal_ofNat (n := D) (by omega)
  obtain ⟨f1, r1⟩ := toReal_one
  obtain ⟨f2, r2⟩ := toReal_two
  have hDr : (0 : ℝ) < D := by exact_mod_cast hD0
  have hDle : (D : ℝ) ≤ 2097152 := by exact_mod_cast hD
  have hX1 : 16 * u ≤ 2 * (h : ℝ) / D := by
    have := ratio_gap hD0 hD (Nat.lt_of_lt_of_le Nat.zero_lt_one h1)
    rwa [Nat.cast_zero, mul_zero, zero_div, zero_add] at this
  have hX2 : 2 * (h : ℝ) / D ≤ 2 := ratio_le_two hD0 h2
  have hX0 : 0 ≤ 2 * (h : ℝ) / D := by positivity
  have hb0 : toReal (F32.ofNat D) ≠ 0 := by rw [rb]; exact hDr.ne'
  have hw : toReal (F32.ofInt ((D : Int) - 2 * (h : Int))) / toReal (F32.ofNat D)
      = 1 - 2 * (h : ℝ) / D := by
    rw [ra, rb]; push_cast; rw [one_sub_div hDr.ne']
  -- the quotient `1 − X` is zero or at least `1/D` in absolute value, since `|D − 2h| ≥ 1`
  have hN1 : NormalOrZero (1 - 2 * (h : ℝ) / D) := by
    by_cases hz : (D : Int) - 2 * (h : Int) = 0
    · left
      have : 2 * (h : ℝ) = D := by exact_mod_cast (show 2 * (h : Int) = D by omega)
      rw [this, div_self hDr.ne', _root_.sub_self]
    · right
      have hi : (1 : ℝ) ≤ |(D : ℝ) - 2 * h| := by
        have := (Int.cast_le (R := ℝ)).2 (Int.one_le_abs hz)
        push_cast at this
        exact this
      apply normalRange_of_bounds
      · rw [one_sub_div hDr.ne', abs_div, abs_of_pos hDr]
        exact le_trans (one_div_le_one_div_of_le hDr (hDle.trans (by norm_num)))
          (div_le_div_of_nonneg_right hi hDr.le)
      · rw [abs_le]; constructor <;> linarith only [hX0, hX2]
  generalize 2 * (h : ℝ) / D = X at *
  obtain ⟨fq, δ, hδ, rq⟩ := div_std _ _ fa fb hb0 (hw ▸ hN1)
  -- `t = 1 − q` is within `u` of `X`
  obtain ⟨t1, t2⟩ := one_sub_round hX0 hX2 hδ
  have ht : toReal F32.one - toReal (F32.div (F32.ofInt ((D : Int) - 2 * (h : Int))) (F32.ofNat D))
      = 1 - (1 - X) * (1 + δ) := by rw [r1, rq, hw]
  generalize 1 - (1 - X) * (1 + δ) = t at *
  have hXu : 0 ≤ X - u := by linarith only [hX1, u_nonneg]
  obtain ⟨fs, ε, hε, rs⟩ := sub_std _ _ f1 fq (ht ▸ Or.inr (stage_range_sub hX1 hX2 t1 t2))
  rw [ht] at rs
  -- halving
  obtain ⟨s1, s2⟩ := round_between hXu hε t1 t2
  have hs : toReal (F32.sub F32.one (F32.div (F32.ofInt ((D : Int) - 2 * (h : Int))) (F32.ofNat D)))
      / toReal F32.two = t * (1 + ε) / 2 := by rw [rs, r2]
  generalize t * (1 + ε) = s at *
  have hN3 := stage_range_half hX1 hX2 s1 s2
  have h20 : toReal F32.two ≠ 0 := by rw [r2]; norm_num
  obtain ⟨fc, η, hη, rc⟩ := div_std _ _ fs f2 h20 (hs ▸ Or.inr hN3)
  rw [hs] at rc
  have hlo : 0 ≤ (X - u) * (1 - u) / 2 :=
    div_nonneg (mul_nonneg hXu (sub_nonneg.2 u_le_one)) zero_le_two
  rw [rc]
  exact ⟨fc, round_between hlo hη (div_le_div_of_nonneg_right s1 zero_le_two)
    (div_le_div_of_nonneg_right s2 zero_le_two)⟩

/-- two arguments `X₁ + 16u ≤ X₂` apart: the gap exceeds the three roundings -/
theorem strict_gap {X1 X2 : ℝ} (h2 : X2 ≤ 2) (h12 : X1 + 16 * u ≤ X2) :
    (X1 + u) * (1 + u) / 2 * (1 + u) < (X2 - u) * (1 - u) / 2 * (1 - u) := by
  rw [u_eq] at *
  linarith

/-- **strict monotonicity** of the three-rounding cosine formula in `h`, `D ≤ 2^21` -/
theorem cosine_strict (D h1 h2 : Nat) (hD0 : 0 < D) (hD : D ≤ 2 ^ 21) (h0 : 1 ≤ h1) (h : h1 < h2)
    (hh : h2 ≤ D) :
    F32.lt (F32.div (F32.sub F32.one (F32.div (F32.ofInt ((D : Int) - 2 * (h1 : Int))) (F32.ofNat D))) F32.two)
      (F32.div (F32.sub F32.one (F32.div (F32.ofInt ((D : Int) - 2 * (h2 : Int))) (F32.ofNat D))) F32.two)
      = true := by
  obtain ⟨f1, -, c1⟩ := cosine_stage D h1 hD0 hD h0 (by omega)
  obtain ⟨f2, b2, -⟩ := cosine_stage D h2 hD0 hD (by omega) hh
  rw [lt_iff_toReal _ _ f1 f2]
  exact lt_of_le_of_lt c1 (lt_of_lt_of_le
    (strict_gap (ratio_le_two hD0 hh) (ratio_gap hD0 hD h)) b2)

theorem cosine_pos (D h : Nat) (hD0 : 0 < D) (hD : D ≤ 2 ^ 21) (h1 : 1 ≤ h) (h2 : h ≤ D) :
    F32.lt 0 (F32.div (F32.sub F32.one (F32.div (F32.ofInt ((D : Int) - 2 * (h : Int))) (F32.ofNat D))) F32.two)
      = true := by
  obtain ⟨f2, b2, -⟩ := cosine_stage D h hD0 hD h1 h2
  rw [lt_iff_toReal _ _ finite_zero f2, show toReal 0 = 0 from toReal_zero]
  have hX : 0 < 2 * (h : ℝ) / D - u := by
    have := ratio_gap hD0 hD (Nat.lt_of_lt_of_le Nat.zero_lt_one h1)
    rw [Nat.cast_zero, mul_zero, zero_div, zero_add] at this
    linarith only [this, u_pos]
  have hu : 0 < 1 - u := by linarith only [two_u_le_one, u_pos]
  exact lt_of_lt_of_le (by positivity) b2

end SFR
end Arroy
