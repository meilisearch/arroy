import ArroyProofs.F32Order
/-! `sqrt(x * x) = x` in binary32 (no overflow / underflow) and `x / x = 1`: what makes the norm product
of the binary-quantised cosine exact. -/
namespace Arroy
namespace F32L
open SF

/-- `roundPack` of a positive value whose significand has `24 + j` bits (`j > 0`), normal result -/
theorem roundPack_shift (m : Nat) (e : Int) (st : Bool) (j : Nat) (hj : 0 < j)
    (hL : bitLen m = 24 + j) (hlo : 1 ≤ e + j + 150) (hhi : e + j + 150 < 254) :
    SF.roundPack F32.fmt false m e st = (e + j + 150).toNat * 2 ^ 23 + (roundMant m j st - 2 ^ 23)
    ∧ 2 ^ 23 ≤ roundMant m j st ∧ roundMant m j st ≤ 2 ^ 24 := by
  have h0 : 0 < m := by
    rcases Nat.eq_zero_or_pos m with h | h
    · subst h; simp [bitLen] at hL; omega
    · exact h
  obtain ⟨-, hlo', hhi'⟩ := bitLen_bounds h0
  rw [hL] at hlo' hhi'
  have hr := roundMant_range m j st (by rw [show 23 + j = 24 + j - 1 by omega]; exact hlo') hhi'
  have hq : qOf f32 m e = e + j := by rw [qOf_f32, hL]; omega
  have hm : F32M.mantOf m e st = roundMant m j st := by
    unfold F32M.mantOf
    rw [hq, if_neg (by omega)]; congr 1; omega
  refine ⟨?_, hr⟩
  show F32M.RP m e st = _
  rw [F32M.RP_eq h0, F32M.encOf, hq, hm]
  -- with the powers `2 ^ (24 + j)` in the context `omega` does not come back
  clear hlo' hhi' hm hq hL
  omega

theorem sq_expand (a : Nat) : (a + 1) * (a + 1) = a * a + 2 * a + 1 := by
  rw [Nat.add_mul, Nat.mul_add]; omega

theorem le_natSqrt {x N : Nat} (h : x * x ≤ N) : x ≤ Nat.sqrt N :=
  Nat.le_of_lt_succ (Nat.mul_self_lt_mul_self_iff.1 (Nat.lt_of_le_of_lt h (Nat.lt_succ_sqrt N)))

theorem natSqrt_lt {x N : Nat} (h : N < x * x) : Nat.sqrt N < x :=
  Nat.mul_self_lt_mul_self_iff.1 (Nat.lt_of_le_of_lt (Nat.sqrt_le N) h)

/-- if `W` is within `H < M` of `M²`, the square root of `4·W·Q²` lies within `Q` of `2·M·Q`, and
is not exact at the lower end: `(2M∓1)² = 4M² ∓ 4M + 1` leaves room for `4H` -/
theorem sqrt_near (M W H Q : Nat) (hQ : 0 < Q) (hH : H < M)
    (h1 : W ≤ M * M + H) (h2 : M * M ≤ W + H) :
    2 * (M * Q) ≤ Nat.sqrt (4 * W * (Q * Q)) + Q
    ∧ Nat.sqrt (4 * W * (Q * Q)) < 2 * (M * Q) + Q
    ∧ (Nat.sqrt (4 * W * (Q * Q)) + Q = 2 * (M * Q) →
        Nat.sqrt (4 * W * (Q * Q)) * Nat.sqrt (4 * W * (Q * Q)) ≠ 4 * W * (Q * Q)) := by
  have hA : (2 * M - 1) * (2 * M - 1) + 4 * M = 4 * (M * M) + 1 := by
    have := sq_expand (2 * M - 1)
    rw [show 2 * M - 1 + 1 = 2 * M by omega, Nat.mul_mul_mul_comm] at this
    omega
  have hB : (2 * M + 1) * (2 * M + 1) = 4 * (M * M) + 4 * M + 1 := by
    rw [sq_expand, Nat.mul_mul_mul_comm]; omega
  have hQQ : 0 < Q * Q := Nat.mul_pos hQ hQ
  have lo : (2 * M - 1) * Q * ((2 * M - 1) * Q) < 4 * W * (Q * Q) := by
    rw [Nat.mul_mul_mul_comm]
    exact Nat.mul_lt_mul_of_pos_right (by omega) hQQ
  have hi : Nat.sqrt (4 * W * (Q * Q)) < (2 * M + 1) * Q := by
    apply natSqrt_lt
    rw [Nat.mul_mul_mul_comm (2 * M + 1)]
    exact Nat.mul_lt_mul_of_pos_right (by omega) hQQ
  have e1 : (2 * M - 1) * Q + Q = 2 * (M * Q) := by
    rw [← Nat.succ_mul, show (2 * M - 1).succ = 2 * M by omega, Nat.mul_assoc]
  have e2 : (2 * M + 1) * Q = 2 * (M * Q) + Q := by
    rw [Nat.add_mul, Nat.mul_assoc, Nat.one_mul]
  refine ⟨?_, ?_, ?_⟩
  · rw [← e1]; exact Nat.add_le_add_right (le_natSqrt (Nat.le_of_lt lo)) Q
  · rw [← e2]; exact hi
  · intro h
    rw [← e1] at h
    rw [Nat.add_right_cancel h]
    exact Nat.ne_of_lt lo

/-- a number within half a unit of `M·2^j` rounds to `M`; at the lower end only with the sticky bit -/
theorem roundMant_near (M j r : Nat) (st : Bool) (hj : 0 < j) (hM : 0 < M)
    (lo : 2 * (M * 2 ^ (j - 1)) ≤ r + 2 ^ (j - 1)) (hi : r < 2 * (M * 2 ^ (j - 1)) + 2 ^ (j - 1))
    (htie : r + 2 ^ (j - 1) = 2 * (M * 2 ^ (j - 1)) → st = true) : roundMant r j st = M := by
  have hQ : 0 < 2 ^ (j - 1) := Nat.two_pow_pos _
  have ha : 2 ^ (j - 1) ≤ M * 2 ^ (j - 1) := Nat.le_mul_of_pos_left _ hM
  have e3 : 2 * 2 ^ (j - 1) * M = 2 * (M * 2 ^ (j - 1)) := by
    rw [Nat.mul_assoc, Nat.mul_comm (2 ^ (j - 1))]
  have e4 : 2 * 2 ^ (j - 1) * (M - 1) + 2 * 2 ^ (j - 1) = 2 * (M * 2 ^ (j - 1)) := by
    rw [← Nat.mul_succ, show (M - 1).succ = M by omega, e3]
  unfold roundMant
  rw [two_pow_pred hj]
  generalize M * 2 ^ (j - 1) = a at *
  generalize 2 ^ (j - 1) = Q at *
  by_cases hge : 2 * a ≤ r
  · obtain ⟨dq, dr⟩ := (Nat.div_mod_unique (show 0 < 2 * Q by omega)).2
      ⟨show r - 2 * a + 2 * Q * M = r by omega, show r - 2 * a < 2 * Q by omega⟩
    rw [dq, dr, if_neg]
    simp only [Bool.or_eq_true, Bool.and_eq_true, decide_eq_true_eq, beq_iff_eq, not_or, not_and]
    omega
  · obtain ⟨dq, dr⟩ := (Nat.div_mod_unique (show 0 < 2 * Q by omega)).2
      ⟨show r + 2 * Q - 2 * a + 2 * Q * (M - 1) = r by omega, show r + 2 * Q - 2 * a < 2 * Q by omega⟩
    rw [dq, dr, if_pos, Nat.sub_add_cancel hM]
    by_cases hrl : r + Q = 2 * a
    · rw [htie hrl]
      simp only [Bool.or_eq_true, Bool.and_eq_true, decide_eq_true_eq, beq_iff_eq, Bool.true_or, and_true]
      omega
    · simp only [Bool.or_eq_true, Bool.and_eq_true, decide_eq_true_eq, beq_iff_eq]
      omega

/-- the square root undoes the rounding of a square: `W` is within `H < M` of `M²` (half a unit of the rounding), the root of
`W·4^j` is taken with `j` extra bits and rounded back to `M` -/
theorem sqrt_core (M W H j : Nat) (hj : 0 < j) (hH : H < M) (hM2 : M < 2 ^ 24) (hW : 2 ^ 46 ≤ W)
    (h1 : W ≤ M * M + H) (h2 : M * M ≤ W + H) :
    roundMant (Nat.sqrt (4 * W * (2 ^ (j - 1) * 2 ^ (j - 1)))) j
        (Nat.sqrt (4 * W * (2 ^ (j - 1) * 2 ^ (j - 1))) * Nat.sqrt (4 * W * (2 ^ (j - 1) * 2 ^ (j - 1)))
          != 4 * W * (2 ^ (j - 1) * 2 ^ (j - 1))) = M
    ∧ bitLen (Nat.sqrt (4 * W * (2 ^ (j - 1) * 2 ^ (j - 1)))) = 24 + j := by
  obtain ⟨lo, hi, tie⟩ := sqrt_near M W H (2 ^ (j - 1)) (Nat.two_pow_pos _) hH h1 h2
  have h24 : 2 ^ 24 * 2 ^ (j - 1) ≤ Nat.sqrt (4 * W * (2 ^ (j - 1) * 2 ^ (j - 1))) := by
    apply le_natSqrt
    rw [Nat.mul_mul_mul_comm]
    exact Nat.mul_le_mul_right _ (by omega)
  have ha : M * 2 ^ (j - 1) ≤ (2 ^ 24 - 1) * 2 ^ (j - 1) := Nat.mul_le_mul_right _ (by omega)
  constructor
  · exact roundMant_near M j _ _ hj (by omega) lo hi (fun h => by rw [bne_iff_ne]; exact tie h)
  · apply bitLen_eq (by omega)
    · rw [show 24 + j - 1 = 24 + (j - 1) by omega, Nat.pow_add]; exact h24
    · rw [Nat.pow_add, two_pow_pred hj]
      clear lo tie h24 h1 h2 hW hH
      generalize Nat.sqrt (4 * W * (2 ^ (j - 1) * 2 ^ (j - 1))) = r at *
      generalize M * 2 ^ (j - 1) = a at *
      generalize 2 ^ (j - 1) = Q at *
      omega

theorem unpack_normal (x : Nat) (hx : x < 0x7f800000) (h0 : x / 2 ^ 23 ≠ 0) :
    SF.unpack F32.fmt x = .fin false (x % 2 ^ 23 + 2 ^ 23) (((x / 2 ^ 23 : Nat) : Int) - 150) := by
  rw [unpack_pos x hx, if_neg h0]

/-- no carry out of the significand when squaring -/
theorem rnd_sq_lt (M : Nat) (hM1 : 2 ^ 23 ≤ M) (hM2 : M < 2 ^ 24) :
    (M * M < 2 ^ 47 → roundMant (M * M) 23 false < 2 ^ 24) ∧ (2 ^ 47 ≤ M * M → roundMant (M * M) 24 false < 2 ^ 24) := by
  constructor
  · intro hP
    have hM3 : M ≤ 11863283 := by
      apply Nat.le_of_lt_succ
      apply Nat.mul_self_lt_mul_self_iff.1
      omega
    have : M * M ≤ 11863283 * 11863283 := Nat.mul_le_mul hM3 hM3
    generalize M * M = P at *
    rw [roundMant_spec]
    split <;> omega
  · intro hP
    have : M * M ≤ (2 ^ 24 - 1) * (2 ^ 24 - 1) := Nat.mul_le_mul (by omega) (by omega)
    generalize M * M = P at *
    unfold roundMant
    split <;> omega

theorem sqrt_even (y T : Nat) (e : Int) (hy : SF.unpack F32.fmt y = .fin false T e) (hT : T ≠ 0)
    (he : (e - 52) % 2 = 0) :
    F32.sqrt y = SF.roundPack F32.fmt false (Nat.sqrt (T * 2 ^ 52)) ((e - 52) / 2)
      (Nat.sqrt (T * 2 ^ 52) * Nat.sqrt (T * 2 ^ 52) != T * 2 ^ 52) := by
  unfold F32.sqrt SF.sqrt
  rw [hy]
  have : (T == 0) = false := by simpa using hT
  have hc : ((e - ((2 * (24 + 2) : Nat) : Int)) % 2 == 0) = true := by
    simp; omega
  simp only [this, Bool.false_eq_true, if_false, fmt_p, hc, if_true]
  rfl

theorem sqrt_odd (y T : Nat) (e : Int) (hy : SF.unpack F32.fmt y = .fin false T e) (hT : T ≠ 0)
    (he : (e - 52) % 2 = 1) :
    F32.sqrt y = SF.roundPack F32.fmt false (Nat.sqrt (T * 2 ^ 53)) ((e - 53) / 2)
      (Nat.sqrt (T * 2 ^ 53) * Nat.sqrt (T * 2 ^ 53) != T * 2 ^ 53) := by
  unfold F32.sqrt SF.sqrt
  rw [hy]
  have : (T == 0) = false := by simpa using hT
  have hc : ((e - ((2 * (24 + 2) : Nat) : Int)) % 2 == 0) = false := by
    simp; omega
  simp only [this, Bool.false_eq_true, if_false, fmt_p, hc]
  have e1 : e - ((2 * (24 + 2) : Nat) : Int) - 1 = e - 53 := by omega
  rw [e1]

theorem unpack_fields (E1 T : Nat) (hE1 : 1 ≤ E1) (hE2 : E1 ≤ 254) (hT1 : 2 ^ 23 ≤ T) (hT2 : T < 2 ^ 24) :
    SF.unpack F32.fmt (E1 * 2 ^ 23 + (T - 2 ^ 23)) = .fin false T ((E1 : Int) - 150) := by
  have hy : E1 * 2 ^ 23 + (T - 2 ^ 23) < 0x7f800000 := by omega
  have hq : (E1 * 2 ^ 23 + (T - 2 ^ 23)) / 2 ^ 23 = E1 := by omega
  have hr : (E1 * 2 ^ 23 + (T - 2 ^ 23)) % 2 ^ 23 = T - 2 ^ 23 := by omega
  have ht : T - 2 ^ 23 + 2 ^ 23 = T := by omega
  rw [unpack_normal _ hy (by omega), hq, hr, ht]

/-- the square of the significand `M` at exponent field `ex`, rounded, has the square root `(ex, M)`:
squaring rounds by at most half an ulp (`roundMant_err`), and the square root brings it back inside the
rounding interval of `M` (`sqrt_core`); a 47-bit product gives an odd exponent, a 48-bit one an even one -/
theorem sqrt_sq_fields (M ex : Nat) (hM1 : 2 ^ 23 ≤ M) (hM2 : M < 2 ^ 24) (h1 : 64 ≤ ex) (h2 : ex ≤ 189) :
    F32.sqrt (SF.roundPack F32.fmt false (M * M) ((((ex : Nat) : Int) - 150) + (((ex : Nat) : Int) - 150)) false)
      = ex * 2 ^ 23 + (M - 2 ^ 23) := by
  have hP1 : 2 ^ 23 * 2 ^ 23 ≤ M * M := Nat.mul_le_mul hM1 hM1
  have hP2 : M * M ≤ (2 ^ 24 - 1) * (2 ^ 24 - 1) := Nat.mul_le_mul (by omega) (by omega)
  obtain ⟨nc23, nc24⟩ := rnd_sq_lt M hM1 hM2
  by_cases hP : M * M < 2 ^ 47
  · have hL : bitLen (M * M) = 24 + 23 := bitLen_eq (by omega) (by omega) (by omega)
    obtain ⟨hy, hT0, -⟩ := roundPack_shift (M * M) (((ex : Int) - 150) + ((ex : Int) - 150)) false 23
      (by omega) hL (by omega) (by omega)
    obtain ⟨e1, e2, -⟩ := roundMant_err (M * M) 23 false (by omega)
    have hT2 := nc23 hP
    rw [hy, show (((ex : Int) - 150) + ((ex : Int) - 150) + ((23 : Nat) : Int) + 150).toNat = 2 * ex - 127 by omega]
    clear hy hL nc23 nc24 hP1 hP2
    generalize roundMant (M * M) 23 false = T at *
    have uy := unpack_fields (2 * ex - 127) T (by omega) (by omega) hT0 hT2
    rw [sqrt_odd _ T _ uy (by omega) (by omega)]
    obtain ⟨c1, c2⟩ := sqrt_core M (T * 2 ^ 23) (2 ^ (23 - 1)) 15 (by omega) (by omega) hM2 (by omega) e1 e2
    rw [show 4 * (T * 2 ^ 23) * (2 ^ (15 - 1) * 2 ^ (15 - 1)) = T * 2 ^ 53 by omega] at c1 c2
    rw [show (((2 * ex - 127 : Nat) : Int) - 150 - 53) / 2 = (ex : Int) - 165 by omega]
    clear e1 e2 uy hT0 hT2
    obtain ⟨hz, -, -⟩ := roundPack_shift (Nat.sqrt (T * 2 ^ 53)) ((ex : Int) - 165)
      (Nat.sqrt (T * 2 ^ 53) * Nat.sqrt (T * 2 ^ 53) != T * 2 ^ 53) 15 (by omega) c2 (by omega) (by omega)
    rw [hz, c1]
    omega
  · have hL : bitLen (M * M) = 24 + 24 := bitLen_eq (by omega) (by omega) (by omega)
    obtain ⟨hy, hT0, -⟩ := roundPack_shift (M * M) (((ex : Int) - 150) + ((ex : Int) - 150)) false 24
      (by omega) hL (by omega) (by omega)
    obtain ⟨e1, e2, -⟩ := roundMant_err (M * M) 24 false (by omega)
    have hT2 := nc24 (by omega)
    have hM3 : 2 ^ (24 - 1) < M := Nat.mul_self_lt_mul_self_iff.1 (by omega)
    rw [hy, show (((ex : Int) - 150) + ((ex : Int) - 150) + ((24 : Nat) : Int) + 150).toNat = 2 * ex - 126 by omega]
    clear hy hL nc23 nc24 hP1 hP2
    generalize roundMant (M * M) 24 false = T at *
    have uy := unpack_fields (2 * ex - 126) T (by omega) (by omega) hT0 hT2
    rw [sqrt_even _ T _ uy (by omega) (by omega)]
    obtain ⟨c1, c2⟩ := sqrt_core M (T * 2 ^ 24) (2 ^ (24 - 1)) 14 (by omega) hM3 hM2 (by omega) e1 e2
    rw [show 4 * (T * 2 ^ 24) * (2 ^ (14 - 1) * 2 ^ (14 - 1)) = T * 2 ^ 52 by omega] at c1 c2
    rw [show (((2 * ex - 126 : Nat) : Int) - 150 - 52) / 2 = (ex : Int) - 164 by omega]
    clear e1 e2 uy hT0 hT2
    obtain ⟨hz, -, -⟩ := roundPack_shift (Nat.sqrt (T * 2 ^ 52)) ((ex : Int) - 164)
      (Nat.sqrt (T * 2 ^ 52) * Nat.sqrt (T * 2 ^ 52) != T * 2 ^ 52) 14 (by omega) c2 (by omega) (by omega)
    rw [hz, c1]
    omega

theorem sqrt_mul_self (x : Nat) (h1 : 64 ≤ x / 2 ^ 23) (h2 : x / 2 ^ 23 ≤ 189) :
    F32.sqrt (F32.mul x x) = x := by
  have hd := Nat.div_add_mod x (2 ^ 23)
  have hf := Nat.mod_lt x (Nat.two_pow_pos 23)
  have hm : F32.mul x x = SF.roundPack F32.fmt false ((x % 2 ^ 23 + 2 ^ 23) * (x % 2 ^ 23 + 2 ^ 23))
      ((((x / 2 ^ 23 : Nat) : Int) - 150) + (((x / 2 ^ 23 : Nat) : Int) - 150)) false := by
    unfold F32.mul SF.mul
    rw [unpack_normal x (by omega) (by omega)]
    rfl
  rw [hm, sqrt_sq_fields (x % 2 ^ 23 + 2 ^ 23) (x / 2 ^ 23) (by omega) (by omega) h1 h2]
  omega

theorem ofNat_field {n : Nat} (h0 : 0 < n) (hn : n < 2 ^ 62) :
    127 ≤ F32.ofNat n / 2 ^ 23 ∧ F32.ofNat n / 2 ^ 23 ≤ 189 := by
  have a := (bitLen_bounds h0).1
  have hL : bitLen n ≤ 62 := bitLen_le hn
  have sb := mantOf_zero_bounds h0
  rw [ofNat_enc h0]
  generalize F32M.mantOf n 0 false = s at *
  generalize bitLen n = L at *
  omega

theorem sqrt_mul_ofNat (n : Nat) (hn : n < 2 ^ 62) :
    F32.sqrt (F32.mul (F32.ofNat n) (F32.ofNat n)) = F32.ofNat n := by
  rcases Nat.eq_zero_or_pos n with h | h
  · subst h; decide +kernel
  · obtain ⟨a, b⟩ := ofNat_field h hn
    exact sqrt_mul_self _ (by omega) b

theorem div_self (x : Nat) (h1 : 1 ≤ x / 2 ^ 23) (h2 : x / 2 ^ 23 ≤ 254) : F32.div x x = F32.one := by
  have hx : x < 0x7f800000 := by omega
  have hf := Nat.mod_lt x (Nat.two_pow_pos 23)
  unfold F32.div SF.div
  rw [unpack_normal x hx (by omega)]
  generalize hM : x % 2 ^ 23 + 2 ^ 23 = M at *
  have hM1 : 2 ^ 23 ≤ M := by omega
  have hM2 : M < 2 ^ 24 := by omega
  have hL : bitLen M = 24 := bitLen_eq (by omega) (by omega) (by omega)
  have hM0 : (M == 0) = false := by
    have : M ≠ 0 := by omega
    simpa using this
  simp only [hM0, Bool.false_eq_true, if_false, fmt_p, hL]
  have hq : M * 2 ^ (24 + 3 + 24) / M = 2 ^ 51 := by
    rw [Nat.mul_comm]; exact Nat.mul_div_cancel _ (by omega)
  have hr : M * 2 ^ (24 + 3 + 24) % M = 0 := Nat.mul_mod_right _ _
  rw [hq, hr]
  have hL51 : bitLen (2 ^ 51) = 24 + 28 := bitLen_eq (by omega) (by omega) (by omega)
  generalize ((x / 2 ^ 23 : Nat) : Int) - 150 = E
  have he : E - E - ((24 + 3 + 24 : Nat) : Int) = -51 := by omega
  rw [he]
  obtain ⟨hz, -, -⟩ := roundPack_shift (2 ^ 51) (-51) false 28 (by omega) hL51 (by omega) (by omega)
  have hst : ((0 : Nat) != 0) = false := by decide
  have hs : (false != false) = false := by decide
  rw [hst, hs, hz]
  have : roundMant (2 ^ 51) 28 false = 2 ^ 23 := by decide +kernel
  rw [this]
  decide +kernel

end F32L
end Arroy
