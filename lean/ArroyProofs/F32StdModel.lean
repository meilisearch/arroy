import ArroyProofs.SoftFloatReal
import ArroyProofs.KernelRoundOn
/-! The soft-float binary32 arithmetic of the kernels (`f32Arith`) satisfies the conditional standard
model with `val = toReal`, `ok = Finite`, `P = NormalOrZero`, `u = 2^-24`. -/
namespace Arroy
namespace SFR
open SF

theorem unpack_negZero : unpack f32 F32.negZero = .fin true 0 (-149) := by
  simp [unpack, F32.negZero, f32, Fmt.width, Fmt.emaxField, Fmt.qmin, Fmt.bias]

theorem toReal_negZero : toReal F32.negZero = 0 := by rw [toReal_of_unpack unpack_negZero]; simp
theorem toReal_zero : toReal F32.zero = 0 := by rw [toReal_of_unpack (x := F32.zero) unpack_zero]; simp

theorem f32_std_model_on : StdModelOn f32Arith toReal Finite NormalOrZero u where
  u_nonneg := u_nonneg
  sumInit := ⟨finite_of_unpack unpack_negZero, toReal_negZero⟩
  zero := ⟨finite_of_unpack (x := F32.zero) unpack_zero, toReal_zero⟩
  add := fun x y hx hy hP => add_std x y hx hy hP
  sub := fun x y hx hy hP => sub_std x y hx hy hP
  mul := fun x y hx hy hP => mul_std x y hx hy hP
  fma := fun x y z hx hy hz hP => fma_std x y z hx hy hz hP

/-- clearing the sign bit is the absolute value -/
theorem abs_unpack (a : Nat) (n : Bool) (m : Nat) (e : Int) (h : unpack f32 a = .fin n m e) :
    unpack f32 (F32.abs a) = .fin false m e := by
  have e0 : F32.abs a = a % 2147483648 := rfl
  have a1 : a % 2147483648 % 8388608 = a % 8388608 := by omega
  have a2 : a % 2147483648 / 8388608 % 256 = a / 8388608 % 256 := by omega
  have a3 : a % 2147483648 / 2147483648 % 2 = 0 := by omega
  rw [e0, unpack_f32, a1, a2, a3]
  rw [unpack_f32] at h
  split at h
  · split at h <;> cases h
  · rename_i d1
    rw [if_neg d1]
    split at h <;> rename_i d2
    · rw [if_pos d2]; cases h; rfl
    · rw [if_neg d2]; cases h; rfl
theorem abs_real (a : Nat) (ha : Finite a) : Finite (F32.abs a) ∧ toReal (F32.abs a) = |toReal a| := by
  obtain ⟨n, m, e, hu⟩ := (finite_iff a).1 ha
  have h := abs_unpack a n m e hu
  refine ⟨finite_of_unpack h, ?_⟩
  rw [abs_toReal hu, toReal_of_unpack h]
  simp [sgn]

end SFR
end Arroy
