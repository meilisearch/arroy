import ArroyProofs.SoftFloatRound
import ArroyModel.Distance
/-! Width of the soft-float binary32 results: every operation of the model returns a 32-bit pattern,
for arbitrary natural-number inputs (the inputs need not be 32-bit patterns themselves). -/
namespace Arroy.SF

theorem packBits_lt (neg : Bool) (ex frac : Nat) (hex : ex ≤ 255) (hfrac : frac < 2^23) :
    packBits f32 neg ex frac < 2^32 := by
  show (if neg then 2^31 else 0) + ex * 2^23 + frac < 2^32
  have := Nat.mul_le_mul_right (2^23) hex
  split <;> omega

theorem qnan_lt : qnan f32 < 2^32 := by decide
theorem infBits_lt (neg : Bool) : infBits f32 neg < 2^32 := by cases neg <;> decide

theorem finish_lt (neg : Bool) (mant : Nat) (q : Int) (hm : mant < 2^24) : finish f32 neg mant q < 2^32 := by
  unfold finish
  obtain ⟨h1, h2, h3, h4, h5⟩ := f32_consts
  simp only [h1, h2, h3]
  split
  · exact packBits_lt _ _ _ (by omega) (by omega)
  · split
    · exact infBits_lt neg
    · exact packBits_lt _ _ _ (by omega) (by omega)

theorem lt_pow_bitLen (m : Nat) : m < 2^(bitLen m) := by
  by_cases h : m = 0
  · subst h; decide
  · exact (bitLen_bounds (by omega)).2.2

theorem roundPack_lt (neg : Bool) (m : Nat) (e : Int) (sticky : Bool) : roundPack f32 neg m e sticky < 2^32 := by
  rw [roundPack_eq']
  unfold roundPack'
  split
  · exact packBits_lt _ _ _ (by omega) (by decide)
  · obtain ⟨c1, c2, c3, c4, c5⟩ := f32_consts
    have hn2 := lt_pow_bitLen m
    have hqn : e + (bitLen m : Int) - 24 ≤ qOf f32 m e := by rw [qOf_f32]; omega
    generalize qOf f32 m e = q at *
    apply finish_lt
    show (if q - e ≤ 0 then (m * 2^((q - e).natAbs), q)
      else if roundMant m (q - e).toNat sticky == 2^f32.p then (2^(f32.p - 1), q + 1)
      else (roundMant m (q - e).toNat sticky, q)).1 < 2^24
    split
    · have ht : (q - e).natAbs = (e - q).toNat := by omega
      rw [ht]
      show m * 2^(e - q).toNat < 2^24
      calc m * 2^(e - q).toNat < 2^(bitLen m) * 2^(e - q).toNat :=
            Nat.mul_lt_mul_of_lt_of_le hn2 (Nat.le_refl _) (Nat.two_pow_pos _)
        _ = 2^(bitLen m + (e - q).toNat) := (Nat.pow_add _ _ _).symm
        _ ≤ 2^24 := Nat.pow_le_pow_right (by decide) (by omega)
    · have hr2 := roundMant_le_succ m (q - e).toNat sticky
      have hdiv : m / 2^(q - e).toNat < 2^24 := by
        rw [Nat.div_lt_iff_lt_mul (Nat.two_pow_pos _), ← Nat.pow_add]
        exact Nat.lt_of_lt_of_le hn2 (Nat.pow_le_pow_right (by decide) (by omega))
      generalize roundMant m (q - e).toNat sticky = rm at *
      rw [c1]
      split
      · show 2^(24 - 1) < 2^24
        decide
      · rename_i hcarry
        have hrm : rm ≠ 2^24 := by simpa using hcarry
        show rm < 2^24
        omega

theorem packBits_zero_lt (neg : Bool) : packBits f32 neg 0 0 < 2^32 :=
  packBits_lt _ _ _ (by omega) (by decide)

theorem addV_lt (x y : V) : addV f32 x y < 2^32 := by
  unfold addV
  split
  · exact qnan_lt
  · exact qnan_lt
  · split
    · exact infBits_lt _
    · exact qnan_lt
  · exact infBits_lt _
  · exact infBits_lt _
  · simp only
    split
    · exact packBits_zero_lt _
    · exact roundPack_lt _ _ _ _

theorem add_lt (a b : Nat) : add f32 a b < 2^32 := addV_lt _ _
theorem sub_lt (a b : Nat) : sub f32 a b < 2^32 := addV_lt _ _

theorem mul_lt (a b : Nat) : mul f32 a b < 2^32 := by
  unfold mul
  split
  · exact qnan_lt
  · exact qnan_lt
  · exact infBits_lt _
  · split
    · exact qnan_lt
    · exact infBits_lt _
  · split
    · exact qnan_lt
    · exact infBits_lt _
  · exact roundPack_lt _ _ _ _

theorem div_lt (a b : Nat) : div f32 a b < 2^32 := by
  unfold div
  split
  · exact qnan_lt
  · exact qnan_lt
  · exact qnan_lt
  · exact infBits_lt _
  · exact packBits_zero_lt _
  · split
    · split
      · exact qnan_lt
      · exact infBits_lt _
    · split
      · exact packBits_zero_lt _
      · exact roundPack_lt _ _ _ _

theorem fma_lt (a b c : Nat) : fma f32 a b c < 2^32 := by
  unfold fma
  split
  · exact qnan_lt
  · exact qnan_lt
  · exact qnan_lt
  · simp only
    split
    · exact packBits_zero_lt _
    · exact roundPack_lt _ _ _ _
  · simp only
    split
    · exact qnan_lt
    · split
      · exact infBits_lt _
      · exact qnan_lt
    · exact infBits_lt _
    · exact infBits_lt _
    · exact qnan_lt

theorem sqrt_lt (a : Nat) : sqrt f32 a < 2^32 := by
  unfold sqrt
  split
  · exact qnan_lt
  · split
    · exact qnan_lt
    · exact infBits_lt _
  · split
    · exact packBits_zero_lt _
    · split
      · exact qnan_lt
      · exact roundPack_lt _ _ _ _

end Arroy.SF

namespace Arroy.F32
theorem add_lt (a b : Nat) : F32.add a b < 2^32 := SF.add_lt a b
theorem sub_lt (a b : Nat) : F32.sub a b < 2^32 := SF.sub_lt a b
theorem mul_lt (a b : Nat) : F32.mul a b < 2^32 := SF.mul_lt a b
theorem div_lt (a b : Nat) : F32.div a b < 2^32 := SF.div_lt a b
theorem fma_lt (a b c : Nat) : F32.fma a b c < 2^32 := SF.fma_lt a b c
theorem sqrt_lt (a : Nat) : F32.sqrt a < 2^32 := SF.sqrt_lt a
theorem zero_lt : F32.zero < 2^32 := by decide
theorem one_lt : F32.one < 2^32 := by decide
theorem negOne_lt : F32.negOne < 2^32 := by decide
end Arroy.F32

namespace Arroy

theorem Metric.normNoHeader_lt (m : Metric) (h : Host) (v : List Nat) : m.normNoHeader h v < 2^32 := by
  unfold Metric.normNoHeader
  split <;> exact F32.sqrt_lt _

theorem Metric.newHeader_length (m : Metric) (h : Host) (v : List Nat) :
    (m.newHeader h v).length = m.header.length := by
  unfold Metric.newHeader
  exact List.length_map _

theorem Metric.newHeader_lt (m : Metric) (h : Host) (v : List Nat) : ∀ x ∈ m.newHeader h v, x < 2^32 := by
  intro x hx
  unfold Metric.newHeader at hx
  obtain ⟨fld, _, rfl⟩ := List.mem_map.mp hx
  cases fld
  all_goals first
    | exact F32.zero_lt
    | (show (if m = .dot then F32.zero else m.normNoHeader h v) < 2^32
       split
       · exact F32.zero_lt
       · exact Metric.normNoHeader_lt m h v)

end Arroy
