import ArroyModel.SoftFloat
/-! The total order of `OrderedFloat<f32>` (`F32.ordLt` / `F32.ordEq`) proved from the soft-float
definitions (core Lean only): every bit pattern gets a key in `Int × Int` (class, scaled signed magnitude)
and `ordLt` / `ordEq`, and `lt` on non-NaN values, are `<` / `=` of the keys, lexicographically. -/
namespace Arroy
namespace SF

/-- class of an unpacked value: `-inf < finite < +inf < NaN` -/
def V.cls : V → Int
  | .nan => 2
  | .inf true => -1
  | .inf false => 1
  | .fin _ _ _ => 0

/-- signed magnitude of a finite value in units of `2^q` (0 for the others) -/
def V.mag (q : Int) : V → Int
  | .fin n m e => if n then -((m * 2 ^ ((e - q).toNat) : Nat) : Int) else ((m * 2 ^ ((e - q).toNat) : Nat) : Int)
  | _ => 0

def V.okExp (q : Int) : V → Prop
  | .fin _ _ e => q ≤ e
  | _ => True

def V.notNaN : V → Prop
  | .nan => False
  | _ => True

theorem cls_negV {v : V} (h : v.notNaN) : (negV v).cls = -v.cls := by
  cases v with
  | nan => exact absurd h id
  | inf a => cases a <;> rfl
  | fin n m e => rfl

theorem mag_negV (q : Int) (v : V) : (negV v).mag q = -v.mag q := by
  cases v with
  | nan => rfl
  | inf a => rfl
  | fin n m e => cases n <;> simp [negV, V.mag]

theorem notNaN_negV {v : V} : (negV v).notNaN ↔ v.notNaN := by
  cases v <;> simp [negV, V.notNaN]

theorem ltV_nan_left (y : V) : ltV .nan y = false := by cases y <;> rfl
theorem ltV_nan_right (x : V) : ltV x .nan = false := by cases x <;> rfl

theorem ltV_fin (q : Int) (n1 : Bool) (m1 : Nat) (e1 : Int) (n2 : Bool) (m2 : Nat) (e2 : Int)
    (h1 : q ≤ e1) (h2 : q ≤ e2) :
    ltV (.fin n1 m1 e1) (.fin n2 m2 e2) = true ↔
      V.mag q (.fin n1 m1 e1) < V.mag q (.fin n2 m2 e2) := by
  simp only [ltV, exactAdd, V.mag]
  generalize he : (Min.min e1 e2 : Int) = e
  have hP : (0 : Int) < ((2 ^ ((e - q).toNat) : Nat) : Int) := Int.natCast_pos.2 (Nat.two_pow_pos _)
  have ha : m1 * 2 ^ ((e1 - q).toNat) = (m1 * 2 ^ ((e1 - e).toNat)) * 2 ^ ((e - q).toNat) := by
    rw [Nat.mul_assoc, ← Nat.pow_add]; congr 2; omega
  have hb : m2 * 2 ^ ((e2 - q).toNat) = (m2 * 2 ^ ((e2 - e).toNat)) * 2 ^ ((e - q).toNat) := by
    rw [Nat.mul_assoc, ← Nat.pow_add]; congr 2; omega
  rw [ha, hb]
  simp only [Int.natCast_mul]
  generalize (m1 : Int) * ((2 ^ ((e1 - e).toNat) : Nat) : Int) = A
  generalize (m2 : Int) * ((2 ^ ((e2 - e).toNat) : Nat) : Int) = B
  generalize ((2 ^ ((e - q).toNat) : Nat) : Int) = P at hP
  -- the units `P` cancel: both sides compare the signed `A` and `B`
  have key : ∀ a b : Int, a * P < b * P ↔ a < b := fun a b => Int.mul_lt_mul_right hP
  cases n1 <;> cases n2 <;>
    simp only [Bool.not_true, Bool.not_false, if_true, if_false, Bool.false_eq_true, ← Int.neg_mul, key,
      Bool.and_eq_true, decide_eq_true_eq, bne_iff_ne, ne_eq, Int.natAbs_eq_zero] <;> omega
/-- on non-NaN values with exponents at least `q`, `ltV` is the lexicographic order of `(cls, mag q)` -/
theorem ltV_iff (q : Int) (x y : V) (hx : x.okExp q) (hy : y.okExp q) (nx : x.notNaN) (ny : y.notNaN) :
    ltV x y = true ↔ (x.cls < y.cls ∨ (x.cls = y.cls ∧ x.mag q < y.mag q)) := by
  cases x with
  | nan => exact absurd nx id
  | inf a =>
    cases y with
    | nan => exact absurd ny id
    | inf b => cases a <;> cases b <;> simp [ltV, V.cls, V.mag]
    | fin n m e => cases a <;> simp [ltV, V.cls]
  | fin n1 m1 e1 =>
    cases y with
    | nan => exact absurd ny id
    | inf b => cases b <;> simp [ltV, V.cls]
    | fin n2 m2 e2 =>
      rw [ltV_fin q n1 m1 e1 n2 m2 e2 hx hy]
      simp [V.cls]

theorem unpack_okExp (f : Fmt) (a : Nat) : (unpack f a).okExp f.qmin := by
  unfold unpack
  simp only
  split
  · split <;> trivial
  · split
    · simp [V.okExp]
    · rename_i h1 h2
      simp only [V.okExp, Fmt.qmin]
      have : (a / 2 ^ (f.p - 1)) % 2 ^ f.ebits ≠ 0 := by simpa using h2
      omega

/-- the key of a bit pattern: (class, signed magnitude in units of the smallest subnormal) -/
def key (f : Fmt) (a : Nat) : Int × Int := ((unpack f a).cls, (unpack f a).mag f.qmin)

def klt (x y : Int × Int) : Prop := x.1 < y.1 ∨ (x.1 = y.1 ∧ x.2 < y.2)

theorem isNaN_iff (f : Fmt) (a : Nat) : isNaN f a = true ↔ (unpack f a).cls = 2 := by
  unfold isNaN
  cases h : unpack f a with
  | nan => simp [V.cls]
  | inf b => cases b <;> simp [V.cls]
  | fin n m e => simp [V.cls]

theorem isNaN_false_iff (f : Fmt) (a : Nat) : isNaN f a = false ↔ (unpack f a).notNaN := by
  unfold isNaN
  cases h : unpack f a <;> simp [V.notNaN]

theorem cls_le_two (x : V) : x.cls ≤ 2 := by
  cases x with
  | nan => simp [V.cls]
  | inf b => cases b <;> simp [V.cls]
  | fin n m e => simp [V.cls]

theorem cls_lt_two_of_notNaN (x : V) (h : x.notNaN) : x.cls < 2 := by
  cases x with
  | nan => exact absurd h id
  | inf b => cases b <;> simp [V.cls]
  | fin n m e => simp [V.cls]

theorem mag_nan (q : Int) (x : V) (h : x.cls = 2) : x.mag q = 0 := by
  cases x with
  | nan => rfl
  | inf b => rfl
  | fin n m e => simp [V.cls] at h

theorem ordLt_iff (f : Fmt) (a b : Nat) : ordLt f a b = true ↔ klt (key f a) (key f b) := by
  unfold ordLt klt key
  simp only
  cases ha : isNaN f a with
  | true =>
    have h2 := (isNaN_iff f a).1 ha
    have hb := cls_le_two (unpack f b)
    have hm := mag_nan f.qmin _ h2
    simp only [if_true]
    constructor
    · intro h; cases h
    · intro h
      rcases h with h | ⟨h, h'⟩
      · omega
      · have := mag_nan f.qmin (unpack f b) (by omega); omega
  | false =>
    have na := (isNaN_false_iff f a).1 ha
    have la := cls_lt_two_of_notNaN _ na
    cases hb : isNaN f b with
    | true =>
      have h2 := (isNaN_iff f b).1 hb
      simp; omega
    | false =>
      have nb := (isNaN_false_iff f b).1 hb
      simp only [Bool.false_eq_true, if_false, lt]
      exact ltV_iff f.qmin _ _ (unpack_okExp f a) (unpack_okExp f b) na nb

theorem lt_iff_of_notNaN (f : Fmt) (a b : Nat) (ha : isNaN f a = false) (hb : isNaN f b = false) :
    lt f a b = true ↔ klt (key f a) (key f b) := by
  rw [← ordLt_iff]; simp [ordLt, ha, hb]

theorem ordEq_iff (f : Fmt) (a b : Nat) : ordEq f a b = true ↔ key f a = key f b := by
  unfold ordEq
  cases ha : isNaN f a with
  | true =>
    have h2 := (isNaN_iff f a).1 ha
    have hm := mag_nan f.qmin _ h2
    simp only [if_true]
    rw [isNaN_iff]
    constructor
    · intro h
      have hm' := mag_nan f.qmin _ h
      simp only [key]; rw [h2, h, hm, hm']
    · intro h
      have : (key f a).1 = (key f b).1 := by rw [h]
      simp only [key] at this; omega
  | false =>
    have na := (isNaN_false_iff f a).1 ha
    have la := cls_lt_two_of_notNaN _ na
    cases hb : isNaN f b with
    | true =>
      have h2 := (isNaN_iff f b).1 hb
      simp only [Bool.false_eq_true, if_false, if_true]
      constructor
      · intro h; cases h
      · intro h
        have : (key f a).1 = (key f b).1 := by rw [h]
        simp only [key] at this; omega
    | false =>
      simp only [Bool.false_eq_true, if_false, eq, le, ha, hb, Bool.not_false, Bool.true_and, Bool.and_eq_true,
        Bool.not_eq_true']
      have l1 := lt_iff_of_notNaN f a b ha hb
      have l2 := lt_iff_of_notNaN f b a hb ha
      have n1 : lt f b a = false ↔ ¬ klt (key f b) (key f a) := by rw [← l2]; simp
      have n2 : lt f a b = false ↔ ¬ klt (key f a) (key f b) := by rw [← l1]; simp
      rw [n1, n2]
      unfold klt
      constructor
      · intro ⟨h1, h2⟩; apply Prod.ext <;> omega
      · intro h; rw [h]; omega

end SF

namespace F32

/-- the key of a binary32 bit pattern in the order of `OrderedFloat` -/
def key (a : Nat) : Int × Int := SF.key SF.f32 a

theorem ordLt_iff (a b : Nat) : ordLt a b = true ↔ SF.klt (key a) (key b) := SF.ordLt_iff _ a b
theorem ordEq_iff (a b : Nat) : ordEq a b = true ↔ key a = key b := SF.ordEq_iff _ a b

/-- "less, or equal and then `P`" is the lexicographic order on the key, continued by `P` -/
theorem ordLt_or_ordEq_and (a b : Nat) (P : Prop) :
    (ordLt a b = true ∨ (ordEq a b = true ∧ P)) ↔
      ((key a).1 < (key b).1 ∨ ((key a).1 = (key b).1 ∧
        ((key a).2 < (key b).2 ∨ ((key a).2 = (key b).2 ∧ P)))) := by
  rw [ordLt_iff, ordEq_iff]
  unfold SF.klt
  constructor
  · rintro (h | ⟨h, h'⟩)
    · omega
    · rw [h]; exact Or.inr ⟨rfl, Or.inr ⟨rfl, h'⟩⟩
  · rintro (h | ⟨h1, h | ⟨h2, h'⟩⟩)
    · exact Or.inl (Or.inl h)
    · exact Or.inl (Or.inr ⟨h1, h⟩)
    · exact Or.inr ⟨Prod.ext h1 h2, h'⟩

theorem ordLt_irrefl (a : Nat) : ordLt a a = false := by
  have := ordLt_iff a a; unfold SF.klt at this
  cases h : ordLt a a
  · rfl
  · have := this.1 h; omega

theorem ordLt_trans {a b c : Nat} (h1 : ordLt a b = true) (h2 : ordLt b c = true) : ordLt a c = true := by
  rw [ordLt_iff] at *; unfold SF.klt at *; omega

theorem ordLt_asymm {a b : Nat} (h1 : ordLt a b = true) : ordLt b a = false := by
  cases h : ordLt b a
  · rfl
  · rw [ordLt_iff] at *; unfold SF.klt at *; omega

/-- totality: two bit patterns are related by `ordLt` one way or the other, or are `ordEq` -/
theorem ord_total (a b : Nat) : ordLt a b = true ∨ ordEq a b = true ∨ ordLt b a = true := by
  rw [ordLt_iff, ordLt_iff, ordEq_iff]; unfold SF.klt
  by_cases h : key a = key b
  · exact Or.inr (Or.inl h)
  · have : ¬ ((key a).1 = (key b).1 ∧ (key a).2 = (key b).2) := fun ⟨x, y⟩ => h (Prod.ext x y)
    omega

theorem ordEq_refl (a : Nat) : ordEq a a = true := by rw [ordEq_iff]
theorem ordEq_symm {a b : Nat} (h : ordEq a b = true) : ordEq b a = true := by
  rw [ordEq_iff] at *; exact h.symm
theorem ordEq_trans {a b c : Nat} (h1 : ordEq a b = true) (h2 : ordEq b c = true) : ordEq a c = true := by
  rw [ordEq_iff] at *; exact h1.trans h2

theorem ordLt_of_ordEq_left {a b c : Nat} (h1 : ordEq a b = true) (h2 : ordLt b c = true) : ordLt a c = true := by
  rw [ordEq_iff] at h1; rw [ordLt_iff] at *; rw [h1]; exact h2
theorem ordLt_of_ordEq_right {a b c : Nat} (h1 : ordLt a b = true) (h2 : ordEq b c = true) : ordLt a c = true := by
  rw [ordEq_iff] at h2; rw [ordLt_iff] at *; rw [← h2]; exact h1

theorem ordLt_ne_ordEq {a b : Nat} (h1 : ordLt a b = true) : ordEq a b = false := by
  cases h : ordEq a b
  · rfl
  · rw [ordEq_iff] at h; rw [ordLt_iff, h] at h1; unfold SF.klt at h1; omega

/-- all NaN patterns are one class, greater than everything else -/
theorem ordLt_nan {a b : Nat} (ha : isNaN a = false) (hb : isNaN b = true) : ordLt a b = true := by
  simp [ordLt, SF.ordLt, isNaN] at *; simp [ha, hb]
theorem ordEq_nan {a b : Nat} (ha : isNaN a = true) (hb : isNaN b = true) : ordEq a b = true := by
  simp [ordEq, SF.ordEq, isNaN] at *; simp [ha, hb]
/-- the order laws of `OrderedFloat<f32>` as one bundle (`ordAx` proves all of them: nothing is assumed) -/
structure OrdAx : Prop where
  lt_irrefl : ∀ a, ordLt a a = false
  lt_trans : ∀ a b c, ordLt a b = true → ordLt b c = true → ordLt a c = true
  total : ∀ a b, ordLt a b = true ∨ ordEq a b = true ∨ ordLt b a = true
  eq_refl : ∀ a, ordEq a a = true
  eq_symm : ∀ a b, ordEq a b = true → ordEq b a = true
  eq_trans : ∀ a b c, ordEq a b = true → ordEq b c = true → ordEq a c = true
  lt_of_eq_left : ∀ a b c, ordEq a b = true → ordLt b c = true → ordLt a c = true
  lt_of_eq_right : ∀ a b c, ordLt a b = true → ordEq b c = true → ordLt a c = true
  lt_ne_eq : ∀ a b, ordLt a b = true → ordEq a b = false

theorem ordAx : OrdAx where
  lt_irrefl := ordLt_irrefl
  lt_trans := fun _ _ _ => ordLt_trans
  total := ord_total
  eq_refl := ordEq_refl
  eq_symm := fun _ _ => ordEq_symm
  eq_trans := fun _ _ _ => ordEq_trans
  lt_of_eq_left := fun _ _ _ => ordLt_of_ordEq_left
  lt_of_eq_right := fun _ _ _ => ordLt_of_ordEq_right
  lt_ne_eq := fun _ _ => ordLt_ne_ordEq

example : ordEq zero negZero = true := by decide
example : ordLt inf 0x7fc00000 = true := by decide
example : ordEq 0x7fc00000 0xffc00001 = true := by decide

theorem lt_nan_left {a b : Nat} (h : isNaN a = true) : lt a b = false := by
  unfold isNaN SF.isNaN at h
  unfold lt SF.lt
  split at h
  · rename_i hu; rw [hu]; exact SF.ltV_nan_left _
  · cases h

theorem lt_nan_right {a b : Nat} (h : isNaN b = true) : lt a b = false := by
  unfold isNaN SF.isNaN at h
  unfold lt SF.lt
  split at h
  · rename_i hu; rw [hu]; exact SF.ltV_nan_right _
  · cases h

end F32
end Arroy
