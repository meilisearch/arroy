import ArroyModel.Reader
import ArroyProofs.Heap
import ArroyProofs.StoreLaws
/-! `ForestWith` / `ForestOK`: what the reader theorems assume of an index (trees held by the store, reaching
exactly the items of the metadata, items stored as leaves). The invariant `Forest` that `build` maintains is in
ForestDefs.lean; ForestBridge.lean derives `ForestWith` from it. -/
namespace Arroy
open Generated

/-- `ts` are the trees of the index `(c, s, rd)`:
* `refs`: one tree per root, in the order of `rd.roots`;
* `holds`: every cell of every tree is in the store, exactly as given;
* `reach`: every tree reaches exactly the items of the metadata;
* `items_nodup`: no tree reaches an item twice;
* `ids_nodup`: no tree node is shared (inside a tree or between trees);
* `sorted`: the metadata item set is strictly increasing;
* `stored`: every item of the metadata is stored as a leaf;
* `roots_ne`: a non-empty index has at least one tree. -/
structure ForestWith (c : Cfg) (s : Store) (rd : ReaderState) (ts : List T) : Prop where
  refs : ts.map (·.ref) = rd.roots.map NodeId.mkTree
  holds : ∀ t ∈ ts, Holds c s t
  reach : ∀ t ∈ ts, ∀ x, x ∈ t.items ↔ x ∈ rd.items
  items_nodup : ∀ t ∈ ts, t.items.Nodup
  ids_nodup : (ts.flatMap T.ids).Nodup
  sorted : IdSet.Sorted rd.items
  stored : ∀ x ∈ rd.items, ∃ h v, Store.get s (c.itemKey x) = some (.leaf h v)
  roots_ne : rd.items ≠ [] → rd.roots ≠ []

/-- the index `(c, s, rd)` is a valid forest -/
def ForestOK (c : Cfg) (s : Store) (rd : ReaderState) : Prop := ∃ ts : List T, ForestWith c s rd ts

/-- every bucket stored in the index is a strictly increasing id list (it is a `RoaringBitmap`);
    only the theorems about filtered search need it (`IdSet.inter` is a merge of sorted lists) -/
def DescSorted (c : Cfg) (s : Store) : Prop :=
  ∀ id ids, Store.get s (c.treeKey id) = some (.desc ids) → IdSet.Sorted ids

theorem Cfg.treeKey_ne_itemKey (c : Cfg) (a b : Nat) : c.treeKey a ≠ c.itemKey b :=
  Key.ne_of_mode_ne (show modeTree ≠ modeItem by decide)

theorem Cfg.treeKey_inj_of_eq (c : Cfg) {a b : Nat} (h : c.treeKey a = c.treeKey b) : a = b :=
  Cfg.treeKey_inj.1 h

theorem Cfg.itemKey_inj (c : Cfg) {a b : Nat} (h : c.itemKey a = c.itemKey b) : a = b := by
  have : (c.itemKey a).item = (c.itemKey b).item := by rw [h]
  exact this

end Arroy
