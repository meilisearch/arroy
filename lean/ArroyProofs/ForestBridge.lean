import ArroyProofs.ForestDefs
import ArroyProofs.Forest
import ArroyProofs.ForestUnique
import ArroyProofs.ResplitRound
import ArroyProofs.Properties.C06
/-! The bridge between the builder-side forest predicate (`Forest`, `IndexInv`: what C01 proves about
every reachable state) and the reader-side one (`ForestWith`/`ForestOK`, `DescSorted`: what the reader
theorems C02/C03/C04 assume), and `Reader.open` on a built index without marks. -/
namespace Arroy
open Generated IdSet

/-- the `.desc` cells of a tree are its buckets -/
theorem T.desc_mem_cells_iff (t : T) (id : Nat) (ids : List Nat) :
    (id, Val.desc ids) ∈ t.cells ↔ (id, ids) ∈ t.buckets := by
  induction t with
  | leaf i => simp [T.cells, T.buckets]
  | bucket b s => simp [T.cells, T.buckets]
  | node b n l r ihl ihr => simp [T.cells, T.buckets, ihl, ihr]

/-- whatever the store holds under a node id of a held tree is that tree's cell -/
theorem Holds.cell_of_get {c : Cfg} {s : Store} {t : T} (h : Holds c s t) {id : Nat} (hid : id ∈ t.ids)
    {v : Val} (hg : Store.get s (c.treeKey id) = some v) : (id, v) ∈ t.cells := by
  rw [← cells_ids] at hid
  obtain ⟨cell, hc, rfl⟩ := List.mem_map.1 hid
  have := h cell hc
  rw [hg] at this
  cases this
  exact hc

namespace Forest
variable {c : Cfg} {s : Store} {roots items : List Nat} {ts : List T}

/-- every `.desc` stored under a tree key of the index is a bucket of one of the trees -/
theorem desc_is_bucket (f : Forest c s roots items ts) {id : Nat} {ids : List Nat}
    (hg : Store.get s (c.treeKey id) = some (.desc ids)) : ∃ t ∈ ts, (id, ids) ∈ t.buckets := by
  have hm : id ∈ ts.flatMap T.ids := (f.cover id).1 (by rw [hg]; rfl)
  obtain ⟨t, ht, hid⟩ := List.mem_flatMap.1 hm
  exact ⟨t, ht, (T.desc_mem_cells_iff t id ids).1 ((f.holds t ht).cell_of_get hid hg)⟩

/-- **bridge, `DescSorted`**: in a forest of well-formed trees that covers the tree keys, every stored
    bucket is a strictly increasing id list -/
theorem descSorted (f : Forest c s roots items ts) : DescSorted c s := by
  intro id ids hg
  obtain ⟨t, ht, hb⟩ := f.desc_is_bucket hg
  exact wf_bucket (f.wf t ht) hb

/-- **bridge, `ForestWith`**: a builder-side forest whose item list is sorted, stored as leaves, and which
    has a root when there is an item, is a reader-side forest for the reader state `⟨roots, dims, items⟩` -/
theorem toForestWith (f : Forest c s roots items ts) (dims : Nat) (hsorted : IdSet.Sorted items)
    (hstored : ∀ x ∈ items, ∃ h v, Store.get s (c.itemKey x) = some (.leaf h v))
    (hne : items ≠ [] → roots ≠ []) : ForestWith c s ⟨roots, dims, items⟩ ts where
  refs := f.refs
  holds := f.holds
  reach := f.reach
  items_nodup := f.items_nodup
  ids_nodup := f.ids_nodup
  sorted := hsorted
  stored := hstored
  roots_ne := hne

end Forest

/-- an item key holds a leaf or nothing -/
theorem C05.ItemsAreLeaves.leaf_of_isSome {c : Cfg} {s : Store} (h : C05.ItemsAreLeaves c s) {x : Nat}
    (hx : (Store.get s (c.itemKey x)).isSome = true) : ∃ hd v, Store.get s (c.itemKey x) = some (.leaf hd v) := by
  cases hg : Store.get s (c.itemKey x) with
  | none => rw [hg] at hx; cases hx
  | some val =>
    have hl := h _ (Store.mem_of_get hg) rfl rfl
    obtain ⟨hd, v, rfl⟩ := (C05.isLeaf_iff val).1 hl
    exact ⟨hd, v, rfl⟩

/-- what the index invariant says about an index that has a metadata record -/
theorem IndexInv.of_meta {c : Cfg} {s : Store} (hinv : IndexInv c s) {name : Bytes} {dims : Nat}
    {items roots : List Nat} (hm : Store.get s c.metaKey = some (.metadata name dims items roots)) :
    IdSet.Sorted items ∧ (∃ ts, Forest c s roots items ts) ∧ MarksComplete c s items ∧
    (items ≠ [] → roots ≠ []) := by
  obtain ⟨⟨_, _, _, hb⟩, hr⟩ := hinv
  rcases hb with ⟨hn, _⟩ | ⟨name', dims', items', roots', hm', hs, hf, hmk⟩
  · rw [hn] at hm; cases hm
  · rw [hm'] at hm
    cases hm
    exact ⟨hs, hf, hmk, hr _ _ _ _ hm'⟩

/-- **bridge**: in a state satisfying the index invariant, with a metadata record and no updated mark,
    any forest for the recorded roots and items is a reader-side forest, and the buckets are sorted -/
theorem forestWith_of_inv {c : Cfg} {s : Store} (hinv : IndexInv c s) {name : Bytes} {dims : Nat}
    {items roots : List Nat} {ts : List T}
    (hm : Store.get s c.metaKey = some (.metadata name dims items roots))
    (hnm : ∀ id, Store.get s (c.updatedKey id) = none)
    (f : Forest c s roots items ts) : ForestWith c s ⟨roots, dims, items⟩ ts ∧ DescSorted c s := by
  obtain ⟨hs, _, hmk, hne⟩ := hinv.of_meta hm
  refine ⟨f.toForestWith dims hs ?_ hne, f.descSorted⟩
  intro x hx
  apply hinv.leaves.leaf_of_isSome
  exact (hmk x (by rw [hnm x]; rfl)).1 hx

/-- the same without naming the trees -/
theorem forestOK_of_inv {c : Cfg} {s : Store} (hinv : IndexInv c s) {name : Bytes} {dims : Nat}
    {items roots : List Nat}
    (hm : Store.get s c.metaKey = some (.metadata name dims items roots))
    (hnm : ∀ id, Store.get s (c.updatedKey id) = none) :
    ForestOK c s ⟨roots, dims, items⟩ ∧ DescSorted c s := by
  obtain ⟨_, ⟨ts, f⟩, _, _⟩ := hinv.of_meta hm
  exact ⟨⟨ts, (forestWith_of_inv hinv hm hnm f).1⟩, (forestWith_of_inv hinv hm hnm f).2⟩

/-- the trees of the reader-side forest are the ones the executable checker reads (`Check.trees`) -/
theorem forestWith_trees_of_inv {c : Cfg} {s : Store} (hinv : IndexInv c s) {name : Bytes} {dims : Nat}
    {items roots : List Nat}
    (hm : Store.get s c.metaKey = some (.metadata name dims items roots))
    (hnm : ∀ id, Store.get s (c.updatedKey id) = none) :
    ForestWith c s ⟨roots, dims, items⟩ (Check.trees c s) := by
  obtain ⟨_, ⟨ts, f⟩, _, _⟩ := hinv.of_meta hm
  rw [Check.trees_of_forest f (by simp [Transp.rootsOf, hm])]
  exact (forestWith_of_inv hinv hm hnm f).1

/-- the items recorded in the metadata of a mark-free state are exactly the stored item ids -/
theorem items_eq_keysOf_of_inv {c : Cfg} {s : Store} (hinv : IndexInv c s) (hi : c.index < 65536)
    {name : Bytes} {dims : Nat} {items roots : List Nat}
    (hm : Store.get s c.metaKey = some (.metadata name dims items roots))
    (hnm : ∀ id, Store.get s (c.updatedKey id) = none) :
    s.keysOf c.index modeItem = items := by
  obtain ⟨hs, _, hmk, _⟩ := hinv.of_meta hm
  apply IdSet.sorted_ext (Store.keysOf_sorted hinv.sorted hinv.wf _ _ hi (by decide)) hs
  intro x
  rw [Store.mem_keysOf_iff hinv.wf _ _ _ hi (by decide)]
  exact (hmk x (by rw [hnm x]; rfl)).symm

/-- `Reader::open` succeeds on a built index of the right metric without marks -/
theorem open_of_inv {c : Cfg} {s : Store} (hinv : IndexInv c s) (hi : c.index < 65536) {dims : Nat}
    {items roots : List Nat}
    (hm : Store.get s c.metaKey = some (.metadata c.metric.nameBytes dims items roots))
    (hnm : ∀ id, Store.get s (c.updatedKey id) = none) :
    Reader.open c s = .ok ⟨roots, dims, items⟩ := by
  apply (((C06.C06_open_char c s hinv.wf hi).2 _ dims items roots hm).2 rfl).2.1
  rintro ⟨id, hid⟩
  rw [hnm id] at hid
  cases hid

end Arroy
