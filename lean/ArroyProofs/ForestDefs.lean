import ArroyProofs.BuildInv
import ArroyProofs.DeleteForest
import ArroyProofs.MakeT
import ArroyProofs.TreeView
/-! The forest invariant of a built index (`Forest`), the index invariant that histories
preserve (`IndexInv`), the id-generator hypothesis (`GenOK`) and their basic laws; at the end, the
item vectors `vecOf`, the only thing `Build.sideOf` reads of a store. -/
namespace Arroy
open Generated IdSet

/-- the store holds the trees `ts` rooted at `roots`, they are node-disjoint, cover every tree key
    of the index, and each reaches exactly `items`, each item once -/
structure Forest (c : Cfg) (s : Store) (roots items : List Nat) (ts : List T) : Prop where
  refs : ts.map T.ref = roots.map NodeId.mkTree
  holds : ∀ t ∈ ts, Holds c s t
  /-- no node shared between trees or reachable twice -/
  ids_nodup : (ts.flatMap T.ids).Nodup
  /-- no unreferenced tree node left behind -/
  cover : ∀ id, (Store.get s (c.treeKey id)).isSome ↔ id ∈ ts.flatMap T.ids
  wf : ∀ t ∈ ts, WF t
  /-- each item once per tree -/
  items_nodup : ∀ t ∈ ts, t.items.Nodup
  /-- every tree reaches exactly the items -/
  reach : ∀ t ∈ ts, ∀ x, x ∈ t.items ↔ x ∈ items

/-- the marks are complete: an id without an updated mark is in `items` iff it is stored
    (for every id: an id that does not fit in 32 bits is neither marked nor stored) -/
def MarksComplete (c : Cfg) (s : Store) (items : List Nat) : Prop :=
  ∀ id, (Store.get s (c.updatedKey id)).isNone → (id ∈ items ↔ (Store.get s (c.itemKey id)).isSome)

/-- the part of `IndexInv` about a built index -/
def Built (c : Cfg) (s : Store) : Prop :=
  ∃ name dims items roots, Store.get s c.metaKey = some (.metadata name dims items roots) ∧
    IdSet.Sorted items ∧ (∃ ts, Forest c s roots items ts) ∧ MarksComplete c s items

/-- the index was never built (or was cleared): no metadata and no tree node -/
def Unbuilt (c : Cfg) (s : Store) : Prop :=
  Store.get s c.metaKey = none ∧ ∀ id, Store.get s (c.treeKey id) = none

/-- the invariant of an index, without the clause on the number of roots -/
def IndexInvW (c : Cfg) (s : Store) : Prop :=
  Store.Sorted s ∧ Store.WF s ∧ C05.ItemsAreLeaves c s ∧ (Unbuilt c s ∨ Built c s)

/-- a non-empty built index has a tree -/
def RootsNonempty (c : Cfg) (s : Store) : Prop :=
  ∀ name dims items roots, Store.get s c.metaKey = some (.metadata name dims items roots) → items ≠ [] → roots ≠ []

/-- the index invariant preserved by the operations `add`, `append`, `del`, `clear`, `prepare`, `build` of a history -/
def IndexInv (c : Cfg) (s : Store) : Prop := IndexInvW c s ∧ RootsNonempty c s

theorem IndexInvW.sorted {c : Cfg} {s : Store} (h : IndexInvW c s) : Store.Sorted s := h.1
theorem IndexInvW.wf {c : Cfg} {s : Store} (h : IndexInvW c s) : Store.WF s := h.2.1
theorem IndexInvW.leaves {c : Cfg} {s : Store} (h : IndexInvW c s) : C05.ItemsAreLeaves c s := h.2.2.1
theorem IndexInv.weak {c : Cfg} {s : Store} (h : IndexInv c s) : IndexInvW c s := h.1
theorem IndexInv.sorted {c : Cfg} {s : Store} (h : IndexInv c s) : Store.Sorted s := h.1.1
theorem IndexInv.wf {c : Cfg} {s : Store} (h : IndexInv c s) : Store.WF s := h.1.2.1
theorem IndexInv.leaves {c : Cfg} {s : Store} (h : IndexInv c s) : C05.ItemsAreLeaves c s := h.1.2.2.1

theorem TWF_iff (t : T) : T.WF t ↔ Arroy.WF t := by
  induction t with
  | leaf i => simp [T.WF, WF]
  | bucket id s => simp [T.WF, WF]
  | node id n l r ihl ihr => simp [T.WF, WF, ihl, ihr]

theorem Holds.isSome {c : Cfg} {s : Store} {t : T} (h : Holds c s t) {i : Nat} (hi : i ∈ t.ids) :
    (Store.get s (c.treeKey i)).isSome = true := by
  rw [← cells_ids] at hi
  obtain ⟨cell, hc, rfl⟩ := List.mem_map.1 hi
  rw [h cell hc]; rfl

/-- `Holds` only looks at the tree keys of the ids of the tree -/
theorem Holds.congr {c : Cfg} {s s' : Store} {t : T} (hh : Holds c s t)
    (agree : ∀ i ∈ t.ids, Store.get s' (c.treeKey i) = Store.get s (c.treeKey i)) : Holds c s' t :=
  hh.frame agree

theorem mkTree_inj {a b : Nat} (h : NodeId.mkTree a = NodeId.mkTree b) : a = b := by
  simpa [NodeId.mkTree] using h

theorem refs_of_not_leaf {ts : List T} (h : ∀ t ∈ ts, ∀ i, t ≠ .leaf i) :
    ts.map T.ref = (ts.map (fun t => t.ref.item)).map NodeId.mkTree := by
  rw [List.map_map]
  exact List.map_congr_left (fun t ht => (T.ref_eq_mkTree_of_not_leaf (h t ht)).1)

theorem exists_perm_map {α β : Type} [DecidableEq α] (f : α → β) :
    ∀ (r : List β) (l : List α), (l.map f).Perm r → ∃ l' : List α, l'.Perm l ∧ l'.map f = r := by
  intro r
  induction r with
  | nil =>
    intro l h
    have : l = [] := by
      have := h.length_eq; simpa using this
    exact ⟨[], by rw [this], rfl⟩
  | cons b r ih =>
    intro l h
    have hb : b ∈ l.map f := h.mem_iff.2 (by simp)
    obtain ⟨a, ha, hfa⟩ := List.mem_map.1 hb
    have hp : l.Perm (a :: l.erase a) := List.perm_cons_erase ha
    have h2 : ((a :: l.erase a).map f).Perm (b :: r) := (hp.symm.map f).trans h
    simp only [List.map_cons, hfa] at h2
    obtain ⟨l', hl', hm⟩ := ih (l.erase a) h2.cons_inv
    exact ⟨a :: l', (hl'.cons a).trans hp.symm, by simp [hm, hfa]⟩


namespace Forest
variable {c : Cfg} {s s' : Store} {roots items : List Nat} {ts : List T}

theorem length (f : Forest c s roots items ts) : ts.length = roots.length := refs_length f.refs

theorem frame (f : Forest c s roots items ts) (h : ∀ i, Store.get s' (c.treeKey i) = Store.get s (c.treeKey i)) :
    Forest c s' roots items ts where
  refs := f.refs
  holds := fun t ht => (f.holds t ht).frame (fun i _ => h i)
  ids_nodup := f.ids_nodup
  cover := fun id => by rw [h]; exact f.cover id
  wf := f.wf
  items_nodup := f.items_nodup
  reach := f.reach

/-- only the membership of `items` matters -/
theorem items_congr {items' : List Nat} (f : Forest c s roots items ts) (h : ∀ x, x ∈ items' ↔ x ∈ items) :
    Forest c s roots items' ts :=
  { f with reach := fun t ht x => by rw [f.reach t ht x, h] }

theorem nil (h : ∀ id, Store.get s (c.treeKey id) = none) (items : List Nat) : Forest c s [] items [] where
  refs := rfl
  holds := by intro t ht; cases ht
  ids_nodup := by simp
  cover := by intro id; simp [h id]
  wf := by intro t ht; cases ht
  items_nodup := by intro t ht; cases ht
  reach := by intro t ht; cases ht

theorem roots_eq (f : Forest c s roots items ts) : roots = ts.map (fun t => t.ref.item) := by
  have := congrArg (List.map NodeId.item) f.refs
  simpa [List.map_map, Function.comp_def] using this.symm

theorem mem_ids_of_root (f : Forest c s roots items ts) {t : T} (ht : t ∈ ts) : t.ref.item ∈ ts.flatMap T.ids :=
  List.mem_flatMap.2 ⟨t, ht, (T.ref_eq_mkTree_of_not_leaf (not_leaf_of_refs f.refs t ht)).2⟩

theorem tree_nodup (f : Forest c s roots items ts) {t : T} (ht : t ∈ ts) : t.ids.Nodup :=
  (List.pairwise_flatMap.1 f.ids_nodup).1 t ht

theorem roots_nodup (f : Forest c s roots items ts) : roots.Nodup :=
  f.roots_eq ▸ roots_nodup_of_ids_nodup (not_leaf_of_refs f.refs) f.ids_nodup

theorem perm {ts' : List T} (f : Forest c s roots items ts) (hp : ts'.Perm ts) :
    Forest c s (ts'.map (fun t => t.ref.item)) items ts' where
  refs := refs_of_not_leaf (fun t ht => not_leaf_of_refs f.refs t (hp.mem_iff.1 ht))
  holds := fun t ht => f.holds t (hp.mem_iff.1 ht)
  ids_nodup := ((hp.flatMap_right T.ids).nodup_iff).2 f.ids_nodup
  cover := fun id => by rw [f.cover id]; exact ((hp.flatMap_right T.ids).mem_iff).symm
  wf := fun t ht => f.wf t (hp.mem_iff.1 ht)
  items_nodup := fun t ht => f.items_nodup t (hp.mem_iff.1 ht)
  reach := fun t ht => f.reach t (hp.mem_iff.1 ht)

theorem reorder {roots' : List Nat} (f : Forest c s roots items ts) (hp : roots'.Perm roots) :
    ∃ ts', ts'.Perm ts ∧ Forest c s roots' items ts' := by
  obtain ⟨ts', hp', hm⟩ := exists_perm_map (fun t : T => t.ref.item) roots' ts (f.roots_eq ▸ hp.symm)
  exact ⟨ts', hp', hm ▸ f.perm hp'⟩

end Forest

/-- every id the generator hands out fits in 32 bits -/
def GenBounded (g : IdGen) : Prop :=
  ∀ (k : Nat) (ids : List Nat) (g' : IdGen), nextN k g = .ok (ids, g') → ∀ i ∈ ids, i < 4294967296

/-- fresh (w.r.t. `inUse`) and 32-bit ids only -/
def GenOK (inUse : List Nat) (g : IdGen) : Prop := FreshGen inUse g ∧ GenBounded g

theorem GenOK.big {inUse : List Nat} {g : IdGen} (h : GenOK inUse g) {N : Nat} (hN : 4294967296 ≤ N) :
    FreshGen (N :: inUse) g := by
  intro k ids g' hk
  obtain ⟨h1, h2⟩ := h.1 k ids g' hk
  refine ⟨h1, ?_⟩
  intro i hi hm
  rcases List.mem_cons.1 hm with rfl | hm
  · have := h.2 k ids g' hk i hi; omega
  · exact h2 i hi hm

theorem GenOK.of_big {inUse : List Nat} {g : IdGen} (h : ∀ N, 4294967296 ≤ N → FreshGen (N :: inUse) g) :
    GenOK inUse g := by
  refine ⟨(h 4294967296 (Nat.le_refl _)).mono (fun i hi => List.mem_cons_of_mem _ hi), ?_⟩
  intro k ids g' hk i hi
  by_cases hlt : i < 4294967296
  · exact hlt
  · exact absurd (List.mem_cons_self) ((h i (by omega) k ids g' hk).2 i hi)

/-- a routine that ends with the ids `ids` and the generator `g'`: if, whatever in-use set the generator
    is fresh for, every id is old or fresh and `g'` stays fresh, then with a bounded generator every id
    is old or fits in 32 bits, and `g'` stays bounded (take an id that does not fit as in use) -/
theorem GenOK.lift {g g' : IdGen} {inUse ids : List Nat} {old : Nat → Prop} (hg : GenOK inUse g)
    (h : ∀ N, FreshGen (N :: inUse) g → (∀ i ∈ ids, old i ∨ i ∉ N :: inUse) ∧ FreshGen (ids ++ N :: inUse) g') :
    (∀ i ∈ ids, old i ∨ i < 4294967296) ∧ GenOK (ids ++ inUse) g' := by
  refine ⟨fun i hi => ?_, GenOK.of_big (fun N hN => (h N (hg.big hN)).2.mono ?_)⟩
  · by_cases hlt : i < 4294967296
    · exact Or.inr hlt
    · exact ((h i (hg.big (by omega))).1 i hi).imp_right (fun hn => absurd List.mem_cons_self hn)
  · intro i hi
    simp only [List.mem_cons, List.mem_append] at hi ⊢
    rcases hi with rfl | hi | hi
    · exact Or.inr (Or.inl rfl)
    · exact Or.inl hi
    · exact Or.inr (Or.inr hi)

theorem GenOK.mono {inUse inUse' : List Nat} {g : IdGen} (h : GenOK inUse g) (hs : ∀ i ∈ inUse', i ∈ inUse) :
    GenOK inUse' g := ⟨h.1.mono hs, h.2⟩

theorem GenOK.step {inUse : List Nat} {g g' : IdGen} {id : Nat} (h : GenOK inUse g) (hn : g.next = .ok (id, g')) :
    id ∉ inUse ∧ id < 4294967296 ∧ GenOK (id :: inUse) g' := by
  obtain ⟨hb, hg'⟩ := h.lift (ids := [id]) (old := fun _ => False) (fun N hN =>
    ⟨fun i hi => Or.inr (List.mem_singleton.1 hi ▸ (hN.step hn).1), (hN.step hn).2⟩)
  exact ⟨(h.1.step hn).1, (hb id (by simp)).resolve_left (fun f => f), hg'⟩

/-- the item vectors of index `c` (headers may differ) -/
def vecOf (c : Cfg) (s : Store) (id : Nat) : Option (List Nat) :=
  match Store.get s (c.itemKey id) with
  | some (.leaf _ v) => some v
  | _ => none

/-- the side of an item only looks at its stored vector -/
theorem sideOf_eq_vecOf (c : Cfg) (s : Store) (n : List Nat) (x : Nat) :
    Build.sideOf c s n x = (vecOf c s x).map fun v =>
      if F32.gt (c.metric.margin c.host v n) F32.zero then some true
      else if F32.lt (c.metric.margin c.host v n) F32.zero then some false else none := by
  unfold Build.sideOf vecOf Writer.itemLeaf
  cases Store.get s (c.itemKey x) with
  | none => rfl
  | some v => cases v <;> rfl

theorem sideOf_stable (c : Cfg) {s s' : Store} (h : ∀ id, vecOf c s' id = vecOf c s id) :
    Build.sideOf c s' = Build.sideOf c s := by
  funext n x
  rw [sideOf_eq_vecOf, sideOf_eq_vecOf, h]

theorem treeCtx_stable (c : Cfg) (o : BuildOpts) {s s' : Store} (h : ∀ id, vecOf c s' id = vecOf c s id) :
    Build.treeCtx c o s' = Build.treeCtx c o s := by
  simp only [Build.treeCtx, sideOf_stable c h]

end Arroy
