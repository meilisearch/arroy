import ArroyProofs.Traverse
/-! A concrete index used for the non-vacuity examples of C02 / C03: three Euclidean items of dimension 2,
one tree whose root is a split node with a bucket `{0, 1}` on the left and the single item `2` on the right. -/
namespace Arroy
namespace ForestExample
open Reader

def c : Cfg := { index := 0, metric := .euclidean, dims := 2 }

/-- (0,0), (1,0), (0,2) -/
def s : Store :=
  Store.put (Store.put (Store.put (Store.put (Store.put []
      (c.itemKey 0) (.leaf [F32.zero] [F32.zero, F32.zero]))
      (c.itemKey 1) (.leaf [F32.zero] [F32.one, F32.zero]))
      (c.itemKey 2) (.leaf [F32.zero] [F32.zero, F32.two]))
      (c.treeKey 1) (.desc [0, 1]))
      (c.treeKey 0) (.split (NodeId.mkTree 1) (NodeId.mkItem 2) [F32.zero, F32.one])

def rd : ReaderState := { roots := [0], dims := 2, items := [0, 1, 2] }

def tree : T := .node 0 [F32.zero, F32.one] (.bucket 1 [0, 1]) (.leaf 2)

theorem s_eq : s =
    [(⟨0, 2, 0⟩, .split ⟨2, 1⟩ ⟨3, 2⟩ [0, 0x3f800000]), (⟨0, 2, 1⟩, .desc [0, 1]),
     (⟨0, 3, 0⟩, .leaf [0] [0, 0]), (⟨0, 3, 1⟩, .leaf [0] [0x3f800000, 0]), (⟨0, 3, 2⟩, .leaf [0] [0, 0x40000000])] := by
  decide

theorem forestWith : ForestWith c s rd [tree] where
  refs := by decide
  holds := by
    intro t ht
    simp only [List.mem_singleton] at ht
    subst ht
    intro cell hc
    simp only [tree, T.cells, T.ref, List.mem_cons, List.append_nil, List.not_mem_nil, or_false] at hc
    rcases hc with rfl | rfl <;> decide
  reach := by
    intro t ht x
    simp only [List.mem_singleton] at ht
    subst ht
    exact Iff.rfl
  items_nodup := by
    intro t ht
    simp only [List.mem_singleton] at ht
    subst ht
    decide
  ids_nodup := by decide
  sorted := by decide
  stored := by
    intro x hx
    simp only [rd, List.mem_cons, List.not_mem_nil, or_false] at hx
    rcases hx with rfl | rfl | rfl
    · exact ⟨[F32.zero], [F32.zero, F32.zero], by decide⟩
    · exact ⟨[F32.zero], [F32.one, F32.zero], by decide⟩
    · exact ⟨[F32.zero], [F32.zero, F32.two], by decide⟩
  roots_ne := by intro _; decide

theorem forestOK : ForestOK c s rd := ⟨[tree], forestWith⟩

theorem descSorted : DescSorted c s := by
  intro id ids h
  -- the only tree keys are 0 (a split node) and 1 (the bucket)
  have hk := Store.mem_keys_of_get h
  rw [s_eq] at hk
  simp [Cfg.treeKey, Key.mkTree, c, Generated.modeTree] at hk
  rcases hk with rfl | rfl
  · rw [show Store.get s (c.treeKey 0) = some (.split (NodeId.mkTree 1) (NodeId.mkItem 2) [F32.zero, F32.one]) by
      decide] at h
    cases h
  · rw [show Store.get s (c.treeKey 1) = some (.desc [0, 1]) by decide] at h
    cases h
    decide

end ForestExample
end Arroy
