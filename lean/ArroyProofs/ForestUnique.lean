import ArroyProofs.IndexInvOps
import ArroyModel.Check
/-! The forest of a store is what `reify` reads at the roots: uniqueness, and the link to the
executable `Check.trees`. -/
namespace Arroy
open Generated IdSet Transp

theorem Forest.reify_eq {c : Cfg} {s : Store} {roots items : List Nat} {ts : List T} (f : Forest c s roots items ts) :
    roots.map (fun r => reify c s (s.length + 1) (NodeId.mkTree r)) = ts.map some :=
  reify_roots f.refs f.holds f.ids_nodup

theorem Forest.unique {c : Cfg} {s : Store} {roots i1 i2 : List Nat} {ts1 ts2 : List T}
    (f1 : Forest c s roots i1 ts1) (f2 : Forest c s roots i2 ts2) : ts1 = ts2 :=
  (List.map_inj_right (fun _ _ => Option.some.inj)).1 (f1.reify_eq.symm.trans f2.reify_eq)

theorem filterMap_map_some {α β : Type} (l : List α) (g : α → Option β) (ts : List β) (h : l.map g = ts.map some) :
    l.filterMap g = ts := by
  induction l generalizing ts with
  | nil => cases ts with
    | nil => rfl
    | cons _ _ => simp at h
  | cons a l ih =>
    cases ts with
    | nil => simp at h
    | cons t ts =>
      simp only [List.map_cons, List.cons.injEq] at h
      simp only [List.filterMap_cons, h.1, ih ts h.2]

theorem Check.trees_of_noMeta {c : Cfg} {s : Store} (h : Store.get s c.metaKey = none) : Check.trees c s = [] := by
  simp only [Check.trees, h]

theorem Check.trees_of_forest {c : Cfg} {s : Store} {roots items : List Nat} {ts : List T}
    (f : Forest c s roots items ts) (hr : rootsOf c s = roots) : Check.trees c s = ts := by
  unfold Check.trees
  unfold rootsOf at hr
  split
  · rename_i name dims its roots' hm
    rw [hm] at hr
    simp only at hr
    subst hr
    exact filterMap_map_some _ _ _ f.reify_eq
  · rename_i hm
    have hroots : roots = [] := by
      rw [← hr]
      split
      · rename_i name dims its roots' hm'
        exact absurd hm' (hm name dims its roots')
      · rfl
    subst hroots
    have := f.length
    simp only [List.length_nil, List.length_eq_zero_iff] at this
    exact this.symm

theorem Check.trees_of_old {c : Cfg} {s : Store} {roots items : List Nat} {ts : List T}
    (old : Old c s roots items ts) : Check.trees c s = ts :=
  Check.trees_of_forest old.forest old.roots_eq

theorem BuildOut.rootsOf {c : Cfg} {o : BuildOpts} {s s' : Store} {roots0 roots' : List Nat} {ts0 ts' : List T}
    (b : BuildOut c o s s' roots0 ts0 roots' ts') : rootsOf c s' = roots' := by
  simp only [Transp.rootsOf, b.metadata]

theorem BuildOut.trees {c : Cfg} {o : BuildOpts} {s s' : Store} {roots0 roots' : List Nat} {ts0 ts' : List T}
    (b : BuildOut c o s s' roots0 ts0 roots' ts') : Check.trees c s' = ts' :=
  Check.trees_of_forest b.forest b.rootsOf

theorem Check.trees_mutate {c : Cfg} {s s' : Store} (hinv : IndexInvW c s) (hi : c.index < 65536)
    (m : Mutates c s s') : Check.trees c s' = Check.trees c s := by
  obtain ⟨roots, items, ts, old⟩ := Old.of_inv hinv hi
  rw [Check.trees_of_old old, Check.trees_of_old (old.mutate m)]

theorem Check.trees_congr_index {c c' : Cfg} (h : c'.index = c.index) (s : Store) :
    Check.trees c' s = Check.trees c s := by
  have hm := Cfg.metaKey_congr h
  have hr : ∀ fuel ref, reify c' s fuel ref = reify c s fuel ref := by
    intro fuel
    induction fuel with
    | zero => intro ref; rfl
    | succ f ih =>
      intro ref
      have hk := Cfg.treeKey_congr h ref.item
      simp only [reify, hk, ih]
  simp only [Check.trees, hm, hr]

end Arroy
