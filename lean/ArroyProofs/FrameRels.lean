import ArroyProofs.StoreLemmas
import ArroyProofs.PrefixLemmas
import ArroyProofs.BuildFrame
/-! The store relations of the isolation / "what a build may touch" theorems, and the proof that each
is closed under the primitive writes of a build (`OpsClosed`). -/
namespace Arroy
open Generated

/-! ## list-level facts about the store operations (no sortedness needed) -/
namespace Frame

/-- the keys of a store -/
def keys (s : Store) : List Key := s.map (·.1)

theorem filter_erase (q : Key → Bool) (s : Store) (k : Key) (hq : q k = false) :
    (Store.erase s k).filter (fun kv => q kv.1) = s.filter (fun kv => q kv.1) := by
  unfold Store.erase
  rw [List.filter_filter]
  apply List.filter_congr
  intro kv _
  by_cases e : kv.1 = k
  · rw [e, hq]; simp
  · simp [e]

theorem filter_filter_of_imp (q : Key → Bool) (p : Key × Val → Bool) (s : Store)
    (h : ∀ kv, q kv.1 = true → p kv = true) :
    (s.filter p).filter (fun kv => q kv.1) = s.filter (fun kv => q kv.1) := by
  rw [List.filter_filter]
  apply List.filter_congr
  intro kv _
  cases hq : q kv.1
  · simp
  · simp [h kv hq]

theorem mem_keys_put {s : Store} {k k' : Key} {v : Val} (h : k' ∈ keys (Store.put s k v)) : k' = k ∨ k' ∈ keys s := by
  obtain ⟨kv, hkv, rfl⟩ := List.mem_map.1 h
  rcases Store.mem_put hkv with rfl | hm
  · exact Or.inl rfl
  · exact Or.inr (List.mem_map_of_mem hm)

theorem mem_keys_filter {s : Store} {p : Key × Val → Bool} {k : Key} (h : k ∈ keys (s.filter p)) : k ∈ keys s := by
  simp only [keys, List.mem_map, List.mem_filter] at h ⊢
  obtain ⟨kv, ⟨h1, _⟩, h2⟩ := h
  exact ⟨kv, h1, h2⟩

theorem mem_keys_erase {s : Store} {k k' : Key} (h : k' ∈ keys (Store.erase s k)) : k' ∈ keys s ∧ k' ≠ k := by
  simp only [Store.erase, keys, List.mem_map, List.mem_filter] at h ⊢
  obtain ⟨kv, ⟨h1, h3⟩, h2⟩ := h
  refine ⟨⟨kv, h1, h2⟩, ?_⟩
  rw [← h2]; simpa using h3

theorem get_eq_none_of_not_mem {s : Store} {k : Key} (h : k ∉ keys s) : Store.get s k = none :=
  (Store.get_eq_none_iff s k).2 fun _ hv => h (List.mem_map_of_mem hv)

theorem mem_keys_of_get {s : Store} {k : Key} {v : Val} (h : Store.get s k = some v) : k ∈ keys s := by
  apply Classical.byContradiction
  intro hn
  rw [get_eq_none_of_not_mem hn] at h
  cases h

theorem get_append_other (s : Store) (k k' : Key) (v : Val) (h : k' ≠ k) :
    Store.get (s ++ [(k, v)]) k' = Store.get s k' := by
  induction s with
  | nil => simp [Store.get, Ne.symm h]
  | cons a r ih => obtain ⟨k0, v0⟩ := a; simp only [List.cons_append, Store.get, ih]

end Frame

/-! ## the relations -/

/-- **Frame** (isolation, `get` form): no well-formed key of another index changes. -/
def Untouched (i : Nat) (s s' : Store) : Prop :=
  ∀ k : Key, k.wf → k.index ≠ i → Store.get s' k = Store.get s k

/-- **Frame** (isolation, dump form): the sub-list of the entries that do not belong to index `i`
    (as the encoder sees their keys) is the same list. No assumption on the store. -/
def OtherSame (i : Nat) (s s' : Store) : Prop :=
  s'.filter (fun kv => kv.1.index % 65536 != i) = s.filter (fun kv => kv.1.index % 65536 != i)

/-- Every well-formed key that is of another index **or** an item key keeps its value. -/
def FrameNI (i : Nat) (s s' : Store) : Prop :=
  ∀ k : Key, k.wf → (k.index ≠ i ∨ k.mode = modeItem) → Store.get s' k = Store.get s k

/-- two optional values that differ at most by the header of a leaf -/
def SameUpToHeader (a b : Option Val) : Prop :=
  a = b ∨ ∃ h h' v, a = some (.leaf h v) ∧ b = some (.leaf h' v)

/-- the vector words of a stored leaf -/
def leafVec : Option Val → Option (List Nat)
  | some (.leaf _ v) => some v
  | _ => none

/-- **What a build may touch.** Outside the non-item keys of index `i` (its tree nodes, updated marks,
    metadata and version records), a key that is not an item key keeps its value, and an item key keeps
    its presence and its value up to the leaf header (the DotProduct preprocessing rewrites it). -/
def OnlyTreeMarksMeta (i : Nat) (s s' : Store) : Prop :=
  ∀ k : Key, k.wf → ¬ (k.index = i ∧ k.mode ≠ modeItem) →
    (k.mode = modeItem → SameUpToHeader (Store.get s k) (Store.get s' k)) ∧
    (k.mode ≠ modeItem → Store.get s' k = Store.get s k)

/-- no key under the `(i, Updated)` prefix appears -/
def NoNewUpdated (i : Nat) (s s' : Store) : Prop :=
  ∀ k : Key, isPrefixOf (encodePrefix i (some modeUpdated)) (encodeKey k) = true →
    k ∈ Frame.keys s' → k ∈ Frame.keys s

namespace SameUpToHeader
theorem refl (a : Option Val) : SameUpToHeader a a := Or.inl rfl
theorem trans {a b c : Option Val} (h1 : SameUpToHeader a b) (h2 : SameUpToHeader b c) : SameUpToHeader a c := by
  rcases h1 with rfl | ⟨h, h', v, rfl, rfl⟩
  · exact h2
  · rcases h2 with rfl | ⟨g, g', w, e1, rfl⟩
    · exact Or.inr ⟨h, h', v, rfl, rfl⟩
    · simp only [Option.some.injEq, Val.leaf.injEq] at e1
      obtain ⟨_, rfl⟩ := e1
      exact Or.inr ⟨h, g', _, rfl, rfl⟩
theorem leafVec_eq {a b : Option Val} (h : SameUpToHeader a b) : leafVec a = leafVec b := by
  rcases h with rfl | ⟨h, h', v, rfl, rfl⟩ <;> rfl
theorem isSome_eq {a b : Option Val} (h : SameUpToHeader a b) : a.isSome = b.isSome := by
  rcases h with rfl | ⟨h, h', v, rfl, rfl⟩ <;> rfl
end SameUpToHeader

theorem Untouched.storeRel (i : Nat) : StoreRel (Untouched i) :=
  ⟨fun _ _ _ _ => rfl, fun h1 h2 k hk hi => (h2 k hk hi).trans (h1 k hk hi)⟩
theorem OtherSame.storeRel (i : Nat) : StoreRel (OtherSame i) :=
  ⟨fun _ => rfl, fun h1 h2 => Eq.trans h2 h1⟩
theorem FrameNI.storeRel (i : Nat) : StoreRel (FrameNI i) :=
  ⟨fun _ _ _ _ => rfl, fun h1 h2 k hk hi => (h2 k hk hi).trans (h1 k hk hi)⟩
theorem NoNewUpdated.storeRel (i : Nat) : StoreRel (NoNewUpdated i) :=
  ⟨fun _ _ _ h => h, fun h1 h2 k hk hm => h1 k hk (h2 k hk hm)⟩
theorem OnlyTreeMarksMeta.storeRel (i : Nat) : StoreRel (OnlyTreeMarksMeta i) :=
  ⟨fun _ _ _ _ => ⟨fun _ => SameUpToHeader.refl _, fun _ => rfl⟩,
   fun h1 h2 k hk hn =>
    ⟨fun hm => ((h1 k hk hn).1 hm).trans ((h2 k hk hn).1 hm),
     fun hm => ((h2 k hk hn).2 hm).trans ((h1 k hk hn).2 hm)⟩⟩

theorem FrameNI.untouched {i : Nat} {s s' : Store} (h : FrameNI i s s') : Untouched i s s' :=
  fun k hk hi => h k hk (Or.inl hi)

theorem FrameNI.onlyTreeMarksMeta {i : Nat} {s s' : Store} (h : FrameNI i s s') : OnlyTreeMarksMeta i s s' := by
  intro k hk hn
  have e : Store.get s' k = Store.get s k := by
    apply h k hk
    by_cases hi : k.index = i
    · right
      apply Classical.byContradiction
      intro hm; exact hn ⟨hi, hm⟩
    · exact Or.inl hi
  exact ⟨fun _ => Or.inl e.symm, fun _ => e⟩

/-- The formulation by kinds: for a key of one of the four kinds the decoder accepts, outside the tree
    nodes, updated marks and metadata/version records of index `i`: an item key keeps its presence and
    its vector words, any other key keeps its value.
    (For a key of index `i` whose kind byte is none of the four discriminants the statement would be
    false in the model: `delete_tree` follows the child ids of a split node whatever their kind, see the
    `example` in `BuildTouch.lean`; the real decoder rejects such ids.) -/
theorem OnlyTreeMarksMeta.by_kind {i : Nat} {s s' : Store} (h : OnlyTreeMarksMeta i s s') (k : Key) (hk : k.wf)
    (hv : k.mode = modeMetadata ∨ k.mode = modeUpdated ∨ k.mode = modeTree ∨ k.mode = modeItem)
    (hn : ¬ (k.index = i ∧ (k.mode = modeTree ∨ k.mode = modeUpdated ∨ k.mode = modeMetadata))) :
    (k.mode = modeItem → leafVec (Store.get s' k) = leafVec (Store.get s k) ∧
      (Store.get s' k).isSome = (Store.get s k).isSome) ∧
    (k.mode ≠ modeItem → Store.get s' k = Store.get s k) := by
  have hn' : ¬ (k.index = i ∧ k.mode ≠ modeItem) := by
    rintro ⟨e1, e2⟩
    apply hn
    refine ⟨e1, ?_⟩
    rcases hv with e | e | e | e
    · exact Or.inr (Or.inr e)
    · exact Or.inr (Or.inl e)
    · exact Or.inl e
    · exact absurd e e2
  obtain ⟨h1, h2⟩ := h k hk hn'
  exact ⟨fun hm => ⟨(h1 hm).leafVec_eq.symm, (h1 hm).isSome_eq.symm⟩, h2⟩

theorem OnlyTreeMarksMeta.untouched {i : Nat} {s s' : Store} (h : OnlyTreeMarksMeta i s s') :
    ∀ k : Key, k.wf → k.index ≠ i → k.mode ≠ modeItem → Store.get s' k = Store.get s k :=
  fun k hk hi hm => (h k hk (fun e => hi e.1)).2 hm

/-- under the dump form, **every** key of another index (well-formed or not) reads the same -/
theorem OtherSame.get_eq {i : Nat} {s s' : Store} (h : OtherSame i s s') (k : Key) (hk : k.index % 65536 ≠ i) :
    Store.get s' k = Store.get s k := by
  have e1 := Store.get_filter_key s' (fun k => k.index % 65536 != i) k
  have e2 := Store.get_filter_key s (fun k => k.index % 65536 != i) k
  have : (k.index % 65536 != i) = true := by simpa using hk
  rw [if_pos this] at e1 e2
  rw [← e1, ← e2]
  exact congrArg (fun l => Store.get l k) h

/-- the dump form of isolation implies the `get` form -/
theorem OtherSame.untouched {i : Nat} {s s' : Store} (h : OtherSame i s s') : Untouched i s s' :=
  fun k hk hi => h.get_eq k (by rw [Nat.mod_eq_of_lt hk.1]; exact hi)

/-- the dump form of isolation gives the same prefix scans of every other index -/
theorem OtherSame.prefixIter_eq {i : Nat} {s s' : Store} (h : OtherSame i s s') (j : Nat) (m : Option Nat)
    (hj : j % 65536 ≠ i) : Store.prefixIter s' j m = Store.prefixIter s j m := by
  have key : ∀ t : Store, Store.prefixIter t j m =
      (t.filter (fun kv => kv.1.index % 65536 != i)).filter
        (fun kv => isPrefixOf (encodePrefix j m) (encodeKey kv.1)) := by
    intro t
    rw [List.filter_filter]
    unfold Store.prefixIter
    apply List.filter_congr
    intro kv _
    cases hp : isPrefixOf (encodePrefix j m) (encodeKey kv.1)
    · simp
    · have : kv.1.index % 65536 = j % 65536 := by
        cases m with
        | none => exact (isPrefixOf_index_all j kv.1).1 hp
        | some m => exact ((isPrefixOf_kind_all j m kv.1).1 hp).1
      simp [this, hj]
  rw [key s', key s, h]

/-! ## closure under the writes of a build -/

theorem OtherSame.opsClosed (c : Cfg) (hi : c.index < 65536) : OpsClosed c (OtherSame c.index) where
  toStoreRel := OtherSame.storeRel _
  put := fun s m id v _ => Store.filter_put_of_false s (fun k => k.index % 65536 != c.index) _ v (by
    simp [Nat.mod_eq_of_lt hi])
  erase := fun s m id _ => Frame.filter_erase (fun k => k.index % 65536 != c.index) s _ (by
    simp [Nat.mod_eq_of_lt hi])
  delRange := fun s => by
    unfold OtherSame Store.deleteRange
    apply Frame.filter_filter_of_imp (fun k => k.index % 65536 != c.index)
    intro kv hq
    apply (treeRange_keeps_all c.index kv.1 hi).2
    intro e
    simp [e.1] at hq

theorem FrameNI.opsClosed (c : Cfg) (hi : c.index < 65536) : OpsClosed c (FrameNI c.index) where
  toStoreRel := FrameNI.storeRel _
  put := fun s m id v hm k _ hk => Store.get_put_other s _ k v (by
    intro e; subst e
    rcases hk with hk | hk
    · exact hk rfl
    · rcases hm with rfl | rfl <;> simp [modeTree, modeMetadata, modeItem] at hk)
  erase := fun s m id hm k _ hk => Store.get_erase_other s _ k (by
    intro e; subst e
    rcases hk with hk | hk
    · exact hk rfl
    · exact hm hk)
  delRange := fun s k hwf hk => by
    unfold Store.deleteRange
    apply Store.get_filter
    intro v
    apply (treeRange_keeps c.index k hwf hi).2
    intro e
    rcases hk with hk | hk
    · exact hk e.1
    · rw [e.2] at hk; simp [modeTree, modeItem] at hk

theorem NoNewUpdated.opsClosed (c : Cfg) : OpsClosed c (NoNewUpdated c.index) where
  toStoreRel := NoNewUpdated.storeRel _
  put := fun s m id v hm k hp hk => by
    rcases Frame.mem_keys_put hk with e | e
    · subst e
      have := ((isPrefixOf_kind_all c.index modeUpdated _).1 hp).2
      rcases hm with rfl | rfl <;> simp [modeTree, modeMetadata, modeUpdated] at this
    · exact e
  erase := fun s m id _ k _ hk => (Frame.mem_keys_erase hk).1
  delRange := fun s k _ hk => Frame.mem_keys_filter hk

end Arroy
