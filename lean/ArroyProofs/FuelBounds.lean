import ArroyModel.Build
import ArroyProofs.Heap
import ArroyProofs.StoreLaws
/-! Fuel bounds that hold on EVERY store (no forest invariant), for the two routines of the build that take their
fuel from the length of the store.

* `reify`: a held tree does not contain the root id of a deeper held tree (`holds_notin_of_depth_lt`), so the ids
  along a root-to-leaf path are distinct and the depth is bounded by any list that contains the ids of the tree
  (`holds_depth_le`).
* `delete_tree` on a sorted store: a successful run needs at most (number of entries it erases) + 1 units of fuel
  (`dt_bound`), hence the fuel does not matter above the length of the store (`dt_fuel_irrel`). Ingredients: a
  successful run on a sub-store replays on the whole store with no more fuel (`dt_sub`), an erased key was visited
  by a successful nested run on a sub-store (`dt_visit`), hence a run that erases its own root key before its last
  step succeeds with strictly less fuel (strong induction on the fuel). -/
namespace Arroy.C07
open Arroy Generated Build

theorem holds_unique {c : Cfg} {s : Store} {t t' : T} (h : Holds c s t) (h' : Holds c s t')
    (e : t.ref = t'.ref) : t = t' := by
  have h1 := reify_of_holds c s t h (max t.depth t'.depth) (Nat.le_max_left _ _)
  have h2 := reify_of_holds c s t' h' (max t.depth t'.depth) (Nat.le_max_right _ _)
  rw [e, h2] at h1
  exact (Option.some.inj h1).symm

theorem holds_sub {c : Cfg} {s : Store} : ∀ (t : T) (id : Nat), Holds c s t → id ∈ t.ids →
    ∃ u, Holds c s u ∧ u.ref = NodeId.mkTree id ∧ u.depth ≤ t.depth
  | .leaf i, id, _, hm => by simp [T.ids] at hm
  | .bucket id' its, id, h, hm => by
    simp only [T.ids, List.mem_singleton] at hm
    subst hm
    exact ⟨_, h, rfl, Nat.le_refl _⟩
  | .node id' n l r, id, h, hm => by
    simp only [T.ids, List.mem_cons, List.mem_append] at hm
    rcases hm with rfl | hm | hm
    · exact ⟨_, h, rfl, Nat.le_refl _⟩
    · obtain ⟨u, hu, hr, hd⟩ := holds_sub l id h.left hm
      refine ⟨u, hu, hr, ?_⟩
      simp only [T.depth]; omega
    · obtain ⟨u, hu, hr, hd⟩ := holds_sub r id h.right hm
      refine ⟨u, hu, hr, ?_⟩
      simp only [T.depth]; omega

/-- a held tree does not contain the root id of a deeper held tree -/
theorem holds_notin_of_depth_lt {c : Cfg} {s : Store} {t u : T} {id : Nat} (ht : Holds c s t) (hu : Holds c s u)
    (hr : u.ref = NodeId.mkTree id) (hd : t.depth < u.depth) : id ∉ t.ids := by
  intro hm
  obtain ⟨w, hw, hwr, hwd⟩ := holds_sub t id ht hm
  have := holds_unique hw hu (hwr.trans hr.symm)
  subst this
  omega

theorem holds_root_notin {c : Cfg} {s : Store} {id : Nat} {n : List Nat} {l r : T}
    (h : Holds c s (.node id n l r)) : id ∉ l.ids ∧ id ∉ r.ids :=
  ⟨holds_notin_of_depth_lt h.left h rfl (by simp only [T.depth]; omega),
    holds_notin_of_depth_lt h.right h rfl (by simp only [T.depth]; omega)⟩

theorem holds_depth_le {c : Cfg} {s : Store} : ∀ (t : T) (avail : List Nat), Holds c s t →
    (∀ id ∈ t.ids, id ∈ avail) → t.depth ≤ avail.length + 1
  | .leaf i, avail, _, _ => by simp [T.depth]
  | .bucket id its, avail, _, _ => by simp [T.depth]
  | .node id n l r, avail, h, ha => by
    have hid : id ∈ avail := ha id List.mem_cons_self
    obtain ⟨hl, hr⟩ := holds_root_notin h
    have h1 := holds_depth_le l (avail.erase id) h.left (by
      intro x hx
      have hne : x ≠ id := fun e => hl (e ▸ hx)
      exact (List.mem_erase_of_ne hne).2 (ha x (List.mem_cons_of_mem _ (List.mem_append_left _ hx))))
    have h2 := holds_depth_le r (avail.erase id) h.right (by
      intro x hx
      have hne : x ≠ id := fun e => hr (e ▸ hx)
      exact (List.mem_erase_of_ne hne).2 (ha x (List.mem_cons_of_mem _ (List.mem_append_right _ hx))))
    have hlen := List.length_erase_of_mem hid
    have hpos : 0 < avail.length := List.length_pos_of_mem hid
    simp only [T.depth]
    omega

abbrev dkey (c : Cfg) (x : NodeId) : Key := ⟨c.index, x.mode, x.item⟩

theorem filter_tt (s : Store) : s.filter (fun _ => true) = s :=
  List.filter_eq_self.2 (fun _ _ => rfl)

theorem val_cases (v : Val) : (∃ l r n, v = .split l r n) ∨ (∃ ids, v = .desc ids) ∨
    ((∀ l r n, v ≠ .split l r n) ∧ ∀ ids, v ≠ .desc ids) := by
  cases v with
  | split l r n => exact Or.inl ⟨l, r, n, rfl⟩
  | desc ids => exact Or.inr (Or.inl ⟨ids, rfl⟩)
  | _ => exact Or.inr (Or.inr ⟨fun _ _ _ h => (nomatch h), fun _ h => (nomatch h)⟩)

section dt
variable (c : Cfg)

theorem dt_zero (x : NodeId) (s : Store) : deleteTree c 0 x s = .error (.fuel "delete_tree") := by
  unfold deleteTree; rfl

theorem dt_item (f : Nat) {x : NodeId} (hx : x.isItem = true) (s : Store) :
    deleteTree c (f + 1) x s = .ok s := by
  unfold deleteTree; simp [hx]

theorem dt_none (f : Nat) {x : NodeId} (hx : x.isItem = false) {s : Store}
    (hg : Store.get s (dkey c x) = none) :
    deleteTree c (f + 1) x s = .error (.missingKey c.index x.mode x.item) := by
  unfold deleteTree; simp only [hx, Bool.false_eq_true, if_false]; rw [hg]

theorem dt_desc (f : Nat) {x : NodeId} (hx : x.isItem = false) {s : Store} {ids : List Nat}
    (hg : Store.get s (dkey c x) = some (.desc ids)) :
    deleteTree c (f + 1) x s = .ok (Store.erase s (dkey c x)) := by
  unfold deleteTree; simp only [hx, Bool.false_eq_true, if_false]; rw [hg]

theorem dt_other (f : Nat) {x : NodeId} (hx : x.isItem = false) {s : Store} {v : Val}
    (hg : Store.get s (dkey c x) = some v) (hns : ∀ l r n, v ≠ .split l r n) (hnd : ∀ ids, v ≠ .desc ids) :
    deleteTree c (f + 1) x s = .ok s := by
  unfold deleteTree; simp only [hx, Bool.false_eq_true, if_false]; rw [hg]
  cases v with
  | split l r n => exact absurd rfl (hns l r n)
  | desc ids => exact absurd rfl (hnd ids)
  | _ => rfl

theorem dt_split (f : Nat) {x : NodeId} (hx : x.isItem = false) {s : Store} {l r : NodeId} {n : List Nat}
    (hg : Store.get s (dkey c x) = some (.split l r n)) :
    deleteTree c (f + 1) x s =
      (match deleteTree c f l s with
       | .error e => .error e
       | .ok s1 =>
         match deleteTree c f r s1 with
         | .error e => .error e
         | .ok s2 => .ok (Store.erase s2 (dkey c x))) := by
  conv => lhs; unfold deleteTree
  simp only [hx, Bool.false_eq_true, if_false]; rw [hg]; rfl

theorem dt_split_inv {f : Nat} {x : NodeId} (hx : x.isItem = false) {s s1 : Store} {l r : NodeId} {n : List Nat}
    (hg : Store.get s (dkey c x) = some (.split l r n)) (h : deleteTree c (f + 1) x s = .ok s1) :
    ∃ sa s2, deleteTree c f l s = .ok sa ∧ deleteTree c f r sa = .ok s2 ∧ s1 = Store.erase s2 (dkey c x) := by
  rw [dt_split c f hx hg] at h
  cases e1 : deleteTree c f l s with
  | error e => simp [e1] at h
  | ok sa =>
    cases e2 : deleteTree c f r sa with
    | error e => simp [e1, e2] at h
    | ok s2 =>
      simp only [e1, e2, Except.ok.injEq] at h
      exact ⟨sa, s2, rfl, e2, h.symm⟩

theorem dt_split_ok (f : Nat) {x : NodeId} (hx : x.isItem = false) {s sa s2 : Store} {l r : NodeId} {n : List Nat}
    (hg : Store.get s (dkey c x) = some (.split l r n)) (h1 : deleteTree c f l s = .ok sa)
    (h2 : deleteTree c f r sa = .ok s2) :
    deleteTree c (f + 1) x s = .ok (Store.erase s2 (dkey c x)) := by
  rw [dt_split c f hx hg]; simp only [h1, h2]

/-- the four ways `delete_tree` succeeds: on an item; on a descendants node, erased; on a key holding another
    value, left alone; on a split node, after both children, erased -/
theorem dt_ok_cases {f : Nat} {x : NodeId} {s s1 : Store} (h : deleteTree c (f + 1) x s = .ok s1) :
    (x.isItem = true ∧ s1 = s) ∨
    (x.isItem = false ∧
      ((∃ ids, Store.get s (dkey c x) = some (.desc ids) ∧ s1 = Store.erase s (dkey c x)) ∨
       (∃ v, Store.get s (dkey c x) = some v ∧ (∀ l r n, v ≠ .split l r n) ∧ (∀ ids, v ≠ .desc ids) ∧ s1 = s) ∨
       (∃ l r n sa s2, Store.get s (dkey c x) = some (.split l r n) ∧ deleteTree c f l s = .ok sa ∧
          deleteTree c f r sa = .ok s2 ∧ s1 = Store.erase s2 (dkey c x)))) := by
  by_cases hx : x.isItem = true
  · rw [dt_item c f hx] at h; cases h; exact Or.inl ⟨hx, rfl⟩
  · have hx : x.isItem = false := by simpa using hx
    refine Or.inr ⟨hx, ?_⟩
    cases hg : Store.get s (dkey c x) with
    | none => rw [dt_none c f hx hg] at h; cases h
    | some v =>
      rcases val_cases v with ⟨l, r, n, rfl⟩ | ⟨ids, rfl⟩ | ⟨hns, hnd⟩
      · obtain ⟨sa, s2, h1, h2, e⟩ := dt_split_inv c hx hg h
        exact Or.inr (Or.inr ⟨l, r, n, sa, s2, rfl, h1, h2, e⟩)
      · rw [dt_desc c f hx hg] at h; cases h; exact Or.inl ⟨ids, rfl, rfl⟩
      · rw [dt_other c f hx hg hns hnd] at h; cases h; exact Or.inr (Or.inl ⟨v, rfl, hns, hnd, rfl⟩)

/-- a successful `delete_tree` filters the store -/
theorem dt_filter : ∀ (f : Nat) (x : NodeId) (s s1 : Store), deleteTree c f x s = .ok s1 →
    ∃ q : Key × Val → Bool, s1 = s.filter q
  | 0, x, s, s1, h => by rw [dt_zero] at h; cases h
  | f+1, x, s, s1, h => by
    rcases dt_ok_cases c h with ⟨_, rfl⟩ | ⟨_, ⟨_, _, rfl⟩ | ⟨_, _, _, _, rfl⟩ | ⟨l, r, n, sa, s2, _, h1, h2, rfl⟩⟩
    · exact ⟨fun _ => true, (filter_tt _).symm⟩
    · exact ⟨_, rfl⟩
    · exact ⟨fun _ => true, (filter_tt _).symm⟩
    · obtain ⟨q1, rfl⟩ := dt_filter f l s sa h1
      obtain ⟨q2, rfl⟩ := dt_filter f r _ s2 h2
      unfold Store.erase
      rw [List.filter_filter, List.filter_filter]
      exact ⟨_, rfl⟩

theorem dt_mono_succ : ∀ (f : Nat) (x : NodeId) (s s1 : Store), deleteTree c f x s = .ok s1 →
    deleteTree c (f + 1) x s = .ok s1
  | 0, x, s, s1, h => by rw [dt_zero] at h; cases h
  | f+1, x, s, s1, h => by
    rcases dt_ok_cases c h with ⟨hx, rfl⟩ | ⟨hx, ⟨_, hg, rfl⟩ | ⟨_, hg, hns, hnd, rfl⟩ |
      ⟨l, r, n, sa, s2, hg, h1, h2, rfl⟩⟩
    · exact dt_item c _ hx _
    · exact dt_desc c _ hx hg
    · exact dt_other c _ hx hg hns hnd
    · exact dt_split_ok c _ hx hg (dt_mono_succ f l s sa h1) (dt_mono_succ f r sa s2 h2)

theorem dt_mono {f f' : Nat} (hle : f ≤ f') {x : NodeId} {s s1 : Store} (h : deleteTree c f x s = .ok s1) :
    deleteTree c f' x s = .ok s1 := by
  induction hle with
  | refl => exact h
  | step _ ih => exact dt_mono_succ c _ _ _ _ ih

theorem get_of_filter_get {s : Store} (hs : Store.Sorted s) {p : Key × Val → Bool} {k : Key} {v : Val}
    (h : Store.get (s.filter p) k = some v) : Store.get s k = some v :=
  (Store.get_eq_some_iff hs k v).2 (List.mem_filter.1 (Store.mem_of_get h)).1

theorem erase_filter_comm (s : Store) (p : Key × Val → Bool) (k : Key) :
    Store.erase (s.filter p) k = (Store.erase s k).filter p := by
  unfold Store.erase
  rw [List.filter_filter, List.filter_filter]
  exact List.filter_congr (fun _ _ => Bool.and_comm _ _)

theorem dt_length_le {f : Nat} {x : NodeId} {s s1 : Store} (h : deleteTree c f x s = .ok s1) :
    s1.length ≤ s.length := by
  obtain ⟨q, rfl⟩ := dt_filter c f x s s1 h
  exact List.length_filter_le _ _

theorem dt_sorted {f : Nat} {x : NodeId} {s s1 : Store} (hs : Store.Sorted s)
    (h : deleteTree c f x s = .ok s1) : Store.Sorted s1 := by
  obtain ⟨q, rfl⟩ := dt_filter c f x s s1 h
  exact Store.filter_sorted hs q

/-- a successful run on a sub-store replays on the whole store, with no more fuel -/
theorem dt_sub (p : Key × Val → Bool) : ∀ (f f' : Nat) (x : NodeId) (s s1 s1' : Store), Store.Sorted s →
    deleteTree c f x s = .ok s1 → deleteTree c f' x (s.filter p) = .ok s1' →
    deleteTree c (min f f') x s = .ok s1 ∧ s1' = s1.filter p
  | 0, _, x, s, s1, s1', _, h, _ => by rw [dt_zero] at h; cases h
  | f+1, 0, x, s, s1, s1', _, _, h' => by rw [dt_zero] at h'; cases h'
  | f+1, f'+1, x, s, s1, s1', hs, h, h' => by
    have hm : min (f + 1) (f' + 1) = min f f' + 1 := by omega
    rw [hm]
    -- the run on the sub-store tells which value the key holds, in both stores
    rcases dt_ok_cases c h' with ⟨hx, rfl⟩ | ⟨hx, ⟨_, hg', rfl⟩ | ⟨_, hg', hns, hnd, rfl⟩ |
      ⟨l, r, n, sa', s2', hg', h1', h2', rfl⟩⟩
    · rw [dt_item c f hx] at h; cases h
      exact ⟨dt_item c _ hx _, rfl⟩
    · have hg := get_of_filter_get hs hg'
      rw [dt_desc c f hx hg] at h; cases h
      exact ⟨dt_desc c _ hx hg, erase_filter_comm _ _ _⟩
    · have hg := get_of_filter_get hs hg'
      rw [dt_other c f hx hg hns hnd] at h; cases h
      exact ⟨dt_other c _ hx hg hns hnd, rfl⟩
    · have hg := get_of_filter_get hs hg'
      obtain ⟨sa, s2, h1, h2, rfl⟩ := dt_split_inv c hx hg h
      obtain ⟨m1, rfl⟩ := dt_sub p f f' l s sa sa' hs h1 h1'
      obtain ⟨m2, rfl⟩ := dt_sub p f f' r sa s2 s2' (dt_sorted c hs h1) h2 h2'
      exact ⟨dt_split_ok c _ hx hg m1 m2, erase_filter_comm _ _ _⟩

/-- a key erased by a successful run was visited: a successful run on its node started from a sub-store -/
theorem dt_visit : ∀ (f : Nat) (x : NodeId) (s s1 : Store) (K : Key), deleteTree c f x s = .ok s1 →
    Store.get s K ≠ none → Store.get s1 K = none →
    ∃ (f' : Nat) (p : Key × Val → Bool) (y : NodeId) (r : Store), f' ≤ f ∧ y.isItem = false ∧ dkey c y = K ∧
      deleteTree c f' y (s.filter p) = .ok r
  | 0, x, s, s1, K, h, _, _ => by rw [dt_zero] at h; cases h
  | f+1, x, s, s1, K, h, hK, hK1 => by
    by_cases hk : x.isItem = false ∧ dkey c x = K
    · exact ⟨f + 1, fun _ => true, x, s1, Nat.le_refl _, hk.1, hk.2, by rw [filter_tt]; exact h⟩
    · rcases dt_ok_cases c h with ⟨_, rfl⟩ | ⟨hx, ⟨_, _, rfl⟩ | ⟨_, _, _, _, rfl⟩ | ⟨l, r, n, sa, s2, _, h1, h2, rfl⟩⟩
      · exact absurd hK1 hK
      · rw [Store.get_erase_other _ _ _ (fun e => hk ⟨hx, e.symm⟩)] at hK1
        exact absurd hK1 hK
      · exact absurd hK1 hK
      · rw [Store.get_erase_other _ _ _ (fun e => hk ⟨hx, e.symm⟩)] at hK1
        by_cases hKa : Store.get sa K = none
        · obtain ⟨f', p, y, r', hle, hy, hyk, hr⟩ := dt_visit f l s sa K h1 hK hKa
          exact ⟨f', p, y, r', Nat.le_succ_of_le hle, hy, hyk, hr⟩
        · obtain ⟨q, rfl⟩ := dt_filter c f l s sa h1
          obtain ⟨f', p, y, r', hle, hy, hyk, hr⟩ := dt_visit f r _ s2 K h2 hKa hK1
          rw [List.filter_filter] at hr
          exact ⟨f', _, y, r', Nat.le_succ_of_le hle, hy, hyk, hr⟩

omit c in
theorem dt_arith (A B C D : Nat) (l1 : B ≤ A) (l2 : C ≤ B) (l3 : D < C) :
    A - B + 1 ≤ A - D ∧ B - C + 1 ≤ A - D := by omega

theorem dkey_inj {x y : NodeId} (h : dkey c y = dkey c x) : y = x := by
  cases x; cases y
  simp only [dkey, Key.mk.injEq] at h
  obtain ⟨_, rfl, rfl⟩ := h
  rfl

theorem length_erase_lt {s : Store} {k : Key} (h : Store.get s k ≠ none) :
    (Store.erase s k).length < s.length := by
  cases hv : Store.get s k with
  | none => exact absurd hv h
  | some v =>
    unfold Store.erase
    apply List.length_filter_lt_length_iff_exists.2
    exact ⟨(k, v), Store.mem_of_get hv, by simp⟩

/-- **the fuel a successful `delete_tree` needs is bounded by the number of entries it erases** -/
theorem dt_bound : ∀ (f : Nat) (x : NodeId) (s s1 : Store), Store.Sorted s → deleteTree c f x s = .ok s1 →
    deleteTree c (s.length - s1.length + 1) x s = .ok s1 := by
  intro f
  induction f using Nat.strongRecOn with
  | _ f ih =>
    intro x s s1 hs h
    cases f with
    | zero => rw [dt_zero] at h; cases h
    | succ a =>
      rcases dt_ok_cases c h with ⟨hx, rfl⟩ | ⟨hx, ⟨_, hg, rfl⟩ | ⟨_, hg, hns, hnd, rfl⟩ |
        ⟨l, r, n, sa, s2, hg, h1, h2, rfl⟩⟩
      · exact dt_item c _ hx _
      · exact dt_desc c _ hx hg
      · exact dt_other c _ hx hg hns hnd
      · have hsa : Store.Sorted sa := dt_sorted c hs h1
        have hKs : Store.get s (dkey c x) ≠ none := by rw [hg]; simp
        -- a nested successful run on `x` itself gives a success with less fuel
        have nested : ∀ (f' : Nat) (p : Key × Val → Bool) (y : NodeId) (r' : Store), f' ≤ a →
            dkey c y = dkey c x → deleteTree c f' y (s.filter p) = .ok r' →
            deleteTree c (s.length - (Store.erase s2 (dkey c x)).length + 1) x s =
              .ok (Store.erase s2 (dkey c x)) := by
          intro f' p y r' hle hyk hr
          have := dkey_inj c hyk
          subst this
          have h3 := (dt_sub c p (a + 1) f' y s _ r' hs h hr).1
          have hm : min (a + 1) f' = f' := by omega
          rw [hm] at h3
          exact ih f' (by omega) y s _ hs h3
        by_cases hk2 : Store.get s2 (dkey c x) = none
        · by_cases hka : Store.get sa (dkey c x) = none
          · obtain ⟨f', p, y, r', hle, _, hyk, hr⟩ := dt_visit c a l s sa _ h1 hKs hka
            exact nested f' p y r' hle hyk hr
          · obtain ⟨q, hq⟩ := dt_filter c a l s sa h1
            obtain ⟨f', p, y, r', hle, _, hyk, hr⟩ := dt_visit c a r sa s2 _ h2 hka hk2
            rw [hq, List.filter_filter] at hr
            exact nested f' _ y r' hle hyk hr
        · have b1 := ih a (Nat.lt_succ_self a) l s sa hs h1
          have b2 := ih a (Nat.lt_succ_self a) r sa s2 hsa h2
          obtain ⟨a1, a2⟩ := dt_arith _ _ _ _ (dt_length_le c h1) (dt_length_le c h2) (length_erase_lt hk2)
          exact dt_split_ok c _ hx hg (dt_mono c a1 b1) (dt_mono c a2 b2)

/-- on a sorted store, `delete_tree` with any fuel above the length of the store is `delete_tree` with exactly
    that fuel -/
theorem dt_fuel_irrel (x : NodeId) (r : Store) (hr : Store.Sorted r) (F : Nat) (hF : r.length + 1 ≤ F)
    (r1 : Store) : deleteTree c F x r = .ok r1 ↔ deleteTree c (r.length + 1) x r = .ok r1 := by
  constructor
  · intro h
    exact dt_mono c (Nat.succ_le_succ (Nat.sub_le _ _)) (dt_bound c F x r r1 hr h)
  · intro h
    exact dt_mono c hF h

end dt

end Arroy.C07
