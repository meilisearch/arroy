import ArroyProofs.InsertAll
/-! Forest-level consequences: inserting into every tree of a forest (`insertItemsInCurrentTrees`
over all roots) and creating the missing trees (`newTrees`). -/
namespace Arroy
open BuildM Generated IdSet

theorem insertItems_forest (c : Cfg) (o : BuildOpts) (roots items items' ins : List Nat) (ts : List T)
    (g g' : IdGen) (inUse : List Nat) (st st' : BState) (large : List Nat) (fuel : Nat)
    (f : Forest c st.store roots items ts)
    (hin : ∀ i ∈ ts.flatMap T.ids, i ∈ inUse) (hg : GenOK inUse g)
    (hw : Store.WF st.store) (hi : c.index < 65536) (hs : Sorted ins)
    (hdisj : ∀ x ∈ ins, x ∉ items) (hitems : ∀ x, x ∈ items' ↔ x ∈ items ∨ x ∈ ins)
    (h : Build.insertItemsInCurrentTrees c o roots fuel ins g st = .ok ((large, g'), st')) :
    ∃ (ts' : List T) (inUse' : List Nat),
      Forest c st'.store roots items' ts' ∧
      GenOK inUse' g' ∧ (∀ i ∈ inUse, i ∈ inUse') ∧ (∀ i ∈ ts'.flatMap T.ids, i ∈ inUse') ∧
      StoreStep c st.store st'.store ∧ TreeFrame c st.store st'.store ∧
      All2 (InsRel (Build.treeCtx c o st.store) ins) ts ts' ∧
      ((roots = [] ∨ ins = []) → ts' = ts ∧ large = []) ∧
      (roots ≠ [] → ins ≠ [] → ∀ t' ∈ ts', ∀ b ∈ t'.buckets, ¬ fits (Build.cap c o) b.2.length → b.1 ∈ large) ∧
      (∀ i ∈ large, i ∈ inUse') ∧ Sorted large := by
  obtain ⟨ts', inUse', c1, c2, c3, c4, c5, c6, c7, c8, c9, c10, c11, c12, c13, _, c15, c16⟩ :=
    insertAll_grow c o roots hi fuel ins ts g g' inUse st st' large f.refs f.holds f.ids_nodup hin hg hw hs h
  refine ⟨ts', inUse', ⟨c1, c2, c3, ?_, ?_, ?_, ?_⟩, c6, c7, c8, c10, fun k hk => c9 k (fun i _ => hk i), c11,
    fun h' => ⟨(c12 h').1, (c12 h').2.1⟩, c13, ?_, c16⟩
  · intro id
    constructor
    · intro hsome
      by_cases hm : id ∈ ts'.flatMap T.ids
      · exact hm
      · rw [c9 _ (fun i hi' e => hm (by rw [Cfg.treeKey_inj.1 e]; exact hi'))] at hsome
        exact c5 id ((f.cover id).1 hsome)
    · intro hm
      obtain ⟨t, ht, hit⟩ := List.mem_flatMap.1 hm
      exact (c2 t ht).isSome hit
  · intro t' ht'
    obtain ⟨t, ht, hr⟩ := c11.mem_right t' ht'
    exact hr.wf hs (f.wf t ht)
  · intro t' ht'
    obtain ⟨t, ht, hr⟩ := c11.mem_right t' ht'
    exact hr.nodup hs (f.wf t ht) (f.items_nodup t ht) (fun x hx hxt => hdisj x hx ((f.reach t ht x).1 hxt))
  · intro t' ht' x
    obtain ⟨t, ht, hr⟩ := c11.mem_right t' ht'
    rw [hr.items, f.reach t ht x, hitems]
  · intro i hi'
    obtain ⟨t, ht, s0, hs0, _⟩ := c15 i hi'
    exact c8 i (List.mem_flatMap.2 ⟨t, ht, T.buckets_ids hs0⟩)

theorem Forest.snoc {c : Cfg} {s : Store} {roots items : List Nat} {ts : List T} (f : Forest c s roots items ts)
    (id : Nat) (hid : id ∉ ts.flatMap T.ids) (hs : Sorted items) :
    Forest c (s.put (c.treeKey id) (.desc items)) (roots ++ [id]) items (ts ++ [.bucket id items]) := by
  refine ⟨by simp [f.refs, T.ref], List.forall_mem_append.2 ⟨fun t ht => ?_, List.forall_mem_singleton.2 ?_⟩, ?_, ?_,
    List.forall_mem_append.2 ⟨f.wf, List.forall_mem_singleton.2 hs⟩,
    List.forall_mem_append.2 ⟨f.items_nodup, List.forall_mem_singleton.2 hs.nodup⟩,
    List.forall_mem_append.2 ⟨f.reach, List.forall_mem_singleton.2 (fun _ => Iff.rfl)⟩⟩
  · apply (f.holds t ht).frame
    intro i hi
    apply Store.get_put_other
    intro e
    exact hid (List.mem_flatMap.2 ⟨t, ht, by rw [← Cfg.treeKey_inj.1 e]; exact hi⟩)
  · intro cell hc
    simp only [T.cells, List.mem_singleton] at hc
    subst hc
    exact Store.get_put_same _ _ _
  · simp only [List.flatMap_append, List.flatMap_cons, List.flatMap_nil, T.ids, List.append_nil, List.nodup_append]
    refine ⟨f.ids_nodup, by simp, ?_⟩
    intro a ha b hb e
    simp only [List.mem_singleton] at hb
    subst hb; subst e
    exact hid ha
  · intro i
    rw [Store.get_put]
    by_cases hi : i = id
    · subst hi
      simp [T.ids]
    · have : c.treeKey i ≠ c.treeKey id := fun e => hi (Cfg.treeKey_inj.1 e)
      simp only [this, ↓reduceIte, f.cover i, List.flatMap_append, List.flatMap_cons, List.flatMap_nil, T.ids,
        List.append_nil, List.mem_append, List.mem_singleton, hi, or_false]

theorem newTrees_spec (c : Cfg) (items : List Nat) (hi : c.index < 65536) (hs : Sorted items) (k : Nat) :
    ∀ (roots large roots' large' : List Nat) (ts : List T) (g g' : IdGen) (inUse : List Nat) (st st' : BState),
    Forest c st.store roots items ts →
    (∀ i ∈ ts.flatMap T.ids, i ∈ inUse) → GenOK inUse g →
    Build.newTrees c items k roots large g st = .ok ((roots', large', g'), st') →
    ∃ (ts' : List T) (inUse' : List Nat),
      Forest c st'.store roots' items ts' ∧ roots'.length = roots.length + k ∧
      GenOK inUse' g' ∧ (∀ i ∈ inUse, i ∈ inUse') ∧ (∀ i ∈ ts'.flatMap T.ids, i ∈ inUse') ∧
      StoreStep c st.store st'.store ∧ TreeFrame c st.store st'.store ∧
      (∀ t' ∈ ts', t' ∈ ts ∨ ∃ id, t' = .bucket id items ∧ id ∈ large') ∧
      (∀ i ∈ large, i ∈ large') := by
  induction k with
  | zero =>
    intro roots large roots' large' ts g g' inUse st st' f hin hg h
    simp only [Build.newTrees] at h
    obtain ⟨e1, rfl⟩ := BuildM.pure_ok.1 h
    simp only [Prod.mk.injEq] at e1
    obtain ⟨rfl, rfl, rfl⟩ := e1
    exact ⟨ts, inUse, f, by simp, hg, fun _ h => h, hin, .refl _, TreeFrame.refl _ _, fun _ h => Or.inl h,
      fun _ h => h⟩
  | succ k ih =>
    intro roots large roots' large' ts g g' inUse st st' f hin hg h
    simp only [Build.newTrees] at h
    obtain ⟨x, st1, h1, k1⟩ := BuildM.bind_ok.1 h
    clear h
    obtain ⟨id, g1⟩ := x
    obtain ⟨hn, e1⟩ := liftExcept_ok' h1
    simp only at k1
    obtain ⟨u2, st2, h2, k2⟩ := BuildM.bind_ok.1 k1
    clear k1
    have e2 := modifyStore_ok' h2
    subst e1 e2
    obtain ⟨hfresh, hlt, hg1⟩ := hg.step hn
    have hid : id ∉ ts.flatMap T.ids := fun hm => hfresh (hin id hm)
    have f1 := f.snoc id hid hs
    obtain ⟨ts', inUse', c1, c2, c3, c4, c5, c6, c7, c8, c9⟩ :=
      ih (roots ++ [id]) (IdSet.insert id large) roots' large' (ts ++ [.bucket id items]) g1 g' (id :: inUse)
        { st with store := st.store.put (c.treeKey id) (.desc items) } st' f1
        (by
          intro i hi'
          simp only [List.flatMap_append, List.flatMap_cons, List.flatMap_nil, T.ids, List.append_nil,
            List.mem_append, List.mem_singleton] at hi'
          rcases hi' with hi' | hi'
          · exact List.mem_cons_of_mem _ (hin i hi')
          · subst hi'; exact List.mem_cons_self)
        hg1 k2
    refine ⟨ts', inUse', c1, ?_, c3, fun i hi' => c4 i (List.mem_cons_of_mem _ hi'), c5, ?_, ?_, ?_, ?_⟩
    · rw [c2]; simp only [List.length_append, List.length_cons, List.length_nil]; omega
    · exact ((StoreStep.refl _).put_tree _ _ (c.treeKey_wf id hi hlt) (c.treeKey_mode id)).trans c6
    · refine TreeFrame.trans ?_ c7
      intro k' hk'
      exact Store.get_put_other _ _ _ _ (hk' id)
    · intro t' ht'
      rcases c8 t' ht' with h' | h'
      · rcases List.mem_append.1 h' with h'' | h''
        · exact Or.inl h''
        · simp only [List.mem_singleton] at h''
          exact Or.inr ⟨id, h'', c9 id (mem_insert.2 (Or.inl rfl))⟩
      · exact Or.inr h'
    · intro i hi'
      exact c9 i (mem_insert.2 (Or.inr hi'))

end Arroy
