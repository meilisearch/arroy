import ArroyModel.Tree
import ArroyProofs.StoreLemmas
/-! The store as a heap of tree nodes: representation predicate `Holds`, frame lemma,
and `reify` reads back exactly the tree that the store holds. -/
namespace Arroy

/-- the store of index `c.index` contains tree `t`: every cell, exactly as given -/
def Holds (c : Cfg) (s : Store) (t : T) : Prop :=
  ∀ cell ∈ t.cells, s.get (c.treeKey cell.1) = some cell.2

theorem Cfg.treeKey_inj {c : Cfg} {i j : Nat} : c.treeKey i = c.treeKey j ↔ i = j := by
  simp [Cfg.treeKey, Key.mkTree]

theorem cells_ids (t : T) : t.cells.map (·.1) = t.ids := by
  induction t with
  | leaf i => rfl
  | bucket id s => rfl
  | node id n l r ihl ihr => simp [T.cells, T.ids, ihl, ihr]

theorem mem_ids_of_mem_cells {t : T} {cell : Nat × Val} (h : cell ∈ t.cells) : cell.1 ∈ t.ids := by
  rw [← cells_ids]; exact List.mem_map_of_mem h

theorem Holds.frame {c : Cfg} {s s' : Store} {t : T} (hh : Holds c s t)
    (agree : ∀ i ∈ t.ids, s'.get (c.treeKey i) = s.get (c.treeKey i)) : Holds c s' t := by
  intro cell hc
  rw [agree _ (mem_ids_of_mem_cells hc)]
  exact hh cell hc

theorem Holds.left {c : Cfg} {s : Store} {id n l r} (h : Holds c s (.node id n l r)) : Holds c s l := by
  intro cell hc; exact h cell (by simp [T.cells, hc])

theorem Holds.right {c : Cfg} {s : Store} {id n l r} (h : Holds c s (.node id n l r)) : Holds c s r := by
  intro cell hc; exact h cell (by simp [T.cells, hc])

theorem Holds.root {c : Cfg} {s : Store} {id n l r} (h : Holds c s (.node id n l r)) :
    s.get (c.treeKey id) = some (.split l.ref r.ref n) := h (id, .split l.ref r.ref n) (by simp [T.cells])

theorem Holds.bucket {c : Cfg} {s : Store} {id its} (h : Holds c s (.bucket id its)) :
    s.get (c.treeKey id) = some (.desc its) := h (id, .desc its) (by simp [T.cells])

@[simp] theorem NodeId.isItem_mkTree (id : Nat) : (NodeId.mkTree id).isItem = false := by
  simp [NodeId.mkTree, NodeId.isItem]; decide
@[simp] theorem NodeId.isTree_mkTree (id : Nat) : (NodeId.mkTree id).isTree = true := by
  simp [NodeId.mkTree, NodeId.isTree]
@[simp] theorem NodeId.isItem_mkItem (id : Nat) : (NodeId.mkItem id).isItem = true := by
  simp [NodeId.mkItem, NodeId.isItem]
@[simp] theorem NodeId.item_mkTree (id : Nat) : (NodeId.mkTree id).item = id := rfl
@[simp] theorem NodeId.item_mkItem (id : Nat) : (NodeId.mkItem id).item = id := rfl

def T.depth : T → Nat
  | .leaf _ => 1
  | .bucket _ _ => 1
  | .node _ _ l r => 1 + max l.depth r.depth

theorem T.ref_isItem_leaf (i : Nat) : (T.leaf i).ref.isItem = true := by
  simp [T.ref, NodeId.mkItem, NodeId.isItem]

theorem T.ref_tree (t : T) (h : ∀ i, t ≠ .leaf i) : t.ref.isItem = false ∧ t.ref.isTree = true := by
  cases t with
  | leaf i => exact absurd rfl (h i)
  | bucket id s => simp [T.ref, NodeId.mkTree, NodeId.isItem, NodeId.isTree]; decide
  | node id n l r => simp [T.ref, NodeId.mkTree, NodeId.isItem, NodeId.isTree]; decide

/-- `reify` reads back the tree the store holds (given enough fuel) -/
theorem reify_of_holds (c : Cfg) (s : Store) (t : T) (h : Holds c s t) (fuel : Nat) (hf : t.depth ≤ fuel) :
    reify c s fuel t.ref = some t := by
  induction t generalizing fuel with
  | leaf i =>
    cases fuel with
    | zero => simp [T.depth] at hf
    | succ f => simp [reify, T.ref]
  | bucket id its =>
    cases fuel with
    | zero => simp [T.depth] at hf
    | succ f =>
      have hb := h.bucket
      simp [reify, T.ref, hb]
  | node id n l r ihl ihr =>
    cases fuel with
    | zero => simp [T.depth] at hf
    | succ f =>
      have hr := h.root
      simp only [T.depth] at hf
      have hl : l.depth ≤ f := by omega
      have hrr : r.depth ≤ f := by omega
      show reify c s (f + 1) (NodeId.mkTree id) = _
      simp [reify, hr, ihl h.left f hl, ihr h.right f hrr]

theorem NodeId.mkItem_item {r : NodeId} (h : r.isItem = true) : NodeId.mkItem r.item = r := by
  cases r; simp_all [NodeId.isItem, NodeId.mkItem]

theorem NodeId.mkTree_item {r : NodeId} (h : r.isTree = true) : NodeId.mkTree r.item = r := by
  cases r; simp_all [NodeId.isTree, NodeId.mkTree]

/-- conversely, what `reify` returns is held by the store and has the requested root reference -/
theorem holds_of_reify (c : Cfg) (s : Store) (fuel : Nat) (ref : NodeId) (t : T)
    (h : reify c s fuel ref = some t) : Holds c s t ∧ t.ref = ref := by
  induction fuel generalizing ref t with
  | zero => simp [reify] at h
  | succ f ih =>
    unfold reify at h
    split at h
    · rename_i hi
      cases h
      exact ⟨fun _ hc => (nomatch hc), NodeId.mkItem_item hi⟩
    · split at h
      · rename_i ht
        split at h
        · rename_i ids hg
          cases h
          refine ⟨fun cell hc => ?_, NodeId.mkTree_item ht⟩
          simp only [T.cells, List.mem_singleton] at hc
          subst hc; exact hg
        · rename_i l r n hg
          split at h
          · rename_i tl tr hl hr
            cases h
            obtain ⟨hl1, hl2⟩ := ih l tl hl
            obtain ⟨hr1, hr2⟩ := ih r tr hr
            refine ⟨fun cell hc => ?_, NodeId.mkTree_item ht⟩
            simp only [T.cells, List.mem_cons, List.mem_append] at hc
            rcases hc with rfl | hc | hc
            · simp only; rw [hl2, hr2]; exact hg
            · exact hl1 cell hc
            · exact hr1 cell hc
          · simp at h
        · simp at h
      · simp at h

end Arroy
