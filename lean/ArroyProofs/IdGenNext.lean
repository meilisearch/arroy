import ArroyModel.Tree
/-! `IdGen.next` (`ConcurrentNodeIds::next`) case by case: the request counter full; the counter phase; a recycled
id available; the recycled ids just exhausted (`look_into_bitmap.store(false)`, first id of the counter). -/
namespace Arroy

namespace IdGen

theorem next_full {g : IdGen} (h : 4294967295 < g.used) : g.next = .error .dbFull := by
  simp only [IdGen.next, u32Max, gt_iff_lt, h, if_true]

theorem next_counter {g : IdGen} (h : g.used ≤ 4294967295) (hl : g.look = false) :
    g.next = .ok (g.current, { g with used := g.used + 1, current := (g.current + 1) % 4294967296 }) := by
  simp only [IdGen.next, u32Max, gt_iff_lt, Nat.not_lt.2 h, if_false, hl, Bool.false_eq_true]

theorem next_avail {g : IdGen} (h : g.used ≤ 4294967295) (hl : g.look = true) {id : Nat}
    (ha : g.available[g.sel]? = some id) :
    g.next = .ok (id, { g with used := g.used + 1, sel := (g.sel + 1) % 4294967296 }) := by
  simp only [IdGen.next, u32Max, gt_iff_lt, Nat.not_lt.2 h, if_false, hl, if_true, ha]

theorem next_exhausted {g : IdGen} (h : g.used ≤ 4294967295) (hl : g.look = true)
    (ha : g.available[g.sel]? = none) :
    g.next = .ok (g.current,
      { g with used := g.used + 1, sel := (g.sel + 1) % 4294967296, look := false,
               current := (g.current + 1) % 4294967296 }) := by
  simp only [IdGen.next, u32Max, gt_iff_lt, Nat.not_lt.2 h, if_false, hl, if_true, ha]

theorem next_ok_of_le {g : IdGen} (h : g.used ≤ 4294967295) :
    ∃ id g', g.next = .ok (id, g') ∧ g'.used = g.used + 1 := by
  cases hl : g.look with
  | false => exact ⟨_, _, next_counter h hl, rfl⟩
  | true =>
    cases ha : g.available[g.sel]? with
    | none => exact ⟨_, _, next_exhausted h hl ha, rfl⟩
    | some id => exact ⟨_, _, next_avail h hl ha, rfl⟩

theorem next_ok_iff (g : IdGen) : (∃ id g', g.next = .ok (id, g')) ↔ g.used ≤ 4294967295 := by
  constructor
  · rintro ⟨id, g', e⟩
    rcases Nat.lt_or_ge 4294967295 g.used with h | h
    · rw [next_full h] at e; cases e
    · exact h
  · intro h
    obtain ⟨id, g', e, _⟩ := next_ok_of_le h
    exact ⟨id, g', e⟩

end IdGen

end Arroy
