import ArroyModel.Ids
import ArroyProofs.SetLemmas
import ArroyProofs.IdGenNext
/-! Lemmas behind C13: the set difference used by `ConcurrentNodeIds::new`, the inductive invariant of
the atomic-step transition system `Arroy.Ids`, and the link to the sequential `IdGen`. -/
namespace Arroy.Ids

theorem diff_eq_idset (a b : List Nat) : diff a b = IdSet.diff a b := by
  fun_induction diff a b <;> simp [IdSet.diff, *]

theorem diff_sublist (a b : List Nat) : (diff a b).Sublist a :=
  diff_eq_idset a b ▸ IdSet.diff_sublist a b

theorem diff_not_mem (a b : List Nat) (ha : a.Pairwise (· < ·)) (hb : b.Pairwise (· < ·)) :
    ∀ z ∈ diff a b, z ∉ b := by
  intro z hz
  rw [diff_eq_idset] at hz
  exact ((IdSet.mem_diff (IdSet.sorted_iff_pairwise.2 ha) (IdSet.sorted_iff_pairwise.2 hb)).1 hz).2

/-- `a` is `diff a b` and `b` put together -/
theorem diff_length (a b : List Nat) (ha : a.Pairwise (· < ·)) (hb : b.Pairwise (· < ·))
    (hsub : ∀ z ∈ b, z ∈ a) : (diff a b).length + b.length = a.length := by
  have sa := IdSet.sorted_iff_pairwise.2 ha
  have sb := IdSet.sorted_iff_pairwise.2 hb
  rw [diff_eq_idset, ← List.length_append]
  refine List.Perm.length_eq ((List.perm_ext_iff_of_nodup ?_ sa.nodup).2 fun z => ?_)
  · exact List.nodup_append.2 ⟨(IdSet.sorted_diff b sa).nodup, sb.nodup,
      fun x hx y hy e => ((IdSet.mem_diff sa sb).1 hx).2 (e ▸ hy)⟩
  · rw [List.mem_append, IdSet.mem_diff sa sb]
    by_cases hz : z ∈ b
    · exact ⟨fun _ => hsub z hz, fun _ => Or.inr hz⟩
    · exact ⟨fun h => h.elim (·.1) (absurd · hz), fun h => Or.inl ⟨h, hz⟩⟩

theorem le_getLast_of_pairwise {l : List Nat} (h : l.Pairwise (· < ·)) {m : Nat}
    (hm : l.getLast? = some m) : ∀ x ∈ l, x ≤ m := by
  obtain ⟨ys, rfl⟩ := List.getLast?_eq_some_iff.1 hm
  intro x hx
  rcases List.mem_append.1 hx with hx | hx
  · exact Nat.le_of_lt ((List.pairwise_append.1 h).2.2 x hx m (List.mem_singleton.2 rfl))
  · exact Nat.le_of_eq (List.mem_singleton.1 hx)

/-- the number of threads inside a request that have not yet touched `select_in_bitmap` / `current` -/
def Config.pre (c : Config) : Nat := c.threads.countP (fun th => th.pc.pre)

/-- the number of threads on their way to `current.fetch_add` -/
def Config.post (c : Config) : Nat := c.threads.countP (fun th => th.pc.post)

/-- the number of ids handed out by the counter `current` (they are the ones `≥ last`) -/
def cntOf (last : Nat) (ids : List Nat) : Nat := (ids.filter (fun x => decide (last ≤ x))).length

/-- what `new` establishes about the immutable part -/
structure Static (usedIds : List Nat) (A : List Nat) (last : Nat) : Prop where
  availLt : ∀ x ∈ A, x < last
  availFresh : ∀ x ∈ A, x ∉ usedIds
  availNodup : A.Nodup
  availLen : A.length + usedIds.length = last
  usedLt : ∀ x ∈ usedIds, x < last
  lastLe : last ≤ 4294967296

/-- The inductive invariant on the cells `g`, the ids handed out `ids`, the number `F` of
`DatabaseFull` answers, and the numbers `N`/`P`/`Q` of threads whose pc is `busy`/`pre`/`post`.
`selU` is the ghost unwrapped value of `select_in_bitmap` (the number of its `fetch_add`s so far). -/
structure InvN (usedIds : List Nat) (selU : Nat) (g : Cells) (ids : List Nat) (F N P Q : Nat) : Prop where
  static : Static usedIds g.available g.last
  /-- every started request is in flight, got an id, or got `DatabaseFull` -/
  usedEq : g.used = usedIds.length + ids.length + N + F
  /-- requests that passed the `used` check hold distinct slots among the 2^32 ids -/
  passLe : usedIds.length + ids.length + N ≤ 4294967296
  fullUsed : g.used ≤ 4294967296 → F = 0
  usedFull : 4294967296 ≤ g.used → usedIds.length + ids.length + N = 4294967296
  selEq : g.sel = wrap32 selU
  selLe : selU + P ≤ ids.length + N
  idsLen : ids.length = min selU g.available.length + cntOf g.last ids
  /-- `current` holds the true counter value as long as that is a `u32` (it wraps to 0 only after
  handing out `u32::MAX`) -/
  curEq : g.last + cntOf g.last ids < 4294967296 → g.current = g.last + cntOf g.last ids
  curLe : g.last + cntOf g.last ids ≤ 4294967296
  lookF : g.look = false → g.available.length ≤ selU
  postF : 0 < Q → g.available.length ≤ selU
  logOk : ∀ x ∈ ids, (∃ k, k < selU ∧ g.available[k]? = some x) ∨
    (g.last ≤ x ∧ x < g.last + cntOf g.last ids)
  idsNodup : ids.Nodup

def Inv (usedIds : List Nat) (selU : Nat) (c : Config) : Prop :=
  InvN usedIds selU c.g c.ids c.fulls c.inflight c.pre c.post

theorem countP_set_thread {p : Thread → Bool} {l : List Thread} {t : Nat} {th th' : Thread}
    (h : l[t]? = some th) :
    (l.set t th').countP p + (p th).toNat = l.countP p + (p th').toNat := by
  have hlt : t < l.length := (List.getElem?_eq_some_iff.1 h).1
  have he : l[t] = th := by
    rw [List.getElem?_eq_getElem hlt] at h; exact Option.some.inj h
  have h1 := List.countP_set (p := p) (a := th') hlt
  have h2 : (if p l[t] = true then 1 else 0) ≤ l.countP p := List.boole_getElem_le_countP (p := p) hlt
  rw [he] at h1 h2
  cases hp : p th <;> cases hp' : p th' <;>
    simp only [hp, hp', Bool.toNat_true, Bool.toNat_false, Bool.false_eq_true, if_true, if_false] at h1 h2 ⊢ <;> omega

theorem toNat_le_countP {p : Thread → Bool} {l : List Thread} {t : Nat} {th : Thread}
    (h : l[t]? = some th) : (p th).toNat ≤ l.countP p := by
  have hmem : th ∈ l := List.mem_of_getElem? h
  cases hp : p th with
  | false => simp
  | true => simpa using List.countP_pos_iff.2 ⟨th, hmem, hp⟩

/-! ### the effect of each atomic step on the invariant

`N'`, `P'`, `Q'` are the thread counts after the step; every field is re-established from the few
fields it depends on. -/
section steps
variable {usedIds : List Nat} {selU : Nat} {g : Cells} {ids : List Nat} {F N P Q N' P' Q' : Nat}

/-- the log clause of the invariant survives more `select_in_bitmap` draws and more counter draws -/
theorem logOk_mono {A ids : List Nat} {last s s' c c' : Nat} (hs : s ≤ s') (hc : c ≤ c')
    (h : ∀ x ∈ ids, (∃ k, k < s ∧ A[k]? = some x) ∨ (last ≤ x ∧ x < last + c)) :
    ∀ x ∈ ids, (∃ k, k < s' ∧ A[k]? = some x) ∨ (last ≤ x ∧ x < last + c') := by
  intro x hx
  rcases h x hx with ⟨k, hk, e⟩ | ⟨h1, h2⟩
  · exact Or.inl ⟨k, by omega, e⟩
  · exact Or.inr ⟨h1, by omega⟩

/-- while a thread is before its draw, `select_in_bitmap` has not wrapped -/
theorem InvN.sel_eq (h : InvN usedIds selU g ids F N P Q) (hP : 0 < P) : g.sel = selU := by
  have h1 := h.selEq
  have h2 := h.selLe
  have h3 := h.passLe
  unfold wrap32 at h1
  omega

/-- `used.fetch_add` observing a value `> u32::MAX`: `DatabaseFull` -/
theorem InvN.stepFull (h : InvN usedIds selU g ids F N P Q) (hu : g.used > u32Max)
    (hN : N' = N) (hP : P' = P) (hQ : Q' = Q) :
    InvN usedIds selU { g with used := g.used + 1 } ids (F + 1) N' P' Q' := by
  subst hN hP hQ
  have hu : 4294967295 < g.used := hu
  exact
    { h with
      usedEq := show g.used + 1 = _ by have := h.usedEq; omega
      fullUsed := fun (hle : g.used + 1 ≤ 4294967296) => by omega
      usedFull := fun _ => h.usedFull (by omega) }

/-- `used.fetch_add` observing a value `≤ u32::MAX` -/
theorem InvN.stepPass (h : InvN usedIds selU g ids F N P Q) (hu : ¬ g.used > u32Max)
    (hN : N' = N + 1) (hP : P' = P + 1) (hQ : Q' = Q) :
    InvN usedIds selU { g with used := g.used + 1 } ids F N' P' Q' := by
  subst hN hP hQ
  have hu : g.used ≤ 4294967295 := Nat.le_of_not_lt hu
  have hF : F = 0 := h.fullUsed (by omega)
  have hused := h.usedEq
  exact
    { h with
      usedEq := show g.used + 1 = _ by omega
      passLe := by omega
      fullUsed := fun _ => hF
      usedFull := fun (hle : 4294967296 ≤ g.used + 1) => by omega
      selLe := by have := h.selLe; omega }

/-- `look_into_bitmap.load` -/
theorem InvN.stepLoad (h : InvN usedIds selU g ids F N P Q)
    (hN : N' = N) (hP : P' = P) (hQ : Q' = Q + (Pc.post (.afterLook g.look)).toNat) :
    InvN usedIds selU g ids F N' P' Q' := by
  subst hN hP
  exact
    { h with
      postF := fun hq => by
        cases hl : g.look with
        | false => exact h.lookF hl
        | true => rw [hQ, hl] at hq; exact h.postF hq }

/-- `select_in_bitmap.fetch_add` returning `k` with `available.select(k) = Some(x)` -/
theorem InvN.stepSelSome (h : InvN usedIds selU g ids F N P Q) {x : Nat}
    (hx : g.available[g.sel]? = some x) (hN : N' + 1 = N) (hP : P' + 1 = P) (hQ : Q' = Q) :
    InvN usedIds (selU + 1) { g with sel := wrap32 (g.sel + 1) } (x :: ids) F N' P' Q' := by
  subst hN hP hQ
  rw [h.sel_eq (Nat.succ_pos P')] at hx ⊢
  have hklt : selU < g.available.length := (List.getElem?_eq_some_iff.1 hx).1
  have hxlt : x < g.last := h.static.availLt x (List.mem_of_getElem? hx)
  have hc : cntOf g.last (x :: ids) = cntOf g.last ids := by
    simp [cntOf, Nat.not_le.2 hxlt]
  exact
    { h with
      usedEq := by have := h.usedEq; simp only [List.length_cons]; omega
      passLe := by have := h.passLe; simp only [List.length_cons]; omega
      usedFull := fun hu => by have := h.usedFull hu; simp only [List.length_cons]; omega
      selEq := rfl
      selLe := by have := h.selLe; simp only [List.length_cons]; omega
      idsLen := by have := h.idsLen; rw [hc]; simp only [List.length_cons]; omega
      curEq := by rw [hc]; exact h.curEq
      curLe := by rw [hc]; exact h.curLe
      lookF := fun hl => Nat.le_succ_of_le (h.lookF hl)
      postF := fun hq => Nat.le_succ_of_le (h.postF hq)
      logOk := by
        rw [hc]
        intro y hy
        rcases List.mem_cons.1 hy with rfl | hy
        · exact Or.inl ⟨selU, Nat.lt_succ_self _, hx⟩
        · exact logOk_mono (Nat.le_succ _) (Nat.le_refl _) h.logOk y hy
      idsNodup := by
        refine List.nodup_cons.2 ⟨fun hmem => ?_, h.idsNodup⟩
        rcases h.logOk x hmem with ⟨k, hk, e⟩ | ⟨r, _⟩
        · have := (List.getElem?_inj (List.getElem?_eq_some_iff.1 e).1 h.static.availNodup).1 (e.trans hx.symm)
          omega
        · omega }

/-- `select_in_bitmap.fetch_add` returning `k` with `available.select(k) = None`.  Nothing is asked of `Q'`:
the only clause about it, `postF`, is re-proved from `available.length ≤ selU`, which this step establishes. -/
theorem InvN.stepSelNone (h : InvN usedIds selU g ids F N P Q)
    (hx : g.available[g.sel]? = none) (hN : N' = N) (hP : P' + 1 = P) :
    InvN usedIds (selU + 1) { g with sel := wrap32 (g.sel + 1) } ids F N' P' Q' := by
  subst hN hP
  rw [h.sel_eq (Nat.succ_pos P')] at hx ⊢
  have hge : g.available.length ≤ selU := List.getElem?_eq_none_iff.1 hx
  exact
    { h with
      selEq := rfl
      selLe := by have := h.selLe; omega
      idsLen := show _ = min (selU + 1) g.available.length + cntOf g.last ids by
        have := h.idsLen; omega
      lookF := fun _ => Nat.le_succ_of_le hge
      postF := fun _ => Nat.le_succ_of_le hge
      logOk := logOk_mono (Nat.le_succ _) (Nat.le_refl _) h.logOk }

/-- `look_into_bitmap.store(false)`, by a thread on its way to `current.fetch_add` -/
theorem InvN.stepStore (h : InvN usedIds selU g ids F N P Q) (hq : 0 < Q)
    (hN : N' = N) (hP : P' = P) (hQ : Q' = Q) :
    InvN usedIds selU { g with look := false } ids F N' P' Q' := by
  subst hN hP hQ
  exact { h with lookF := fun _ => h.postF hq }

/-- `current.fetch_add` (from `afterLook false` or from `afterStore`).  `P' ≤ P` covers both origins: a thread
at `afterLook false` was counted in `P`, one at `afterStore` was not; `selLe` only needs the inequality. -/
theorem InvN.stepCur (h : InvN usedIds selU g ids F N P Q)
    (hN : N' + 1 = N) (hP : P' ≤ P) (hQ : Q' + 1 = Q) :
    InvN usedIds selU { g with current := wrap32 (g.current + 1) } (g.current :: ids) F N' P' Q' := by
  subst hN hQ
  have hlen := h.postF (Nat.succ_pos Q')
  -- the counter has handed out `|usedIds| + |ids| - last` ids so far, and this request holds a slot
  have hI : ids.length = g.available.length + cntOf g.last ids := by
    rw [h.idsLen, Nat.min_eq_right hlen]
  have hlt : g.last + cntOf g.last ids < 4294967296 := by
    have := h.static.availLen; have := h.passLe; omega
  have hcur : g.current = g.last + cntOf g.last ids := h.curEq hlt
  have hc : cntOf g.last (g.current :: ids) = cntOf g.last ids + 1 := by
    simp [cntOf, hcur]
  exact
    { h with
      usedEq := by have := h.usedEq; simp only [List.length_cons]; omega
      passLe := by have := h.passLe; simp only [List.length_cons]; omega
      usedFull := fun hu => by have := h.usedFull hu; simp only [List.length_cons]; omega
      selLe := by have := h.selLe; simp only [List.length_cons]; omega
      idsLen := by rw [hc, Nat.min_eq_right hlen, List.length_cons, hI]; rfl
      curEq := by rw [hc]; simp only [wrap32]; omega
      curLe := by rw [hc]; dsimp only; omega
      postF := fun _ => hlen
      logOk := by
        rw [hc]
        intro y hy
        rcases List.mem_cons.1 hy with rfl | hy
        · exact Or.inr (by dsimp only; omega)
        · exact logOk_mono (Nat.le_refl _) (Nat.le_succ _) h.logOk y hy
      idsNodup := by
        refine List.nodup_cons.2 ⟨fun hmem => ?_, h.idsNodup⟩
        rcases h.logOk _ hmem with ⟨k, hk, e⟩ | r
        · have := h.static.availLt _ (List.mem_of_getElem? e); omega
        · omega }

end steps

theorem inv_step {usedIds : List Nat} {selU : Nat} {c : Config} (h : Inv usedIds selU c) (t : Nat) :
    ∃ selU', Inv usedIds selU' (stepCore c t).1 := by
  unfold stepCore
  split
  · exact ⟨_, h⟩
  · next th hth =>
    split
    · obtain ⟨pc, rem⟩ := th
      -- the thread counts after the step, one equation per predicate; once `pc` and `pc'` are constructors the
      -- `toNat`s are numerals, so each reads `N' + 0 = N + 1`, `P' + 1 = P + 0`, … as the step lemmas expect
      have hcnt : ∀ (p : Pc → Bool) (pc' : Pc) (rem' : Option Nat),
          (c.threads.set t ⟨pc', rem'⟩).countP (fun th => p th.pc) + (p pc).toNat
            = c.threads.countP (fun th => p th.pc) + (p pc').toNat :=
        fun p pc' rem' => countP_set_thread (p := fun th => p th.pc) hth
      cases pc with
      | idle =>
        by_cases hu : c.g.used > u32Max
        · simp only [stepPc, hu, if_true]
          exact ⟨_, InvN.stepFull h hu (hcnt Pc.busy _ _) (hcnt Pc.pre _ _) (hcnt Pc.post _ _)⟩
        · simp only [stepPc, hu, if_false]
          exact ⟨_, InvN.stepPass h hu (hcnt Pc.busy _ _) (hcnt Pc.pre _ _) (hcnt Pc.post _ _)⟩
      | afterUsed =>
        simp only [stepPc]
        exact ⟨_, InvN.stepLoad h (Nat.add_right_cancel (hcnt Pc.busy _ _))
          (Nat.add_right_cancel (hcnt Pc.pre _ _)) (hcnt Pc.post _ _)⟩
      | afterLook b =>
        cases b with
        | true =>
          simp only [stepPc]
          cases hx : c.g.available[c.g.sel]? with
          | some x =>
            exact ⟨_, InvN.stepSelSome h hx (hcnt Pc.busy _ _) (hcnt Pc.pre _ _) (hcnt Pc.post _ _)⟩
          | none =>
            exact ⟨_, InvN.stepSelNone h hx (Nat.add_right_cancel (hcnt Pc.busy _ _)) (hcnt Pc.pre _ _)⟩
        | false =>
          simp only [stepPc]
          exact ⟨_, InvN.stepCur h (hcnt Pc.busy _ _) (Nat.le.intro (hcnt Pc.pre _ _)) (hcnt Pc.post _ _)⟩
      | afterSel k =>
        simp only [stepPc]
        have hq : 0 < c.post := toNat_le_countP (p := fun th => th.pc.post) hth
        exact ⟨_, InvN.stepStore h hq (Nat.add_right_cancel (hcnt Pc.busy _ _)) (hcnt Pc.pre _ _)
          (Nat.add_right_cancel (hcnt Pc.post _ _))⟩
      | afterStore =>
        simp only [stepPc]
        exact ⟨_, InvN.stepCur h (hcnt Pc.busy _ _) (Nat.le.intro (hcnt Pc.pre _ _)) (hcnt Pc.post _ _)⟩
    · exact ⟨_, h⟩

theorem inv_run {usedIds : List Nat} {selU : Nat} {c : Config} (h : Inv usedIds selU c)
    (sched : List Nat) : ∃ selU', Inv usedIds selU' (run c sched) := by
  unfold run
  induction sched generalizing c selU with
  | nil => exact ⟨_, h⟩
  | cons t ts ih =>
    obtain ⟨s', h'⟩ := inv_step h t
    exact ih h'

theorem countP_init (p : Pc → Bool) (hp : p .idle = false) (budgets : List (Option Nat)) :
    (budgets.map (fun b => ({ pc := .idle, remaining := b } : Thread))).countP (fun th => p th.pc) = 0 := by
  induction budgets with
  | nil => rfl
  | cons b bs ih => simp [hp]

theorem static_init {usedIds : List Nat} (hs : usedIds.Pairwise (· < ·))
    (hlt : ∀ x ∈ usedIds, x < 4294967296) (budgets : List (Option Nat)) :
    Static usedIds (initWith usedIds budgets).g.available (initWith usedIds budgets).g.last := by
  simp only [initWith]
  have hbound : (∀ x ∈ usedIds, x < lastOf usedIds) ∧ lastOf usedIds ≤ 4294967296 := by
    unfold lastOf
    cases hm : usedIds.getLast? with
    | none =>
      rw [List.getLast?_eq_none_iff.1 hm]
      exact ⟨fun x hx => (nomatch hx), Nat.zero_le _⟩
    | some m =>
      exact ⟨fun x hx => Nat.lt_succ_of_le (le_getLast_of_pairwise hs hm x hx),
        hlt m (List.mem_of_getLast? hm)⟩
  obtain ⟨hused, hle⟩ := hbound
  generalize lastOf usedIds = last at hused hle ⊢
  have hsub := diff_sublist (List.range last) usedIds
  refine ⟨?_, ?_, ?_, ?_, hused, hle⟩
  · intro x hx; exact List.mem_range.1 (hsub.subset hx)
  · exact diff_not_mem _ _ List.pairwise_lt_range hs
  · exact hsub.nodup List.nodup_range
  · have := diff_length (List.range last) usedIds List.pairwise_lt_range hs
      (fun z hz => List.mem_range.2 (hused z hz))
    simpa using this

theorem inv_init {usedIds : List Nat} (hs : usedIds.Pairwise (· < ·))
    (hlt : ∀ x ∈ usedIds, x < 4294967296) (budgets : List (Option Nat)) :
    Inv usedIds 0 (initWith usedIds budgets) := by
  have hst := static_init hs hlt budgets
  have hN : (initWith usedIds budgets).inflight = 0 := countP_init Pc.busy rfl budgets
  have hP : (initWith usedIds budgets).pre = 0 := countP_init Pc.pre rfl budgets
  have hQ : (initWith usedIds budgets).post = 0 := countP_init Pc.post rfl budgets
  have hI : (initWith usedIds budgets).ids = [] := rfl
  have hF : (initWith usedIds budgets).fulls = 0 := rfl
  unfold Inv
  rw [hN, hP, hQ, hI, hF]
  refine ⟨hst, rfl, ?_, fun _ => rfl, ?_, rfl, Nat.le_refl _, ?_, fun _ => rfl, ?_, ?_,
    fun h => absurd h (Nat.lt_irrefl _), fun x hx => (by cases hx), List.nodup_nil⟩
  · have := hst.availLen; have := hst.lastLe; simp only [List.length_nil]; omega
  · intro h
    have h' : 4294967296 ≤ usedIds.length := h
    have := hst.availLen; have := hst.lastLe; simp only [List.length_nil]; omega
  · simp [cntOf]
  · have := hst.lastLe; simpa [cntOf] using this
  · intro h
    have h' : (!(initWith usedIds budgets).g.available.isEmpty) = false := h
    simp at h'
    simp [h']

/-! ## the `u32` cells hold `u32` values -/

def CellsU32 (g : Cells) : Prop := g.current < 4294967296 ∧ g.sel < 4294967296

theorem stepPc_u32 (g : Cells) (pc : Pc) (h : CellsU32 g) : CellsU32 (stepPc g pc).1 := by
  obtain ⟨h1, h2⟩ := h
  have hw : ∀ n, wrap32 n < 4294967296 := fun n => Nat.mod_lt _ (by decide)
  unfold CellsU32
  cases pc with
  | idle => simp only [stepPc]; split <;> exact ⟨h1, h2⟩
  | afterUsed => exact ⟨h1, h2⟩
  | afterLook b =>
    cases b with
    | true => simp only [stepPc]; split <;> exact ⟨h1, hw _⟩
    | false => exact ⟨hw _, h2⟩
  | afterSel k => exact ⟨h1, h2⟩
  | afterStore => exact ⟨hw _, h2⟩

theorem stepCore_u32 (c : Config) (t : Nat) (h : CellsU32 c.g) : CellsU32 (stepCore c t).1.g := by
  unfold stepCore
  split
  · exact h
  · split
    · exact stepPc_u32 _ _ h
    · exact h

theorem run_u32 (c : Config) (sched : List Nat) (h : CellsU32 c.g) : CellsU32 (run c sched).g := by
  unfold run
  induction sched generalizing c with
  | nil => exact h
  | cons t ts ih => exact ih _ (stepCore_u32 c t h)

theorem lastOf_lt {usedIds : List Nat} (h : ∀ x ∈ usedIds, x < 4294967295) : lastOf usedIds < 4294967296 := by
  unfold lastOf
  cases hm : usedIds.getLast? with
  | none => simp
  | some m => have := h m (List.mem_of_getLast? hm); simp only; omega

theorem Inv.fresh {usedIds : List Nat} {selU : Nat} {c : Config} (h : Inv usedIds selU c) :
    ∀ x ∈ c.ids, x ∉ usedIds ∧ x < 4294967296 := by
  intro x hx
  have hs := h.static
  rcases h.logOk x hx with ⟨k, _, e⟩ | ⟨h1, h2⟩
  · have hm := List.mem_of_getElem? e
    have := hs.availLt x hm; have := hs.lastLe
    exact ⟨hs.availFresh x hm, by omega⟩
  · have := h.curLe
    exact ⟨fun hm => by have := hs.usedLt x hm; omega, by omega⟩

theorem idsOf_nodup_inj {log : List (Nat × Result)} (hnd : (idsOf log).Nodup) {i j t₁ t₂ x : Nat}
    (hi : log[i]? = some (t₁, .id x)) (hj : log[j]? = some (t₂, .id x)) : i = j := by
  have hp := List.pairwise_filterMap.1 hnd
  rw [List.pairwise_iff_getElem] at hp
  obtain ⟨hi', ei⟩ := List.getElem?_eq_some_iff.1 hi
  obtain ⟨hj', ej⟩ := List.getElem?_eq_some_iff.1 hj
  -- two entries with the same id at different positions would be a repetition in `idsOf log`
  rcases Nat.lt_trichotomy i j with h | h | h
  · exact absurd rfl (hp i j hi' hj' h x (by rw [ei]) x (by rw [ej]))
  · exact h
  · exact absurd rfl (hp j i hj' hi' h x (by rw [ej]) x (by rw [ei]))

/-! ## the sequential generator `IdGen` -/

/-- the sequential generator state a configuration stands for (threads and log forgotten) -/
def abs (c : Config) : IdGen :=
  { available := c.g.available, sel := c.g.sel, look := c.g.look, current := c.g.current, used := c.g.used }

theorem abs_initWith (usedIds : List Nat) (budgets : List (Option Nat)) :
    abs (initWith usedIds budgets) = IdGen.new usedIds := by
  unfold abs initWith IdGen.new lastOf
  cases usedIds.getLast? <;> simp [diff_eq_idset]

theorem stepCore_of {c : Config} {t : Nat} {pc : Pc} {rem : Option Nat}
    (hth : c.threads[t]? = some ⟨pc, rem⟩) (hen : (Thread.enabled ⟨pc, rem⟩) = true) :
    stepCore c t =
      ({ g := (stepPc c.g pc).1
         threads := c.threads.set t ⟨(stepPc c.g pc).2.1, Thread.remAfter ⟨pc, rem⟩⟩
         log := match (stepPc c.g pc).2.2.2 with | some r => (t, r) :: c.log | none => c.log },
       some ((stepPc c.g pc).2.2.1, (stepPc c.g pc).2.2.2)) := by
  unfold stepCore
  rw [hth]
  simp only [hen, if_true]
  rfl

theorem enabled_of_busy {pc : Pc} {rem : Option Nat} (h : pc ≠ .idle) : Thread.enabled ⟨pc, rem⟩ = true := by
  cases pc <;> simp_all [Thread.enabled]

theorem stepCore_busy (g : Cells) (ts : List Thread) (log : List (Nat × Result)) (t : Nat) (pc : Pc)
    (rem : Option Nat) (hlt : t < ts.length) (hpc : pc.busy = true) :
    stepCore ⟨g, ts.set t ⟨pc, rem⟩, log⟩ t =
      ({ g := (stepPc g pc).1
         threads := ts.set t ⟨(stepPc g pc).2.1, rem⟩
         log := match (stepPc g pc).2.2.2 with | some r => (t, r) :: log | none => log },
       some ((stepPc g pc).2.2.1, (stepPc g pc).2.2.2)) := by
  have hne : pc ≠ .idle := by rintro rfl; cases hpc
  have hth : (Config.mk g (ts.set t ⟨pc, rem⟩) log).threads[t]? = some ⟨pc, rem⟩ := by simp [hlt]
  rw [stepCore_of hth (enabled_of_busy hne)]
  have : Thread.remAfter ⟨pc, rem⟩ = rem := by cases pc <;> simp_all [Thread.remAfter]
  simp [this]

theorem request_eq (c : Config) (t : Nat) (rem : Option Nat)
    (hth : c.threads[t]? = some ⟨.idle, rem⟩) (hrem : rem ≠ some 0) :
    match IdGen.next (abs c) with
    | .ok (id, g') =>
        (request c t).2 = some (.id id) ∧ abs (request c t).1 = g' ∧
        (request c t).1.log = (t, .id id) :: c.log ∧
        (request c t).1.threads = c.threads.set t ⟨.idle, rem.map (· - 1)⟩
    | .error e =>
        e = .dbFull ∧ (request c t).2 = some .full ∧
        abs (request c t).1 = { abs c with used := (abs c).used + 1 } ∧
        (request c t).1.log = (t, .full) :: c.log ∧
        (request c t).1.threads = c.threads.set t ⟨.idle, rem.map (· - 1)⟩ := by
  have hlt : t < c.threads.length := (List.getElem?_eq_some_iff.1 hth).1
  have hen : Thread.enabled ⟨.idle, rem⟩ = true := by
    cases rem with
    | none => rfl
    | some n => cases n with
      | zero => exact absurd rfl hrem
      | succ n => rfl
  have hget : ∀ (a : Thread), (c.threads.set t a)[t]? = some a := by
    intro a; simp [hlt]
  unfold request
  rcases Nat.lt_or_ge 4294967295 c.g.used with hu | hu
  · have hu' : c.g.used > u32Max := hu
    rw [IdGen.next_full (g := abs c) hu]
    simp [abs, requestFuel, stepCore_of hth hen, stepPc, hu', Thread.remAfter]
  · have hu' : ¬ c.g.used > u32Max := Nat.not_lt.2 hu
    have e1 := stepCore_of hth hen
    simp only [stepPc, hu', if_false] at e1
    cases hl : c.g.look with
    | false =>
      rw [IdGen.next_counter (g := abs c) hu hl]
      simp only [requestFuel, e1]
      rw [stepCore_busy _ _ _ _ _ _ hlt rfl]
      simp only [stepPc, hl]
      rw [stepCore_busy _ _ _ _ _ _ hlt rfl]
      simp [stepPc, abs, hl, Thread.remAfter, wrap32]
    | true =>
      cases hx : c.g.available[c.g.sel]? with
      | some x =>
        rw [IdGen.next_avail (g := abs c) hu hl hx]
        simp only [requestFuel, e1]
        rw [stepCore_busy _ _ _ _ _ _ hlt rfl]
        simp only [stepPc, hl]
        rw [stepCore_busy _ _ _ _ _ _ hlt rfl]
        simp [stepPc, hx, abs, hl, Thread.remAfter, wrap32]
      | none =>
        rw [IdGen.next_exhausted (g := abs c) hu hl hx]
        simp only [requestFuel, e1]
        rw [stepCore_busy _ _ _ _ _ _ hlt rfl]
        simp only [stepPc, hl]
        rw [stepCore_busy _ _ _ _ _ _ hlt rfl]
        simp only [stepPc, hx]
        rw [stepCore_busy _ _ _ _ _ _ hlt rfl]
        simp only [stepPc]
        rw [stepCore_busy _ _ _ _ _ _ hlt rfl]
        simp [stepPc, abs, hl, Thread.remAfter, wrap32]

theorem run_append (c : Config) (s1 s2 : List Nat) : run c (s1 ++ s2) = run (run c s1) s2 := by
  simp [run, List.foldl_append]

theorem requestFuel_eq_run (t : Nat) : ∀ (fuel : Nat) (c : Config),
    ∃ k, (requestFuel c t fuel).1 = run c (List.replicate k t) := by
  intro fuel
  induction fuel with
  | zero => intro c; exact ⟨0, rfl⟩
  | succ fuel ih =>
    intro c
    unfold requestFuel
    split
    · next c' _ r he => exact ⟨1, by simp [run, he]⟩
    · next c' _ he =>
      obtain ⟨k, hk⟩ := ih c'
      refine ⟨k + 1, ?_⟩
      rw [hk, List.replicate_succ]
      simp [run, he]
    · next c' he => exact ⟨1, by simp [run, he]⟩

theorem inv_request {usedIds : List Nat} {selU : Nat} {c : Config} (h : Inv usedIds selU c) (t : Nat) :
    ∃ selU', Inv usedIds selU' (request c t).1 := by
  obtain ⟨k, hk⟩ := requestFuel_eq_run t 5 c
  unfold request
  rw [hk]
  exact inv_run h _

/-- `k` successive requests to the sequential generator (stops at the first error) -/
def nextN : Nat → IdGen → Except Err (List Nat × IdGen)
  | 0, g => .ok ([], g)
  | k+1, g =>
    match g.next with
    | .error e => .error e
    | .ok (id, g1) =>
      match nextN k g1 with
      | .error e => .error e
      | .ok (ids, g2) => .ok (id :: ids, g2)

/-- `k + 1` requests succeed exactly when the first does and `k` more do from its successor state -/
theorem nextN_succ_ok {k : Nat} {g g' : IdGen} {ids : List Nat} :
    nextN (k + 1) g = .ok (ids, g') ↔
      ∃ id g1 ids', g.next = .ok (id, g1) ∧ nextN k g1 = .ok (ids', g') ∧ ids = id :: ids' := by
  simp only [nextN]
  constructor
  · intro e
    split at e
    · cases e
    · next id g1 h1 =>
      split at e
      · cases e
      · next ids' g2 h2 =>
        cases e
        exact ⟨id, g1, ids', h1, h2, rfl⟩
  · rintro ⟨id, g1, ids', h1, h2, rfl⟩
    rw [h1]
    simp only [h2]

theorem nextN_length : ∀ (k : Nat) {g g' : IdGen} {ids : List Nat}, nextN k g = .ok (ids, g') → ids.length = k
  | 0, _, _, _, e => by simp only [nextN] at e; cases e; rfl
  | k + 1, _, _, _, e => by
    obtain ⟨id, g1, ids', _, h2, rfl⟩ := nextN_succ_ok.1 e
    rw [List.length_cons, nextN_length k h2]

theorem nextN_ok_iff (k : Nat) (g : IdGen) :
    (∃ ids g', nextN k g = .ok (ids, g')) ↔ (k = 0 ∨ g.used + k ≤ 4294967296) := by
  induction k generalizing g with
  | zero => simp [nextN]
  | succ k ih =>
    rcases Nat.lt_or_ge 4294967295 g.used with hu | hu
    · simp only [nextN, IdGen.next_full hu]
      constructor
      · rintro ⟨_, _, e⟩; cases e
      · intro h; omega
    · obtain ⟨id, g1, e1, e2⟩ := IdGen.next_ok_of_le hu
      have ih := ih g1
      simp only [nextN, e1]
      constructor
      · rintro ⟨ids, g', e⟩
        right
        cases hn : nextN k g1 with
        | error e' => rw [hn] at e; cases e
        | ok p =>
          have := ih.1 ⟨p.1, p.2, hn⟩
          omega
      · intro h
        have : k = 0 ∨ g1.used + k ≤ 4294967296 := by omega
        obtain ⟨ids, g', e⟩ := ih.2 this
        exact ⟨id :: ids, g', by rw [e]⟩

/-- the sequential generator is the one-thread instance of the transition system -/
theorem nextN_simulated {usedIds : List Nat} (t : Nat) : ∀ (k : Nat) {selU : Nat} {c : Config},
    Inv usedIds selU c → c.threads[t]? = some ⟨.idle, none⟩ →
    ∀ {ids : List Nat} {g' : IdGen}, nextN k (abs c) = .ok (ids, g') →
    ∃ c' selU', Inv usedIds selU' c' ∧ abs c' = g' ∧ c'.ids = ids.reverse ++ c.ids := by
  intro k
  induction k with
  | zero =>
    intro selU c h _ ids g' e
    simp only [nextN] at e
    cases e
    exact ⟨c, selU, h, rfl, rfl⟩
  | succ k ih =>
    intro selU c h hth ids g' e
    obtain ⟨id, g1, ids2, hn, hn2, rfl⟩ := nextN_succ_ok.1 e
    have hr := request_eq c t none hth (by simp)
    rw [hn] at hr
    obtain ⟨_, habs, hlog, hthreads⟩ := hr
    obtain ⟨s1, h1⟩ := inv_request h t
    have hlt : t < c.threads.length := (List.getElem?_eq_some_iff.1 hth).1
    have hth1 : (request c t).1.threads[t]? = some ⟨.idle, none⟩ := by
      rw [hthreads]; simp [hlt]
    rw [← habs] at hn2
    obtain ⟨c', s', h', habs', hids'⟩ := ih h1 hth1 hn2
    refine ⟨c', s', h', habs', ?_⟩
    have : (request c t).1.ids = id :: c.ids := by
      simp [Config.ids, hlog, idsOf]
    rw [hids', this]
    simp

end Arroy.Ids
