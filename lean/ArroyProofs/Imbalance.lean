import ArroyProofs.SoftFloatBits
import ArroyModel.Tree
/-! `split_imbalance` (binary64) when one side is empty: for `1 ≤ n < 2^53`, `splitImbalance n 0` and
`splitImbalance 0 n` exceed 0.99, so an empty side always triggers the random split of `make_tree_in_file`.
Core Lean only; the soft-float operations are evaluated symbolically on normalised values. -/
namespace Arroy.SF

theorem f64_consts : f64.p = 53 ∧ f64.bias = 1023 ∧ f64.emaxField = 2047 ∧ f64.qmin = -1074 ∧ f64.width = 64 := by
  decide

/-- the bits of the positive normal number `M · 2^E` (`2^52 ≤ M < 2^53`) -/
def norm64 (M : Nat) (E : Int) : Nat := (E + 1075).toNat * 2^52 + (M - 2^52)

theorem finish_norm64 (M : Nat) (q : Int) (hM1 : 2^52 ≤ M) (hq1 : -1074 ≤ q) (hq2 : q ≤ 971) :
    finish f64 false M q = norm64 M q := by
  unfold finish norm64 packBits
  simp only [f64, Fmt.emaxField, Fmt.bias, Nat.reduceSub]
  have c1 : ((2 ^ 10 - 1 : Nat) : Int) = 1023 := by decide
  have c2 : ((2 ^ 11 - 1 : Nat) : Int) = 2047 := by decide
  have c3 : ((53 : Nat) : Int) = 53 := rfl
  simp only [c1, c2, c3]
  have h1 : ¬ M < 2^52 := by omega
  have h2 : ¬ (q + 1075 ≥ 2047) := by omega
  have h3 : q + 1023 + (53 - 1) = q + 1075 := by omega
  simp only [if_neg h1, h3, if_neg h2, Bool.false_eq_true, if_false, Nat.zero_add]

theorem unpack_norm64 (M : Nat) (E : Int) (hM1 : 2^52 ≤ M) (hM2 : M < 2^53) (hE1 : -1074 ≤ E) (hE2 : E ≤ 971) :
    unpack f64 (norm64 M E) = .fin false M E := by
  obtain ⟨c1, c2, c3, c4, -⟩ := f64_consts
  rw [← finish_norm64 M E hM1 hE1 hE2]
  exact unpack_finish f64 (by decide) false M E hM1 hM2 (by rw [c4]; exact hE1) (by rw [c1, c2, c3]; omega)

/-- rounding down: `M · 2^s + d` with the discarded part `d` below one half of the last kept bit (or a tie
    with `M` even) rounds to `M`, and `M · 2^(e+s)` is representable -/
theorem roundPack_down (M s d : Nat) (e : Int) (hM1 : 2^52 ≤ M) (hM2 : M < 2^53) (hd : d < 2^s)
    (hdown : s = 0 ∨ d < 2^(s-1) ∨ (d = 2^(s-1) ∧ M % 2 = 0))
    (hE1 : -1074 ≤ e + s) (hE2 : e + s ≤ 971) :
    roundPack f64 false (M * 2^s + d) e false = norm64 M (e + s) := by
  obtain ⟨c1, -, -, c4, -⟩ := f64_consts
  have hP : 0 < 2^s := Nat.two_pow_pos s
  have hlo : 2^(53 + s - 1) ≤ M * 2^s + d := by
    rw [show 53 + s - 1 = 52 + s by omega, Nat.pow_add]
    exact Nat.le_trans (Nat.mul_le_mul_right _ hM1) (Nat.le_add_right _ _)
  have hhi : M * 2^s + d < 2^(53 + s) := by
    have : (M + 1) * 2^s ≤ 2^53 * 2^s := Nat.mul_le_mul_right _ hM2
    rw [Nat.add_mul, Nat.one_mul] at this
    rw [Nat.pow_add]; omega
  have hbl : bitLen (M * 2^s + d) = 53 + s := bitLen_eq (by omega) hlo hhi
  rw [roundPack_normal f64 false _ e false (Nat.lt_of_lt_of_le (Nat.two_pow_pos _) hlo)
    (by rw [hbl, c4, c1]; omega), hbl, c1]
  by_cases hs : s = 0
  · subst hs
    have hd0 : d = 0 := by simpa using hd
    subst hd0
    rw [if_pos (Nat.le_refl _), Nat.sub_self, Nat.pow_zero, Nat.mul_one, Nat.add_zero, Nat.mul_one,
      show e + ((53 + 0 : Nat) : Int) - ((53 : Nat) : Int) = e + ((0 : Nat) : Int) by omega]
    exact finish_norm64 M _ hM1 hE1 hE2
  · -- the discarded part is at most a tie on an even `M`: rounded down
    have hrm : roundMant (M * 2^s + d) s false = M := by
      obtain ⟨q, r, H, hPH, hH, -, hq, hr, -, -, hR⟩ := roundMant_cases (M * 2^s + d) s false (by omega)
      have hdiv : (M * 2^s + d) / 2^s = M := by
        rw [Nat.mul_comm, Nat.mul_add_div hP, Nat.div_eq_of_lt hd, Nat.add_zero]
      have hmod : (M * 2^s + d) % 2^s = d := by
        rw [Nat.mul_comm, Nat.mul_add_mod]; exact Nat.mod_eq_of_lt hd
      rw [hR, ← hq, ← hr, hdiv, hmod, ← hH, if_neg]
      simp only [Bool.false_eq_true, false_or]
      omega
    rw [if_neg (by omega), show 53 + s - 53 = s by omega, hrm, if_neg (by omega),
      show e + ((53 + s : Nat) : Int) - ((53 : Nat) : Int) = e + s by omega]
    exact finish_norm64 M (e + s) hM1 hE1 hE2

/-- `n as f64` for `1 ≤ n < 2^53` is exact: the normalised `n · 2^(53-L) · 2^(L-53)` -/
theorem ofNat64_small (n : Nat) (h0 : 0 < n) (hn : n < 2^53) :
    SF.ofNat f64 n = norm64 (n * 2^(53 - bitLen n)) ((bitLen n : Int) - 53) ∧
    2^52 ≤ n * 2^(53 - bitLen n) ∧ n * 2^(53 - bitLen n) < 2^53 ∧ 1 ≤ bitLen n ∧ bitLen n ≤ 53 := by
  obtain ⟨c1, -, -, c4, -⟩ := f64_consts
  have hL1 := (bitLen_bounds h0).1
  have hL53 : bitLen n ≤ 53 := bitLen_le hn
  obtain ⟨hm1, hm2⟩ := shl_bitLen_bounds h0 hL53
  refine ⟨?_, hm1, hm2, hL1, hL53⟩
  unfold SF.ofNat
  rw [roundPack_normal f64 false n 0 false h0 (by rw [c4, c1]; omega), c1, if_pos hL53,
    show (0 : Int) + (bitLen n : Int) - ((53 : Nat) : Int) = (bitLen n : Int) - 53 by omega]
  exact finish_norm64 _ _ hm1 (by omega) (by omega)

theorem unpack64_zero : unpack f64 0 = .fin false 0 (-1074) := by
  simp [unpack, f64, Fmt.width, Fmt.emaxField, Fmt.qmin, Fmt.bias]

theorem unpack64_epsilon : unpack f64 F64.epsilon = .fin false (2^52) (-104) := by
  simp [unpack, F64.epsilon, f64, Fmt.width, Fmt.emaxField, Fmt.bias]

theorem exactAdd_pos (m1 : Nat) (e1 : Int) (m2 : Nat) (e2 : Int) :
    exactAdd false m1 e1 false m2 e2 =
      (false, m1 * 2^((e1 - Min.min e1 e2).toNat) + m2 * 2^((e2 - Min.min e1 e2).toNat), Min.min e1 e2) := by
  unfold exactAdd
  simp only [Bool.false_eq_true, if_false]
  generalize m1 * 2^((e1 - Min.min e1 e2).toNat) = a
  generalize m2 * 2^((e2 - Min.min e1 e2).toNat) = b
  have h1 : ¬ ((a : Int) + (b : Int) < 0) := by omega
  have h2 : ((a : Int) + (b : Int)).natAbs = a + b := by omega
  simp [h1, h2]

theorem add64_zero (M : Nat) (E : Int) (hM1 : 2^52 ≤ M) (hM2 : M < 2^53) (hE1 : -1074 ≤ E) (hE2 : E ≤ 971) :
    SF.add f64 (norm64 M E) 0 = norm64 M E := by
  unfold SF.add
  rw [unpack_norm64 M E hM1 hM2 hE1 hE2, unpack64_zero]
  simp only [addV, exactAdd_pos]
  have hmin : Min.min E (-1074) = -1074 := by omega
  rw [hmin]
  have hz : (-1074 - -1074 : Int).toNat = 0 := by omega
  rw [hz]
  simp only [Nat.zero_mul, Nat.add_zero]
  have hpos : 0 < M * 2 ^ (E - -1074).toNat := Nat.mul_pos (by omega) (Nat.two_pow_pos _)
  have hb : (M * 2 ^ (E - -1074).toNat == 0) = false := by rw [beq_eq_false_iff_ne]; omega
  simp only [hb, Bool.false_eq_true, if_false]
  have := roundPack_down M (E - -1074).toNat 0 (-1074) hM1 hM2 (Nat.two_pow_pos _)
    (by
      by_cases h : (E - -1074).toNat = 0
      · exact Or.inl h
      · exact Or.inr (Or.inl (Nat.two_pow_pos _)))
    (by omega) (by omega)
  rw [Nat.add_zero] at this
  rw [this]
  congr 1
  omega

/-- `x + ε = x` for a normal `x ≥ 2` (a tie at `x ∈ [2, 4)` goes to the even mantissa) -/
theorem add64_epsilon (M : Nat) (E : Int) (hM1 : 2^52 ≤ M) (hM2 : M < 2^53) (hE1 : -51 ≤ E) (hE2 : E ≤ 971)
    (heven : E = -51 → M % 2 = 0) :
    SF.add f64 (norm64 M E) F64.epsilon = norm64 M E := by
  unfold SF.add
  rw [unpack_norm64 M E hM1 hM2 (by omega) hE2, unpack64_epsilon]
  simp only [addV, exactAdd_pos]
  have hmin : Min.min E (-104) = -104 := by omega
  rw [hmin]
  have hz : (-104 - -104 : Int).toNat = 0 := by omega
  rw [hz]
  simp only [Nat.pow_zero, Nat.mul_one]
  obtain ⟨s, hs⟩ : ∃ s : Nat, (E - -104).toNat = s := ⟨_, rfl⟩
  rw [hs]
  have hsE : (s : Int) = E + 104 := by omega
  have hs53 : 53 ≤ s := by omega
  have hpos : 0 < M * 2 ^ s + 2^52 := by have := Nat.two_pow_pos 52; omega
  have hb : (M * 2 ^ s + 2^52 == 0) = false := by rw [beq_eq_false_iff_ne]; omega
  simp only [hb, Bool.false_eq_true, if_false]
  have hd : 2^52 < 2^s := Nat.pow_lt_pow_right (by omega) (by omega)
  have := roundPack_down M s (2^52) (-104) hM1 hM2 hd
    (by
      right
      by_cases h : s = 53
      · right
        subst h
        exact ⟨rfl, heven (by omega)⟩
      · left
        exact Nat.pow_lt_pow_right (by omega) (by omega))
    (by omega) (by omega)
  rw [this]
  congr 1
  omega


theorem div64_self (M : Nat) (E : Int) (hM1 : 2^52 ≤ M) (hM2 : M < 2^53) (hE1 : -1074 ≤ E) (hE2 : E ≤ 971) :
    SF.div f64 (norm64 M E) (norm64 M E) = F64.one := by
  have hM0 : (M == 0) = false := by rw [beq_eq_false_iff_ne]; omega
  have hu := unpack_norm64 M E hM1 hM2 hE1 hE2
  rw [div_fin f64 _ _ false false M M E E hu hu hM0 hM0]
  have hbl : bitLen M = 53 := bitLen_eq (by omega) hM1 hM2
  rw [hbl, f64_consts.1]
  have hMpos : 0 < M := by omega
  have hdiv : M * 2 ^ (53 + 3 + 53) / M = 2^52 * 2^57 + 0 := by
    rw [Nat.mul_div_cancel_left _ hMpos, Nat.add_zero, ← Nat.pow_add]
  have hmod : M * 2 ^ (53 + 3 + 53) % M = 0 := Nat.mul_mod_right _ _
  have hee : E - E - ((53 + 3 + 53 : Nat) : Int) = -109 := by omega
  rw [hdiv, hmod, hee]
  have hst : ((0 : Nat) != 0) = false := by decide
  have hbb : (false != false) = false := rfl
  rw [hst, hbb]
  rw [roundPack_down (2^52) 57 0 (-109) (Nat.le_refl _) (Nat.pow_lt_pow_right (by omega) (by omega))
    (Nat.two_pow_pos _) (Or.inr (Or.inl (Nat.two_pow_pos _))) (by omega) (by omega)]
  decide

theorem div64_zero (M : Nat) (E : Int) (hM1 : 2^52 ≤ M) (hM2 : M < 2^53) (hE1 : -1074 ≤ E) (hE2 : E ≤ 971) :
    SF.div f64 0 (norm64 M E) = 0 := by
  have hM0 : (M == 0) = false := by rw [beq_eq_false_iff_ne]; omega
  rw [div_zero_fin f64 _ _ false false M _ _ unpack64_zero (unpack_norm64 M E hM1 hM2 hE1 hE2) hM0]
  rfl

end Arroy.SF

namespace Arroy
open SF

theorem F64.ofNat_norm (n : Nat) (h2 : 2 ≤ n) (hn : n < 2^53) :
    ∃ M E, F64.ofNat n = norm64 M E ∧ 2^52 ≤ M ∧ M < 2^53 ∧ -51 ≤ E ∧ E ≤ 0 ∧ (E = -51 → M % 2 = 0) := by
  obtain ⟨h1, h3, h4, h5, h6⟩ := ofNat64_small n (by omega) hn
  have hL2 : 2 ≤ bitLen n := by
    rcases Nat.lt_or_ge (bitLen n) 2 with h | h
    · exfalso
      have hb := (bitLen_bounds (m := n) (by omega)).2.2
      have : 2^(bitLen n) ≤ 2^1 := Nat.pow_le_pow_right (by omega) (by omega)
      omega
    · exact h
  refine ⟨_, _, h1, h3, h4, by omega, by omega, ?_⟩
  intro hE
  have hL : bitLen n = 2 := by omega
  rw [hL]
  have : (2 : Nat)^(53 - 2) = 2^50 * 2 := by rw [← Nat.pow_succ]
  rw [this, ← Nat.mul_assoc]
  exact Nat.mul_mod_left _ _

theorem F64.ofNat_zero : F64.ofNat 0 = 0 := by decide

theorem splitImbalance_left (n : Nat) (h2 : 2 ≤ n) (hn : n < 2^53) :
    splitImbalance n 0 = F64.max F64.one (F64.sub F64.one F64.one) := by
  obtain ⟨M, E, hx, hM1, hM2, hE1, hE2, hev⟩ := F64.ofNat_norm n h2 hn
  unfold splitImbalance
  simp only [F64.ofNat_zero, hx]
  show F64.max (SF.div f64 (norm64 M E) (SF.add f64 (SF.add f64 (norm64 M E) 0) F64.epsilon))
      (F64.sub F64.one (SF.div f64 (norm64 M E) (SF.add f64 (SF.add f64 (norm64 M E) 0) F64.epsilon))) = _
  rw [add64_zero M E hM1 hM2 (by omega) (by omega), add64_epsilon M E hM1 hM2 hE1 (by omega) hev,
    div64_self M E hM1 hM2 (by omega) (by omega)]

theorem splitImbalance_right (n : Nat) (h2 : 2 ≤ n) (hn : n < 2^53) :
    splitImbalance 0 n = F64.max 0 (F64.sub F64.one 0) := by
  obtain ⟨M, E, hx, hM1, hM2, hE1, hE2, hev⟩ := F64.ofNat_norm n h2 hn
  unfold splitImbalance
  simp only [F64.ofNat_zero, hx]
  show F64.max (SF.div f64 0 (SF.add f64 (SF.add f64 0 (norm64 M E)) F64.epsilon))
      (F64.sub F64.one (SF.div f64 0 (SF.add f64 (SF.add f64 0 (norm64 M E)) F64.epsilon))) = _
  rw [SF.add_comm f64 0 (norm64 M E), add64_zero M E hM1 hM2 (by omega) (by omega),
    add64_epsilon M E hM1 hM2 hE1 (by omega) hev, div64_zero M E hM1 hM2 (by omega) (by omega)]

/-- **an empty side always triggers the random split**: for `1 ≤ n < 2^53` the imbalance of `(n, 0)` and of
    `(0, n)` is above `imbalanceRandom = 0.99` (it is exactly 1.0, or 1 - 2^-52 for `n = 1`), and not below
    `imbalanceRetry = 0.95` -/
theorem splitImbalance_empty_side (n : Nat) (h1 : 1 ≤ n) (hn : n < 2^53) :
    F64.gt (splitImbalance n 0) (F64.ofRat Generated.imbalanceRandom) = true ∧
    F64.gt (splitImbalance 0 n) (F64.ofRat Generated.imbalanceRandom) = true ∧
    F64.lt (splitImbalance n 0) (F64.ofRat Generated.imbalanceRetry) = false ∧
    F64.lt (splitImbalance 0 n) (F64.ofRat Generated.imbalanceRetry) = false := by
  by_cases h : n = 1
  · subst h
    decide +kernel
  · rw [splitImbalance_left n (by omega) hn, splitImbalance_right n (by omega) hn]
    decide +kernel

end Arroy
