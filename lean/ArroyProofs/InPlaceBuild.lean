import ArroyProofs.InPlaceEq
import ArroyProofs.NoFuel
/-! The stages of `Build.build` written with the in-place routines (`InPlace.deleteLoopM`, ...,
`InPlace.buildM`) against the stages of `ArroyModel/Build.lean`.

`Sim m m'` : from every state, `m'` (in place) succeeds iff `m` (charged afterwards) does, with the
same value and state; if `m` fails with `e`, `m'` fails with `e`, or — only under a cancel schedule
and only if `e` is not itself a cancellation — with a cancellation that pre-empts `e`. -/
namespace Arroy
open BuildM Generated
namespace InPlace

/-- not a cancellation -/
def NC (e : Err) : Prop := ∀ k, e ≠ .cancelled k

/-! ## the pure routines never fail with `cancelled` -/

theorem treeErr_nc : TreeErr NC :=
  ⟨fun _ h => Err.noConfusion h, fun _ _ h => Err.noConfusion h, fun _ _ h => Err.noConfusion h⟩

theorem insertT_err_nc {cx : TreeCtx} {t : T} {ins : List Nat} {g : IdGen} {rs : List Bool} {e : Err}
    (h : insertT cx t ins g rs = .error e) : NC e :=
  insertT_errOnly treeErr_nc cx t ins g rs e h

theorem makeT_err_nc {cx : TreeCtx} {fuel : Nat} {items : List Nat} {g : IdGen} {normals : List (List Nat)}
    {rs : List Bool} {e : Err} (h : makeT cx fuel items g normals rs = .error e) : NC e :=
  makeT_errOnly treeErr_nc cx fuel items g normals rs (Or.inr (fun _ h => Err.noConfusion h)) e h

/-! ## `Sim` -/

/-- outcome of the charged-afterwards computation (left) against the in-place one (right),
    under the schedule `ca` of the start state -/
def Agree (ca : Option Nat) : Except Err (α × BState) → Except Err (α × BState) → Prop
  | .ok (a, s1), y => y = .ok (a, s1) ∧ s1.cancelAt = ca
  | .error e, .error e' => e' = e ∨ ((∃ k, e' = .cancelled k) ∧ NC e ∧ ca ≠ none)
  | .error _, .ok _ => False

def Sim (m m' : BuildM α) : Prop := ∀ st, Agree st.cancelAt (m st) (m' st)

/-- a successful run leaves the schedule alone -/
def Keeps (m : BuildM α) : Prop := ∀ st a st', m st = .ok (a, st') → st'.cancelAt = st.cancelAt

theorem Keeps.of_tr {m : BuildM α} (h : Transp.Transparent m) : Keeps m :=
  fun st a st' hm => ((h st).ok a st' hm).2.2.1

theorem Sim.refl {m : BuildM α} (h : Keeps m) : Sim m m := by
  intro st
  cases hm : m st with
  | error e => exact Or.inl rfl
  | ok r => obtain ⟨a, s1⟩ := r; exact ⟨rfl, h st a s1 hm⟩

theorem Sim.of_eq {m m' : BuildM α} (e : m' = m) (h : Keeps m) : Sim m m' := by
  subst e; exact Sim.refl h

theorem Sim.bind' {m m' : BuildM α} {f f' : α → BuildM β} (h : Sim m m') (hf : ∀ a, Sim (f a) (f' a)) :
    Sim (bind' m f) (bind' m' f') := by
  intro st
  have h0 := h st
  cases hm : m st with
  | error e =>
    rw [hm] at h0
    cases hm' : m' st with
    | ok r => rw [hm'] at h0; exact h0.elim
    | error e' =>
      rw [hm'] at h0
      rw [bind'_of_err hm, bind'_of_err hm']
      exact h0
  | ok r =>
    obtain ⟨a, s1⟩ := r
    rw [hm] at h0
    obtain ⟨h1, h2⟩ := h0
    rw [bind'_of_ok hm, bind'_of_ok h1, ← h2]
    exact hf a s1

theorem Sim.bind {m m' : BuildM α} {f f' : α → BuildM β} (h : Sim m m') (hf : ∀ a, Sim (f a) (f' a)) :
    Sim (m >>= f) (m' >>= f') := Sim.bind' h hf

theorem Sim.bindL {m : BuildM α} {f f' : α → BuildM β} (h : Keeps m) (hf : ∀ a, Sim (f a) (f' a)) :
    Sim (m >>= f) (m >>= f') := Sim.bind' (Sim.refl h) hf

theorem Sim.ite {p : Prop} [Decidable p] {a a' b b' : BuildM α} (ha : Sim a a') (hb : Sim b b') :
    Sim (if p then a else b) (if p then a' else b') := by
  split <;> assumption

theorem Keeps.pure (a : α) : Keeps (pure a : BuildM α) := by
  intro st b st' h; cases h; rfl
theorem Keeps.pure' (a : α) : Keeps (pure' a : BuildM α) := Keeps.pure a
theorem Keeps.fail (e : Err) : Keeps (fail e : BuildM α) := by
  intro st b st' h; cases h
theorem Keeps.poll : Keeps poll := Keeps.of_tr Transp.Transparent.poll
theorem Keeps.pollN (k : Nat) : Keeps (pollN k) := Keeps.of_tr (Transp.Transparent.pollN k)
theorem Keeps.getStore : Keeps getStore := Keeps.of_tr Transp.Transparent.getStore
theorem Keeps.nextBatch : Keeps nextBatch := Keeps.of_tr Transp.Transparent.nextBatch
theorem Keeps.peek : Keeps (fun s => .ok (s, s) : BuildM BState) := by
  intro st b st' h; cases h; rfl
theorem Keeps.usedTreeNode (c : Cfg) : Keeps (Build.usedTreeNode c) := by
  intro st a st' h
  unfold Build.usedTreeNode at h
  dsimp only at h
  split at h
  · split at h <;> (cases h; rfl)
  · cases h; rfl

def upd (v : BState → BState) : BuildM Unit := fun s => .ok ((), v s)

/-- the update neither reads nor writes the poll counter and the schedule -/
structure PollFree (v : BState → BState) : Prop where
  cancelAt : ∀ s, (v s).cancelAt = s.cancelAt
  polls : ∀ s, (v s).polls = s.polls
  comm : ∀ s p, v { s with polls := p } = { v s with polls := p }

theorem Keeps.upd {v : BState → BState} (hv : PollFree v) : Keeps (upd v) := by
  intro st a st' h; cases h; exact hv.cancelAt st

theorem poll_upd {v : BState → BState} (hv : PollFree v) (s : BState) :
    poll (v s) = (match poll s with
      | .ok (_, s') => .ok ((), v s')
      | .error e => .error e) := by
  cases hc : s.cancelAt with
  | none =>
    have hc' : (v s).cancelAt = none := by rw [hv.cancelAt, hc]
    rw [poll_none hc', poll_none hc]
    dsimp only
    rw [hv.polls, hv.comm s (s.polls + 1)]
  | some n =>
    have hc' : (v s).cancelAt = some n := by rw [hv.cancelAt, hc]
    by_cases hn : n ≤ s.polls
    · rw [Transp.poll_some_ge hc' (by rw [hv.polls]; exact hn), Transp.poll_some_ge hc hn, hv.polls]
    · rw [Transp.poll_some_lt hc' (by rw [hv.polls]; omega), Transp.poll_some_lt hc (by omega)]
      dsimp only
      rw [hv.polls, hv.comm s (s.polls + 1)]

theorem upd_poll_comm {v : BState → BState} (hv : PollFree v) (f : Unit → BuildM β) :
    bind' (upd v) (fun _ => bind' poll f) = bind' poll (fun _ => bind' (upd v) f) := by
  funext s
  show BuildM.bind' poll f (v s) = _
  unfold BuildM.bind'
  rw [poll_upd hv]
  cases poll s with
  | error e => rfl
  | ok r => rfl

theorem upd_pollN_comm {v : BState → BState} (hv : PollFree v) (k : Nat) (f : Unit → BuildM β) :
    bind' (upd v) (fun _ => bind' (pollN k) f) = bind' (pollN k) (fun _ => bind' (upd v) f) := by
  induction k with
  | zero => rfl
  | succ k ih =>
    simp only [pollN_succ_bind]
    rw [upd_poll_comm hv]
    simp only [ih]

/-- the charging pattern of `Build.lean` (`liftExcept x`, write the oracle remainders back, `pollN`,
    go on) against the in-place routine (`After n x`), for continuations that agree -/
theorem Sim.charge {ρ : Type} {x : Except Err ρ} {n : Nat} (polls : ρ → Nat) (u : ρ → BState → BState)
    (hn : ∀ r, x = .ok r → polls r = n) (hx : ∀ e, x = .error e → NC e) (hu : ∀ r, PollFree (u r))
    {f f' : ρ → BuildM β} (hf : ∀ r, Sim (f r) (f' r)) :
    Sim (BuildM.bind' (liftExcept x) (fun r => BuildM.bind' (upd (u r)) (fun _ => BuildM.bind' (pollN (polls r)) (fun _ => f r))))
        (BuildM.bind' (After n x) (fun r => BuildM.bind' (upd (u r)) (fun _ => f' r))) := by
  cases x with
  | error e =>
    rw [After_error_bind]
    intro st
    obtain ⟨e', h1, h2⟩ := After_error_run (α := β) n e st
    rw [h1]
    show Agree _ (.error e) (.error e')
    rcases h2 with h2 | ⟨h2, h3⟩
    · exact Or.inl h2
    · exact Or.inr ⟨h2, hx e rfl, h3⟩
  | ok r =>
    rw [After_ok_bind, liftExcept_ok, bind'_pure'_left, hn r rfl, upd_pollN_comm (hu r)]
    exact Sim.bind' (Sim.refl (Keeps.pollN n)) (fun _ => Sim.bind' (Sim.refl (Keeps.upd (hu r))) (fun _ => hf r))

theorem pollFree_rands (r : List Bool) : PollFree (fun s => { s with rands := r }) :=
  ⟨fun _ => rfl, fun _ => rfl, fun _ _ => rfl⟩

theorem pollFree_normals_rands (n : List (List Nat)) (r : List Bool) :
    PollFree (fun s => { s with normals := n, rands := r }) :=
  ⟨fun _ => rfl, fun _ => rfl, fun _ _ => rfl⟩

/-! ## what `Sim` says about the runs -/

theorem Sim.ok_iff {m m' : BuildM α} (h : Sim m m') (st : BState) (x : α × BState) :
    m st = .ok x ↔ m' st = .ok x := by
  have h0 := h st
  constructor
  · intro hm
    rw [hm] at h0
    exact h0.1
  · intro hm'
    cases hm : m st with
    | error e => rw [hm, hm'] at h0; exact h0.elim
    | ok r =>
      rw [hm] at h0
      rw [h0.1] at hm'
      exact hm'

theorem Sim.err {m m' : BuildM α} (h : Sim m m') (st : BState) (e : Err) (hm : m st = .error e) :
    ∃ e', m' st = .error e' ∧ (e' = e ∨ ((∃ k, e' = .cancelled k) ∧ NC e ∧ st.cancelAt ≠ none)) := by
  have h0 := h st
  rw [hm] at h0
  cases hm' : m' st with
  | ok r => rw [hm'] at h0; exact h0.elim
  | error e' => rw [hm'] at h0; exact ⟨e', rfl, h0⟩

theorem Sim.err' {m m' : BuildM α} (h : Sim m m') (st : BState) (e' : Err) (hm' : m' st = .error e') :
    ∃ e, m st = .error e ∧ (e' = e ∨ ((∃ k, e' = .cancelled k) ∧ NC e ∧ st.cancelAt ≠ none)) := by
  have h0 := h st
  cases hm : m st with
  | ok r =>
    obtain ⟨a, s1⟩ := r
    rw [hm] at h0
    rw [h0.1] at hm'
    cases hm'
  | error e => rw [hm, hm'] at h0; exact ⟨e, rfl, h0⟩

/-- without a schedule the two runs are the same -/
theorem Sim.eq_of_none {m m' : BuildM α} (h : Sim m m') (st : BState) (hc : st.cancelAt = none) :
    m' st = m st := by
  have h0 := h st
  cases hm : m st with
  | ok r =>
    obtain ⟨a, s1⟩ := r
    rw [hm] at h0
    exact h0.1
  | error e =>
    obtain ⟨e', h1, h2⟩ := h.err st e hm
    rw [h1]
    rcases h2 with h2 | ⟨_, _, h2⟩
    · rw [h2]
    · exact absurd hc h2

/-- a cancellation reported by the charged-afterwards run is reported by the in-place run, at the same call -/
theorem Sim.cancelled {m m' : BuildM α} (h : Sim m m') (st : BState) (k : Nat)
    (hm : m st = .error (.cancelled k)) : m' st = .error (.cancelled k) := by
  obtain ⟨e', h1, h2⟩ := h.err st _ hm
  rcases h2 with h2 | ⟨_, h2, _⟩
  · rw [h1, h2]
  · exact absurd rfl (h2 k)

/-! ## the stages -/
open Build

/-- `delete_items_from_trees`, loop over the roots: the two presentations are the same computation -/
theorem deleteLoopM_eq (c : Cfg) (o : BuildOpts) (D : List Nat) (s : Store) (roots : List Nat) :
    deleteLoopM c o D s roots = deleteLoop c o D s roots := by
  induction roots with
  | nil => rfl
  | cons root rest ih =>
    unfold deleteLoopM deleteLoop
    rw [ih]
    simp only [bind_eq, delM_eq_fun, bind'_assoc, bind'_pure'_left]

theorem deleteItemsFromTreesM_eq (c : Cfg) (o : BuildOpts) (roots D : List Nat) :
    deleteItemsFromTreesM c o roots D = deleteItemsFromTrees c o roots D := by
  unfold deleteItemsFromTreesM deleteItemsFromTrees
  simp only [deleteLoopM_eq]

theorem Keeps.reifyRoot (c : Cfg) (s : Store) (root : Nat) : Keeps (Build.reifyRoot c s root) :=
  Keeps.of_tr (Transp.reifyRoot_tr c s root)

theorem insertRoots_sim (c : Cfg) (o : BuildOpts) (snap : Store) (batch roots : List Nat) (g : IdGen) :
    Sim (insertRoots c o snap batch roots g) (insertRootsM c o snap batch roots g) := by
  induction roots generalizing g with
  | nil => exact Sim.refl (Keeps.pure _)
  | cons root rest ih =>
    unfold insertRoots insertRootsM
    refine Sim.bindL Keeps.poll (fun _ => ?_)
    refine Sim.bindL (Keeps.reifyRoot c snap root) (fun t => ?_)
    refine Sim.bindL Keeps.peek (fun st => ?_)
    obtain ⟨n, e, p⟩ := insertM_after (treeCtx c o snap) t batch g st.rands
    rw [e]
    refine Sim.charge InsRes.polls (fun r s => { s with rands := r.rands }) (fun r h => by rw [p r h, Nat.zero_add])
      (fun e h => insertT_err_nc h)
      (fun r => pollFree_rands r.rands) (fun r => ?_)
    refine Sim.bind (ih r.gen) (fun x => ?_)
    obtain ⟨puts, large, g'⟩ := x
    exact Sim.refl (Keeps.pure _)

theorem Keeps.writeBack (c : Cfg) (a b d) : Keeps (Build.writeBack c a b d) :=
  Keeps.of_tr (Transp.writeBack_tr c a b d)

theorem Keeps.forEachWriteBack (c : Cfg) (putss : List (List (Nat × Val))) :
    Keeps (BuildM.forEach putss (fun puts => Build.writeBack c [] puts id)) :=
  Keeps.of_tr (Transp.Transparent.forEach _ _ (fun _ => Transp.writeBack_tr c _ _ _))

theorem insertItemsInCurrentTrees_sim (c : Cfg) (o : BuildOpts) (roots : List Nat) (fuel : Nat)
    (toInsert : List Nat) (g : IdGen) :
    Sim (insertItemsInCurrentTrees c o roots fuel toInsert g)
        (insertItemsInCurrentTreesM c o roots fuel toInsert g) := by
  induction fuel generalizing toInsert g with
  | zero => exact Sim.refl (Keeps.fail _)
  | succ fuel ih =>
    unfold insertItemsInCurrentTrees insertItemsInCurrentTreesM
    refine Sim.ite (Sim.refl (Keeps.pure _)) ?_
    refine Sim.bindL Keeps.poll (fun _ => ?_)
    refine Sim.bindL Keeps.getStore (fun snapshot => ?_)
    refine Sim.bindL Keeps.nextBatch (fun k => ?_)
    refine Sim.ite (Sim.refl (Keeps.fail _)) ?_
    refine Sim.bind (insertRoots_sim c o snapshot _ roots g) (fun x => ?_)
    obtain ⟨putss, large, g'⟩ := x
    refine Sim.bindL (Keeps.forEachWriteBack c putss) (fun _ => ?_)
    refine Sim.bind (ih _ g') (fun y => ?_)
    obtain ⟨large', g''⟩ := y
    exact Sim.refl (Keeps.pure _)

theorem incrementalIndexLargeDescendants_sim (c : Cfg) (o : BuildOpts) (fuel : Nat) (large : List Nat)
    (g : IdGen) :
    Sim (incrementalIndexLargeDescendants c o fuel large g)
        (incrementalIndexLargeDescendantsM c o fuel large g) := by
  induction fuel generalizing large g with
  | zero =>
    unfold incrementalIndexLargeDescendants incrementalIndexLargeDescendantsM
    exact Sim.ite (Sim.refl (Keeps.pure _)) (Sim.refl (Keeps.fail _))
  | succ fuel ih =>
    unfold incrementalIndexLargeDescendants incrementalIndexLargeDescendantsM
    cases large with
    | nil => exact Sim.refl (Keeps.pure _)
    | cons b large' =>
      dsimp only
      refine Sim.bindL Keeps.poll (fun _ => ?_)
      refine Sim.bindL Keeps.getStore (fun s => ?_)
      cases hget : s.get (c.treeKey b) with
      | none => exact Sim.refl (Keeps.fail _)
      | some v =>
        cases v with
        | desc ids =>
          dsimp only
          refine Sim.bindL Keeps.nextBatch (fun k => ?_)
          refine Sim.ite (Sim.refl (Keeps.fail _)) ?_
          refine Sim.bindL Keeps.peek (fun st => ?_)
          obtain ⟨n, e, p⟩ := makeM_after (treeCtx c o s) (st.normals.length + 2) (ids.take k) g st.normals st.rands
          rw [e]
          refine Sim.charge MakeRes.polls (fun r s => { s with normals := r.normals, rands := r.rands })
            (fun r h => by rw [p r h, Nat.zero_add])
            (fun e h => makeT_err_nc h) (fun r => pollFree_normals_rands r.normals r.rands) (fun r => ?_)
          refine Sim.bindL (Keeps.writeBack c _ _ _) (fun _ => ?_)
          refine Sim.bind (insertItemsInCurrentTrees_sim c o [b] _ _ r.gen) (fun y => ?_)
          obtain ⟨large'', g'⟩ := y
          exact ih _ g'
        | _ => exact Sim.refl (Keeps.fail _)

theorem build_sim (c : Cfg) (o : BuildOpts) (fuel : Nat) : Sim (build c o fuel) (buildM c o fuel) := by
  unfold build buildM
  simp only [deleteItemsFromTreesM_eq]
  refine Sim.bindL (Keeps.of_tr (Transp.preProcessItems_tr c)) (fun _ => ?_)
  refine Sim.bindL (Keeps.of_tr (Transp.itemIndices_tr c)) (fun items => ?_)
  refine Sim.bindL (Keeps.of_tr (Transp.resetUpdated_tr c)) (fun updated => ?_)
  refine Sim.ite (Sim.refl (Keeps.of_tr (Transp.singleLeaf_tr c items))) ?_
  refine Sim.bindL Keeps.getStore (fun s => ?_)
  refine Sim.bindL (Keeps.usedTreeNode c) (fun used => ?_)
  refine Sim.bindL (Keeps.of_tr (Transp.deleteExtraTrees_tr c _ _)) (fun roots => ?_)
  refine Sim.bindL (Keeps.of_tr (Transp.deleteItemsFromTrees_tr c o _ _)) (fun roots' => ?_)
  refine Sim.bind (insertItemsInCurrentTrees_sim c o roots' _ _ _) (fun x => ?_)
  obtain ⟨large, g⟩ := x
  refine Sim.bindL (Keeps.of_tr (Transp.newTrees_tr c items _ _ _ _)) (fun y => ?_)
  obtain ⟨roots'', large', g'⟩ := y
  refine Sim.bind (incrementalIndexLargeDescendants_sim c o fuel large' g') (fun _ => ?_)
  exact Sim.refl (Keeps.of_tr (Transp.writeMetadata_tr c _ _))

end InPlace
end Arroy
