import ArroyModel.InPlace
import ArroyProofs.BuildM
/-! Equivalence of the in-place mirrors (`ArroyModel/InPlace.lean`: polls where the Rust code polls)
with the pure tree-level routines of `ArroyModel/Tree.lean` charged afterwards (`pollN r.polls`).

`After n x` = "`n` polls, then the pure outcome `x`".  Every in-place routine IS `After n x` for
`x` the outcome of the pure routine and `n` its poll count (on success) / the number of polls the
Rust routine makes before raising the error (on failure). -/
namespace Arroy
open BuildM Generated
namespace InPlace

theorem fail_bind' (e : Err) (f : α → BuildM β) : bind' (fail e) f = fail e := rfl

theorem bind_eq (m : BuildM α) (f : α → BuildM β) : (m >>= f) = bind' m f := rfl
theorem pure_eq (a : α) : (pure a : BuildM α) = pure' a := rfl

/-! ## `pollN` -/

theorem pollN_zero : pollN 0 = pure' () := rfl
theorem pollN_succ (k : Nat) : pollN (k+1) = bind' poll (fun _ => pollN k) := rfl

theorem pollN_zero_bind (f : Unit → BuildM β) : bind' (pollN 0) f = f () := rfl

theorem pollN_succ_bind (k : Nat) (f : Unit → BuildM β) :
    bind' (pollN (k+1)) f = bind' poll (fun _ => bind' (pollN k) f) := by
  rw [pollN_succ, bind'_assoc]

theorem pollN_one_bind (f : Unit → BuildM β) : bind' (pollN 1) f = bind' poll f := by
  rw [pollN_succ_bind]; rfl

/-- `pollN (a + b) = pollN a >>= fun _ => pollN b`, in continuation form -/
theorem pollN_add_bind (a b : Nat) (f : Unit → BuildM β) :
    bind' (pollN (a + b)) f = bind' (pollN a) (fun _ => bind' (pollN b) f) := by
  induction a with
  | zero => rw [Nat.zero_add]; rfl
  | succ a ih =>
    rw [Nat.add_right_comm, pollN_succ_bind, pollN_succ_bind, ih]

theorem pollN_add (a b : Nat) : pollN (a + b) = bind' (pollN a) (fun _ => pollN b) := by
  have := pollN_add_bind a b pure'
  rw [bind'_pure'] at this
  rw [this]
  congr 1
  funext u
  rw [bind'_pure']

/-- a failing `poll` fails with `cancelled`, under a schedule -/
theorem poll_err {st : BState} {e : Err} (h : poll st = .error e) :
    (∃ k, e = .cancelled k) ∧ st.cancelAt ≠ none := by
  unfold poll at h
  split at h
  · split at h
    · cases h; exact ⟨⟨_, rfl⟩, by simp_all⟩
    · cases h
  · cases h

theorem pollN_none (k : Nat) {st : BState} (h : st.cancelAt = none) :
    pollN k st = .ok ((), { st with polls := st.polls + k }) :=
  BuildM.pollN_ok_of_none h

theorem pollN_ok (k : Nat) {st st' : BState} {u : Unit} (h : pollN k st = .ok (u, st')) :
    st' = { st with polls := st.polls + k } :=
  BuildM.pollN_ok h

theorem pollN_err (k : Nat) {st : BState} {e : Err} (h : pollN k st = .error e) :
    (∃ j, e = .cancelled j) ∧ st.cancelAt ≠ none := by
  induction k generalizing st with
  | zero => cases h
  | succ k ih =>
    rw [pollN_succ] at h
    cases hp : poll st with
    | error e' => rw [bind'_of_err hp] at h; cases h; exact poll_err hp
    | ok r =>
      obtain ⟨⟨⟩, s1⟩ := r
      rw [bind'_of_ok hp] at h
      have := ih h
      rw [poll_ok hp] at this
      exact this

/-! ## `After` -/

/-- `n` polls, then the pure outcome `x` -/
def After (n : Nat) (x : Except Err α) : BuildM α := bind' (pollN n) (fun _ => liftExcept x)

theorem liftExcept_ok (a : α) : liftExcept (.ok a) = pure' a := rfl

theorem poll_After (n : Nat) (x : Except Err α) :
    bind' poll (fun _ => After n x) = After (n + 1) x := by
  unfold After; rw [pollN_succ_bind]

theorem pollN_After (k n : Nat) (x : Except Err α) :
    bind' (pollN k) (fun _ => After n x) = After (k + n) x := by
  unfold After; rw [pollN_add_bind]

theorem After_ok_bind (n : Nat) (a : α) (f : α → BuildM β) :
    bind' (After n (.ok a)) f = bind' (pollN n) (fun _ => f a) := by
  unfold After; rw [bind'_assoc]; rfl

theorem After_error_bind (n : Nat) (e : Err) (f : α → BuildM β) :
    bind' (After n (.error e : Except Err α)) f = After n (.error e) := by
  unfold After; rw [bind'_assoc]; rfl

theorem After_ok (n : Nat) (a : α) : After n (.ok a) = bind' (pollN n) (fun _ => pure' a) := rfl

/-- the run of `After n (.error e)`: a cancellation can only pre-empt the error -/
theorem After_error_run (n : Nat) (e : Err) (st : BState) :
    ∃ e', (After n (.error e) : BuildM α) st = .error e' ∧
      (e' = e ∨ ((∃ k, e' = .cancelled k) ∧ st.cancelAt ≠ none)) := by
  unfold After
  cases hp : pollN n st with
  | error e' => exact ⟨e', bind'_of_err hp, Or.inr (pollN_err n hp)⟩
  | ok r =>
    obtain ⟨⟨⟩, s1⟩ := r
    exact ⟨e, by rw [bind'_of_ok hp]; rfl, Or.inl rfl⟩

/-- the same, as the failure theorems of the in-place routines state it -/
theorem After_error_cases (n : Nat) (e : Err) (st : BState) :
    ∃ e', (After n (.error e) : BuildM α) st = .error e' ∧ (e' = e ∨ ∃ k, e' = .cancelled k) ∧
      (st.cancelAt = none → e' = e) := by
  obtain ⟨e', h1, h2⟩ := After_error_run (α := α) n e st
  refine ⟨e', h1, h2.imp_right And.left, fun hc => ?_⟩
  rcases h2 with h2 | ⟨_, h2⟩
  · exact h2
  · exact absurd hc h2

theorem After_error_none (n : Nat) (e : Err) {st : BState} (h : st.cancelAt = none) :
    (After n (.error e) : BuildM α) st = .error e := by
  unfold After
  rw [bind'_of_ok (pollN_none n h)]; rfl

/-! ## `PolledFrom` -/

/-- `m` is: some polls, then the pure outcome `x`; on success the poll count `p` of the result is `k` plus
    the number of those polls (`k`: what the caller has charged already) -/
def PolledFrom (k : Nat) (p : α → Nat) (m : BuildM α) (x : Except Err α) : Prop :=
  ∃ n, m = After n x ∧ ∀ r, x = .ok r → p r = k + n

namespace PolledFrom
variable {k : Nat} {p : α → Nat}

theorem pure {a : α} (h : p a = k) : PolledFrom k p (pure' a) (.ok a) :=
  ⟨0, rfl, fun r e => by cases e; exact h⟩

theorem fail (e : Err) : PolledFrom k p (fail e) (.error e) :=
  ⟨0, rfl, fun r h => by cases h⟩

theorem poll {m : BuildM α} {x : Except Err α} (h : PolledFrom (k + 1) p m x) :
    PolledFrom k p (bind' BuildM.poll fun _ => m) x := by
  obtain ⟨n, e, hp⟩ := h
  exact ⟨n + 1, by rw [e, poll_After], fun r hr => by rw [hp r hr]; omega⟩

/-- a call of a routine with its own count `q` that fails -/
theorem bind_error {q : α → Nat} {p : β → Nat} {m : BuildM α} {e : Err} {f : α → BuildM β}
    (hm : PolledFrom 0 q m (.error e)) : PolledFrom k p (bind' m f) (.error e) := by
  obtain ⟨n, e1, _⟩ := hm
  exact ⟨n, by rw [e1, After_error_bind], fun r h => by cases h⟩

/-- ... that succeeds, then the continuation on its result -/
theorem bind_ok {q : α → Nat} {p : β → Nat} {m : BuildM α} {a : α} {f : α → BuildM β} {y : Except Err β}
    (hm : PolledFrom 0 q m (.ok a)) (hf : PolledFrom (k + q a) p (f a) y) : PolledFrom k p (bind' m f) y := by
  obtain ⟨n1, e1, h1⟩ := hm
  obtain ⟨n2, e2, h2⟩ := hf
  refine ⟨n1 + n2, by rw [e1, After_ok_bind, e2, pollN_After], fun r hr => ?_⟩
  rw [h2 r hr, h1 a rfl]
  omega

end PolledFrom

/-! ## `delete_items_in_file` -/

theorem delT_node (cap : Nat) (D : List Nat) (id : Nat) (n : List Nat) (l r : T) :
    delT cap D (.node id n l r) = delNode cap id n l r (delT cap D l) (delT cap D r) := rfl

theorem delNode_polls (cap id n l r) (a b : DelRes) :
    (delNode cap id n l r a b).polls = 1 + a.polls + b.polls := by
  simp only [delNode, apply_ite DelRes.polls, ite_self]

/-- `delM` is `delT` charged afterwards, as an equality of `BuildM` computations -/
theorem delM_eq_fun (cap : Nat) (D : List Nat) (t : T) :
    delM cap D t = bind' (pollN (delT cap D t).polls) (fun _ => pure' (delT cap D t)) := by
  induction t with
  | leaf i => rfl
  | bucket id s =>
    show bind' poll (fun _ => pure' _) = bind' (pollN 1) (fun _ => pure' _)
    rw [pollN_one_bind]
    rfl
  | node id n l r ihl ihr =>
    show bind' poll (fun _ => bind' (delM cap D l) (fun a => bind' (delM cap D r) (fun b =>
      pure' (delNode cap id n l r a b)))) = _
    rw [ihl, ihr, delT_node, delNode_polls]
    simp only [bind'_assoc, bind'_pure'_left]
    rw [Nat.add_assoc, Nat.add_comm 1, pollN_succ_bind, pollN_add_bind]

/-- literal equality of the runs, from every state: same value and state on success,
    `cancelled k` with the same call number on cancellation -/
theorem delM_eq (cap : Nat) (D : List Nat) (t : T) (st : BState) :
    delM cap D t st =
      (BuildM.bind' (BuildM.pollN (delT cap D t).polls) (fun _ => BuildM.pure' (delT cap D t))) st := by
  rw [delM_eq_fun]

/-! ## `insert_items_in_file` -/

theorem insertT_node (cx : TreeCtx) (id : Nat) (n : List Nat) (l r : T) (ins : List Nat) (g : IdGen)
    (rs : List Bool) :
    insertT cx (.node id n l r) ins g rs =
      (match insParts cx n ins rs with
       | .error e => .error e
       | .ok (left, right, rs1) =>
         match insertT cx l left g rs1 with
         | .error e => .error e
         | .ok a =>
           match insertT cx r right a.gen a.rands with
           | .error e => .error e
           | .ok b => .ok (insNode id n l r a b)) := rfl

theorem insertM_node (cx : TreeCtx) (id : Nat) (n : List Nat) (l r : T) (ins : List Nat) (g : IdGen)
    (rs : List Bool) :
    insertM cx (.node id n l r) ins g rs =
      bind' poll (fun _ =>
        match insParts cx n ins rs with
        | .error e => fail e
        | .ok (left, right, rs1) =>
          bind' (insertM cx l left g rs1) (fun a => bind' (insertM cx r right a.gen a.rands) (fun b =>
            pure' (insNode id n l r a b)))) := rfl

/-- `insertM` is: some polls, then the outcome of `insertT`; on success the number of polls is the
    one `insertT` reports -/
theorem insertM_after (cx : TreeCtx) (t : T) (ins : List Nat) (g : IdGen) (rs : List Bool) :
    PolledFrom 0 InsRes.polls (insertM cx t ins g rs) (insertT cx t ins g rs) := by
  induction t generalizing ins g rs with
  | leaf i =>
    unfold insertM insertT
    refine .poll ?_
    dsimp only
    split
    · cases g.next with
      | error e => exact .fail e
      | ok q => exact .pure rfl
    · exact .pure rfl
  | bucket id s =>
    unfold insertM insertT
    refine .poll ?_
    dsimp only
    split <;> exact .pure rfl
  | node id n l r ihl ihr =>
    rw [insertM_node, insertT_node]
    refine .poll ?_
    cases insParts cx n ins rs with
    | error e => exact .fail e
    | ok q =>
      obtain ⟨left, right, rs1⟩ := q
      dsimp only
      cases ha : insertT cx l left g rs1 with
      | error e => exact .bind_error (ha ▸ ihl left g rs1)
      | ok a =>
        refine .bind_ok (ha ▸ ihl left g rs1) ?_
        dsimp only
        cases hb : insertT cx r right a.gen a.rands with
        | error e => exact .bind_error (hb ▸ ihr right a.gen a.rands)
        | ok b => exact .bind_ok (hb ▸ ihr right a.gen a.rands) (.pure rfl)

/-- success: `insertM` is `insertT` charged afterwards (same value, same state, same `cancelled k`).
    The random bits are an explicit argument and part of the result on both sides. -/
theorem insertM_ok (cx : TreeCtx) (t : T) (ins : List Nat) (g : IdGen) (rs : List Bool) (r : InsRes)
    (h : insertT cx t ins g rs = .ok r) (st : BState) :
    insertM cx t ins g rs st = (BuildM.pollN r.polls >>= fun _ => pure r) st := by
  obtain ⟨n, e, p⟩ := insertM_after cx t ins g rs
  rw [e, h, p r h, Nat.zero_add]
  rfl

/-- failure: `insertM` fails too, with the same error or — under a schedule — with a cancellation
    that pre-empts it -/
theorem insertM_err (cx : TreeCtx) (t : T) (ins : List Nat) (g : IdGen) (rs : List Bool) (e : Err)
    (h : insertT cx t ins g rs = .error e) (st : BState) :
    ∃ e', insertM cx t ins g rs st = .error e' ∧ (e' = e ∨ ∃ k, e' = .cancelled k) ∧
      (st.cancelAt = none → e' = e) := by
  obtain ⟨n, eq, _⟩ := insertM_after cx t ins g rs
  rw [eq, h]
  exact After_error_cases n e st

/-! ## `make_tree_in_file` -/

/-- the split loop: `chooseSplitM` is some polls, then the outcome of `chooseSplit`; on success the
    counter returned has grown by that number of polls -/
theorem chooseSplitM_after (cx : TreeCtx) (items : List Nat) (attempts : Nat) (normals : List (List Nat))
    (rs : List Bool) (p : Nat) :
    PolledFrom p (fun res => res.2.2.2.2.2) (chooseSplitM cx items attempts normals rs p)
      (chooseSplit cx items attempts normals rs p) := by
  induction attempts generalizing normals rs p with
  | zero =>
    unfold chooseSplitM chooseSplit
    refine .poll ?_
    cases normals with
    | nil => exact .fail _
    | cons nm normals' =>
      dsimp only
      cases sideSplit cx nm items rs with
      | error e => exact .fail e
      | ok q =>
        obtain ⟨l, r, rs'⟩ := q
        dsimp only
        split <;> exact .pure rfl
  | succ a ih =>
    unfold chooseSplitM chooseSplit
    refine .poll ?_
    cases normals with
    | nil => exact .fail _
    | cons nm normals' =>
      dsimp only
      cases sideSplit cx nm items rs with
      | error e => exact .fail e
      | ok q =>
        obtain ⟨l, r, rs'⟩ := q
        dsimp only
        split
        · exact .pure rfl
        · exact ih normals' rs' (p + 1)

/-- `makeT` after the single-item test -/
def makeRestT (cx : TreeCtx) (fuel : Nat) (items : List Nat) (g : IdGen) (normals : List (List Nat))
    (rs : List Bool) : Except Err MakeRes :=
  if fits cx.cap items.length then
    match g.next with
    | .error e => .error e
    | .ok (id, g') => .ok ⟨.bucket id items, [(id, .desc items)], g', normals, rs, 1, 1⟩
  else
    match chooseSplit cx items splitAttempts normals rs 0 with
    | .error e => .error e
    | .ok (n, l, r, normals1, rs1, k) =>
      match makeDecide items n l r rs1 with
      | .error e => .error e
      | .ok (n, l, r, rs2) =>
        match makeT cx fuel l g normals1 rs2 with
        | .error e => .error e
        | .ok a =>
          match makeT cx fuel r a.gen a.normals a.rands with
          | .error e => .error e
          | .ok b =>
            match b.gen.next with
            | .error e => .error e
            | .ok (id, g') =>
              .ok ⟨.node id n a.tree b.tree, a.puts ++ b.puts ++ [(id, .split a.tree.ref b.tree.ref n)],
                   g', b.normals, b.rands, 1 + k + a.polls + b.polls, a.nNew + b.nNew + 1⟩

theorem makeT_succ (cx : TreeCtx) (fuel : Nat) (items : List Nat) (g : IdGen) (normals : List (List Nat))
    (rs : List Bool) :
    makeT cx (fuel+1) items g normals rs =
      (match items with
       | [x] => .ok ⟨.leaf x, [], g, normals, rs, 1, 0⟩
       | _ => makeRestT cx fuel items g normals rs) := rfl

/-- `makeM` after the first poll and the single-item test -/
def makeRestM (cx : TreeCtx) (fuel : Nat) (items : List Nat) (g : IdGen) (normals : List (List Nat))
    (rs : List Bool) : BuildM MakeRes :=
  if fits cx.cap items.length then
    match g.next with
    | .error e => fail e
    | .ok (id, g') => pure' ⟨.bucket id items, [(id, .desc items)], g', normals, rs, 1, 1⟩
  else
    bind' (chooseSplitM cx items splitAttempts normals rs 0) (fun
      | (n, l, r, normals1, rs1, k) =>
        match makeDecide items n l r rs1 with
        | .error e => fail e
        | .ok (n, l, r, rs2) =>
          bind' (makeM cx fuel l g normals1 rs2) (fun a =>
          bind' (makeM cx fuel r a.gen a.normals a.rands) (fun b =>
          match b.gen.next with
          | .error e => fail e
          | .ok (id, g') =>
            pure' ⟨.node id n a.tree b.tree, a.puts ++ b.puts ++ [(id, .split a.tree.ref b.tree.ref n)],
                  g', b.normals, b.rands, 1 + k + a.polls + b.polls, a.nNew + b.nNew + 1⟩)))

theorem makeM_succ (cx : TreeCtx) (fuel : Nat) (items : List Nat) (g : IdGen) (normals : List (List Nat))
    (rs : List Bool) :
    makeM cx (fuel+1) items g normals rs =
      bind' poll (fun _ =>
        match items with
        | [x] => pure' ⟨.leaf x, [], g, normals, rs, 1, 0⟩
        | _ => makeRestM cx fuel items g normals rs) := rfl

/-- what the induction hypothesis on `fuel` says -/
def MakeAfter (cx : TreeCtx) (fuel : Nat) : Prop :=
  ∀ items g normals rs, PolledFrom 0 MakeRes.polls (makeM cx fuel items g normals rs) (makeT cx fuel items g normals rs)

theorem makeRest_after (cx : TreeCtx) (fuel : Nat) (ih : MakeAfter cx fuel) (items : List Nat) (g : IdGen)
    (normals : List (List Nat)) (rs : List Bool) :
    PolledFrom 1 MakeRes.polls (makeRestM cx fuel items g normals rs) (makeRestT cx fuel items g normals rs) := by
  unfold makeRestM makeRestT
  split
  · cases g.next with
    | error e => exact .fail e
    | ok q => exact .pure rfl
  · cases hc : chooseSplit cx items splitAttempts normals rs 0 with
    | error e => exact .bind_error (hc ▸ chooseSplitM_after cx items splitAttempts normals rs 0)
    | ok q =>
      obtain ⟨n, l, r, normals1, rs1, k⟩ := q
      refine .bind_ok (hc ▸ chooseSplitM_after cx items splitAttempts normals rs 0) ?_
      dsimp only
      cases makeDecide items n l r rs1 with
      | error e => exact .fail e
      | ok d =>
        obtain ⟨n', l', r', rs2⟩ := d
        dsimp only
        cases ha : makeT cx fuel l' g normals1 rs2 with
        | error e => exact .bind_error (ha ▸ ih l' g normals1 rs2)
        | ok a =>
          refine .bind_ok (ha ▸ ih l' g normals1 rs2) ?_
          dsimp only
          cases hb : makeT cx fuel r' a.gen a.normals a.rands with
          | error e => exact .bind_error (hb ▸ ih r' a.gen a.normals a.rands)
          | ok b =>
            refine .bind_ok (hb ▸ ih r' a.gen a.normals a.rands) ?_
            dsimp only
            cases b.gen.next with
            | error e => exact .fail e
            | ok q => exact .pure rfl

/-- `makeM` is: some polls, then the outcome of `makeT`; on success the number of polls is the one
    `makeT` reports -/
theorem makeM_after (cx : TreeCtx) (fuel : Nat) : MakeAfter cx fuel := by
  induction fuel with
  | zero => intro items g normals rs; exact .fail _
  | succ fuel ih =>
    intro items g normals rs
    rw [makeM_succ, makeT_succ]
    refine .poll ?_
    rcases items with _ | ⟨x, _ | ⟨y, zs⟩⟩
    · exact makeRest_after cx fuel ih _ g normals rs
    · exact .pure rfl
    · exact makeRest_after cx fuel ih _ g normals rs

theorem makeM_ok (cx : TreeCtx) (fuel : Nat) (items : List Nat) (g : IdGen) (normals : List (List Nat))
    (rs : List Bool) (r : MakeRes) (h : makeT cx fuel items g normals rs = .ok r) (st : BState) :
    makeM cx fuel items g normals rs st = (BuildM.pollN r.polls >>= fun _ => pure r) st := by
  obtain ⟨n, e, p⟩ := makeM_after cx fuel items g normals rs
  rw [e, h, p r h, Nat.zero_add]
  rfl

theorem makeM_err (cx : TreeCtx) (fuel : Nat) (items : List Nat) (g : IdGen) (normals : List (List Nat))
    (rs : List Bool) (e : Err) (h : makeT cx fuel items g normals rs = .error e) (st : BState) :
    ∃ e', makeM cx fuel items g normals rs st = .error e' ∧ (e' = e ∨ ∃ k, e' = .cancelled k) ∧
      (st.cancelAt = none → e' = e) := by
  obtain ⟨n, eq, _⟩ := makeM_after cx fuel items g normals rs
  rw [eq, h]
  exact After_error_cases n e st

end InPlace
end Arroy
