import ArroyProofs.Mutates
import ArroyProofs.Properties.C15
/-! `IndexInv` and the item operations; `IndexInv` after a successful build. -/
namespace Arroy
open BuildM Generated IdSet Transp

theorem keysOf_tree_nil {c : Cfg} {s : Store} (hw : Store.WF s) (hi : c.index < 65536)
    (h : ∀ id, (Store.get s (c.treeKey id)).isSome = false) : s.keysOf c.index modeTree = [] := by
  apply List.eq_nil_iff_forall_not_mem.2
  intro id hmem
  rw [Store.mem_keysOf_iff hw _ _ _ hi (by decide)] at hmem
  exact absurd hmem (by rw [show (⟨c.index, modeTree, id⟩ : Key) = c.treeKey id from rfl, h id]; decide)

theorem Old.rootsPresent {c : Cfg} {s : Store} {roots items : List Nat} {ts : List T} (old : Old c s roots items ts)
    (hw : Store.WF s) (hi : c.index < 65536) : RootsPresent c s := by
  intro hne hr
  rw [old.roots_eq] at hr
  subst hr
  have hts : ts = [] := by
    have := old.forest.length; simpa using this
  subst hts
  refine hne (keysOf_tree_nil hw hi (fun id => ?_))
  cases hg : (Store.get s (c.treeKey id)).isSome
  · rfl
  · exact absurd ((old.forest.cover id).1 hg) (by simp)

theorem IndexInvW.rootsPresent {c : Cfg} {s : Store} (h : IndexInvW c s) (hi : c.index < 65536) : RootsPresent c s := by
  obtain ⟨roots, items, ts, old⟩ := Old.of_inv h hi
  exact old.rootsPresent h.2.1 hi

/-- everything a successful build establishes, under any cancellation schedule and for any fresh id supply:
    by transparency the run is the fault-free one, which `buildWith_core` describes -/
theorem buildWith_out (mk : List Nat → IdGen) (c : Cfg) (o : BuildOpts) (fuel : Nat) (st st' : BState)
    (roots0 items0 : List Nat) (ts0 : List T)
    (hi : c.index < 65536) (hcap : 1 ≤ Build.cap c o) (hfresh : FreshSupplyOf mk)
    (hs : Store.Sorted st.store) (hw : Store.WF st.store) (old : Old c st.store roots0 items0 ts0)
    (h : Build.buildWith mk c o fuel st = .ok ((), st')) :
    ∃ roots' ts', BuildOut c o st.store st'.store roots0 ts0 roots' ts' :=
  buildWith_core mk c o fuel (erase st) (erase st') roots0 items0 ts0 hi hcap hs hw old rfl hfresh
    ((buildWith_transparentOn mk c o fuel st (old.rootsPresent hw hi)).ok () st' h).1

theorem buildWith_out_of_inv (mk : List Nat → IdGen) (c : Cfg) (o : BuildOpts) (fuel : Nat) (st st' : BState)
    (hi : c.index < 65536) (hcap : 1 ≤ Build.cap c o) (hfresh : FreshSupplyOf mk)
    (hinv : IndexInvW c st.store) (h : Build.buildWith mk c o fuel st = .ok ((), st')) :
    ∃ roots0 items0 ts0 roots' ts', Old c st.store roots0 items0 ts0 ∧
      BuildOut c o st.store st'.store roots0 ts0 roots' ts' := by
  obtain ⟨roots0, items0, ts0, old⟩ := Old.of_inv hinv hi
  obtain ⟨roots', ts', b⟩ := buildWith_out mk c o fuel st st' roots0 items0 ts0 hi hcap hfresh hinv.sorted hinv.wf old h
  exact ⟨roots0, items0, ts0, roots', ts', old, b⟩

theorem IndexInv.mutate {c : Cfg} {s s' : Store} (hinv : IndexInv c s)
    (hs' : Store.Sorted s') (hw' : Store.WF s') (hl' : C05.ItemsAreLeaves c s') (m : Mutates c s s') :
    IndexInv c s' := by
  obtain ⟨⟨_, _, _, hb⟩, hrn⟩ := hinv
  refine ⟨⟨hs', hw', hl', ?_⟩, ?_⟩
  · rcases hb with ⟨hm, ht⟩ | ⟨name, dims, items, roots, hm, hsi, ⟨ts, f⟩, hmc⟩
    · exact Or.inl ⟨by rw [m.meta_eq, hm], fun id => by rw [m.tree, ht]⟩
    · refine Or.inr ⟨name, dims, items, roots, by rw [m.meta_eq, hm], hsi, ⟨ts, f.frame m.tree⟩, ?_⟩
      intro id hnone
      obtain ⟨h1, h2⟩ := m.marks id hnone
      rw [hmc id h1, h2]
  · intro name dims items roots hm
    rw [m.meta_eq] at hm
    exact hrn name dims items roots hm

theorem IndexInv.of_same {c : Cfg} {s s' : Store} (hinv : IndexInv c s) (hs' : Store.Sorted s') (hw' : Store.WF s')
    (h : ∀ k : Key, k.index = c.index → Store.get s' k = Store.get s k) : IndexInv c s' := by
  refine hinv.mutate hs' hw' ?_ (Mutates.of_same h)
  intro kv hkv hi hm
  have hg : Store.get s' kv.1 = some kv.2 := (Store.get_eq_some_iff hs' _ _).2 hkv
  rw [h kv.1 hi] at hg
  exact hinv.leaves kv (Store.mem_of_get hg) hi hm

theorem IndexInv_add {c c' : Cfg} {s s' : Store} {id : Nat} {vec : List Nat} (hinv : IndexInv c s)
    (hi' : c'.index < 65536) (hid : id < 4294967296)
    (h : Writer.addItem c' s id vec = .ok s') : IndexInv c s' :=
  hinv.mutate (Writer.addItem_sorted h hinv.sorted) (Writer.addItem_wf h hinv.wf hi' hid)
    (C05.C05_inv_add c' c s s' id vec h hinv.leaves) (Mutates.add h)

theorem IndexInv_append {c c' : Cfg} {s s' : Store} {id : Nat} {vec : List Nat} (hinv : IndexInv c s)
    (hi' : c'.index < 65536) (hid : id < 4294967296)
    (h : Writer.appendItem c' s id vec = .ok s') : IndexInv c s' :=
  IndexInv_add hinv hi' hid (Writer.appendItem_ok_eq_addItem hinv.sorted h)

theorem IndexInv_del {c c' : Cfg} {s : Store} {id : Nat} (hinv : IndexInv c s)
    (hi' : c'.index < 65536) (hid : id < 4294967296) : IndexInv c (Writer.delItem c' s id).1 :=
  hinv.mutate (Writer.delItem_sorted id hinv.sorted) (Writer.delItem_wf id hinv.wf hi' hid)
    (C05.C05_inv_del c' c s id hinv.leaves) (Mutates.del c c' s id)

theorem IndexInv_clear {c c' : Cfg} {s : Store} (hinv : IndexInv c s) (hi' : c'.index < 65536) :
    IndexInv c (Writer.clear c' s) := by
  by_cases he : c.index = c'.index
  · refine ⟨⟨Writer.clear_sorted hinv.sorted, Writer.clear_wf hinv.wf, C05.C05_inv_clear c' c s hinv.leaves,
      Or.inl ⟨Writer.get_clear_same c' s _ he, fun id => Writer.get_clear_same c' s _ he⟩⟩, ?_⟩
    intro name dims items roots hm
    rw [Writer.get_clear_same c' s _ he] at hm
    cases hm
  · exact hinv.of_same (Writer.clear_sorted hinv.sorted) (Writer.clear_wf hinv.wf)
      (fun k hk => get_clear_other' c' s hinv.wf hi' k (by rw [hk]; exact he))

/-! ## the invariant only depends on the index number -/

theorem Forest.congr_index {c c' : Cfg} (h : c'.index = c.index) {s : Store} {roots items : List Nat} {ts : List T}
    (f : Forest c s roots items ts) : Forest c' s roots items ts := by
  have hk := Cfg.treeKey_congr h
  refine ⟨f.refs, ?_, f.ids_nodup, ?_, f.wf, f.items_nodup, f.reach⟩
  · intro t ht cell hc
    rw [hk]; exact f.holds t ht cell hc
  · intro id; rw [hk]; exact f.cover id

theorem IndexInv.congr_index {c c' : Cfg} (h : c'.index = c.index) {s : Store} (hinv : IndexInv c s) :
    IndexInv c' s := by
  have hk := Cfg.treeKey_congr h
  have hm := Cfg.metaKey_congr h
  have hu := Cfg.updatedKey_congr h
  have hit := Cfg.itemKey_congr h
  obtain ⟨⟨hs, hw, hl, hb⟩, hrn⟩ := hinv
  refine ⟨⟨hs, hw, ?_, ?_⟩, ?_⟩
  · intro kv hkv hi hmode
    exact hl kv hkv (by rw [hi, h]) hmode
  · rcases hb with ⟨h1, h2⟩ | ⟨name, dims, items, roots, h1, h2, ⟨ts, f⟩, h4⟩
    · exact Or.inl ⟨by rw [hm]; exact h1, fun id => by rw [hk]; exact h2 id⟩
    · refine Or.inr ⟨name, dims, items, roots, by rw [hm]; exact h1, h2, ⟨ts, f.congr_index h⟩, ?_⟩
      intro id
      rw [hu, hit]
      exact h4 id
  · intro name dims items roots hmeta
    rw [hm] at hmeta
    exact hrn name dims items roots hmeta

theorem BuildOut.invW {c : Cfg} {o : BuildOpts} {s s' : Store} {roots0 roots' : List Nat} {ts0 ts' : List T}
    (b : BuildOut c o s s' roots0 ts0 roots' ts') (hs : Store.Sorted s) (hw : Store.WF s)
    (hl : C05.ItemsAreLeaves c s) (hi : c.index < 65536) : IndexInvW c s' := by
  refine ⟨b.step.sorted hs, b.step.wf hw, b.step.leaves hl, Or.inr ⟨_, _, _, _, b.metadata,
    Store.keysOf_sorted hs hw _ _ hi (by decide), ⟨ts', b.forest⟩, ?_⟩⟩
  intro id _
  rw [Store.mem_keysOf_iff hw _ _ _ hi (by decide), b.present id]
  rfl

theorem BuildOut.keysOf_item {c : Cfg} {o : BuildOpts} {s s' : Store} {roots0 roots' : List Nat} {ts0 ts' : List T}
    (b : BuildOut c o s s' roots0 ts0 roots' ts') (hs : Store.Sorted s) (hw : Store.WF s) (hi : c.index < 65536) :
    s'.keysOf c.index modeItem = s.keysOf c.index modeItem :=
  keysOf_congr hs hw (b.step.sorted hs) (b.step.wf hw) _ _ hi (by decide) (fun id => b.present id)

theorem BuildOut.rootsNonempty {c : Cfg} {o : BuildOpts} {s s' : Store} {roots0 roots' : List Nat} {ts0 ts' : List T}
    (b : BuildOut c o s s' roots0 ts0 roots' ts') (hn : o.nTrees ≠ some 0) :
    s.keysOf c.index modeItem ≠ [] → roots' ≠ [] := by
  intro hne
  cases hf : fits (Build.cap c o) (s.keysOf c.index modeItem).length
  · have hlen := b.count hf
    have h1 : 1 ≤ Build.targetNTrees o c.dims (s.keysOf c.index modeItem).length roots0.length := by
      cases hnt : o.nTrees with
      | none => exact C15.C15_auto o _ _ _ hnt
      | some n =>
        rw [C15.C15_requested o n _ _ _ hnt]
        have : n ≠ 0 := fun e => hn (by rw [hnt, e])
        omega
    intro e
    rw [e] at hlen
    simp at hlen
    omega
  · rw [(b.single hf).1]
    have : (s.keysOf c.index modeItem).isEmpty = false := by
      cases hk : s.keysOf c.index modeItem with
      | nil => exact absurd hk hne
      | cons a l => rfl
    simp [this]

theorem BuildOut.inv {c : Cfg} {o : BuildOpts} {s s' : Store} {roots0 roots' : List Nat} {ts0 ts' : List T}
    (b : BuildOut c o s s' roots0 ts0 roots' ts') (hs : Store.Sorted s) (hw : Store.WF s)
    (hl : C05.ItemsAreLeaves c s) (hi : c.index < 65536) (hn : o.nTrees ≠ some 0) : IndexInv c s' := by
  refine ⟨b.invW hs hw hl hi, ?_⟩
  intro name dims items roots hm
  rw [b.metadata] at hm
  simp only [Option.some.injEq, Val.metadata.injEq] at hm
  obtain ⟨_, _, rfl, rfl⟩ := hm
  exact b.rootsNonempty hn

theorem BuildOut.inv_other {c c' : Cfg} {o : BuildOpts} {s s' : Store} {roots0 roots' : List Nat} {ts0 ts' : List T}
    (b : BuildOut c o s s' roots0 ts0 roots' ts') (hne : c'.index ≠ c.index) (hinv : IndexInv c' s) :
    IndexInv c' s' :=
  hinv.of_same (b.step.sorted hinv.sorted) (b.step.wf hinv.wf) (fun k hk => b.other k (by rw [hk]; exact hne))

end Arroy
