import ArroyProofs.IndexInvOps
import ArroyProofs.Properties.C18
/-! `IndexInv` and `Writer.prepareChangingDistance`: the metric change keeps the invariant of every index.
For the changed index nothing of the forest and no metadata is left (`Unbuilt`), the items stay leaves;
the keys of the other indexes do not move (`C18_change`). -/
namespace Arroy
open Generated IdSet Transp

theorem prepare_unbuilt {c c' : Cfg} {m' : Metric} {s s' : Store} (hne : m' ≠ c'.metric)
    (hw : Store.WF s) (hs : Store.Sorted s) (hi' : c'.index < 65536) (hl : C05.ItemsAreLeaves c' s)
    (he : c.index = c'.index) (h : Writer.prepareChangingDistance c' m' s = .ok s') :
    Unbuilt c s' ∧ Store.Sorted s' ∧ Store.WF s' ∧ C05.ItemsAreLeaves c s' := by
  obtain ⟨s'', h', ⟨ht, hm, _⟩, _, _, _, hs', hw', hl'⟩ := C18.C18_change c' m' s hne hw hs hi' hl
  rw [h] at h'
  cases h'
  have hk := Cfg.treeKey_congr he
  have hmk := Cfg.metaKey_congr he
  refine ⟨⟨by rw [hmk]; exact hm, fun id => by rw [hk]; exact ht id⟩, hs', hw', ?_⟩
  intro kv hkv hidx hmode
  exact hl' kv hkv (by rw [hidx, he]) hmode

theorem prepare_other {c' : Cfg} {m' : Metric} {s s' : Store}
    (hw : Store.WF s) (hs : Store.Sorted s) (hi' : c'.index < 65536) (hl : C05.ItemsAreLeaves c' s)
    (h : Writer.prepareChangingDistance c' m' s = .ok s') (k : Key) (hk : k.index ≠ c'.index) :
    Store.get s' k = Store.get s k := by
  by_cases hne : m' = c'.metric
  · subst hne
    rw [C18.C18_same] at h
    cases h; rfl
  · obtain ⟨s'', h', _, _, _, ho, _⟩ := C18.C18_change c' m' s hne hw hs hi' hl
    rw [h] at h'
    cases h'
    exact ho k (Or.inl hk)

theorem prepare_sorted_wf {c' : Cfg} {m' : Metric} {s s' : Store}
    (hw : Store.WF s) (hs : Store.Sorted s) (hi' : c'.index < 65536) (hl : C05.ItemsAreLeaves c' s)
    (h : Writer.prepareChangingDistance c' m' s = .ok s') : Store.Sorted s' ∧ Store.WF s' := by
  by_cases hne : m' = c'.metric
  · subst hne
    rw [C18.C18_same] at h
    cases h; exact ⟨hs, hw⟩
  · obtain ⟨s'', h', _, _, _, _, hs', hw', _⟩ := C18.C18_change c' m' s hne hw hs hi' hl
    rw [h] at h'
    cases h'
    exact ⟨hs', hw'⟩

theorem Mutates.prepare_other {c c' : Cfg} {m' : Metric} {s s' : Store}
    (hw : Store.WF s) (hs : Store.Sorted s) (hi' : c'.index < 65536) (hl : C05.ItemsAreLeaves c' s)
    (h : Writer.prepareChangingDistance c' m' s = .ok s') (hne : c.index ≠ c'.index) : Mutates c s s' :=
  Mutates.of_same (fun k hk => Arroy.prepare_other hw hs hi' hl h k (by rw [hk]; exact hne))

/-- **the metric change preserves the invariant of every index** (`hinv'`: the invariant of the changed
    index, needed for the call to succeed at all: its item keys hold leaves) -/
theorem IndexInv_prepare {c c' : Cfg} {m' : Metric} {s s' : Store} (hinv : IndexInv c s) (hinv' : IndexInv c' s)
    (hi' : c'.index < 65536) (h : Writer.prepareChangingDistance c' m' s = .ok s') : IndexInv c s' := by
  have hs := hinv.sorted
  have hw := hinv.wf
  have hl' := hinv'.leaves
  by_cases hne : m' = c'.metric
  · subst hne
    rw [C18.C18_same] at h
    cases h; exact hinv
  · by_cases he : c.index = c'.index
    · obtain ⟨hu, hs', hw', hl⟩ := prepare_unbuilt (c := c) hne hw hs hi' hl' he h
      refine ⟨⟨hs', hw', hl, Or.inl hu⟩, ?_⟩
      intro name dims items roots hm
      rw [hu.1] at hm
      cases hm
    · obtain ⟨hs', hw'⟩ := prepare_sorted_wf hw hs hi' hl' h
      exact hinv.of_same hs' hw' (fun k hk => prepare_other hw hs hi' hl' h k (by rw [hk]; exact he))

end Arroy
