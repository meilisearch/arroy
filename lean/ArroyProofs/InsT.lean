import ArroyProofs.SplitLemmas
import ArroyProofs.FreshGen
import ArroyProofs.Staged
/-! Specification of `insertT` (the tree-level mirror of `insert_items_in_file`). -/
namespace Arroy
open IdSet

/-- every bucket is a strictly increasing list -/
def WF : T → Prop
  | .leaf _ => True
  | .bucket _ s => Sorted s
  | .node _ _ l r => WF l ∧ WF r

/-- C04, first sentence, on one tree: below every non-degenerate plane no item with a decisive
    margin is on the wrong side -/
def RoutedT (cx : TreeCtx) : T → Prop
  | .leaf _ => True
  | .bucket _ _ => True
  | .node _ n l r =>
    (cx.isZero n = false →
      (∀ x ∈ l.items, cx.side n x ≠ some (some true)) ∧ (∀ x ∈ r.items, cx.side n x ≠ some (some false))) ∧
    RoutedT cx l ∧ RoutedT cx r

instance decWF : (t : T) → Decidable (WF t)
  | .leaf _ => isTrue trivial
  | .bucket _ s => inferInstanceAs (Decidable (Sorted s))
  | .node _ _ l r =>
    have := decWF l
    have := decWF r
    inferInstanceAs (Decidable (WF l ∧ WF r))

instance decRoutedT (cx : TreeCtx) : (t : T) → Decidable (RoutedT cx t)
  | .leaf _ => isTrue trivial
  | .bucket _ _ => isTrue trivial
  | .node _ n l r =>
    have := decRoutedT cx l
    have := decRoutedT cx r
    inferInstanceAs (Decidable ((cx.isZero n = false →
      (∀ x ∈ l.items, cx.side n x ≠ some (some true)) ∧ (∀ x ∈ r.items, cx.side n x ≠ some (some false))) ∧
      RoutedT cx l ∧ RoutedT cx r))

theorem insertT_leaf_ok {cx : TreeCtx} {i : Nat} {ins : List Nat} {g : IdGen} {rs : List Bool} {res : InsRes}
    (h : insertT cx (.leaf i) ins g rs = .ok res) :
    ((union [i] ins).length > 1 ∧ ∃ id g', g.next = .ok (id, g') ∧
        res = ⟨.bucket id (union [i] ins), [(id, .desc (union [i] ins))],
                if fits cx.cap (union [i] ins).length then [] else [id], g', rs, 1⟩) ∨
    (¬ (union [i] ins).length > 1 ∧ res = ⟨.leaf i, [], [], g, rs, 1⟩) := by
  simp only [insertT] at h
  split at h
  · rename_i hlen
    left
    refine ⟨hlen, ?_⟩
    split at h
    · cases h
    · rename_i id g' hn
      cases h
      exact ⟨id, g', hn, rfl⟩
  · rename_i hlen
    right
    cases h
    exact ⟨hlen, rfl⟩

theorem insertT_bucket_ok {cx : TreeCtx} {id : Nat} {s ins : List Nat} {g : IdGen} {rs : List Bool} {res : InsRes}
    (h : insertT cx (.bucket id s) ins g rs = .ok res) :
    (s.length ≠ (union s ins).length ∧
      res = ⟨.bucket id (union s ins), [(id, .desc (union s ins))],
              if fits cx.cap (union s ins).length then [] else [id], g, rs, 1⟩) ∨
    (s.length = (union s ins).length ∧
      res = ⟨.bucket id s, [], if fits cx.cap (union s ins).length then [] else [id], g, rs, 1⟩) := by
  simp only [insertT] at h
  split at h
  · rename_i hne
    cases h
    exact Or.inl ⟨by simpa using hne, rfl⟩
  · rename_i hne
    cases h
    exact Or.inr ⟨by simpa using hne, rfl⟩

theorem insertT_node_ok {cx : TreeCtx} {id : Nat} {n : List Nat} {l r : T} {ins : List Nat} {g : IdGen}
    {rs : List Bool} {res : InsRes} (h : insertT cx (.node id n l r) ins g rs = .ok res) :
    ∃ left right rs1 a b, Split cx n ins rs left right rs1 ∧
      insertT cx l left g rs1 = .ok a ∧ insertT cx r right a.gen a.rands = .ok b ∧
      res = ⟨.node id n a.tree b.tree,
        a.puts ++ b.puts ++
          (if a.tree.ref ≠ l.ref ∨ b.tree.ref ≠ r.ref then [(id, .split a.tree.ref b.tree.ref n)] else []),
        union a.large b.large, b.gen, b.rands, 1 + a.polls + b.polls⟩ := by
  simp only [insertT] at h
  split at h
  · cases h
  · rename_i left right rs1 hparts
    split at h
    · cases h
    · rename_i a ha
      split at h
      · cases h
      · rename_i b hb
        cases h
        refine ⟨left, right, rs1, a, b, ?_, ha, hb, rfl⟩
        unfold Split
        split
        · rename_i hz
          rw [if_pos hz] at hparts
          split at hparts
          · rename_i x hx
            cases hparts
            exact hx
          · cases hparts
        · rename_i hz
          rw [if_neg hz] at hparts
          exact hparts

theorem large_single (cap id : Nat) (s : List Nat) (n : Nat) (hn : n = s.length) :
    Sorted (if fits cap n then [] else [id]) ∧
    ∀ j, j ∈ (if fits cap n then [] else [id]) ↔ ∃ s', (j, s') ∈ [(id, s)] ∧ ¬ fits cap s'.length := by
  subst hn
  split <;> rename_i hf
  · refine ⟨sorted_nil, fun j => ?_⟩
    simp only [List.not_mem_nil, List.mem_singleton, Prod.mk.injEq, false_iff, not_exists, not_and]
    rintro s' ⟨_, rfl⟩ h; exact h hf
  · refine ⟨sorted_singleton _, fun j => ?_⟩
    simp only [List.mem_singleton, Prod.mk.injEq]
    exact ⟨fun e => ⟨s, ⟨e, rfl⟩, hf⟩, fun ⟨_, ⟨e, _⟩, _⟩ => e⟩

/-- everything `insertT` guarantees about a successful result `res` of inserting `ins` into `t` with
    generator `g` -/
structure InsSpec (cx : TreeCtx) (t : T) (ins : List Nat) (g : IdGen) (res : InsRes) : Prop where
  /-- the items of the result are those of `t` and those inserted -/
  items : ∀ x, x ∈ res.tree.items ↔ x ∈ t.items ∨ x ∈ ins
  wf : WF t → Sorted ins → WF res.tree
  /-- no duplicates appear if the inserted items are new -/
  nodup : WF t → Sorted ins → t.items.Nodup → (∀ x ∈ ins, x ∉ t.items) → res.tree.items.Nodup
  /-- old ids stay, new ids are fresh; only an item that becomes a bucket changes the root reference -/
  ids : ∀ inUse, t.ids.Nodup → (∀ i ∈ t.ids, i ∈ inUse) → FreshGen inUse g →
    res.tree.ids.Nodup ∧
    (∀ i ∈ res.tree.ids, i ∈ t.ids ∨ i ∉ inUse) ∧
    (∀ i ∈ t.ids, i ∈ res.tree.ids) ∧
    (res.tree.ref = t.ref ∨ ∃ i id s, t = .leaf i ∧ res.tree = .bucket id s ∧ id ∉ inUse) ∧
    FreshGen (res.tree.ids ++ inUse) res.gen
  /-- every put is a cell of the resulting tree -/
  puts_cells : ∀ p ∈ res.puts, p ∈ res.tree.cells
  /-- a cell of the result that is not put is a cell of the old tree, unchanged -/
  unput_cells : ∀ cell ∈ res.tree.cells, cell.1 ∉ res.puts.map (·.1) → cell ∈ t.cells
  /-- the returned set is exactly the set of buckets of the result that do not fit -/
  large : Sorted res.large ∧ ∀ id, id ∈ res.large ↔ ∃ s, (id, s) ∈ res.tree.buckets ∧ ¬ fits cx.cap s.length
  /-- one poll per call, one call per node and per item child -/
  polls : res.polls = t.size
  /-- inserting keeps every item with a decisive margin on the side of its margin -/
  routed : RoutedT cx t → RoutedT cx res.tree

theorem insertT_spec {cx : TreeCtx} {t : T} {ins : List Nat} {g : IdGen} {rs : List Bool} {res : InsRes}
    (h : insertT cx t ins g rs = .ok res) : InsSpec cx t ins g res := by
  induction t generalizing ins g rs res with
  | leaf i =>
    rcases insertT_leaf_ok h with ⟨_, id, g', hn, rfl⟩ | ⟨hlen, rfl⟩
    · exact {
        items := fun x => mem_union
        wf := fun _ hs => sorted_union (sorted_singleton i) hs
        nodup := fun _ hs _ _ => (sorted_union (sorted_singleton i) hs).nodup
        ids := fun inUse _ _ hg => by
          obtain ⟨hf, hg'⟩ := hg.step hn
          refine ⟨by simp [T.ids], ?_, by simp [T.ids], Or.inr ⟨i, id, _, rfl, rfl, hf⟩, by simpa [T.ids] using hg'⟩
          intro j hj
          simp only [T.ids, List.mem_singleton] at hj
          subst hj
          exact Or.inr hf
        puts_cells := fun _ hp => hp
        unput_cells := by simp [T.cells]
        large := large_single cx.cap id _ _ rfl
        polls := rfl
        routed := fun _ => trivial }
    · have hle := length_le_union [i] ins
      have hsub := subset_of_length_union_eq [i] ins (by simp only [List.length_cons, List.length_nil] at hle ⊢; omega)
      exact {
        items := fun x => ⟨Or.inl, fun hx => hx.elim (fun h => h) (hsub x)⟩
        wf := fun _ _ => trivial
        nodup := fun _ _ hnd _ => hnd
        ids := fun inUse _ _ hg => ⟨by simp [T.ids], by simp [T.ids], by simp [T.ids], Or.inl rfl, by simpa [T.ids] using hg⟩
        puts_cells := fun _ hp => nomatch hp
        unput_cells := fun _ hc => nomatch hc
        large := ⟨sorted_nil, by simp [T.buckets]⟩
        polls := rfl
        routed := fun _ => trivial }
  | bucket id s =>
    have hgen : ∀ inUse, (∀ i ∈ (T.bucket id s).ids, i ∈ inUse) → FreshGen inUse g → FreshGen ([id] ++ inUse) g :=
      fun inUse hin hg => hg.mono (fun i hi => by
        rcases List.mem_append.1 hi with hi | hi
        · exact hin i (by simpa [T.ids] using hi)
        · exact hi)
    rcases insertT_bucket_ok h with ⟨_, rfl⟩ | ⟨hlen, rfl⟩
    · exact {
        items := fun x => mem_union
        wf := fun hw hs => sorted_union hw hs
        nodup := fun hw hs _ _ => (sorted_union hw hs).nodup
        ids := fun inUse _ hin hg => ⟨by simp [T.ids], by simp [T.ids], by simp [T.ids], Or.inl rfl, hgen inUse hin hg⟩
        puts_cells := fun _ hp => hp
        unput_cells := by simp [T.cells]
        large := large_single cx.cap id _ _ rfl
        polls := rfl
        routed := fun _ => trivial }
    · have hsub := subset_of_length_union_eq s ins hlen.symm
      exact {
        items := fun x => ⟨Or.inl, fun hx => hx.elim (fun h => h) (hsub x)⟩
        wf := fun hw _ => hw
        nodup := fun _ _ hnd _ => hnd
        ids := fun inUse _ hin hg => ⟨by simp [T.ids], by simp [T.ids], by simp [T.ids], Or.inl rfl, hgen inUse hin hg⟩
        puts_cells := fun _ hp => nomatch hp
        unput_cells := fun _ hc _ => hc
        large := large_single cx.cap id _ _ hlen.symm
        polls := rfl
        routed := fun _ => trivial }
  | node id n l r ihl ihr =>
    obtain ⟨left, right, rs1, a, b, hsp, ha, hb, rfl⟩ := insertT_node_ok h
    have A := ihl ha
    have B := ihr hb
    have P := split_partition hsp
    exact {
      items := fun x => by
        simp only [T.items, List.mem_append, A.items, B.items, P.mem x]
        exact or_or_or_comm
      wf := fun hw hs => ⟨A.wf hw.1 (P.sortedl hs), B.wf hw.2 (P.sortedr hs)⟩
      nodup := fun hw hs hnd hdis => by
        simp only [T.items, List.nodup_append] at hnd ⊢
        obtain ⟨hl, hr, hd⟩ := hnd
        have hdl : ∀ x ∈ left, x ∉ l.items := fun x hx hm =>
          hdis x ((P.mem x).2 (Or.inl hx)) (by simp [T.items, hm])
        have hdr : ∀ x ∈ right, x ∉ r.items := fun x hx hm =>
          hdis x ((P.mem x).2 (Or.inr hx)) (by simp [T.items, hm])
        refine ⟨A.nodup hw.1 (P.sortedl hs) hl hdl, B.nodup hw.2 (P.sortedr hs) hr hdr, ?_⟩
        intro x hxa y hyb hxy
        subst hxy
        rcases (A.items x).1 hxa with h1 | h1 <;> rcases (B.items x).1 hyb with h2 | h2
        · exact hd x h1 x h2 rfl
        · exact hdis x ((P.mem x).2 (Or.inr h2)) (by simp [T.items, h1])
        · exact hdis x ((P.mem x).2 (Or.inl h1)) (by simp [T.items, h2])
        · exact P.disjoint hs.nodup x h1 h2
      ids := fun inUse hnd hin hg => by
        simp only [T.ids, List.nodup_cons, List.mem_append, List.nodup_append, not_or] at hnd
        obtain ⟨⟨hidl, hidr⟩, hl, hr, hdisj⟩ := hnd
        have hinl : ∀ i ∈ l.ids, i ∈ inUse := fun i hi => hin i (by simp [T.ids, hi])
        have hinr : ∀ i ∈ r.ids, i ∈ inUse := fun i hi => hin i (by simp [T.ids, hi])
        have hid : id ∈ inUse := hin id (by simp [T.ids])
        obtain ⟨L1, L2, L3, _, L5⟩ := A.ids inUse hl hinl hg
        obtain ⟨R1, R2, R3, _, R5⟩ := B.ids (a.tree.ids ++ inUse) hr
          (fun i hi => List.mem_append.2 (Or.inr (hinr i hi))) L5
        refine ⟨?_, ?_, ?_, Or.inl rfl, ?_⟩
        · simp only [T.ids, List.nodup_cons, List.mem_append, List.nodup_append, not_or]
          refine ⟨⟨?_, ?_⟩, L1, R1, ?_⟩
          · intro hm
            rcases L2 id hm with h1 | h1
            · exact hidl h1
            · exact h1 hid
          · intro hm
            rcases R2 id hm with h1 | h1
            · exact hidr h1
            · exact h1 (List.mem_append.2 (Or.inr hid))
          · intro x hxa y hyb hxy
            subst hxy
            rcases R2 x hyb with h2 | h2
            · rcases L2 x hxa with h1 | h1
              · exact hdisj x h1 x h2 rfl
              · exact h1 (hinr x h2)
            · exact h2 (List.mem_append.2 (Or.inl hxa))
        · intro i hi
          simp only [T.ids, List.mem_cons, List.mem_append] at hi ⊢
          rcases hi with rfl | hi | hi
          · exact Or.inl (Or.inl rfl)
          · rcases L2 i hi with h1 | h1
            · exact Or.inl (Or.inr (Or.inl h1))
            · exact Or.inr h1
          · rcases R2 i hi with h1 | h1
            · exact Or.inl (Or.inr (Or.inr h1))
            · exact Or.inr (fun hm => h1 (List.mem_append.2 (Or.inr hm)))
        · intro i hi
          simp only [T.ids, List.mem_cons, List.mem_append] at hi ⊢
          rcases hi with rfl | hi | hi
          · exact Or.inl rfl
          · exact Or.inr (Or.inl (L3 i hi))
          · exact Or.inr (Or.inr (R3 i hi))
        · refine R5.mono ?_
          intro i hi
          simp only [T.ids, List.mem_cons, List.mem_append] at hi ⊢
          rcases hi with (rfl | hi | hi) | hi
          · exact Or.inr (Or.inr hid)
          · exact Or.inr (Or.inl hi)
          · exact Or.inl hi
          · exact Or.inr (Or.inr hi)
      puts_cells := fun p hp => by
        simp only [T.cells, List.mem_cons, List.mem_append] at hp ⊢
        rcases hp with (hp | hp) | hp
        · exact Or.inr (Or.inl (A.puts_cells p hp))
        · exact Or.inr (Or.inr (B.puts_cells p hp))
        · split at hp
          · simp only [List.mem_singleton] at hp; exact Or.inl hp
          · cases hp
      unput_cells := fun cell hc hnp => by
        simp only [List.map_append, List.mem_append, not_or] at hnp
        obtain ⟨⟨hnpa, hnpb⟩, hnpr⟩ := hnp
        simp only [T.cells, List.mem_cons, List.mem_append] at hc ⊢
        rcases hc with rfl | hc | hc
        · left
          split at hnpr
          · simp at hnpr
          · rename_i hne
            simp only [not_or, Decidable.not_not] at hne
            rw [hne.1, hne.2]
        · exact Or.inr (Or.inl (A.unput_cells cell hc hnpa))
        · exact Or.inr (Or.inr (B.unput_cells cell hc hnpb))
      large := by
        obtain ⟨L1, L2⟩ := A.large
        obtain ⟨R1, R2⟩ := B.large
        refine ⟨sorted_union L1 R1, fun j => ?_⟩
        simp only [mem_union, L2, R2, T.buckets, List.mem_append]
        constructor
        · rintro (⟨s, h1, h2⟩ | ⟨s, h1, h2⟩)
          · exact ⟨s, Or.inl h1, h2⟩
          · exact ⟨s, Or.inr h1, h2⟩
        · rintro ⟨s, h1 | h1, h2⟩
          · exact Or.inl ⟨s, h1, h2⟩
          · exact Or.inr ⟨s, h1, h2⟩
      polls := by simp only [T.size, A.polls, B.polls]
      routed := fun hr => by
        obtain ⟨h0, hl, hr'⟩ := hr
        refine ⟨fun hz => ?_, A.routed hl, B.routed hr'⟩
        obtain ⟨o1, o2⟩ := h0 hz
        obtain ⟨s1, s2⟩ := split_routed hsp hz
        exact ⟨fun x hx => ((A.items x).1 hx).elim (o1 x) (s1 x), fun x hx => ((B.items x).1 hx).elim (o2 x) (s2 x)⟩ }

theorem insertT_items (cx : TreeCtx) (t : T) (ins : List Nat) (g : IdGen) (rs : List Bool) (res : InsRes)
    (h : insertT cx t ins g rs = .ok res) :
    (∀ x, x ∈ res.tree.items ↔ x ∈ t.items ∨ x ∈ ins) ∧
    (WF t → Sorted ins → WF res.tree) ∧
    (WF t → Sorted ins → t.items.Nodup → (∀ x ∈ ins, x ∉ t.items) → res.tree.items.Nodup) :=
  ⟨(insertT_spec h).items, (insertT_spec h).wf, (insertT_spec h).nodup⟩

theorem insertT_ids (cx : TreeCtx) (t : T) (ins : List Nat) (g : IdGen) (rs : List Bool) (res : InsRes)
    (inUse : List Nat) (h : insertT cx t ins g rs = .ok res)
    (hnd : t.ids.Nodup) (hin : ∀ i ∈ t.ids, i ∈ inUse) (hg : FreshGen inUse g) :
    res.tree.ids.Nodup ∧
    (∀ i ∈ res.tree.ids, i ∈ t.ids ∨ i ∉ inUse) ∧
    (∀ i ∈ t.ids, i ∈ res.tree.ids) ∧
    (res.tree.ref = t.ref ∨ ∃ i id s, t = .leaf i ∧ res.tree = .bucket id s ∧ id ∉ inUse) ∧
    FreshGen (res.tree.ids ++ inUse) res.gen :=
  (insertT_spec h).ids inUse hnd hin hg

theorem insertT_puts_cells (cx : TreeCtx) (t : T) (ins : List Nat) (g : IdGen) (rs : List Bool) (res : InsRes)
    (h : insertT cx t ins g rs = .ok res) : ∀ p ∈ res.puts, p ∈ res.tree.cells :=
  (insertT_spec h).puts_cells

theorem insertT_puts (cx : TreeCtx) (t : T) (ins : List Nat) (g : IdGen) (rs : List Bool) (res : InsRes)
    (h : insertT cx t ins g rs = .ok res) : ∀ p ∈ res.puts, p.1 ∈ res.tree.ids :=
  fun p hp => mem_ids_of_mem_cells (insertT_puts_cells cx t ins g rs res h p hp)

theorem insertT_unput_cells (cx : TreeCtx) (t : T) (ins : List Nat) (g : IdGen) (rs : List Bool) (res : InsRes)
    (h : insertT cx t ins g rs = .ok res) :
    ∀ cell ∈ res.tree.cells, cell.1 ∉ res.puts.map (·.1) → cell ∈ t.cells :=
  (insertT_spec h).unput_cells

/-- `insertT_adequate`: the staged puts of `insertT` are adequate for its result. (No hypothesis
    on what `s` has at fresh ids is needed: every cell at a fresh id is put.) -/
theorem insertT_adequate (c : Cfg) (s : Store) (cx : TreeCtx) (t : T) (ins : List Nat) (g : IdGen)
    (rs : List Bool) (res : InsRes) (inUse : List Nat) (h : insertT cx t ins g rs = .ok res)
    (hh : Holds c s t) (hnd : t.ids.Nodup) (hin : ∀ i ∈ t.ids, i ∈ inUse) (hg : FreshGen inUse g) :
    Adequate c [] res.puts s res.tree := by
  refine adequate_of_cells (insertT_ids cx t ins g rs res inUse h hnd hin hg).1
    (insertT_puts_cells cx t ins g rs res h) ?_
  intro cell hc hnp
  exact hh cell (insertT_unput_cells cx t ins g rs res h cell hc hnp)

theorem insertT_large (cx : TreeCtx) (t : T) (ins : List Nat) (g : IdGen) (rs : List Bool) (res : InsRes)
    (h : insertT cx t ins g rs = .ok res) :
    Sorted res.large ∧
    ∀ id, id ∈ res.large ↔ ∃ s, (id, s) ∈ res.tree.buckets ∧ ¬ fits cx.cap s.length :=
  (insertT_spec h).large

theorem insertT_polls (cx : TreeCtx) (t : T) (ins : List Nat) (g : IdGen) (rs : List Bool) (res : InsRes)
    (h : insertT cx t ins g rs = .ok res) : res.polls = t.size :=
  (insertT_spec h).polls

theorem insertT_routed (cx : TreeCtx) (t : T) (ins : List Nat) (g : IdGen) (rs : List Bool) (res : InsRes)
    (h : insertT cx t ins g rs = .ok res) (hr : RoutedT cx t) : RoutedT cx res.tree :=
  (insertT_spec h).routed hr

/-! ## non-vacuity: a concrete run (`FreshGen` for concrete generators is `freshGen_new` of FreshNew.lean) -/
namespace InsTExample
def cx : TreeCtx :=
  { cap := 2
    side := fun n x =>
      if x = 9 then none else if n = [7] then (if x = 1 then some none else some (some (x % 2 == 0))) else some none
    isZero := fun n => n.all (· == 0) }
def t : T := .node 0 [7] (.bucket 1 [3, 5]) (.leaf 4)
def g : IdGen := { available := [], sel := 0, look := false, current := 2, used := 2 }

example : (insertT cx t [1, 2, 7] g [true]).toOption.map (fun r => (r.tree, r.puts, r.large, r.polls)) =
    some (.node 0 [7] (.bucket 1 [1, 3, 5, 7]) (.bucket 2 [2, 4]),
          [(1, .desc [1, 3, 5, 7]), (2, .desc [2, 4]), (0, .split (NodeId.mkTree 1) (NodeId.mkTree 2) [7])],
          [1], 3) := by
  decide +kernel

example : t.ids.Nodup ∧ WF t ∧ Sorted [1, 2, 7] ∧ t.items.Nodup ∧ (∀ x ∈ [1, 2, 7], x ∉ t.items) ∧ RoutedT cx t := by
  decide
end InsTExample

end Arroy
