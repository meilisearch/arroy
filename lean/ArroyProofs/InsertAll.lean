import ArroyProofs.InsertRoots
/-! `insert_items_in_current_trees` over a family of held, node-disjoint trees, all batches.

`InsRel`: what the insertion does to the content of one tree. `Grow`: what it does to its shape: node ids
and split nodes stay, buckets only gain items. With it the `large` set returned is characterised exactly: a
sorted set of ids of over-full buckets of the final trees (the bookkeeping of the termination argument of
the re-split loop). -/
namespace Arroy
open BuildM Generated IdSet

/-- what inserting `ins` does to one tree -/
structure InsRel (cx : TreeCtx) (ins : List Nat) (t t' : T) : Prop where
  items : ∀ x, x ∈ t'.items ↔ x ∈ t.items ∨ x ∈ ins
  wf : Sorted ins → WF t → WF t'
  nodup : Sorted ins → WF t → t.items.Nodup → (∀ x ∈ ins, x ∉ t.items) → t'.items.Nodup
  routed : RoutedT cx t → RoutedT cx t'
  bucket : ∀ id s, t = .bucket id s → ∃ s', t' = .bucket id s'

theorem InsRel.of_insertT {cx : TreeCtx} {t : T} {ins : List Nat} {g : IdGen} {rs : List Bool} {res : InsRes}
    (h : insertT cx t ins g rs = .ok res) : InsRel cx ins t res.tree := by
  have S := insertT_spec h
  refine ⟨S.items, fun hs hw => S.wf hw hs, fun hs hw hn hd => S.nodup hw hs hn hd, S.routed, ?_⟩
  intro id s ht
  subst ht
  rcases insertT_bucket_ok h with ⟨_, rfl⟩ | ⟨_, rfl⟩
  · exact ⟨_, rfl⟩
  · exact ⟨_, rfl⟩

theorem InsRel.refl (cx : TreeCtx) (t : T) : InsRel cx [] t t :=
  ⟨fun x => by simp, fun _ h => h, fun _ _ h _ => h, fun h => h, fun id s h => ⟨s, h⟩⟩

theorem InsRel.comp {cx : TreeCtx} {a b : List Nat} {t t1 t2 : T} (h1 : InsRel cx a t t1) (h2 : InsRel cx b t1 t2) :
    InsRel cx (a ++ b) t t2 := by
  refine ⟨?_, ?_, ?_, fun h => h2.routed (h1.routed h), ?_⟩
  · intro x
    rw [h2.items, h1.items, List.mem_append, or_assoc]
  · intro hs hw
    exact h2.wf (hs.sublist (List.sublist_append_right a b)) (h1.wf (hs.sublist (List.sublist_append_left a b)) hw)
  · intro hs hw hn hd
    have hsa := hs.sublist (List.sublist_append_left a b)
    have hsb := hs.sublist (List.sublist_append_right a b)
    refine h2.nodup hsb (h1.wf hsa hw) (h1.nodup hsa hw hn (fun x hx => hd x (List.mem_append_left _ hx))) ?_
    intro x hx hx1
    rcases (h1.items x).1 hx1 with h' | h'
    · exact hd x (List.mem_append_right _ hx) h'
    · exact (List.nodup_append.1 hs.nodup).2.2 x h' x hx rfl
  · intro id s ht
    obtain ⟨s1, h1'⟩ := h1.bucket id s ht
    exact h2.bucket id s1 h1'

theorem T.bucket_ids_sublist (t : T) : (t.buckets.map (·.1)).Sublist t.ids := by
  induction t with
  | leaf i => simp [T.buckets, T.ids]
  | bucket id s => simp [T.buckets, T.ids]
  | node id n l r ihl ihr =>
    simp only [T.buckets, T.ids, List.map_append]
    exact List.Sublist.cons _ (List.Sublist.append ihl ihr)

theorem T.buckets_ids {t : T} {b : Nat} {its : List Nat} (h : (b, its) ∈ t.buckets) : b ∈ t.ids :=
  (T.bucket_ids_sublist t).subset (List.mem_map_of_mem (f := (·.1)) h)

/-- `t'` is `t` after insertions: same shape above the buckets, same node ids, every bucket kept
    with at least its items, an item child possibly turned into a bucket holding it -/
def Grow : T → T → Prop
  | .leaf i, .leaf j => i = j
  | .leaf i, .bucket _ s => i ∈ s
  | .bucket id s, .bucket id' s' => id = id' ∧ (∀ x ∈ s, x ∈ s') ∧ s.length ≤ s'.length
  | .node id n l r, .node id' n' l' r' => id = id' ∧ n = n' ∧ Grow l l' ∧ Grow r r'
  | _, _ => False

theorem Grow.refl : ∀ t : T, Grow t t
  | .leaf _ => rfl
  | .bucket _ _ => ⟨rfl, fun _ h => h, Nat.le_refl _⟩
  | .node _ _ l r => ⟨rfl, rfl, Grow.refl l, Grow.refl r⟩

theorem Grow.leaf_inv {i : Nat} {t' : T} (h : Grow (.leaf i) t') :
    t' = .leaf i ∨ ∃ id s, t' = .bucket id s ∧ i ∈ s := by
  cases t' with
  | leaf j => simp only [Grow] at h; exact Or.inl (h ▸ rfl)
  | bucket id s => exact Or.inr ⟨id, s, rfl, h⟩
  | node id n l r => simp [Grow] at h

theorem Grow.bucket_inv {id : Nat} {s : List Nat} {t' : T} (h : Grow (.bucket id s) t') :
    ∃ s', t' = .bucket id s' ∧ (∀ x ∈ s, x ∈ s') ∧ s.length ≤ s'.length := by
  cases t' with
  | leaf j => simp [Grow] at h
  | bucket id' s' =>
    simp only [Grow] at h
    obtain ⟨rfl, h2, h3⟩ := h
    exact ⟨s', rfl, h2, h3⟩
  | node id' n l r => simp [Grow] at h

/-- a split node stays the same split node, its two sides grow -/
theorem Grow.node_inv {id : Nat} {n : List Nat} {l r t' : T} (h : Grow (.node id n l r) t') :
    ∃ l' r', t' = .node id n l' r' ∧ Grow l l' ∧ Grow r r' := by
  cases t' with
  | leaf j => simp [Grow] at h
  | bucket id' s => simp [Grow] at h
  | node id' n' l' r' =>
    simp only [Grow] at h
    obtain ⟨rfl, rfl, h1, h2⟩ := h
    exact ⟨l', r', rfl, h1, h2⟩

theorem Grow.trans {a b d : T} (h1 : Grow a b) (h2 : Grow b d) : Grow a d := by
  induction a generalizing b d with
  | leaf i =>
    rcases h1.leaf_inv with rfl | ⟨id, s, rfl, hi⟩
    · exact h2
    · obtain ⟨s', rfl, hsub, _⟩ := h2.bucket_inv
      exact hsub i hi
  | bucket id s =>
    obtain ⟨s1, rfl, a1, a2⟩ := h1.bucket_inv
    obtain ⟨s2, rfl, b1, b2⟩ := h2.bucket_inv
    exact ⟨rfl, fun x hx => b1 x (a1 x hx), Nat.le_trans a2 b2⟩
  | node id n l r ihl ihr =>
    obtain ⟨l1, r1, rfl, a1, a2⟩ := h1.node_inv
    obtain ⟨l2, r2, rfl, b1, b2⟩ := h2.node_inv
    exact ⟨rfl, rfl, ihl a1 b1, ihr a2 b2⟩

/-- the items only grow -/
theorem Grow.items {t t' : T} (h : Grow t t') : ∀ x ∈ t.items, x ∈ t'.items := by
  induction t generalizing t' with
  | leaf i =>
    intro x hx
    simp only [T.items, List.mem_singleton] at hx
    subst hx
    rcases h.leaf_inv with rfl | ⟨id, s, rfl, hi⟩
    · simp [T.items]
    · exact hi
  | bucket id s =>
    obtain ⟨s', rfl, hsub, _⟩ := h.bucket_inv
    exact hsub
  | node id n l r ihl ihr =>
    obtain ⟨l', r', rfl, hl, hr⟩ := h.node_inv
    intro x hx
    simp only [T.items, List.mem_append] at hx ⊢
    exact hx.imp (ihl hl x) (ihr hr x)

/-- every bucket stays a bucket, under its id, and does not shrink -/
theorem Grow.buckets : ∀ {t t' : T}, Grow t t' → ∀ p ∈ t.buckets, ∃ s', (p.1, s') ∈ t'.buckets ∧ p.2.length ≤ s'.length := by
  intro t
  induction t with
  | leaf i => intro t' _ p hp; simp [T.buckets] at hp
  | bucket id s =>
    intro t' h p hp
    obtain ⟨s', rfl, _, hlen⟩ := h.bucket_inv
    simp only [T.buckets, List.mem_singleton] at hp
    subst hp
    exact ⟨s', by simp [T.buckets], hlen⟩
  | node id n l r ihl ihr =>
    intro t' h p hp
    obtain ⟨l', r', rfl, hl, hr⟩ := h.node_inv
    simp only [T.buckets, List.mem_append] at hp ⊢
    rcases hp with hp | hp
    · obtain ⟨s', h1, h2⟩ := ihl hl p hp
      exact ⟨s', Or.inl h1, h2⟩
    · obtain ⟨s', h1, h2⟩ := ihr hr p hp
      exact ⟨s', Or.inr h1, h2⟩

/-- `insert_items_in_file` grows the tree -/
theorem insertT_grow (cx : TreeCtx) (t : T) (ins : List Nat) (g : IdGen) (rs : List Bool) (res : InsRes)
    (h : insertT cx t ins g rs = .ok res) : Grow t res.tree := by
  induction t generalizing ins g rs res with
  | leaf i =>
    rcases insertT_leaf_ok h with ⟨_, id, g', _, rfl⟩ | ⟨_, rfl⟩
    · show i ∈ union [i] ins
      exact mem_union.2 (Or.inl (by simp))
    · exact Grow.refl _
  | bucket id s =>
    rcases insertT_bucket_ok h with ⟨_, rfl⟩ | ⟨_, rfl⟩
    · exact ⟨rfl, fun x hx => mem_union.2 (Or.inl hx), length_le_union_left s ins⟩
    · exact Grow.refl _
  | node id n l r ihl ihr =>
    obtain ⟨left, right, rs1, a, b, _, ha, hb, rfl⟩ := insertT_node_ok h
    exact ⟨rfl, rfl, ihl _ _ _ _ ha, ihr _ _ _ _ hb⟩

theorem All2.grow_buckets {us us' : List T} (h : All2 Grow us us') {t : T} (ht : t ∈ us) {p : Nat × List Nat}
    (hp : p ∈ t.buckets) : ∃ t' ∈ us', ∃ s', (p.1, s') ∈ t'.buckets ∧ p.2.length ≤ s'.length := by
  obtain ⟨t', ht', hg⟩ := h.mem_left t ht
  obtain ⟨s', h1, h2⟩ := hg.buckets p hp
  exact ⟨t', ht', s', h1, h2⟩

theorem sorted_unionAll {ls : List (List Nat)} (h : ∀ l ∈ ls, Sorted l) : Sorted (unionAll ls) := by
  induction ls with
  | nil => exact sorted_nil
  | cons l ls ih =>
    exact sorted_union (h l (by simp)) (ih (fun l' hl' => h l' (List.mem_cons_of_mem _ hl')))

/-- the ids in `large` are ids of over-full buckets of the trees `us` -/
def LargeOf (cap : Nat) (us : List T) (large : List Nat) : Prop :=
  ∀ i ∈ large, ∃ t ∈ us, ∃ s, (i, s) ∈ t.buckets ∧ cap < s.length

theorem LargeOf.grow {cap : Nat} {us us' : List T} {large : List Nat} (h : LargeOf cap us large)
    (hg : All2 Grow us us') : LargeOf cap us' large := by
  intro i hi
  obtain ⟨t, ht, s, hs, hc⟩ := h i hi
  obtain ⟨t', ht', s', h1, h2⟩ := hg.grow_buckets ht hs
  exact ⟨t', ht', s', h1, Nat.lt_of_lt_of_le hc h2⟩

/-! ## one batch, with the growth relation and the exact `large` set -/

theorem insertBatch_grow (c : Cfg) (o : BuildOpts) (batch roots : List Nat) (us : List T) (g g1 : IdGen)
    (inUse : List Nat) (st st1 st2 : BState) (putss : List (List (Nat × Val))) (large : List Nat)
    (hrefs : us.map T.ref = roots.map NodeId.mkTree)
    (hholds : ∀ t ∈ us, Holds c st.store t)
    (hnd : (us.flatMap T.ids).Nodup)
    (hin : ∀ i ∈ us.flatMap T.ids, i ∈ inUse)
    (hg : GenOK inUse g) (hw : Store.WF st.store) (hi : c.index < 65536)
    (h1 : Build.insertRoots c o st.store batch roots g st = .ok ((putss, large, g1), st1))
    (h2 : forEach putss (fun puts => Build.writeBack c [] puts id) st1 = .ok ((), st2)) :
    ∃ us' : List T,
      us'.map T.ref = roots.map NodeId.mkTree ∧
      (∀ t ∈ us', Holds c st2.store t) ∧
      (us'.flatMap T.ids).Nodup ∧
      (∀ i ∈ us'.flatMap T.ids, i ∈ us.flatMap T.ids ∨ (i ∉ inUse ∧ i < 4294967296)) ∧
      (∀ i ∈ us.flatMap T.ids, i ∈ us'.flatMap T.ids) ∧
      GenOK (us'.flatMap T.ids ++ inUse) g1 ∧
      (∀ k, (∀ i ∈ us'.flatMap T.ids, k ≠ c.treeKey i) → Store.get st2.store k = Store.get st.store k) ∧
      StoreStep c st.store st2.store ∧
      All2 (InsRel (Build.treeCtx c o st.store) batch) us us' ∧
      (∀ t' ∈ us', ∀ b ∈ t'.buckets, ¬ fits (Build.cap c o) b.2.length → b.1 ∈ large) ∧
      All2 Grow us us' ∧ LargeOf (Build.cap c o) us' large ∧ Sorted large := by
  obtain ⟨rs, r1, r2, r3, r4, r5, r6, r7, r8, r9, r10⟩ :=
    insertRoots_spec c o st.store batch roots us g inUse st st1 putss large g1 hrefs hholds hnd hin hg h1
  have hputs : ∀ r ∈ rs, ∀ p ∈ r.puts, p.1 ∈ r.tree.ids := by
    intro r hr p hp
    obtain ⟨t, _, g0, rs0, hins⟩ := r1.mem_right r hr
    exact insertT_puts _ t batch g0 rs0 r hins p hp
  have hput_in : ∀ ps ∈ putss, ∀ p ∈ ps, p.1 ∈ (rs.map (·.tree)).flatMap T.ids := by
    intro ps hps p hp
    rw [r2] at hps
    obtain ⟨r, hr, rfl⟩ := List.mem_map.1 hps
    exact List.mem_flatMap.2 ⟨r.tree, List.mem_map_of_mem hr, hputs r hr p hp⟩
  have hbound : ∀ i ∈ (rs.map (·.tree)).flatMap T.ids, i < 4294967296 := by
    intro i hi'
    rcases r5 i hi' with h' | ⟨_, h'⟩
    · obtain ⟨t, ht, hit⟩ := List.mem_flatMap.1 h'
      exact lt_of_isSome_tree hw ((hholds t ht).isSome hit)
    · exact h'
  obtain ⟨hstep, hget⟩ := forEach_writeBack_spec c hi putss st1 st2 h2
    (fun ps hps p hp => hbound _ (hput_in ps hps p hp))
  rw [r10] at hstep hget
  refine ⟨rs.map (·.tree), r9, ?_, r4, r5, r6, r7, ?_, hstep, ?_, ?_, ?_, ?_, ?_⟩
  · intro t' ht'
    obtain ⟨r, hr, rfl⟩ := List.mem_map.1 ht'
    exact holds_after_writeBack c st.store st2.store rs r4 hputs r8 (by rw [← r2]; exact hget) r hr
  · intro k hk
    rw [hget]
    apply get_putAll_of_not
    intro p hp
    obtain ⟨ps, hps, hpp⟩ := List.mem_flatten.1 hp
    exact hk _ (hput_in ps hps p hpp)
  · apply All2.map_right
    exact r1.mono (fun t r ⟨g0, rs0, hins⟩ => InsRel.of_insertT hins)
  · intro t' ht' b hb hnf
    obtain ⟨r, hr, rfl⟩ := List.mem_map.1 ht'
    obtain ⟨t, _, g0, rs0, hins⟩ := r1.mem_right r hr
    rw [r3]
    apply mem_unionAll.2
    refine ⟨r.large, List.mem_map_of_mem hr, ?_⟩
    exact ((insertT_large _ t batch g0 rs0 r hins).2 b.1).2 ⟨b.2, hb, hnf⟩
  · apply All2.map_right
    exact r1.mono (fun t r ⟨g0, rs0, hins⟩ => insertT_grow _ t batch g0 rs0 r hins)
  · intro i hi'
    rw [r3] at hi'
    obtain ⟨l, hl, hil⟩ := mem_unionAll.1 hi'
    obtain ⟨r, hr, rfl⟩ := List.mem_map.1 hl
    obtain ⟨t, _, g0, rs0, hins⟩ := r1.mem_right r hr
    obtain ⟨s, hs1, hs2⟩ := ((insertT_large _ t batch g0 rs0 r hins).2 i).1 hil
    refine ⟨r.tree, List.mem_map_of_mem hr, s, hs1, ?_⟩
    have : ¬ s.length ≤ Build.cap c o := fun hle => hs2 (by simp [fits, Build.treeCtx, hle])
    omega
  · rw [r3]
    apply sorted_unionAll
    intro l hl
    obtain ⟨r, hr, rfl⟩ := List.mem_map.1 hl
    obtain ⟨t, _, g0, rs0, hins⟩ := r1.mem_right r hr
    exact (insertT_large _ t batch g0 rs0 r hins).1

/-! ## all batches -/

theorem insertAll_grow (c : Cfg) (o : BuildOpts) (roots : List Nat) (hi : c.index < 65536) (fuel : Nat) :
    ∀ (ins : List Nat) (us : List T) (g g' : IdGen) (inUse : List Nat) (st st' : BState) (large : List Nat),
    us.map T.ref = roots.map NodeId.mkTree →
    (∀ t ∈ us, Holds c st.store t) →
    (us.flatMap T.ids).Nodup →
    (∀ i ∈ us.flatMap T.ids, i ∈ inUse) →
    GenOK inUse g → Store.WF st.store → Sorted ins →
    Build.insertItemsInCurrentTrees c o roots fuel ins g st = .ok ((large, g'), st') →
    ∃ (us' : List T) (inUse' : List Nat),
      us'.map T.ref = roots.map NodeId.mkTree ∧
      (∀ t ∈ us', Holds c st'.store t) ∧
      (us'.flatMap T.ids).Nodup ∧
      (∀ i ∈ us'.flatMap T.ids, i ∈ us.flatMap T.ids ∨ (i ∉ inUse ∧ i < 4294967296)) ∧
      (∀ i ∈ us.flatMap T.ids, i ∈ us'.flatMap T.ids) ∧
      GenOK inUse' g' ∧ (∀ i ∈ inUse, i ∈ inUse') ∧ (∀ i ∈ us'.flatMap T.ids, i ∈ inUse') ∧
      (∀ k, (∀ i ∈ us'.flatMap T.ids, k ≠ c.treeKey i) → Store.get st'.store k = Store.get st.store k) ∧
      StoreStep c st.store st'.store ∧
      All2 (InsRel (Build.treeCtx c o st.store) ins) us us' ∧
      ((roots = [] ∨ ins = []) → us' = us ∧ large = [] ∧ st'.store = st.store) ∧
      (roots ≠ [] → ins ≠ [] → ∀ t' ∈ us', ∀ b ∈ t'.buckets, ¬ fits (Build.cap c o) b.2.length → b.1 ∈ large) ∧
      All2 Grow us us' ∧ LargeOf (Build.cap c o) us' large ∧ Sorted large := by
  induction fuel with
  | zero =>
    intro ins us g g' inUse st st' large _ _ _ _ _ _ _ h
    simp only [Build.insertItemsInCurrentTrees] at h
    exact (fail_ok h).elim
  | succ fuel ih =>
    intro ins us g g' inUse st st' large hrefs hholds hnd hin hg hw hs h
    simp only [Build.insertItemsInCurrentTrees] at h
    split at h
    · -- nothing to do
      rename_i hemp
      obtain ⟨e1, rfl⟩ := BuildM.pure_ok.1 h
      simp only [Prod.mk.injEq] at e1
      obtain ⟨rfl, rfl⟩ := e1
      have hemp' : roots = [] ∨ ins = [] := by
        simpa [List.isEmpty_iff] using hemp
      refine ⟨us, inUse, hrefs, hholds, hnd, fun i hi' => Or.inl hi', fun i hi' => hi', hg, fun i hi' => hi', hin,
        fun _ _ => rfl, .refl _, ?_, fun _ => ⟨rfl, rfl, rfl⟩, ?_, All2.refl Grow.refl us,
        (fun i hi' => by cases hi'), sorted_nil⟩
      · rcases hemp' with rfl | rfl
        · have : us = [] := by
            have := congrArg List.length hrefs; simpa using this
          subst this
          trivial
        · exact All2.refl (InsRel.refl _) us
      · intro h1 h2
        rcases hemp' with h' | h'
        · exact absurd h' h1
        · exact absurd h' h2
    · rename_i hemp
      have hne : roots ≠ [] ∧ ins ≠ [] := by
        simpa [List.isEmpty_iff, not_or] using hemp
      obtain ⟨u1, st1, h1, k1⟩ := BuildM.bind_ok.1 h
      clear h
      have e1 := NoWrite.poll _ _ _ h1
      obtain ⟨snap, st2, h2, k2⟩ := BuildM.bind_ok.1 k1
      clear k1
      obtain ⟨e2a, e2b⟩ := getStore_ok' h2
      obtain ⟨k, st3, h3, k3⟩ := BuildM.bind_ok.1 k2
      clear k2
      have e3 := NoWrite.nextBatch _ _ _ h3
      split at k3
      · exact (fail_ok k3).elim
      · rename_i hk
        obtain ⟨x, st4, h4, k4⟩ := BuildM.bind_ok.1 k3
        clear k3
        obtain ⟨putss, large1, g1⟩ := x
        simp only at k4
        obtain ⟨u5, st5, h5, k5⟩ := BuildM.bind_ok.1 k4
        clear k4
        obtain ⟨y, st6, h6, k6⟩ := BuildM.bind_ok.1 k5
        clear k5
        obtain ⟨large2, g2⟩ := y
        simp only at k6
        obtain ⟨e7, e8⟩ := BuildM.pure_ok.1 k6
        simp only [Prod.mk.injEq] at e7
        obtain ⟨rfl, rfl⟩ := e7
        subst e8
        have hsnap : snap = st.store := by rw [← e2a, e1]
        have hst3 : st3.store = st.store := by rw [e3, ← e2b, e1]
        subst hsnap
        -- first batch
        have hb := insertBatch_grow c o (ins.take k) roots us g g1 inUse st3 st4 st5 putss large1
          (by rw [hst3] at *; exact hrefs) (by rw [hst3]; exact hholds) hnd hin hg (by rw [hst3]; exact hw) hi
          (by rw [hst3]; exact h4) h5
        rw [hst3] at hb
        obtain ⟨us1, b1, b2, b3, b4, b5, b6, b7, b8, b9, b10, b11, b12, b13⟩ := hb
        have hframe1 : TreeFrame c st.store st5.store := fun k' hk' => b7 k' (fun i _ => hk' i)
        have hcx : Build.treeCtx c o st5.store = Build.treeCtx c o st.store := hframe1.treeCtx o
        -- the remaining batches
        obtain ⟨us', inUse', c1, c2, c3, c4, c5, c6, c7, c8, c9, c10, c11, c12, c13, c14, c15, c16⟩ :=
          ih (ins.drop k) us1 g1 g2 (us1.flatMap T.ids ++ inUse) st5 st6 large2 b1 b2 b3
            (fun i hi' => List.mem_append_left _ hi') b6 (b8.wf hw) (hs.sublist (List.drop_sublist k ins)) h6
        rw [hcx] at c11
        refine ⟨us', inUse', c1, c2, c3, ?_, fun i hi' => c5 i (b5 i hi'), c6,
          fun i hi' => c7 i (List.mem_append_right _ hi'), c8, ?_, b8.trans c10, ?_, ?_, ?_, ?_, ?_, ?_⟩
        · intro i hi'
          rcases c4 i hi' with h' | ⟨h', hlt⟩
          · exact b4 i h'
          · exact Or.inr ⟨fun hm => h' (List.mem_append_right _ hm), hlt⟩
        · intro k' hk'
          rw [c9 k' hk', b7 k' (fun i hi' => hk' i (c5 i hi'))]
        · have := All2.comp (fun a b d (h1 : InsRel _ (ins.take k) a b) (h2 : InsRel _ (ins.drop k) b d) => h1.comp h2) b9 c11
          rw [List.take_append_drop] at this
          exact this
        · intro h'
          rcases h' with h' | h'
          · exact absurd h' hne.1
          · exact absurd h' hne.2
        · intro _ _ t' ht' b hb hnf
          apply mem_union.2
          by_cases hd : ins.drop k = []
          · obtain ⟨e1', _, _⟩ := c12 (Or.inr hd)
            rw [e1'] at ht'
            exact Or.inl (b10 t' ht' b hb hnf)
          · exact Or.inr (c13 hne.1 hd t' ht' b hb hnf)
        · exact All2.comp (fun a b d (h1 : Grow a b) (h2 : Grow b d) => h1.trans h2) b11 c14
        · intro i hi'
          rcases mem_union.1 hi' with h' | h'
          · exact (b12.grow c14) i h'
          · exact c15 i h'
        · exact sorted_union b13 c16

end Arroy
