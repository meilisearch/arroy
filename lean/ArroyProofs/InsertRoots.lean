import ArroyProofs.DeleteStep
import ArroyProofs.InsT
/-! One batch of `insert_items_in_current_trees`: `insertRoots` over a family of held, node-disjoint
trees (all read from the same snapshot, the id generator threaded through), then the write-back of the
staged puts tree by tree. -/
namespace Arroy
open BuildM Generated IdSet

theorem insertT_ids_ok (cx : TreeCtx) (t : T) (ins : List Nat) (g : IdGen) (rs : List Bool) (res : InsRes)
    (inUse : List Nat) (h : insertT cx t ins g rs = .ok res)
    (hnd : t.ids.Nodup) (hin : ∀ i ∈ t.ids, i ∈ inUse) (hg : GenOK inUse g) :
    res.tree.ids.Nodup ∧
    (∀ i ∈ res.tree.ids, i ∈ t.ids ∨ (i ∉ inUse ∧ i < 4294967296)) ∧
    (∀ i ∈ t.ids, i ∈ res.tree.ids) ∧
    ((∀ i, t ≠ .leaf i) → res.tree.ref = t.ref) ∧
    GenOK (res.tree.ids ++ inUse) res.gen := by
  obtain ⟨h1, h2, h3, h4, _⟩ := insertT_ids cx t ins g rs res inUse h hnd hin hg.1
  obtain ⟨hb, hg'⟩ := hg.lift (ids := res.tree.ids) (old := (· ∈ t.ids)) (fun N hN =>
    have hN' := insertT_ids cx t ins g rs res (N :: inUse) h hnd (fun j hj => List.mem_cons_of_mem _ (hin j hj)) hN
    ⟨hN'.2.1, hN'.2.2.2.2⟩)
  refine ⟨h1, fun i hi => (h2 i hi).elim Or.inl (fun hf => (hb i hi).imp_right (fun hlt => ⟨hf, hlt⟩)), h3, ?_, hg'⟩
  intro hnl
  rcases h4 with h' | ⟨i, _, _, h', _⟩
  · exact h'
  · exact absurd h' (hnl i)

def unionAll : List (List Nat) → List Nat
  | [] => []
  | l :: ls => IdSet.union l (unionAll ls)

theorem mem_unionAll {ls : List (List Nat)} {z : Nat} : z ∈ unionAll ls ↔ ∃ l ∈ ls, z ∈ l := by
  induction ls with
  | nil => simp [unionAll]
  | cons l ls ih => simp [unionAll, mem_union, ih]

theorem insertRoots_spec (c : Cfg) (o : BuildOpts) (snap : Store) (batch : List Nat) (roots : List Nat) :
    ∀ (us : List T) (g : IdGen) (inUse : List Nat) (st st' : BState)
      (putss : List (List (Nat × Val))) (large : List Nat) (g' : IdGen),
    us.map T.ref = roots.map NodeId.mkTree →
    (∀ t ∈ us, Holds c snap t) →
    (us.flatMap T.ids).Nodup →
    (∀ i ∈ us.flatMap T.ids, i ∈ inUse) →
    GenOK inUse g →
    Build.insertRoots c o snap batch roots g st = .ok ((putss, large, g'), st') →
    ∃ rs : List InsRes,
      All2 (fun t r => ∃ g0 rs0, insertT (Build.treeCtx c o snap) t batch g0 rs0 = .ok r) us rs ∧
      putss = rs.map (·.puts) ∧ large = unionAll (rs.map (·.large)) ∧
      ((rs.map (·.tree)).flatMap T.ids).Nodup ∧
      (∀ i ∈ (rs.map (·.tree)).flatMap T.ids, i ∈ us.flatMap T.ids ∨ (i ∉ inUse ∧ i < 4294967296)) ∧
      (∀ i ∈ us.flatMap T.ids, i ∈ (rs.map (·.tree)).flatMap T.ids) ∧
      GenOK ((rs.map (·.tree)).flatMap T.ids ++ inUse) g' ∧
      (∀ r ∈ rs, Adequate c [] r.puts snap r.tree) ∧
      (rs.map (·.tree)).map T.ref = roots.map NodeId.mkTree ∧
      st'.store = st.store := by
  induction roots with
  | nil =>
    intro us g inUse st st' putss large g' hrefs _ _ _ hg h
    have hus : us = [] := by
      have := congrArg List.length hrefs; simpa using this
    subst hus
    simp only [Build.insertRoots] at h
    obtain ⟨e1, rfl⟩ := BuildM.pure_ok.1 h
    simp only [Prod.mk.injEq] at e1
    obtain ⟨rfl, rfl, rfl⟩ := e1
    exact ⟨[], trivial, rfl, rfl, by simp, by simp, by simp, by simpa using hg, by simp, rfl, rfl⟩
  | cons root rest ih =>
    intro us g inUse st st' putss large g' hrefs hholds hnd hin hg h
    cases us with
    | nil => simp at hrefs
    | cons t us =>
    simp only [List.map_cons, List.cons.injEq] at hrefs
    obtain ⟨href, hrefs⟩ := hrefs
    simp only [List.flatMap_cons, List.nodup_append] at hnd
    obtain ⟨hndt, hndus, hdisj⟩ := hnd
    simp only [Build.insertRoots] at h
    obtain ⟨u1, st1, h1, k1⟩ := BuildM.bind_ok.1 h
    clear h
    have e1 := NoWrite.poll _ _ _ h1
    obtain ⟨t0, st2, h2, k2⟩ := BuildM.bind_ok.1 k1
    clear k1
    obtain ⟨hre, e2⟩ := reifyRoot_ok h2
    have ht0 : t0 = t := by
      have := reify_of_holds_nodup c snap t (hholds t (by simp)) hndt
      rw [href, hre] at this
      exact Option.some.inj this
    obtain ⟨sp, st3, h3, k3⟩ := BuildM.bind_ok.1 k2
    clear k2
    obtain ⟨e3a, e3b⟩ := peek_ok' h3
    obtain ⟨r, st4, h4, k4⟩ := BuildM.bind_ok.1 k3
    clear k3
    obtain ⟨hins, e4⟩ := liftExcept_ok' h4
    obtain ⟨u5, st5, h5, k5⟩ := BuildM.bind_ok.1 k4
    clear k4
    have e5 : st5.store = st4.store := by
      cases h5; rfl
    obtain ⟨u6, st6, h6, k6⟩ := BuildM.bind_ok.1 k5
    clear k5
    have e6 := NoWrite.pollN _ _ _ _ h6
    obtain ⟨x, st7, h7, k7⟩ := BuildM.bind_ok.1 k6
    clear k6
    obtain ⟨puts7, large7, g7⟩ := x
    simp only at k7
    obtain ⟨e8, e9⟩ := BuildM.pure_ok.1 k7
    simp only [Prod.mk.injEq] at e8
    obtain ⟨rfl, rfl, rfl⟩ := e8
    subst ht0 e9
    -- the first tree
    have hint : ∀ i ∈ t0.ids, i ∈ inUse := fun i hi => hin i (by simp [hi])
    obtain ⟨a1, a2, a3, a4, a5⟩ := insertT_ids_ok _ t0 batch g _ r inUse hins hndt hint hg
    have had := insertT_adequate c snap _ t0 batch g _ r inUse hins (hholds t0 (by simp)) hndt hint hg.1
    -- the other trees
    obtain ⟨rs, b1, b2, b3, b4, b5, b6, b7, b8, b9, b10⟩ := ih us r.gen (r.tree.ids ++ inUse) st6 st7 puts7 large7 g7
      hrefs (fun t' ht' => hholds t' (List.mem_cons_of_mem _ ht')) hndus
      (fun i hi => List.mem_append_right _ (hin i (by simp [hi]))) a5 h7
    refine ⟨r :: rs, ⟨⟨_, _, hins⟩, b1⟩, by simp [b2], by simp [unionAll, b3], ?_, ?_, ?_, ?_, ?_, ?_, ?_⟩
    · simp only [List.map_cons, List.flatMap_cons, List.nodup_append]
      refine ⟨a1, b4, ?_⟩
      intro a ha b hb hab
      subst hab
      rcases b5 a hb with h' | ⟨h', _⟩
      · rcases a2 a ha with h'' | ⟨h'', _⟩
        · exact hdisj a h'' a h' rfl
        · exact h'' (hin a (by simp [h']))
      · exact h' (List.mem_append_left _ ha)
    · intro i hi
      simp only [List.map_cons, List.flatMap_cons, List.mem_append] at hi ⊢
      rcases hi with hi | hi
      · rcases a2 i hi with h' | h'
        · exact Or.inl (Or.inl h')
        · exact Or.inr h'
      · rcases b5 i hi with h' | ⟨h', hlt⟩
        · exact Or.inl (Or.inr h')
        · exact Or.inr ⟨fun hm => h' (List.mem_append_right _ hm), hlt⟩
    · intro i hi
      simp only [List.map_cons, List.flatMap_cons, List.mem_append] at hi ⊢
      rcases hi with hi | hi
      · exact Or.inl (a3 i hi)
      · exact Or.inr (b6 i hi)
    · apply b7.mono
      intro i hi
      simp only [List.map_cons, List.flatMap_cons, List.mem_append] at hi ⊢
      rcases hi with (hi | hi) | hi
      · exact Or.inr (Or.inl hi)
      · exact Or.inl hi
      · exact Or.inr (Or.inr hi)
    · intro r' hr'
      rcases List.mem_cons.1 hr' with rfl | hr'
      · exact had
      · exact b8 r' hr'
    · simp only [List.map_cons, List.cons.injEq]
      exact ⟨(a4 (T.not_leaf_of_ref href)).trans href, b9⟩
    · rw [b10, e6, e5, ← e4, ← e3b, e2, e1]

theorem forEach_writeBack_spec (c : Cfg) (hi : c.index < 65536) (putss : List (List (Nat × Val))) :
    ∀ (st st' : BState), forEach putss (fun puts => Build.writeBack c [] puts id) st = .ok ((), st') →
    (∀ puts ∈ putss, ∀ p ∈ puts, p.1 < 4294967296) →
    StoreStep c st.store st'.store ∧ ∀ k, Store.get st'.store k = Store.get (putAll c st.store putss.flatten) k := by
  induction putss with
  | nil =>
    intro st st' h _
    cases pure_ok_inv h
    exact ⟨.refl _, fun _ => rfl⟩
  | cons puts rest ih =>
    intro st st' h hb
    obtain ⟨_, st1, h1, h2⟩ := BuildM.bind'_ok.1 h
    obtain ⟨hstep, hget⟩ := ih st1 st' h2 (fun ps hps => hb ps (List.mem_cons_of_mem _ hps))
    have he : st1.store = putAll c st.store puts := by
      simpa using writeBack_nil_store c puts id h1
    rw [he] at hstep hget
    refine ⟨StoreStep.trans ?_ hstep, fun k => by rw [hget, List.flatten_cons, putAll_append]⟩
    exact StoreStep.putAllMap (.refl _) id puts hi (hb puts (by simp))

theorem holds_after_writeBack (c : Cfg) (snap s' : Store) (rs : List InsRes)
    (hnd : ((rs.map (·.tree)).flatMap T.ids).Nodup)
    (hputs : ∀ r ∈ rs, ∀ p ∈ r.puts, p.1 ∈ r.tree.ids)
    (had : ∀ r ∈ rs, Adequate c [] r.puts snap r.tree)
    (hget : ∀ k, Store.get s' k = Store.get (putAll c snap (rs.map (·.puts)).flatten) k) :
    ∀ r ∈ rs, Holds c s' r.tree := by
  intro r hr
  rw [List.flatMap_map] at hnd
  have ad := Adequate.flatMap (fun r : InsRes => r.tree.ids) (fun _ => []) (·.puts) (·.tree) rs hnd
    (fun _ _ _ h => h) hputs (fun _ _ _ h => nomatch h) had r hr
  have := writeback ad
  rw [List.flatMap_eq_nil_iff.2 (fun _ _ => rfl), applyStaged_nil, List.flatMap_def] at this
  exact this.frame (fun i _ => hget _)

end Arroy
