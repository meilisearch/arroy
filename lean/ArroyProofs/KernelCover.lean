import ArroyProofs.KernelLemmas
import Mathlib.Tactic.Ring
/-! Cover theorems (C11): over any commutative ring the scalar, SSE-shaped and AVX-shaped kernel
schemas compute `Σ uᵢ·vᵢ` resp. `Σ (uᵢ−vᵢ)²` — every index contributes exactly once, for every length
(every remainder modulo the 16- / 32-component unrolling). -/
namespace Arroy

/-- the exact arithmetic of a commutative ring as an `Arith` -/
def ringArith (R : Type) [CommRing R] : Arith R where
  zero := 0
  sumInit := 0
  add := (· + ·)
  sub := (· - ·)
  mul := (· * ·)
  fma := fun a b c => a * b + c

namespace KernelCover
open Kernel
variable {R : Type} [CommRing R]

theorem foldl_add_sum (l : List R) (a : R) : l.foldl (· + ·) a = a + l.sum := by
  induction l generalizing a with
  | nil => simp
  | cons x xs ih => simp only [List.foldl_cons, List.sum_cons, ih]; ring

theorem sum_take_drop (n : Nat) (l : List R) : l.sum = (l.take n).sum + (l.drop n).sum := by
  rw [← List.sum_append, List.take_append_drop]

/-- sum of all lanes of all accumulators -/
def tot (accs : List (List R)) : R := (accs.map List.sum).sum

/-- four accumulators of `lanes` lanes each -/
def Shape (lanes : Nat) (accs : List (List R)) : Prop :=
  ∃ a0 a1 a2 a3 : List R, accs = [a0, a1, a2, a3] ∧
    a0.length = lanes ∧ a1.length = lanes ∧ a2.length = lanes ∧ a3.length = lanes

theorem zipWith3_sum (step : R → R → R → R) (t : R → R → R) (hstep : ∀ a b c, step a b c = t a b + c) :
    ∀ (xs ys acc : List R), xs.length = acc.length → ys.length = acc.length →
      (zipWith3 step xs ys acc).length = acc.length ∧
      (zipWith3 step xs ys acc).sum = (List.zipWith t xs ys).sum + acc.sum := by
  intro xs
  induction xs with
  | nil =>
    intro ys acc hx hy
    have : acc = [] := List.length_eq_zero_iff.mp (by simpa using hx.symm)
    subst this
    simp [zipWith3]
  | cons x xs ih =>
    intro ys acc hx hy
    cases acc with
    | nil => simp at hx
    | cons c cs =>
      cases ys with
      | nil => simp at hy
      | cons y ys =>
        simp only [List.length_cons, Nat.add_right_cancel_iff] at hx hy
        obtain ⟨h1, h2⟩ := ih ys cs hx hy
        simp only [zipWith3, List.length_cons, List.zipWith_cons_cons, List.sum_cons, h1, h2, hstep]
        exact ⟨trivial, by ring⟩

theorem sum_four_slices {Z : List R} {lanes : Nat} (hZ : Z.length = 4 * lanes) :
    Z.sum = (Z.take lanes).sum + ((Z.drop lanes).take lanes).sum
      + ((Z.drop (2 * lanes)).take lanes).sum + ((Z.drop (3 * lanes)).take lanes).sum := by
  have d2 : (Z.drop lanes).drop lanes = Z.drop (2 * lanes) := by rw [List.drop_drop]; congr 1; omega
  have d3 : (Z.drop (2 * lanes)).drop lanes = Z.drop (3 * lanes) := by rw [List.drop_drop]; congr 1; omega
  have d4 : (Z.drop (3 * lanes)).take lanes = Z.drop (3 * lanes) :=
    List.take_of_length_le (by rw [List.length_drop]; omega)
  rw [sum_take_drop lanes Z, sum_take_drop lanes (Z.drop lanes), d2,
    sum_take_drop lanes (Z.drop (2 * lanes)), d3, d4]
  ring

theorem blockStep_sum (lanes : Nat) (step : R → R → R → R) (t : R → R → R)
    (hstep : ∀ a b c, step a b c = t a b + c) (accs : List (List R)) (bu bv : List R)
    (hs : Shape lanes accs) (hu : bu.length = 4 * lanes) (hv : bv.length = 4 * lanes) :
    Shape lanes (blockStep lanes step accs bu bv) ∧
    tot (blockStep lanes step accs bu bv) = tot accs + (List.zipWith t bu bv).sum := by
  obtain ⟨a0, a1, a2, a3, rfl, h0, h1, h2, h3⟩ := hs
  have slice : ∀ d, d ≤ 3 * lanes → ∀ a : List R, a.length = lanes →
      (zipWith3 step ((bu.drop d).take lanes) ((bv.drop d).take lanes) a).length = lanes ∧
      (zipWith3 step ((bu.drop d).take lanes) ((bv.drop d).take lanes) a).sum
        = (((List.zipWith t bu bv).drop d).take lanes).sum + a.sum := by
    intro d hd a ha
    have k := zipWith3_sum step t hstep ((bu.drop d).take lanes) ((bv.drop d).take lanes) a
      (by rw [length_slice hu hd, ha]) (by rw [length_slice hv hd, ha])
    rw [← List.take_zipWith, ← List.drop_zipWith] at k
    exact ⟨k.1.trans ha, k.2⟩
  have k0 := slice 0 (Nat.zero_le _) a0 h0
  have k1 := slice lanes (by omega) a1 h1
  have k2 := slice (2 * lanes) (by omega) a2 h2
  have k3 := slice (3 * lanes) (by omega) a3 h3
  rw [List.drop_zero, List.drop_zero, List.drop_zero] at k0
  rw [blockStep_four]
  refine ⟨⟨_, _, _, _, rfl, k0.1, k1.1, k2.1, k3.1⟩, ?_⟩
  simp only [tot, List.map_cons, List.map_nil, List.sum_cons, List.sum_nil, k0.2, k1.2, k2.2, k3.2]
  have hZ : (List.zipWith t bu bv).length = 4 * lanes := by rw [List.length_zipWith, hu, hv, Nat.min_self]
  rw [sum_four_slices hZ]
  ring

theorem mainLoopQ_sum (lanes : Nat) (step : R → R → R → R) (t : R → R → R)
    (hstep : ∀ a b c, step a b c = t a b + c) :
    ∀ (q : Nat) (accs : List (List R)) (u v : List R), Shape lanes accs →
      u.length = q * (4 * lanes) → v.length = q * (4 * lanes) →
      Shape lanes (mainLoopQ lanes step (4 * lanes) q accs u v) ∧
      tot (mainLoopQ lanes step (4 * lanes) q accs u v) = tot accs + (List.zipWith t u v).sum := by
  intro q
  induction q with
  | zero =>
    intro accs u v hs hu hv
    have : u = [] := List.length_eq_zero_iff.mp (by simpa using hu)
    subst this
    simp [mainLoopQ, hs]
  | succ q ih =>
    intro accs u v hs hu hv
    have b := blockStep_sum lanes step t hstep accs (u.take (4 * lanes)) (v.take (4 * lanes)) hs
      (by rw [List.length_take, hu]; exact Nat.min_eq_left (le_succ_mul q _))
      (by rw [List.length_take, hv]; exact Nat.min_eq_left (le_succ_mul q _))
    have r := ih _ (u.drop (4 * lanes)) (v.drop (4 * lanes)) b.1
      (by rw [List.length_drop, hu]; exact succ_mul_sub q _)
      (by rw [List.length_drop, hv]; exact succ_mul_sub q _)
    rw [mainLoopQ]
    refine ⟨r.1, ?_⟩
    rw [r.2, b.2, sum_take_drop (4 * lanes) (List.zipWith t u v), List.take_zipWith, List.drop_zipWith]
    ring

theorem shape_init (lanes : Nat) : Shape lanes (List.replicate 4 (List.replicate lanes (0 : R))) :=
  ⟨_, _, _, _, rfl, by simp, by simp, by simp, by simp⟩

theorem sum_replicate_zero (n : Nat) : (List.replicate n (0 : R)).sum = 0 := by
  induction n with
  | zero => rfl
  | succ n ih => rw [List.replicate_succ, List.sum_cons, ih]; ring

theorem tot_init (lanes : Nat) : tot (List.replicate 4 (List.replicate lanes (0 : R))) = 0 := by
  have : List.replicate 4 (List.replicate lanes (0 : R)) =
      [List.replicate lanes 0, List.replicate lanes 0, List.replicate lanes 0, List.replicate lanes 0] := rfl
  rw [this]
  simp only [tot, List.map_cons, List.map_nil, List.sum_cons, List.sum_nil, sum_replicate_zero]
  ring

theorem foldl_tail_sum (t : R → R → R) (tail : R → R → R → R) (htail : ∀ r a b, tail r a b = r + t a b) :
    ∀ (xs ys : List R) (r : R),
      (List.zip xs ys).foldl (fun r (p : R × R) => tail r p.1 p.2) r = r + (List.zipWith t xs ys).sum := by
  intro xs
  induction xs with
  | nil => intro ys r; simp
  | cons x xs ih =>
    intro ys r
    cases ys with
    | nil => simp
    | cons y ys =>
      simp only [List.zip_cons_cons, List.foldl_cons, List.zipWith_cons_cons, List.sum_cons]
      rw [ih, htail]
      ring

/-- the generic cover lemma for the SSE/AVX shape: with a lane step `acc + t a b`, a remainder step
`r + t a b` and a horizontal sum that adds up its lanes, the result is `Σ t uᵢ vᵢ` for every length -/
theorem simd_sum (lanes : Nat) (hl : 0 < lanes) (step : R → R → R → R) (hsum : List R → R)
    (tail : R → R → R → R) (t : R → R → R)
    (hstep : ∀ a b c, step a b c = t a b + c)
    (hh : ∀ a : List R, a.length = lanes → hsum a = a.sum)
    (htail : ∀ r a b, tail r a b = r + t a b)
    (u v : List R) (hlen : u.length = v.length) :
    simd (ringArith R) lanes step hsum tail u v = (List.zipWith t u v).sum := by
  unfold simd
  simp only
  have hk : 0 < 4 * lanes := by omega
  have hmu : (u.take (u.length - u.length % (4 * lanes))).length
      = (u.length / (4 * lanes)) * (4 * lanes) := by
    rw [List.length_take, ← prefix_len]; omega
  have hmv : (v.take (u.length - u.length % (4 * lanes))).length
      = (u.length / (4 * lanes)) * (4 * lanes) := by
    rw [List.length_take, ← prefix_len, ← hlen]; omega
  rw [mainLoop_chunks lanes step hk _ _ _ _ hmu hmv]
  obtain ⟨⟨a0, a1, a2, a3, e, h0, h1, h2, h3⟩, hT⟩ :=
    mainLoopQ_sum lanes step t hstep (u.length / (4 * lanes)) (List.replicate 4 (List.replicate lanes (0 : R)))
      _ _ (shape_init lanes) hmu hmv
  have hz : (ringArith R).zero = 0 := rfl
  rw [hz, e]
  rw [e, tot_init] at hT
  simp only [tot, List.map_cons, List.map_nil, List.sum_cons, List.sum_nil] at hT
  simp only [List.map_cons, List.map_nil, hh _ h0, hh _ h1, hh _ h2, hh _ h3]
  rw [foldl_tail_sum t tail htail,
      sum_take_drop (u.length - u.length % (4 * lanes)) (List.zipWith t u v),
      List.take_zipWith, List.drop_zipWith]
  simp only [ringArith]
  rw [show a0.sum + a1.sum + a2.sum + a3.sum = a0.sum + (a1.sum + (a2.sum + (a3.sum + 0))) by ring, hT]
  ring

theorem hsum128_sum (a : List R) (h : a.length = 4) : hsum128 (ringArith R) a = a.sum := by
  match a, h with
  | [x0, x1, x2, x3], _ =>
    simp only [hsum128, ringArith, List.sum_cons, List.sum_nil]; ring

theorem hsum256_sum (a : List R) (h : a.length = 8) : hsum256 (ringArith R) a = a.sum := by
  match a, h with
  | [x0, x1, x2, x3, x4, x5, x6, x7], _ =>
    simp only [hsum256, hsum128, ringArith, List.sum_cons, List.sum_nil]; ring

theorem dotScalar_eq (u v : List R) :
    dotScalar (ringArith R) u v = (List.zipWith (· * ·) u v).sum := by
  unfold dotScalar
  show List.foldl (· + ·) 0 _ = _
  rw [foldl_add_sum]; show 0 + (List.zipWith (· * ·) u v).sum = _; ring

theorem euclidScalar_eq (u v : List R) :
    euclidScalar (ringArith R) u v = (List.zipWith (fun a b => (a - b) * (a - b)) u v).sum := by
  unfold euclidScalar
  show List.foldl (· + ·) 0 _ = _
  rw [foldl_add_sum]; show 0 + (List.zipWith (fun a b => (a - b) * (a - b)) u v).sum = _; ring

theorem dotSse_eq (u v : List R) (h : u.length = v.length) :
    dotSse (ringArith R) u v = (List.zipWith (· * ·) u v).sum :=
  simd_sum 4 (by decide) _ _ _ (· * ·) (fun _ _ _ => rfl) hsum128_sum (fun _ _ _ => rfl) u v h

theorem euclidSse_eq (u v : List R) (h : u.length = v.length) :
    euclidSse (ringArith R) u v = (List.zipWith (fun a b => (a - b) * (a - b)) u v).sum :=
  simd_sum 4 (by decide) _ _ _ (fun a b => (a - b) * (a - b)) (fun _ _ _ => rfl) hsum128_sum
    (fun _ _ _ => rfl) u v h

theorem dotAvx_eq (u v : List R) (h : u.length = v.length) :
    dotAvx (ringArith R) u v = (List.zipWith (· * ·) u v).sum :=
  simd_sum 8 (by decide) _ _ _ (· * ·) (fun _ _ _ => rfl) hsum256_sum (fun _ _ _ => rfl) u v h

theorem euclidAvx_eq (u v : List R) (h : u.length = v.length) :
    euclidAvx (ringArith R) u v = (List.zipWith (fun a b => (a - b) * (a - b)) u v).sum :=
  simd_sum 8 (by decide) _ _ _ (fun a b => (a - b) * (a - b)) (fun _ _ _ => rfl) hsum256_sum
    (fun _ _ _ => rfl) u v h

end KernelCover
end Arroy
