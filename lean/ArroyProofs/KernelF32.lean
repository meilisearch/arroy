import ArroyProofs.BQLemmas
import ArroyProofs.SoftFloatSymm
import ArroyModel.Distance
/-! Facts about the kernels on the soft-float binary32 instance `f32Arith` (core Lean only):
bit-for-bit symmetry of every kernel, and the self distance of finite vectors. -/
namespace Arroy
namespace KernelF32
open Kernel

theorem f32_p : 1 ≤ F32.fmt.p := by decide

theorem dotScalar_symm (u v : List Nat) : dotScalar f32Arith u v = dotScalar f32Arith v u := by
  unfold dotScalar
  rw [List.zipWith_comm_of_comm (f := f32Arith.mul) (fun a b => SF.mul_comm F32.fmt a b)]

theorem euclidScalar_symm (u v : List Nat) : euclidScalar f32Arith u v = euclidScalar f32Arith v u := by
  unfold euclidScalar
  rw [List.zipWith_comm_of_comm (f := fun a b => f32Arith.mul (f32Arith.sub a b) (f32Arith.sub a b))
    (fun a b => SF.sub_sq_symm F32.fmt f32_p a b)]

theorem dotSse_symm (u v : List Nat) (h : u.length = v.length) :
    dotSse f32Arith u v = dotSse f32Arith v u :=
  simd_swap _ _ _ _ _ (fun a b c => congrArg (fun x => F32.add x c) (SF.mul_comm F32.fmt a b))
    (fun r a b => congrArg (fun x => F32.add r x) (SF.mul_comm F32.fmt a b)) u v h

theorem dotAvx_symm (u v : List Nat) (h : u.length = v.length) :
    dotAvx f32Arith u v = dotAvx f32Arith v u :=
  simd_swap _ _ _ _ _ (fun a b c => SF.fma_comm F32.fmt a b c)
    (fun r a b => congrArg (fun x => F32.add r x) (SF.mul_comm F32.fmt a b)) u v h

theorem euclidSse_symm (u v : List Nat) (h : u.length = v.length) :
    euclidSse f32Arith u v = euclidSse f32Arith v u :=
  simd_swap _ _ _ _ _ (fun a b c => congrArg (fun x => F32.add x c) (SF.sub_sq_symm F32.fmt f32_p a b))
    (fun r a b => congrArg (fun x => F32.add r x) (SF.sub_sq_symm F32.fmt f32_p a b)) u v h

theorem euclidAvx_symm (u v : List Nat) (h : u.length = v.length) :
    euclidAvx f32Arith u v = euclidAvx f32Arith v u :=
  simd_swap _ _ _ _ _ (fun a b c => SF.sub_fma_symm F32.fmt f32_p a b c)
    (fun r a b => congrArg (fun x => F32.add r x) (SF.sub_sq_symm F32.fmt f32_p a b)) u v h

theorem hamming_symm (u v : List Nat) : BQ.hamming u v = BQ.hamming v u := BQL.hamming_comm u v

theorem bqDot_symm (u v : List Nat) : BQ.dot u v = BQ.dot v u := by
  unfold BQ.dot
  rw [hamming_symm u v, Nat.min_comm]

/-- neither NaN nor infinite (exponent field ≠ 255, see `SF.isFin_iff`) -/
def finite (x : Nat) : Bool := SF.isFin F32.fmt x

theorem sub_self (x : Nat) (hx : finite x = true) : F32.sub x x = 0 := SF.sub_self F32.fmt x hx

theorem sq_self (x : Nat) (hx : finite x = true) : F32.mul (F32.sub x x) (F32.sub x x) = 0 := by
  rw [sub_self x hx]; decide

theorem foldl_add_zeros : ∀ (l : List Nat), (∀ x ∈ l, x = 0) → l.foldl F32.add 0 = 0 := by
  intro l
  induction l with
  | nil => intro _; rfl
  | cons x xs ih =>
    intro h
    rw [List.foldl_cons, h x (by simp), show F32.add 0 0 = 0 by decide]
    exact ih (fun y hy => h y (by simp [hy]))

/-- `Sum for f32` starts from `-0.0`; a non-empty sum of `+0.0` terms is `+0.0` -/
theorem sum_zeros (l : List Nat) (hne : l ≠ []) (h : ∀ x ∈ l, x = 0) : l.foldl F32.add F32.negZero = 0 := by
  cases l with
  | nil => exact absurd rfl hne
  | cons x xs =>
    rw [List.foldl_cons, h x (by simp), show F32.add F32.negZero 0 = 0 by decide]
    exact foldl_add_zeros xs (fun y hy => h y (by simp [hy]))

theorem euclidScalar_self (v : List Nat) (hne : v ≠ []) (hfin : ∀ x ∈ v, finite x = true) :
    euclidScalar f32Arith v v = 0 := by
  unfold euclidScalar
  rw [List.zipWith_self]
  apply sum_zeros
  · simpa using hne
  · intro x hx
    obtain ⟨a, ha, rfl⟩ := List.mem_map.mp hx
    exact sq_self a (hfin a ha)

theorem euclidSse_self (v : List Nat) (hfin : ∀ x ∈ v, finite x = true) : euclidSse f32Arith v v = 0 := by
  apply simd_fix f32Arith 4 (by decide)
  · intro a ha; show F32.add (F32.mul (F32.sub a a) (F32.sub a a)) 0 = 0
    rw [sq_self a (hfin a ha)]; decide
  · decide
  · decide
  · intro a ha; show F32.add 0 (F32.mul (F32.sub a a) (F32.sub a a)) = 0
    rw [sq_self a (hfin a ha)]; decide

theorem euclidAvx_self (v : List Nat) (hfin : ∀ x ∈ v, finite x = true) : euclidAvx f32Arith v v = 0 := by
  apply simd_fix f32Arith 8 (by decide)
  · intro a ha; show F32.fma (F32.sub a a) (F32.sub a a) 0 = 0
    rw [sub_self a (hfin a ha)]; decide
  · decide
  · decide
  · intro a ha; show F32.add 0 (F32.mul (F32.sub a a) (F32.sub a a)) = 0
    rw [sq_self a (hfin a ha)]; decide


theorem manhattan_self (v : List Nat) (hne : v ≠ []) (hfin : ∀ x ∈ v, finite x = true) :
    manhattanDistance v v = 0 := by
  unfold manhattanDistance manhattanWith
  rw [List.zipWith_self]
  apply sum_zeros
  · simpa using hne
  · intro x hx
    obtain ⟨a, ha, rfl⟩ := List.mem_map.mp hx
    show F32.abs (F32.sub a a) = 0
    rw [sub_self a (hfin a ha)]; decide

end KernelF32
end Arroy
