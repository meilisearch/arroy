import ArroyModel.Distance
import ArroyProofs.KeyLemmas
/-! Structure lemmas about the kernel schemas of `ArroyModel/Distance.lean` that hold for every
arithmetic (core Lean only): `chunks`, the main loop as an iteration over `take`/`drop`, argument
swap, and the "all accumulators stay at a fixed point" lemma. -/
namespace Arroy
namespace Kernel

/-- `chunks k l` for `l.length = q * k` : `q` blocks of length `k` whose concatenation is `l`. -/
theorem chunks_mul {α : Type} {k : Nat} (hk : 0 < k) :
    ∀ (q : Nat) (l : List α), l.length = q * k →
      (chunks k l).length = q ∧ (∀ b ∈ chunks k l, b.length = k) ∧ (chunks k l).flatten = l := by
  intro q
  induction q with
  | zero =>
    intro l hl
    have : l = [] := List.length_eq_zero_iff.mp (by simpa using hl)
    subst this; simp [chunks_nil]
  | succ q ih =>
    intro l hl
    have hne : l ≠ [] := by
      intro h; subst h
      simp only [List.length_nil] at hl
      have : 0 < (q + 1) * k := Nat.mul_pos (Nat.succ_pos q) hk
      omega
    have hlen : (l.drop k).length = q * k := by
      rw [List.length_drop, hl, Nat.succ_mul]; omega
    obtain ⟨h1, h2, h3⟩ := ih (l.drop k) hlen
    rw [chunks_cons hk hne]
    refine ⟨by simp [h1], ?_, ?_⟩
    · intro b hb
      rcases List.mem_cons.mp hb with hb | hb
      · subst hb
        rw [List.length_take, hl, Nat.succ_mul]; omega
      · exact h2 b hb
    · simp [h3]

variable {α : Type}

/-- the main loop as `q` iterations over `take k` / `drop k` -/
def mainLoopQ (lanes : Nat) (step : α → α → α → α) (k : Nat) :
    Nat → List (List α) → List α → List α → List (List α)
  | 0, accs, _, _ => accs
  | q+1, accs, u, v =>
    mainLoopQ lanes step k q (blockStep lanes step accs (u.take k) (v.take k)) (u.drop k) (v.drop k)

theorem mainLoop_nil_left (lanes : Nat) (step : α → α → α → α) (accs vs : List (List α)) :
    mainLoop lanes step accs [] vs = accs := by
  simp [mainLoop]

theorem mainLoop_chunks (lanes : Nat) (step : α → α → α → α) {k : Nat} (hk : 0 < k) :
    ∀ (q : Nat) (accs : List (List α)) (u v : List α), u.length = q * k → v.length = q * k →
      mainLoop lanes step accs (chunks k u) (chunks k v) = mainLoopQ lanes step k q accs u v := by
  intro q
  induction q with
  | zero =>
    intro accs u v hu hv
    have : u = [] := List.length_eq_zero_iff.mp (by simpa using hu)
    subst this
    simp [chunks_nil, mainLoop_nil_left, mainLoopQ]
  | succ q ih =>
    intro accs u v hu hv
    have hpos : 0 < (q + 1) * k := Nat.mul_pos (Nat.succ_pos q) hk
    have hune : u ≠ [] := by intro h; subst h; simp only [List.length_nil] at hu; omega
    have hvne : v ≠ [] := by intro h; subst h; simp only [List.length_nil] at hv; omega
    have hul : (u.drop k).length = q * k := by rw [List.length_drop, hu, Nat.succ_mul]; omega
    have hvl : (v.drop k).length = q * k := by rw [List.length_drop, hv, Nat.succ_mul]; omega
    rw [chunks_cons hk hune, chunks_cons hk hvne, mainLoop, mainLoopQ, ih _ _ _ hul hvl]

/-- the prefix processed by the main loop is a whole number of blocks -/
theorem prefix_len (n k : Nat) : n - n % k = (n / k) * k := by
  have := Nat.div_add_mod n k
  rw [Nat.mul_comm] at this
  omega

theorem le_succ_mul (q k : Nat) : k ≤ (q + 1) * k := by rw [Nat.succ_mul]; omega
theorem succ_mul_sub (q k : Nat) : (q + 1) * k - k = q * k := by rw [Nat.succ_mul]; omega

/-- each of the four slices of a block of `4·lanes` components has `lanes` components -/
theorem length_slice {l : List α} {lanes : Nat} (hl : l.length = 4 * lanes) {d : Nat}
    (hd : d ≤ 3 * lanes) : ((l.drop d).take lanes).length = lanes := by
  rw [List.length_take, List.length_drop]; omega

theorem range4 : List.range 4 = [0, 1, 2, 3] := by decide

theorem blockStep_four (lanes : Nat) (step : α → α → α → α) (a0 a1 a2 a3 bu bv : List α) :
    blockStep lanes step [a0, a1, a2, a3] bu bv =
      [ zipWith3 step (bu.take lanes) (bv.take lanes) a0,
        zipWith3 step ((bu.drop lanes).take lanes) ((bv.drop lanes).take lanes) a1,
        zipWith3 step ((bu.drop (2 * lanes)).take lanes) ((bv.drop (2 * lanes)).take lanes) a2,
        zipWith3 step ((bu.drop (3 * lanes)).take lanes) ((bv.drop (3 * lanes)).take lanes) a3 ] := by
  simp [blockStep, range4]

theorem zipWith3_swap (step : α → α → α → α) (hs : ∀ a b c, step a b c = step b a c) :
    ∀ (xs ys acc : List α), zipWith3 step xs ys acc = zipWith3 step ys xs acc := by
  intro xs
  induction xs with
  | nil => intro ys acc; cases ys <;> simp [zipWith3]
  | cons x xs ih =>
    intro ys acc
    cases ys with
    | nil => simp [zipWith3]
    | cons y ys =>
      cases acc with
      | nil => simp [zipWith3]
      | cons c cs => simp [zipWith3, hs x y c, ih ys cs]

theorem blockStep_swap (lanes : Nat) (step : α → α → α → α) (hs : ∀ a b c, step a b c = step b a c)
    (accs : List (List α)) (bu bv : List α) :
    blockStep lanes step accs bu bv = blockStep lanes step accs bv bu := by
  unfold blockStep
  apply List.map_congr_left
  intro ⟨j, acc⟩ _
  exact zipWith3_swap step hs _ _ _

theorem mainLoop_swap (lanes : Nat) (step : α → α → α → α) (hs : ∀ a b c, step a b c = step b a c) :
    ∀ (us vs accs : List (List α)), mainLoop lanes step accs us vs = mainLoop lanes step accs vs us := by
  intro us
  induction us with
  | nil => intro vs accs; cases vs <;> simp [mainLoop]
  | cons bu us ih =>
    intro vs accs
    cases vs with
    | nil => simp [mainLoop]
    | cons bv vs => simp only [mainLoop]; rw [blockStep_swap lanes step hs, ih]

theorem foldl_zip_swap (tail : α → α → α → α) (ht : ∀ r a b, tail r a b = tail r b a) :
    ∀ (xs ys : List α) (r : α),
      (List.zip xs ys).foldl (fun r (p : α × α) => tail r p.1 p.2) r =
      (List.zip ys xs).foldl (fun r (p : α × α) => tail r p.1 p.2) r := by
  intro xs
  induction xs with
  | nil => intro ys r; cases ys <;> simp
  | cons x xs ih =>
    intro ys r
    cases ys with
    | nil => simp
    | cons y ys => simp only [List.zip_cons_cons, List.foldl_cons]; rw [ht r x y, ih]

/-- a kernel of the SSE/AVX shape is symmetric in its two arguments as soon as the lane step and the
remainder step are -/
theorem simd_swap (A : Arith α) (lanes : Nat) (step : α → α → α → α) (hsum : List α → α)
    (tail : α → α → α → α) (hs : ∀ a b c, step a b c = step b a c) (ht : ∀ r a b, tail r a b = tail r b a)
    (u v : List α) (hlen : u.length = v.length) :
    simd A lanes step hsum tail u v = simd A lanes step hsum tail v u := by
  unfold simd
  simp only [hlen]
  rw [mainLoop_swap lanes step hs]
  exact foldl_zip_swap tail ht _ _ _

theorem zipWith3_fix (step : α → α → α → α) (z : α) :
    ∀ (xs : List α), (∀ a ∈ xs, step a a z = z) →
      zipWith3 step xs xs (List.replicate xs.length z) = List.replicate xs.length z := by
  intro xs
  induction xs with
  | nil => intro _; simp [zipWith3]
  | cons x xs ih =>
    intro h
    simp only [List.length_cons, List.replicate_succ, zipWith3]
    rw [h x (by simp), ih (fun a ha => h a (by simp [ha]))]

theorem blockStep_fix (lanes : Nat) (step : α → α → α → α) (z : α) (bu : List α)
    (hlen : bu.length = 4 * lanes) (h : ∀ a ∈ bu, step a a z = z) :
    blockStep lanes step (List.replicate 4 (List.replicate lanes z)) bu bu =
      List.replicate 4 (List.replicate lanes z) := by
  have hrep : List.replicate 4 (List.replicate lanes z) =
      [List.replicate lanes z, List.replicate lanes z, List.replicate lanes z, List.replicate lanes z] := rfl
  rw [hrep, blockStep_four]
  have key : ∀ d, d ≤ 3 * lanes →
      zipWith3 step ((bu.drop d).take lanes) ((bu.drop d).take lanes) (List.replicate lanes z)
        = List.replicate lanes z := by
    intro d hd
    have := zipWith3_fix step z ((bu.drop d).take lanes)
      (fun a ha => h a (List.mem_of_mem_drop (List.mem_of_mem_take ha)))
    rwa [length_slice hlen hd] at this
  have k0 := key 0 (Nat.zero_le _)
  rw [List.drop_zero] at k0
  rw [k0, key lanes (by omega), key (2 * lanes) (by omega), key (3 * lanes) (by omega)]

theorem mainLoopQ_fix (lanes : Nat) (step : α → α → α → α) (z : α) :
    ∀ (q : Nat) (u : List α), u.length = q * (4 * lanes) → (∀ a ∈ u, step a a z = z) →
      mainLoopQ lanes step (4 * lanes) q (List.replicate 4 (List.replicate lanes z)) u u =
        List.replicate 4 (List.replicate lanes z) := by
  intro q
  induction q with
  | zero => intro u _ _; rfl
  | succ q ih =>
    intro u hu h
    rw [mainLoopQ, blockStep_fix lanes step z (u.take (4 * lanes))
      (by rw [List.length_take, hu]; exact Nat.min_eq_left (le_succ_mul q _))
      (fun a ha => h a (List.mem_of_mem_take ha))]
    exact ih (u.drop (4 * lanes)) (by rw [List.length_drop, hu]; exact succ_mul_sub q _)
      (fun a ha => h a (List.mem_of_mem_drop ha))

theorem foldl_zip_fix (tail : α → α → α → α) (z : α) :
    ∀ (xs : List α), (∀ a ∈ xs, tail z a a = z) →
      (List.zip xs xs).foldl (fun r (p : α × α) => tail r p.1 p.2) z = z := by
  intro xs
  induction xs with
  | nil => intro _; rfl
  | cons x xs ih =>
    intro h
    simp only [List.zip_cons_cons, List.foldl_cons]
    rw [h x (by simp)]
    exact ih (fun a ha => h a (by simp [ha]))

/-- if `z = A.zero` is a fixed point of the lane step on equal arguments, of the horizontal sums and of
the remainder step, the kernel applied to `(u, u)` returns `z` — for every length -/
theorem simd_fix (A : Arith α) (lanes : Nat) (hl : 0 < lanes) (step : α → α → α → α) (hsum : List α → α)
    (tail : α → α → α → α) (u : List α)
    (hstep : ∀ a ∈ u, step a a A.zero = A.zero)
    (hh : hsum (List.replicate lanes A.zero) = A.zero)
    (hadd : A.add A.zero A.zero = A.zero)
    (htail : ∀ a ∈ u, tail A.zero a a = A.zero) :
    simd A lanes step hsum tail u u = A.zero := by
  unfold simd
  simp only
  have hk : 0 < 4 * lanes := by omega
  have hm : (u.take (u.length - u.length % (4 * lanes))).length = (u.length / (4 * lanes)) * (4 * lanes) := by
    rw [List.length_take, ← prefix_len]; omega
  rw [mainLoop_chunks lanes step hk _ _ _ _ hm hm,
      mainLoopQ_fix lanes step A.zero _ _ hm (fun a ha => hstep a (List.mem_of_mem_take ha))]
  have hrep : List.replicate 4 (List.replicate lanes A.zero) =
      [List.replicate lanes A.zero, List.replicate lanes A.zero, List.replicate lanes A.zero,
       List.replicate lanes A.zero] := rfl
  rw [hrep]
  simp only [List.map_cons, List.map_nil, hh, hadd]
  exact foldl_zip_fix tail A.zero _ (fun a ha => htail a (List.mem_of_mem_drop ha))

end Kernel
end Arroy
