import ArroyProofs.KernelLemmas
/-! Naturality of the kernel schemas (core Lean only): a homomorphism `h : β → α` of arithmetics commutes
with every kernel, `K A (x.map h) (y.map h) = h (K B x y)`. Used with `h = Prod.fst` to read off the
plain run from the instrumented ("checked") run of `KernelRoundChk`. -/
namespace Arroy

structure ArithHom {β α : Type} (h : β → α) (B : Arith β) (A : Arith α) : Prop where
  zero : h B.zero = A.zero
  sumInit : h B.sumInit = A.sumInit
  add : ∀ x y, h (B.add x y) = A.add (h x) (h y)
  sub : ∀ x y, h (B.sub x y) = A.sub (h x) (h y)
  mul : ∀ x y, h (B.mul x y) = A.mul (h x) (h y)
  fma : ∀ x y z, h (B.fma x y z) = A.fma (h x) (h y) (h z)

namespace Kernel
variable {β α : Type}

theorem chunks_zero {α : Type _} (l : List α) : chunks 0 l = [] := by
  rw [chunks]; simp

theorem chunks_map {β : Type _} {α : Type _} (h : β → α) (k : Nat) : ∀ (n : Nat) (l : List β), l.length ≤ n →
    chunks k (l.map h) = (chunks k l).map (List.map h) := by
  intro n
  induction n with
  | zero =>
    intro l hl
    have : l = [] := List.length_eq_zero_iff.mp (by omega)
    subst this; simp [chunks_nil]
  | succ n ih =>
    intro l hl
    by_cases hk : k = 0
    · subst hk; simp [chunks_zero]
    · have hk' : 0 < k := Nat.pos_of_ne_zero hk
      by_cases hne : l = []
      · subst hne; simp [chunks_nil]
      · have hne' : l.map h ≠ [] := by simpa using hne
        rw [chunks_cons hk' hne, chunks_cons hk' hne']
        have hlen : (l.drop k).length ≤ n := by
          have : 0 < l.length := List.length_pos_iff.mpr hne
          rw [List.length_drop]; omega
        simp only [List.map_cons, List.map_take]
        rw [← ih (l.drop k) hlen, List.map_drop]

theorem zipWith3_map (h : β → α) (s : β → β → β → β) (s' : α → α → α → α)
    (hs : ∀ a b c, h (s a b c) = s' (h a) (h b) (h c)) :
    ∀ (xs ys acc : List β),
      zipWith3 s' (xs.map h) (ys.map h) (acc.map h) = (zipWith3 s xs ys acc).map h := by
  intro xs
  induction xs with
  | nil => intro ys acc; simp [zipWith3]
  | cons x xs ih =>
    intro ys acc
    cases ys with
    | nil => simp [zipWith3]
    | cons y ys =>
      cases acc with
      | nil => simp [zipWith3]
      | cons c cs => simp only [List.map_cons, zipWith3, hs, ih]

theorem blockStep_map (h : β → α) (lanes : Nat) (s : β → β → β → β) (s' : α → α → α → α)
    (hs : ∀ a b c, h (s a b c) = s' (h a) (h b) (h c)) (accs : List (List β)) (bu bv : List β) :
    blockStep lanes s' (accs.map (List.map h)) (bu.map h) (bv.map h)
      = (blockStep lanes s accs bu bv).map (List.map h) := by
  unfold blockStep
  rw [List.zip_map_right, List.map_map, List.map_map]
  apply List.map_congr_left
  rintro ⟨j, acc⟩ _
  simp only [Function.comp, Prod.map, id]
  rw [← zipWith3_map h s s' hs, List.map_take, List.map_take, List.map_drop, List.map_drop]

theorem mainLoop_map (h : β → α) (lanes : Nat) (s : β → β → β → β) (s' : α → α → α → α)
    (hs : ∀ a b c, h (s a b c) = s' (h a) (h b) (h c)) :
    ∀ (us vs accs : List (List β)),
      mainLoop lanes s' (accs.map (List.map h)) (us.map (List.map h)) (vs.map (List.map h))
        = (mainLoop lanes s accs us vs).map (List.map h) := by
  intro us
  induction us with
  | nil => intro vs accs; simp [mainLoop]
  | cons bu us ih =>
    intro vs accs
    cases vs with
    | nil => simp [mainLoop]
    | cons bv vs =>
      simp only [List.map_cons, mainLoop]
      rw [blockStep_map h lanes s s' hs, ih]

theorem foldl_zip_map (h : β → α) (t : β → β → β → β) (t' : α → α → α → α)
    (ht : ∀ r a b, h (t r a b) = t' (h r) (h a) (h b)) :
    ∀ (xs ys : List β) (r : β),
      (List.zip (xs.map h) (ys.map h)).foldl (fun r (p : α × α) => t' r p.1 p.2) (h r)
        = h ((List.zip xs ys).foldl (fun r (p : β × β) => t r p.1 p.2) r) := by
  intro xs
  induction xs with
  | nil => intro ys r; simp
  | cons x xs ih =>
    intro ys r
    cases ys with
    | nil => simp
    | cons y ys =>
      simp only [List.map_cons, List.zip_cons_cons, List.foldl_cons]
      rw [← ht, ih]

theorem simd_map {B : Arith β} {A : Arith α} (h : β → α) (hh : ArithHom h B A) (lanes : Nat)
    (s : β → β → β → β) (s' : α → α → α → α) (hs : ∀ a b c, h (s a b c) = s' (h a) (h b) (h c))
    (hsum : List β → β) (hsum' : List α → α) (hhs : ∀ l, hsum' (l.map h) = h (hsum l))
    (t : β → β → β → β) (t' : α → α → α → α) (ht : ∀ r a b, h (t r a b) = t' (h r) (h a) (h b))
    (x y : List β) :
    simd A lanes s' hsum' t' (x.map h) (y.map h) = h (simd B lanes s hsum t x y) := by
  unfold simd
  simp only [List.length_map]
  rw [← List.map_take, ← List.map_take, ← List.map_drop, ← List.map_drop,
    chunks_map h _ _ _ (Nat.le_refl _), chunks_map h _ _ _ (Nat.le_refl _)]
  have hrep : List.replicate 4 (List.replicate lanes A.zero)
      = (List.replicate 4 (List.replicate lanes B.zero)).map (List.map h) := by
    simp [List.map_replicate, hh.zero]
  rw [hrep, mainLoop_map h lanes s s' hs, List.map_map]
  have hm : (List.map (hsum' ∘ List.map h)
      (mainLoop lanes s (List.replicate 4 (List.replicate lanes B.zero))
        (chunks (4 * lanes) (List.take (x.length - x.length % (4 * lanes)) x))
        (chunks (4 * lanes) (List.take (x.length - x.length % (4 * lanes)) y))))
      = (List.map hsum (mainLoop lanes s (List.replicate 4 (List.replicate lanes B.zero))
        (chunks (4 * lanes) (List.take (x.length - x.length % (4 * lanes)) x))
        (chunks (4 * lanes) (List.take (x.length - x.length % (4 * lanes)) y)))).map h := by
    rw [List.map_map]
    apply List.map_congr_left
    intro l _
    simp only [Function.comp, hhs]
  rw [hm]
  generalize List.map hsum (mainLoop lanes s (List.replicate 4 (List.replicate lanes B.zero))
        (chunks (4 * lanes) (List.take (x.length - x.length % (4 * lanes)) x))
        (chunks (4 * lanes) (List.take (x.length - x.length % (4 * lanes)) y))) = L
  rcases L with _ | ⟨a, _ | ⟨b, _ | ⟨c, _ | ⟨d, _ | ⟨e, tl⟩⟩⟩⟩⟩ <;>
    simp only [List.map_cons, List.map_nil] <;>
    (first | rw [← hh.zero] | simp only [← hh.add]) <;>
    exact foldl_zip_map h t t' ht _ _ _

theorem hsum128_map {B : Arith β} {A : Arith α} (h : β → α) (hh : ArithHom h B A) (l : List β) :
    hsum128 A (l.map h) = h (hsum128 B l) := by
  rcases l with _ | ⟨a, _ | ⟨b, _ | ⟨c, _ | ⟨d, _ | ⟨e, t⟩⟩⟩⟩⟩ <;> simp [hsum128, hh.add, hh.zero]

theorem hsum256_map {B : Arith β} {A : Arith α} (h : β → α) (hh : ArithHom h B A) (l : List β) :
    hsum256 A (l.map h) = h (hsum256 B l) := by
  rcases l with _ | ⟨a0, _ | ⟨a1, _ | ⟨a2, _ | ⟨a3, _ | ⟨a4, _ | ⟨a5, _ | ⟨a6, _ | ⟨a7, _ | ⟨a8, t⟩⟩⟩⟩⟩⟩⟩⟩⟩ <;>
    simp [hsum256, hsum128, hh.add, hh.zero]

theorem scalar_map {B : Arith β} {A : Arith α} (h : β → α) (hh : ArithHom h B A)
    (tm : β → β → β) (tm' : α → α → α) (htm : ∀ a b, h (tm a b) = tm' (h a) (h b)) (x y : List β) :
    (List.zipWith tm' (x.map h) (y.map h)).foldl A.add A.sumInit
      = h ((List.zipWith tm x y).foldl B.add B.sumInit) := by
  have key : ∀ (x y : List β) (r : β),
      (List.zipWith tm' (x.map h) (y.map h)).foldl A.add (h r) = h ((List.zipWith tm x y).foldl B.add r) := by
    intro x
    induction x with
    | nil => intro y r; simp
    | cons a x ih =>
      intro y r
      cases y with
      | nil => simp
      | cons b y =>
        simp only [List.map_cons, List.zipWith_cons_cons, List.foldl_cons]
        rw [← htm, ← hh.add, ih]
  rw [← hh.sumInit]
  exact key x y _

theorem dotScalar_map {B : Arith β} {A : Arith α} (h : β → α) (hh : ArithHom h B A) (x y : List β) :
    dotScalar A (x.map h) (y.map h) = h (dotScalar B x y) :=
  scalar_map h hh B.mul A.mul hh.mul x y

theorem euclidScalar_map {B : Arith β} {A : Arith α} (h : β → α) (hh : ArithHom h B A) (x y : List β) :
    euclidScalar A (x.map h) (y.map h) = h (euclidScalar B x y) :=
  scalar_map h hh (fun a b => B.mul (B.sub a b) (B.sub a b)) (fun a b => A.mul (A.sub a b) (A.sub a b))
    (fun a b => by simp only [hh.mul, hh.sub]) x y

theorem manhattanWith_map {B : Arith β} {A : Arith α} (h : β → α) (hh : ArithHom h B A)
    (absB : β → β) (absA : α → α) (ha : ∀ t, h (absB t) = absA (h t)) (x y : List β) :
    manhattanWith A absA (x.map h) (y.map h) = h (manhattanWith B absB x y) :=
  scalar_map h hh (fun a b => absB (B.sub a b)) (fun a b => absA (A.sub a b))
    (fun a b => by simp only [ha, hh.sub]) x y

theorem dotSse_map {B : Arith β} {A : Arith α} (h : β → α) (hh : ArithHom h B A) (x y : List β) :
    dotSse A (x.map h) (y.map h) = h (dotSse B x y) :=
  simd_map h hh 4 _ _ (fun a b c => by simp only [hh.add, hh.mul]) _ _ (hsum128_map h hh) _ _
    (fun r a b => by simp only [hh.add, hh.mul]) x y

theorem euclidSse_map {B : Arith β} {A : Arith α} (h : β → α) (hh : ArithHom h B A) (x y : List β) :
    euclidSse A (x.map h) (y.map h) = h (euclidSse B x y) :=
  simd_map h hh 4 _ _ (fun a b c => by simp only [hh.add, hh.mul, hh.sub]) _ _ (hsum128_map h hh) _ _
    (fun r a b => by simp only [hh.add, hh.mul, hh.sub]) x y

theorem dotAvx_map {B : Arith β} {A : Arith α} (h : β → α) (hh : ArithHom h B A) (x y : List β) :
    dotAvx A (x.map h) (y.map h) = h (dotAvx B x y) :=
  simd_map h hh 8 _ _ (fun a b c => by simp only [hh.fma]) _ _ (hsum256_map h hh) _ _
    (fun r a b => by simp only [hh.add, hh.mul]) x y

theorem euclidAvx_map {B : Arith β} {A : Arith α} (h : β → α) (hh : ArithHom h B A) (x y : List β) :
    euclidAvx A (x.map h) (y.map h) = h (euclidAvx B x y) :=
  simd_map h hh 8 _ _ (fun a b c => by simp only [hh.fma, hh.sub]) _ _ (hsum256_map h hh) _ _
    (fun r a b => by simp only [hh.add, hh.mul, hh.sub]) x y

end Kernel
end Arroy
