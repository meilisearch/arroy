import ArroyModel.Distance
import Mathlib.Data.Real.Basic
import Mathlib.Tactic.Linarith
import Mathlib.Tactic.Ring
/-! The standard model of floating-point arithmetic (C11_round) and the graded relation
`Rel k c e b : |c − e| ≤ ((1+u)^k − 1)·b ∧ |e| ≤ b` in which all rounding-error bounds for the kernels are
carried: `c` is a computed value, `e` the exact one, `b` the sum of the absolute values of the exact
terms; every rounding raises the grade `k` by one (`Rel.round`, `Rel.addlike`). -/
namespace Arroy

/-- the standard model: every operation returns the exact result times `(1 + δ)`, `|δ| ≤ u`
(no overflow / underflow) -/
structure StdModel (A : Arith ℝ) (u : ℝ) : Prop where
  u_nonneg : 0 ≤ u
  sumInit : A.sumInit = 0
  zero : A.zero = 0
  add : ∀ x y, ∃ δ : ℝ, |δ| ≤ u ∧ A.add x y = (x + y) * (1 + δ)
  sub : ∀ x y, ∃ δ : ℝ, |δ| ≤ u ∧ A.sub x y = (x - y) * (1 + δ)
  mul : ∀ x y, ∃ δ : ℝ, |δ| ≤ u ∧ A.mul x y = (x * y) * (1 + δ)
  fma : ∀ x y z, ∃ δ : ℝ, |δ| ≤ u ∧ A.fma x y z = (x * y + z) * (1 + δ)

namespace KernelRound

/-- `(1+u)^k − 1` -/
noncomputable def E (u : ℝ) (k : Nat) : ℝ := (1 + u)^k - 1

theorem E_succ (u : ℝ) (k : Nat) : E u (k + 1) = E u k * (1 + u) + u := by
  unfold E; ring

theorem E_nonneg {u : ℝ} (hu : 0 ≤ u) (k : Nat) : 0 ≤ E u k := by
  induction k with
  | zero => simp [E]
  | succ k ih => rw [E_succ]; nlinarith

theorem E_mono {u : ℝ} (hu : 0 ≤ u) {k k' : Nat} (h : k ≤ k') : E u k ≤ E u k' := by
  induction h with
  | refl => exact le_refl _
  | step _ ih => rw [E_succ]; nlinarith [E_nonneg hu ‹Nat›]

theorem sum_abs_nonneg (l : List ℝ) : 0 ≤ (l.map (fun x => |x|)).sum := by
  induction l with
  | nil => simp
  | cons x xs ih => simp only [List.map_cons, List.sum_cons]; linarith [abs_nonneg x]

/-- `c` approximates the exact value `e` with `k` accumulated roundings relative to the bound `b` -/
def Rel (u : ℝ) (k : Nat) (c e b : ℝ) : Prop := |c - e| ≤ E u k * b ∧ |e| ≤ b

theorem Rel.b_nonneg {u : ℝ} {k : Nat} {c e b : ℝ} (h : Rel u k c e b) : 0 ≤ b :=
  (abs_nonneg e).trans h.2

theorem Rel.mono {u : ℝ} (hu : 0 ≤ u) {k k' : Nat} (hk : k ≤ k') {c e b : ℝ} (h : Rel u k c e b) :
    Rel u k' c e b :=
  ⟨h.1.trans (mul_le_mul_of_nonneg_right (E_mono hu hk) h.b_nonneg), h.2⟩

theorem Rel.zero (u : ℝ) (k : Nat) : Rel u k 0 0 0 := by
  constructor <;> simp

theorem exact_rel {u : ℝ} (hu : 0 ≤ u) (k : Nat) (p : ℝ) : Rel u k p p |p| := by
  constructor
  · rw [sub_self, abs_zero]; exact mul_nonneg (E_nonneg hu k) (abs_nonneg p)
  · exact le_refl _

theorem Rel.abs {u : ℝ} {k : Nat} {c e b : ℝ} (h : Rel u k c e b) : Rel u k |c| |e| b :=
  ⟨(abs_abs_sub_abs_le_abs_sub c e).trans h.1, by rw [abs_abs]; exact h.2⟩

/-- one rounding: `c·(1+δ) − e = (c − e)·(1+δ) + e·δ` -/
theorem Rel.round {u : ℝ} (hu : 0 ≤ u) {k : Nat} {c e b r δ : ℝ} (h : Rel u k c e b) (hδ : |δ| ≤ u)
    (hr : r = c * (1 + δ)) : Rel u (k + 1) r e b := by
  refine ⟨?_, h.2⟩
  have hb := h.b_nonneg
  have h1 : |1 + δ| ≤ 1 + u := (abs_add_le _ _).trans (by rw [abs_one]; linarith)
  have e1 : r - e = (c - e) * (1 + δ) + e * δ := by rw [hr]; ring
  have t1 : |(c - e) * (1 + δ)| ≤ E u k * b * (1 + u) := by
    rw [abs_mul]; exact mul_le_mul h.1 h1 (abs_nonneg _) (mul_nonneg (E_nonneg hu k) hb)
  have t2 : |e * δ| ≤ b * u := by
    rw [abs_mul]; exact mul_le_mul h.2 hδ (abs_nonneg _) hb
  rw [e1, E_succ]
  calc |(c - e) * (1 + δ) + e * δ| ≤ E u k * b * (1 + u) + b * u :=
        (abs_add_le _ _).trans (add_le_add t1 t2)
    _ = (E u k * (1 + u) + u) * b := by ring

theorem Rel.sum {u : ℝ} {k : Nat} {c1 e1 b1 c2 e2 b2 : ℝ} (h1 : Rel u k c1 e1 b1) (h2 : Rel u k c2 e2 b2) :
    Rel u k (c1 + c2) (e1 + e2) (b1 + b2) := by
  refine ⟨?_, (abs_add_le _ _).trans (add_le_add h1.2 h2.2)⟩
  have e : c1 + c2 - (e1 + e2) = (c1 - e1) + (c2 - e2) := by ring
  rw [e, mul_add]
  exact (abs_add_le _ _).trans (add_le_add h1.1 h2.1)

theorem Rel.addlike {u : ℝ} (hu : 0 ≤ u) {k : Nat} {c1 e1 b1 c2 e2 b2 r δ : ℝ}
    (h1 : Rel u k c1 e1 b1) (h2 : Rel u k c2 e2 b2) (hδ : |δ| ≤ u) (hr : r = (c1 + c2) * (1 + δ)) :
    Rel u (k + 1) r (e1 + e2) (b1 + b2) :=
  (h1.sum h2).round hu hδ hr

theorem round_rel {u : ℝ} (hu : 0 ≤ u) {k : Nat} (hk : 1 ≤ k) {r x δ : ℝ} (hδ : |δ| ≤ u)
    (h : r = x * (1 + δ)) : Rel u k r x |x| :=
  ((exact_rel hu 0 x).round hu hδ h).mono hu hk

/-- the exact square of a rounded difference `s = d·(1+δ)`, relative to `d²` -/
theorem dd_rel {u : ℝ} (hu : 0 ≤ u) {k : Nat} (hk : 2 ≤ k) {s d δ : ℝ} (hδ : |δ| ≤ u)
    (hs : s = d * (1 + δ)) : Rel u k (s * s) (d * d) |d * d| :=
  (((exact_rel hu 0 (d * d)).round hu hδ rfl).round hu hδ (by rw [hs]; ring)).mono hu hk

/-- the rounded square `m = s·s·(1+δ₂)` of a rounded difference -/
theorem sq_rel {u : ℝ} (hu : 0 ≤ u) {k : Nat} (hk : 3 ≤ k) {m s d δ δ2 : ℝ} (hδ : |δ| ≤ u)
    (hδ2 : |δ2| ≤ u) (hs : s = d * (1 + δ)) (hm : m = s * s * (1 + δ2)) :
    Rel u k m (d * d) |d * d| :=
  ((dd_rel hu (le_refl 2) hδ hs).round hu hδ2 hm).mono hu hk

end KernelRound
end Arroy
