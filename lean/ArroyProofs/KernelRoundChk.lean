import ArroyProofs.KernelRoundOn
import ArroyProofs.KernelCover
import ArroyProofs.KernelMap
/-! The rounding-error bounds of the kernels for an arithmetic that satisfies the
standard model only where a DECIDABLE check says so. The kernel is run on the instrumented arithmetic
`chkArith A C` over `α × Bool`: the first component is the plain run (`Kernel.*_map` with `Prod.fst`), the
second the conjunction of the checks of all operations executed so far. If the flag of the result is
`true`, the result is within the standard-model bound of the exact real-number value. -/
namespace Arroy

/-- Boolean side conditions of the four operations -/
structure Checks (α : Type) where
  add : α → α → Bool
  sub : α → α → Bool
  mul : α → α → Bool
  fma : α → α → α → Bool

/-- the instrumented arithmetic: value and "all checks so far passed" -/
def chkArith {α : Type} (A : Arith α) (C : Checks α) : Arith (α × Bool) where
  zero := (A.zero, true)
  sumInit := (A.sumInit, true)
  add := fun x y => (A.add x.1 y.1, x.2 && y.2 && C.add x.1 y.1)
  sub := fun x y => (A.sub x.1 y.1, x.2 && y.2 && C.sub x.1 y.1)
  mul := fun x y => (A.mul x.1 y.1, x.2 && y.2 && C.mul x.1 y.1)
  fma := fun x y z => (A.fma x.1 y.1 z.1, x.2 && y.2 && z.2 && C.fma x.1 y.1 z.1)

theorem chk_fst_hom {α : Type} (A : Arith α) (C : Checks α) : ArithHom Prod.fst (chkArith A C) A where
  zero := rfl
  sumInit := rfl
  add := fun _ _ => rfl
  sub := fun _ _ => rfl
  mul := fun _ _ => rfl
  fma := fun _ _ _ => rfl

/-- inputs of the instrumented run -/
def chkIn {α : Type} (x : List α) : List (α × Bool) := x.map (fun a => (a, true))

theorem chkIn_fst {α : Type} (x : List α) : (chkIn x).map Prod.fst = x := by
  simp [chkIn, List.map_map, Function.comp_def]

theorem chkIn_val {α : Type} (val : α → ℝ) (x : List α) :
    (chkIn x).map (fun c => val c.1) = x.map val := by
  simp [chkIn, List.map_map, Function.comp_def]

theorem chkIn_length {α : Type} (x : List α) : (chkIn x).length = x.length := by simp [chkIn]

/-- where the check passes, the operation satisfies the standard-model equation -/
structure ChkModel {α : Type} (A : Arith α) (val : α → ℝ) (C : Checks α) (u : ℝ) : Prop where
  u_nonneg : 0 ≤ u
  sumInit : val A.sumInit = 0
  zero : val A.zero = 0
  add : ∀ x y, C.add x y = true → ∃ δ : ℝ, |δ| ≤ u ∧ val (A.add x y) = (val x + val y) * (1 + δ)
  sub : ∀ x y, C.sub x y = true → ∃ δ : ℝ, |δ| ≤ u ∧ val (A.sub x y) = (val x - val y) * (1 + δ)
  mul : ∀ x y, C.mul x y = true → ∃ δ : ℝ, |δ| ≤ u ∧ val (A.mul x y) = (val x * val y) * (1 + δ)
  fma : ∀ x y z, C.fma x y z = true →
    ∃ δ : ℝ, |δ| ≤ u ∧ val (A.fma x y z) = (val x * val y + val z) * (1 + δ)

/-- from the conditional model, for checks that imply its side conditions -/
theorem ChkModel.of_on {α : Type} {A : Arith α} {val : α → ℝ} {ok : α → Prop} {P : ℝ → Prop} {u : ℝ}
    (hA : StdModelOn A val ok P u) (C : Checks α)
    (hadd : ∀ x y, C.add x y = true → ok x ∧ ok y ∧ P (val x + val y))
    (hsub : ∀ x y, C.sub x y = true → ok x ∧ ok y ∧ P (val x - val y))
    (hmul : ∀ x y, C.mul x y = true → ok x ∧ ok y ∧ P (val x * val y))
    (hfma : ∀ x y z, C.fma x y z = true → ok x ∧ ok y ∧ ok z ∧ P (val x * val y + val z)) :
    ChkModel A val C u where
  u_nonneg := hA.u_nonneg
  sumInit := hA.sumInit.2
  zero := hA.zero.2
  add := fun x y h => by obtain ⟨a, b, c⟩ := hadd x y h; exact (hA.add x y a b c).2
  sub := fun x y h => by obtain ⟨a, b, c⟩ := hsub x y h; exact (hA.sub x y a b c).2
  mul := fun x y h => by obtain ⟨a, b, c⟩ := hmul x y h; exact (hA.mul x y a b c).2
  fma := fun x y z h => by obtain ⟨a, b, c, d⟩ := hfma x y z h; exact (hA.fma x y z a b c d).2

namespace KernelRound
open Kernel
variable {α : Type}

/-- the graded relation for an instrumented value: if its flag is set, its value approximates the exact
`e` with `k` accumulated roundings relative to `b`; `|e| ≤ b` in any case -/
def CRel (val : α → ℝ) (u : ℝ) (k : Nat) (c : α × Bool) (e b : ℝ) : Prop :=
  (c.2 = true → |val c.1 - e| ≤ E u k * b) ∧ |e| ≤ b

theorem CRel.b_nonneg {val : α → ℝ} {u : ℝ} {k : Nat} {c : α × Bool} {e b : ℝ}
    (h : CRel val u k c e b) : 0 ≤ b := (abs_nonneg e).trans h.2

theorem CRel.mono {val : α → ℝ} {u : ℝ} (hu : 0 ≤ u) {k k' : Nat} (hk : k ≤ k') {c : α × Bool} {e b : ℝ}
    (h : CRel val u k c e b) : CRel val u k' c e b :=
  ⟨fun hc => (h.1 hc).trans (mul_le_mul_of_nonneg_right (E_mono hu hk) h.b_nonneg), h.2⟩

theorem CRel.rel {val : α → ℝ} {u : ℝ} {k : Nat} {c : α × Bool} {e b : ℝ}
    (h : CRel val u k c e b) (hc : c.2 = true) : Rel u k (val c.1) e b := ⟨h.1 hc, h.2⟩

theorem CRel.of_rel {val : α → ℝ} {u : ℝ} {k : Nat} {c : α × Bool} {e b : ℝ}
    (hb : |e| ≤ b) (h : c.2 = true → Rel u k (val c.1) e b) : CRel val u k c e b :=
  ⟨fun hc => (h hc).1, hb⟩

theorem CRel.zero {val : α → ℝ} (u : ℝ) (k : Nat) (z : α) (hz : val z = 0) :
    CRel val u k (z, true) 0 0 := by
  constructor
  · intro _; simp [hz]
  · simp

section model
variable {A : Arith α} {val : α → ℝ} {C : Checks α} {u : ℝ}

theorem and3_true {a b c : Bool} (h : (a && b && c) = true) : a = true ∧ b = true ∧ c = true := by
  cases a <;> cases b <;> cases c <;> simp at h ⊢

theorem and4_true {a b c d : Bool} (h : (a && b && c && d) = true) :
    a = true ∧ b = true ∧ c = true ∧ d = true := by
  cases a <;> cases b <;> cases c <;> cases d <;> simp at h ⊢

theorem CRel.add (hA : ChkModel A val C u) {k : Nat} {c1 c2 : α × Bool} {e1 b1 e2 b2 : ℝ}
    (h1 : CRel val u k c1 e1 b1) (h2 : CRel val u k c2 e2 b2) :
    CRel val u (k + 1) ((chkArith A C).add c1 c2) (e1 + e2) (b1 + b2) := by
  refine CRel.of_rel ((abs_add_le _ _).trans (add_le_add h1.2 h2.2)) ?_
  intro hc
  obtain ⟨f1, f2, f3⟩ := and3_true hc
  obtain ⟨δ, hδ, h⟩ := hA.add c1.1 c2.1 f3
  exact Rel.addlike hA.u_nonneg (h1.rel f1) (h2.rel f2) hδ h

theorem mul_crel (hA : ChkModel A val C u) {k : Nat} (hk : 1 ≤ k) (a b : α × Bool) :
    CRel val u k ((chkArith A C).mul a b) (val a.1 * val b.1) |val a.1 * val b.1| := by
  refine CRel.of_rel (le_refl _) ?_
  intro hc
  obtain ⟨_, _, f3⟩ := and3_true hc
  obtain ⟨δ, hδ, h⟩ := hA.mul a.1 b.1 f3
  exact round_rel hA.u_nonneg hk hδ h

theorem sub_crel (hA : ChkModel A val C u) {k : Nat} (hk : 1 ≤ k) (a b : α × Bool) :
    CRel val u k ((chkArith A C).sub a b) (val a.1 - val b.1) |val a.1 - val b.1| := by
  refine CRel.of_rel (le_refl _) ?_
  intro hc
  obtain ⟨_, _, f3⟩ := and3_true hc
  obtain ⟨δ, hδ, h⟩ := hA.sub a.1 b.1 f3
  exact round_rel hA.u_nonneg hk hδ h

/-- the exact square of a checked difference, relative to `(a−b)²` -/
theorem dd_crel (hA : ChkModel A val C u) {k : Nat} (hk : 2 ≤ k) (a b : α × Bool)
    (hc : ((chkArith A C).sub a b).2 = true) :
    Rel u k (val (A.sub a.1 b.1) * val (A.sub a.1 b.1))
      ((val a.1 - val b.1) * (val a.1 - val b.1)) |(val a.1 - val b.1) * (val a.1 - val b.1)| := by
  obtain ⟨_, _, f3⟩ := and3_true hc
  obtain ⟨δ1, hδ1, h1⟩ := hA.sub a.1 b.1 f3
  exact dd_rel hA.u_nonneg hk hδ1 h1

theorem sq_crel (hA : ChkModel A val C u) {k : Nat} (hk : 3 ≤ k) (a b : α × Bool) :
    CRel val u k ((chkArith A C).mul ((chkArith A C).sub a b) ((chkArith A C).sub a b))
      ((val a.1 - val b.1) * (val a.1 - val b.1)) |(val a.1 - val b.1) * (val a.1 - val b.1)| := by
  refine CRel.of_rel (le_refl _) ?_
  intro hc
  obtain ⟨fs, _, f3⟩ := and3_true hc
  obtain ⟨_, _, g3⟩ := and3_true fs
  obtain ⟨δ1, hδ1, h1⟩ := hA.sub a.1 b.1 g3
  obtain ⟨δ2, hδ2, h2⟩ := hA.mul _ _ f3
  exact sq_rel hA.u_nonneg hk hδ1 hδ2 h1 h2

/-- a checked `fma(a, b, c)`: the exact product `val a · val b` approximates `pe` -/
theorem fma_crel (hA : ChkModel A val C u) {k : Nat} {pe e bb : ℝ} (a b c : α × Bool)
    (h1 : a.2 = true → b.2 = true → Rel u k (val a.1 * val b.1) pe |pe|)
    (h2 : CRel val u k c e bb) :
    CRel val u (k + 1) ((chkArith A C).fma a b c) (pe + e) (|pe| + bb) := by
  refine CRel.of_rel ((abs_add_le _ _).trans (add_le_add (le_refl _) h2.2)) ?_
  intro hc
  obtain ⟨f1, f2, f3, f4⟩ := and4_true hc
  obtain ⟨δ, hδ, h⟩ := hA.fma a.1 b.1 c.1 f4
  exact Rel.addlike hA.u_nonneg (h1 f1 f2) (h2.rel f3) hδ h

end model

inductive All3' {β : Type} (P : β → ℝ → ℝ → Prop) : List β → List ℝ → List ℝ → Prop
  | nil : All3' P [] [] []
  | cons {a : β} {b c : ℝ} {as : List β} {bs cs : List ℝ} :
      P a b c → All3' P as bs cs → All3' P (a :: as) (b :: bs) (c :: cs)

section struct
variable {β : Type}

theorem All3'.mono {P Q : β → ℝ → ℝ → Prop} (h : ∀ a b c, P a b c → Q a b c) :
    ∀ {as bs cs}, All3' P as bs cs → All3' Q as bs cs := by
  intro as bs cs H
  induction H with
  | nil => exact All3'.nil
  | cons p _ ih => exact All3'.cons (h _ _ _ p) ih

theorem All3'.replicate {P : β → ℝ → ℝ → Prop} {a : β} {b c : ℝ} (h : P a b c) :
    ∀ n, All3' P (List.replicate n a) (List.replicate n b) (List.replicate n c) := by
  intro n
  induction n with
  | zero => exact All3'.nil
  | succ n ih => exact All3'.cons h ih

theorem All3'.cons_inv {P : β → ℝ → ℝ → Prop} {x : β} {xs : List β} {e b : List ℝ}
    (h : All3' P (x :: xs) e b) :
    ∃ y ys z zs, e = y :: ys ∧ b = z :: zs ∧ P x y z ∧ All3' P xs ys zs := by
  cases h with
  | cons p t => exact ⟨_, _, _, _, rfl, rfl, p, t⟩

theorem All3'.nil_inv {P : β → ℝ → ℝ → Prop} {e b : List ℝ} (h : All3' P [] e b) : e = [] ∧ b = [] := by
  cases h; exact ⟨rfl, rfl⟩

theorem All3'.length {P : β → ℝ → ℝ → Prop} : ∀ {as bs cs}, All3' P as bs cs →
    bs.length = as.length ∧ cs.length = as.length := by
  intro as bs cs H
  induction H with
  | nil => exact ⟨rfl, rfl⟩
  | cons _ _ ih => simp [ih.1, ih.2]

theorem zipWith3_rel' {P Q : β → ℝ → ℝ → Prop} (v : β → ℝ) (s : β → β → β → β) (sE sB : ℝ → ℝ → ℝ → ℝ)
    (h : ∀ a b c e bb, P c e bb → Q (s a b c) (sE (v a) (v b) e) (sB (v a) (v b) bb)) :
    ∀ {acc eacc bacc}, All3' P acc eacc bacc → ∀ (xs ys : List β),
      All3' Q (zipWith3 s xs ys acc) (zipWith3 sE (xs.map v) (ys.map v) eacc)
        (zipWith3 sB (xs.map v) (ys.map v) bacc) := by
  intro acc eacc bacc H
  induction H with
  | nil => intro xs ys; cases xs <;> cases ys <;> simp [zipWith3] <;> exact All3'.nil
  | cons p _ ih =>
    intro xs ys
    cases xs with
    | nil => simp only [List.map_nil, zipWith3]; exact All3'.nil
    | cons x xs =>
      cases ys with
      | nil => simp only [List.map_nil, List.map_cons, zipWith3]; exact All3'.nil
      | cons y ys => simp only [List.map_cons, zipWith3]; exact All3'.cons (h _ _ _ _ _ p) (ih xs ys)

/-- the three accumulator states, four accumulators each, related lane by lane -/
def Acc4' (P : β → ℝ → ℝ → Prop) (accs : List (List β)) (eaccs baccs : List (List ℝ)) : Prop :=
  ∃ (a0 a1 a2 a3 : List β) (e0 e1 e2 e3 b0 b1 b2 b3 : List ℝ),
    accs = [a0, a1, a2, a3] ∧ eaccs = [e0, e1, e2, e3] ∧ baccs = [b0, b1, b2, b3] ∧
    All3' P a0 e0 b0 ∧ All3' P a1 e1 b1 ∧ All3' P a2 e2 b2 ∧ All3' P a3 e3 b3

theorem Acc4'.mono {P Q : β → ℝ → ℝ → Prop} (h : ∀ a b c, P a b c → Q a b c) {accs eaccs baccs}
    (H : Acc4' P accs eaccs baccs) : Acc4' Q accs eaccs baccs := by
  obtain ⟨a0, a1, a2, a3, e0, e1, e2, e3, b0, b1, b2, b3, r1, r2, r3, h0, h1, h2, h3⟩ := H
  exact ⟨a0, a1, a2, a3, e0, e1, e2, e3, b0, b1, b2, b3, r1, r2, r3,
    h0.mono h, h1.mono h, h2.mono h, h3.mono h⟩

theorem blockStep_rel' {P Q : β → ℝ → ℝ → Prop} (v : β → ℝ) (lanes : Nat) (s : β → β → β → β)
    (sE sB : ℝ → ℝ → ℝ → ℝ)
    (h : ∀ a b c e bb, P c e bb → Q (s a b c) (sE (v a) (v b) e) (sB (v a) (v b) bb))
    {accs eaccs baccs} (H : Acc4' P accs eaccs baccs) (bu bv : List β) :
    Acc4' Q (blockStep lanes s accs bu bv) (blockStep lanes sE eaccs (bu.map v) (bv.map v))
      (blockStep lanes sB baccs (bu.map v) (bv.map v)) := by
  obtain ⟨a0, a1, a2, a3, e0, e1, e2, e3, b0, b1, b2, b3, rfl, rfl, rfl, h0, h1, h2, h3⟩ := H
  simp only [blockStep_four, ← List.map_drop, ← List.map_take]
  exact ⟨_, _, _, _, _, _, _, _, _, _, _, _, rfl, rfl, rfl,
    zipWith3_rel' v s sE sB h h0 _ _, zipWith3_rel' v s sE sB h h1 _ _,
    zipWith3_rel' v s sE sB h h2 _ _, zipWith3_rel' v s sE sB h h3 _ _⟩

end struct

section loops
variable {val : α → ℝ} {u : ℝ}

theorem mainLoop_rel' (hu : 0 ≤ u) (lanes : Nat) (s : α × Bool → α × Bool → α × Bool → α × Bool)
    (sE sB : ℝ → ℝ → ℝ → ℝ) (k0 : Nat)
    (h : ∀ k, k0 ≤ k → ∀ a b c e bb, CRel val u k c e bb →
      CRel val u (k + 1) (s a b c) (sE (val a.1) (val b.1) e) (sB (val a.1) (val b.1) bb)) :
    ∀ (us vs : List (List (α × Bool))) (k : Nat), k0 ≤ k → ∀ {accs eaccs baccs},
      Acc4' (CRel val u k) accs eaccs baccs →
      Acc4' (CRel val u (k + us.length)) (mainLoop lanes s accs us vs)
        (mainLoop lanes sE eaccs (us.map (List.map (fun c => val c.1))) (vs.map (List.map (fun c => val c.1))))
        (mainLoop lanes sB baccs (us.map (List.map (fun c => val c.1))) (vs.map (List.map (fun c => val c.1)))) := by
  intro us
  induction us with
  | nil => intro vs k _ accs eaccs baccs H; simpa [mainLoop] using H
  | cons bu us ih =>
    intro vs k hk accs eaccs baccs H
    cases vs with
    | nil =>
      simp only [List.map_cons, List.map_nil, mainLoop]
      exact H.mono (fun _ _ _ r => r.mono hu (by omega))
    | cons bv vs =>
      simp only [List.map_cons, mainLoop, List.length_cons]
      have := ih vs (k + 1) (by omega)
        (blockStep_rel' (fun c : α × Bool => val c.1) lanes s sE sB (h k hk) H bu bv)
      rwa [show k + 1 + us.length = k + (us.length + 1) by omega] at this

theorem foldl_rel' (t : α × Bool → α × Bool → α × Bool → α × Bool) (tE tB : ℝ → ℝ → ℝ → ℝ) (k0 : Nat)
    (h : ∀ k, k0 ≤ k → ∀ a b c e bb, CRel val u k c e bb →
      CRel val u (k + 1) (t c a b) (tE e (val a.1) (val b.1)) (tB bb (val a.1) (val b.1))) :
    ∀ (xs ys : List (α × Bool)) (k : Nat), k0 ≤ k → ∀ c e bb, CRel val u k c e bb →
      CRel val u (k + (List.zip xs ys).length)
        ((List.zip xs ys).foldl (fun r (p : (α × Bool) × (α × Bool)) => t r p.1 p.2) c)
        ((List.zip (xs.map (fun c => val c.1)) (ys.map (fun c => val c.1))).foldl
          (fun r (p : ℝ × ℝ) => tE r p.1 p.2) e)
        ((List.zip (xs.map (fun c => val c.1)) (ys.map (fun c => val c.1))).foldl
          (fun r (p : ℝ × ℝ) => tB r p.1 p.2) bb) := by
  intro xs
  induction xs with
  | nil => intro ys k _ c e bb H; simpa using H
  | cons x xs ih =>
    intro ys k hk c e bb H
    cases ys with
    | nil => simpa using H
    | cons y ys =>
      simp only [List.map_cons, List.zip_cons_cons, List.foldl_cons, List.length_cons]
      have := ih ys (k + 1) (by omega) _ _ _ (h k hk x y _ _ _ H)
      rwa [show k + 1 + (List.zip xs ys).length = k + ((List.zip xs ys).length + 1) by omega] at this

/-- the graded relation between the instrumented run, the exact run and the run on absolute values of a
kernel of the SSE/AVX shape -/
theorem simd_rel' {A : Arith α} {C : Checks α} (hA : ChkModel A val C u) (lanes : Nat) (hl : 0 < lanes)
    (s : α × Bool → α × Bool → α × Bool → α × Bool) (sE sB : ℝ → ℝ → ℝ → ℝ)
    (hs : List (α × Bool) → α × Bool) (hsE : List ℝ → ℝ)
    (t : α × Bool → α × Bool → α × Bool → α × Bool) (tE tB : ℝ → ℝ → ℝ → ℝ) (k0 hk : Nat)
    (hstep : ∀ k, k0 ≤ k → ∀ a b c e bb, CRel val u k c e bb →
      CRel val u (k + 1) (s a b c) (sE (val a.1) (val b.1) e) (sB (val a.1) (val b.1) bb))
    (hhsum : ∀ k a e b, All3' (CRel val u k) a e b → CRel val u (k + hk) (hs a) (hsE e) (hsE b))
    (htail : ∀ k, k0 ≤ k → ∀ a b c e bb, CRel val u k c e bb →
      CRel val u (k + 1) (t c a b) (tE e (val a.1) (val b.1)) (tB bb (val a.1) (val b.1)))
    (x y : List (α × Bool)) :
    CRel val u (k0 + x.length / (4 * lanes) + hk + 3 + x.length % (4 * lanes))
      (simd (chkArith A C) lanes s hs t x y)
      (simd (ringArith ℝ) lanes sE hsE tE (x.map (fun c => val c.1)) (y.map (fun c => val c.1)))
      (simd (ringArith ℝ) lanes sB hsE tB (x.map (fun c => val c.1)) (y.map (fun c => val c.1))) := by
  have hu := hA.u_nonneg
  unfold simd
  simp only [List.length_map]
  have hk4 : 0 < 4 * lanes := by omega
  have hm : (x.take (x.length - x.length % (4 * lanes))).length
      = (x.length / (4 * lanes)) * (4 * lanes) := by
    rw [List.length_take, ← prefix_len]; omega
  have hq : (chunks (4 * lanes) (x.take (x.length - x.length % (4 * lanes)))).length
      = x.length / (4 * lanes) := (chunks_mul hk4 _ _ hm).1
  have hz : (ringArith ℝ).zero = 0 := rfl
  have hzc : (chkArith A C).zero = (A.zero, true) := rfl
  have init : Acc4' (CRel val u k0) (List.replicate 4 (List.replicate lanes ((A.zero, true) : α × Bool)))
      (List.replicate 4 (List.replicate lanes (0 : ℝ))) (List.replicate 4 (List.replicate lanes (0 : ℝ))) := by
    exact ⟨_, _, _, _, _, _, _, _, _, _, _, _, rfl, rfl, rfl,
      All3'.replicate (CRel.zero u k0 _ hA.zero) _, All3'.replicate (CRel.zero u k0 _ hA.zero) _,
      All3'.replicate (CRel.zero u k0 _ hA.zero) _, All3'.replicate (CRel.zero u k0 _ hA.zero) _⟩
  have main := mainLoop_rel' hu lanes s sE sB k0 hstep
    (chunks (4 * lanes) (x.take (x.length - x.length % (4 * lanes))))
    (chunks (4 * lanes) (y.take (x.length - x.length % (4 * lanes)))) k0 (le_refl _) init
  rw [hq] at main
  rw [hz, hzc, ← List.map_take, ← List.map_take, ← List.map_drop, ← List.map_drop,
    chunks_map _ _ _ _ (Nat.le_refl _), chunks_map _ _ _ _ (Nat.le_refl _)]
  obtain ⟨a0, a1, a2, a3, e0, e1, e2, e3, b0, b1, b2, b3, r1, r2, r3, h0, h1, h2, h3⟩ := main
  rw [r1, r2, r3]
  simp only [List.map_cons, List.map_nil]
  set k1 := k0 + x.length / (4 * lanes)
  have g0 := hhsum k1 _ _ _ h0
  have g1 := hhsum k1 _ _ _ h1
  have g2 := hhsum k1 _ _ _ h2
  have g3 := hhsum k1 _ _ _ h3
  have s1 := CRel.add hA g0 g1
  have s2 := CRel.add hA s1 (g2.mono hu (Nat.le_succ _))
  have s3 := CRel.add hA s2 (g3.mono hu (by omega : k1 + hk ≤ k1 + hk + 1 + 1))
  have fin := foldl_rel' t tE tB k0 htail
    (x.drop (x.length - x.length % (4 * lanes))) (y.drop (x.length - x.length % (4 * lanes)))
    (k1 + hk + 1 + 1 + 1) (by omega) _ _ _ s3
  refine CRel.mono hu ?_ fin
  have : (List.zip (x.drop (x.length - x.length % (4 * lanes)))
      (y.drop (x.length - x.length % (4 * lanes)))).length ≤ x.length % (4 * lanes) := by
    rw [List.length_zip, List.length_drop]
    have := Nat.mod_le x.length (4 * lanes)
    omega
  omega

theorem hsum128_ne {α : Type} (A : Arith α) (a : List α) (h : a.length ≠ 4) : hsum128 A a = A.zero := by
  unfold hsum128
  split
  · simp at h
  · rfl

theorem hsum256_ne {α : Type} (A : Arith α) (a : List α) (h : a.length ≠ 8) : hsum256 A a = A.zero := by
  unfold hsum256
  split
  · simp at h
  · rfl

theorem hsum128_rel' {A : Arith α} {C : Checks α} (hA : ChkModel A val C u) (k : Nat)
    (a : List (α × Bool)) (e b : List ℝ) (H : All3' (CRel val u k) a e b) :
    CRel val u (k + 2) (hsum128 (chkArith A C) a) (hsum128 (ringArith ℝ) e) (hsum128 (ringArith ℝ) b) := by
  by_cases hl : a.length = 4
  · match a, hl with
    | [x0, x1, x2, x3], _ =>
      obtain ⟨y0, e', z0, b', rfl, rfl, p0, H⟩ := H.cons_inv
      obtain ⟨y1, e', z1, b', rfl, rfl, p1, H⟩ := H.cons_inv
      obtain ⟨y2, e', z2, b', rfl, rfl, p2, H⟩ := H.cons_inv
      obtain ⟨y3, e', z3, b', rfl, rfl, p3, H⟩ := H.cons_inv
      obtain ⟨rfl, rfl⟩ := H.nil_inv
      exact CRel.add hA (CRel.add hA p0 p2) (CRel.add hA p1 p3)
  · have he : e.length ≠ 4 := by rw [H.length.1]; exact hl
    have hb : b.length ≠ 4 := by rw [H.length.2]; exact hl
    rw [hsum128_ne _ a hl, hsum128_ne _ e he, hsum128_ne _ b hb]
    exact CRel.zero u _ _ hA.zero

theorem hsum256_rel' {A : Arith α} {C : Checks α} (hA : ChkModel A val C u) (k : Nat)
    (a : List (α × Bool)) (e b : List ℝ) (H : All3' (CRel val u k) a e b) :
    CRel val u (k + 3) (hsum256 (chkArith A C) a) (hsum256 (ringArith ℝ) e) (hsum256 (ringArith ℝ) b) := by
  by_cases hl : a.length = 8
  · match a, hl with
    | [x0, x1, x2, x3, x4, x5, x6, x7], _ =>
      obtain ⟨y0, e', z0, b', rfl, rfl, p0, H⟩ := H.cons_inv
      obtain ⟨y1, e', z1, b', rfl, rfl, p1, H⟩ := H.cons_inv
      obtain ⟨y2, e', z2, b', rfl, rfl, p2, H⟩ := H.cons_inv
      obtain ⟨y3, e', z3, b', rfl, rfl, p3, H⟩ := H.cons_inv
      obtain ⟨y4, e', z4, b', rfl, rfl, p4, H⟩ := H.cons_inv
      obtain ⟨y5, e', z5, b', rfl, rfl, p5, H⟩ := H.cons_inv
      obtain ⟨y6, e', z6, b', rfl, rfl, p6, H⟩ := H.cons_inv
      obtain ⟨y7, e', z7, b', rfl, rfl, p7, H⟩ := H.cons_inv
      obtain ⟨rfl, rfl⟩ := H.nil_inv
      exact hsum128_rel' hA (k + 1) _ _ _
        (All3'.cons (CRel.add hA p4 p0) (All3'.cons (CRel.add hA p5 p1) (All3'.cons (CRel.add hA p6 p2)
          (All3'.cons (CRel.add hA p7 p3) All3'.nil))))
  · have he : e.length ≠ 8 := by rw [H.length.1]; exact hl
    have hb : b.length ≠ 8 := by rw [H.length.2]; exact hl
    rw [hsum256_ne _ a hl, hsum256_ne _ e he, hsum256_ne _ b hb]
    exact CRel.zero u _ _ hA.zero

end loops

end KernelRound
end Arroy
