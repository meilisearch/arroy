import ArroyProofs.KernelRoundChk
/-! The seven kernels under a checked standard model (`ChkModel`): if the flag of the instrumented run
is set, the plain run is within the standard-model bound of the exact value. -/
namespace Arroy
namespace KernelRound
open Kernel
variable {α : Type} {A : Arith α} {val : α → ℝ} {C : Checks α} {u : ℝ}

theorem scalar_crel (hA : ChkModel A val C u) (tm : α × Bool → α × Bool → α × Bool) (t : ℝ → ℝ → ℝ)
    (k0 : Nat)
    (hterm : ∀ k, k0 ≤ k → ∀ a b, CRel val u k (tm a b) (t (val a.1) (val b.1)) |t (val a.1) (val b.1)|) :
    ∀ (x y : List (α × Bool)) (k : Nat), k0 ≤ k → ∀ c e b, CRel val u k c e b →
      CRel val u (k + (List.zipWith tm x y).length)
        ((List.zipWith tm x y).foldl (chkArith A C).add c)
        (e + (List.zipWith t (x.map (fun c => val c.1)) (y.map (fun c => val c.1))).sum)
        (b + ((List.zipWith t (x.map (fun c => val c.1)) (y.map (fun c => val c.1))).map
          (fun z => |z|)).sum) := by
  intro x
  induction x with
  | nil => intro y k _ c e b H; simpa using H
  | cons a x ih =>
    intro y k hk c e b H
    cases y with
    | nil => simpa using H
    | cons b' y =>
      simp only [List.map_cons, List.zipWith_cons_cons, List.foldl_cons, List.length_cons,
        List.sum_cons]
      have := ih y (k + 1) (by omega) _ _ _ (CRel.add hA H (hterm k hk a b'))
      rw [show k + 1 + (List.zipWith tm x y).length = k + ((List.zipWith tm x y).length + 1) by omega,
        add_assoc, add_assoc] at this
      exact this

/-- a scalar kernel `Σ tm(xᵢ, yᵢ)` with terms of grade `k0` -/
theorem scalar_round_chk (hA : ChkModel A val C u) (tm : α × Bool → α × Bool → α × Bool)
    (tm' : α → α → α) (htm : ∀ a b, (tm a b).1 = tm' a.1 b.1) (t : ℝ → ℝ → ℝ) (k0 : Nat)
    (hterm : ∀ k, k0 ≤ k → ∀ a b, CRel val u k (tm a b) (t (val a.1) (val b.1)) |t (val a.1) (val b.1)|)
    (x y : List α) (n : Nat) (hx : x.length = n) (hy : y.length = n)
    (hrun : ((List.zipWith tm (chkIn x) (chkIn y)).foldl (chkArith A C).add (chkArith A C).sumInit).2 = true) :
    |val ((List.zipWith tm' x y).foldl A.add A.sumInit)
        - (List.zipWith (fun a b => t (val a) (val b)) x y).sum|
      ≤ ((1 + u)^(n + k0) - 1)
        * ((List.zipWith (fun a b => t (val a) (val b)) x y).map (fun z => |z|)).sum := by
  have H := scalar_crel hA tm t k0 hterm (chkIn x) (chkIn y) k0 (le_refl _) (chkArith A C).sumInit 0 0
    (CRel.zero u k0 _ hA.sumInit)
  have hnat := scalar_map Prod.fst (chk_fst_hom A C) tm tm' htm (chkIn x) (chkIn y)
  rw [chkIn_fst, chkIn_fst] at hnat
  have hl : (List.zipWith tm (chkIn x) (chkIn y)).length = n := by
    rw [List.length_zipWith, chkIn_length, chkIn_length, hx, hy, Nat.min_self]
  rw [hl, chkIn_val, chkIn_val, zero_add, zero_add, List.zipWith_map] at H
  have := H.1 hrun
  rw [← hnat] at this
  rw [Nat.add_comm n k0]
  exact this

theorem dotScalar_round_chk (hA : ChkModel A val C u) (x y : List α) (n : Nat)
    (hx : x.length = n) (hy : y.length = n)
    (hrun : (dotScalar (chkArith A C) (chkIn x) (chkIn y)).2 = true) :
    |val (dotScalar A x y) - (List.zipWith (fun a b => val a * val b) x y).sum|
      ≤ ((1 + u)^(n + 1) - 1) * ((List.zipWith (fun a b => val a * val b) x y).map (fun z => |z|)).sum :=
  scalar_round_chk hA (chkArith A C).mul A.mul (fun _ _ => rfl) (fun a b => a * b) 1
    (fun _ hk a b => mul_crel hA hk a b) x y n hx hy hrun

theorem euclidScalar_round_chk (hA : ChkModel A val C u) (x y : List α) (n : Nat)
    (hx : x.length = n) (hy : y.length = n)
    (hrun : (euclidScalar (chkArith A C) (chkIn x) (chkIn y)).2 = true) :
    |val (euclidScalar A x y) - (List.zipWith (fun a b => (val a - val b) * (val a - val b)) x y).sum|
      ≤ ((1 + u)^(n + 3) - 1)
        * ((List.zipWith (fun a b => (val a - val b) * (val a - val b)) x y).map (fun z => |z|)).sum :=
  scalar_round_chk hA
    (fun a b => (chkArith A C).mul ((chkArith A C).sub a b) ((chkArith A C).sub a b))
    (fun a b => A.mul (A.sub a b) (A.sub a b)) (fun _ _ => rfl) (fun a b => (a - b) * (a - b)) 3
    (fun _ hk a b => sq_crel hA hk a b) x y n hx hy hrun

/-- Manhattan distance with an `abs` that is exact on every checked difference -/
theorem manhattan_round_chk (hA : ChkModel A val C u) (absf : α → α)
    (habs : ∀ a b, C.sub a b = true → val (absf (A.sub a b)) = |val (A.sub a b)|)
    (x y : List α) (n : Nat) (hx : x.length = n) (hy : y.length = n)
    (hrun : (manhattanWith (chkArith A C) (fun c => (absf c.1, c.2)) (chkIn x) (chkIn y)).2 = true) :
    |val (manhattanWith A absf x y) - (List.zipWith (fun a b => |val a - val b|) x y).sum|
      ≤ ((1 + u)^(n + 1) - 1)
        * ((List.zipWith (fun a b => |val a - val b|) x y).map (fun z => |z|)).sum := by
  refine scalar_round_chk hA
    (fun a b => ((absf ((chkArith A C).sub a b).1, ((chkArith A C).sub a b).2) : α × Bool))
    (fun a b => absf (A.sub a b)) (fun _ _ => rfl) (fun a b => |a - b|) 1
    (fun k hk a b => ?_) x y n hx hy hrun
  refine CRel.of_rel (le_refl _) ?_
  intro hc
  have hc' : ((chkArith A C).sub a b).2 = true := hc
  obtain ⟨_, _, f3⟩ := and3_true hc'
  obtain ⟨δ, hδ, h⟩ := hA.sub a.1 b.1 f3
  show Rel u k (val (absf (A.sub a.1 b.1))) _ _
  rw [habs _ _ f3, abs_abs]
  exact (round_rel hA.u_nonneg hk hδ h).abs

theorem map_abs_zipWith (t : ℝ → ℝ → ℝ) (x y : List ℝ) :
    (List.zipWith (fun a b => |t a b|) x y) = (List.zipWith t x y).map (fun z => |z|) := by
  rw [List.map_zipWith]

/-- a kernel of the SSE/AVX shape with lane step `tm a b + acc` and remainder step `r + tm a b` of grade
`k0`, and a horizontal sum of depth `hk` that adds up its lanes: if the flag of the instrumented run is
set, the plain run `r'` is within `(1+u)^K − 1` of `Σ tm(xᵢ, yᵢ)`,
`K = k0 + n/(4·lanes) + hk + 3 + n mod (4·lanes)` -/
theorem simd_round_chk (hA : ChkModel A val C u) (lanes : Nat) (hl : 0 < lanes)
    (s : α × Bool → α × Bool → α × Bool → α × Bool) (hs : List (α × Bool) → α × Bool) (hsE : List ℝ → ℝ)
    (t : α × Bool → α × Bool → α × Bool → α × Bool) (tm : ℝ → ℝ → ℝ) (k0 hk : Nat)
    (hstep : ∀ k, k0 ≤ k → ∀ a b c e bb, CRel val u k c e bb →
      CRel val u (k + 1) (s a b c) (tm (val a.1) (val b.1) + e) (|tm (val a.1) (val b.1)| + bb))
    (hhsum : ∀ k a e b, All3' (CRel val u k) a e b → CRel val u (k + hk) (hs a) (hsE e) (hsE b))
    (htail : ∀ k, k0 ≤ k → ∀ a b c e bb, CRel val u k c e bb →
      CRel val u (k + 1) (t c a b) (e + tm (val a.1) (val b.1)) (bb + |tm (val a.1) (val b.1)|))
    (hh : ∀ a : List ℝ, a.length = lanes → hsE a = a.sum)
    (x y : List α) (hlen : x.length = y.length) (r' : α)
    (hr : r' = (simd (chkArith A C) lanes s hs t (chkIn x) (chkIn y)).1)
    (hrun : (simd (chkArith A C) lanes s hs t (chkIn x) (chkIn y)).2 = true) :
    |val r' - (List.zipWith (fun a b => tm (val a) (val b)) x y).sum|
      ≤ ((1 + u)^(k0 + x.length / (4 * lanes) + hk + 3 + x.length % (4 * lanes)) - 1)
        * ((List.zipWith (fun a b => tm (val a) (val b)) x y).map (fun z => |z|)).sum := by
  have H := simd_rel' hA lanes hl s (fun a b e => tm a b + e) (fun a b bb => |tm a b| + bb) hs hsE t
    (fun r a b => r + tm a b) (fun r a b => r + |tm a b|) k0 hk hstep hhsum htail (chkIn x) (chkIn y)
  have hlen' : (x.map val).length = (y.map val).length := by simp [hlen]
  have e1 := KernelCover.simd_sum lanes hl (fun a b e => tm a b + e) hsE (fun r a b => r + tm a b) tm
    (fun _ _ _ => rfl) hh (fun _ _ _ => rfl) (x.map val) (y.map val) hlen'
  have e2 := KernelCover.simd_sum lanes hl (fun a b bb => |tm a b| + bb) hsE (fun r a b => r + |tm a b|)
    (fun a b => |tm a b|) (fun _ _ _ => rfl) hh (fun _ _ _ => rfl) (x.map val) (y.map val) hlen'
  rw [chkIn_length, chkIn_val, chkIn_val, e1, e2, map_abs_zipWith, List.zipWith_map] at H
  rw [hr]
  exact H.1 hrun

theorem dotSse_round_chk (hA : ChkModel A val C u) (x y : List α) (hlen : x.length = y.length)
    (hrun : (dotSse (chkArith A C) (chkIn x) (chkIn y)).2 = true) :
    |val (dotSse A x y) - (List.zipWith (fun a b => val a * val b) x y).sum|
      ≤ ((1 + u)^(x.length / 16 + x.length % 16 + 6) - 1)
        * ((List.zipWith (fun a b => val a * val b) x y).map (fun z => |z|)).sum := by
  have hnat := dotSse_map Prod.fst (chk_fst_hom A C) (chkIn x) (chkIn y)
  rw [chkIn_fst, chkIn_fst] at hnat
  have h := simd_round_chk hA 4 (by decide)
    (fun a b acc => (chkArith A C).add ((chkArith A C).mul a b) acc)
    (hsum128 (chkArith A C)) (hsum128 (ringArith ℝ))
    (fun r a b => (chkArith A C).add r ((chkArith A C).mul a b)) (fun a b => a * b) 1 2
    (fun k hk a b c e bb h => CRel.add hA (mul_crel hA hk a b) h)
    (fun k a e b h => hsum128_rel' hA k a e b h)
    (fun k hk a b c e bb h => CRel.add hA h (mul_crel hA hk a b))
    KernelCover.hsum128_sum x y hlen _ hnat hrun
  rwa [show 1 + x.length / (4 * 4) + 2 + 3 + x.length % (4 * 4) = x.length / 16 + x.length % 16 + 6
    by omega] at h

theorem euclidSse_round_chk (hA : ChkModel A val C u) (x y : List α) (hlen : x.length = y.length)
    (hrun : (euclidSse (chkArith A C) (chkIn x) (chkIn y)).2 = true) :
    |val (euclidSse A x y) - (List.zipWith (fun a b => (val a - val b) * (val a - val b)) x y).sum|
      ≤ ((1 + u)^(x.length / 16 + x.length % 16 + 8) - 1)
        * ((List.zipWith (fun a b => (val a - val b) * (val a - val b)) x y).map (fun z => |z|)).sum := by
  have hnat := euclidSse_map Prod.fst (chk_fst_hom A C) (chkIn x) (chkIn y)
  rw [chkIn_fst, chkIn_fst] at hnat
  have h := simd_round_chk hA 4 (by decide)
    (fun a b acc => (chkArith A C).add
      ((chkArith A C).mul ((chkArith A C).sub a b) ((chkArith A C).sub a b)) acc)
    (hsum128 (chkArith A C)) (hsum128 (ringArith ℝ))
    (fun r a b => (chkArith A C).add r
      ((chkArith A C).mul ((chkArith A C).sub a b) ((chkArith A C).sub a b)))
    (fun a b => (a - b) * (a - b)) 3 2
    (fun k hk a b c e bb h => CRel.add hA (sq_crel hA hk a b) h)
    (fun k a e b h => hsum128_rel' hA k a e b h)
    (fun k hk a b c e bb h => CRel.add hA h (sq_crel hA hk a b))
    KernelCover.hsum128_sum x y hlen _ hnat hrun
  rwa [show 3 + x.length / (4 * 4) + 2 + 3 + x.length % (4 * 4) = x.length / 16 + x.length % 16 + 8
    by omega] at h

theorem dotAvx_round_chk (hA : ChkModel A val C u) (x y : List α) (hlen : x.length = y.length)
    (hrun : (dotAvx (chkArith A C) (chkIn x) (chkIn y)).2 = true) :
    |val (dotAvx A x y) - (List.zipWith (fun a b => val a * val b) x y).sum|
      ≤ ((1 + u)^(x.length / 32 + x.length % 32 + 7) - 1)
        * ((List.zipWith (fun a b => val a * val b) x y).map (fun z => |z|)).sum := by
  have hnat := dotAvx_map Prod.fst (chk_fst_hom A C) (chkIn x) (chkIn y)
  rw [chkIn_fst, chkIn_fst] at hnat
  have h := simd_round_chk hA 8 (by decide)
    (fun a b acc => (chkArith A C).fma a b acc)
    (hsum256 (chkArith A C)) (hsum256 (ringArith ℝ))
    (fun r a b => (chkArith A C).add r ((chkArith A C).mul a b)) (fun a b => a * b) 1 3
    (fun k _ a b c e bb h => fma_crel hA a b c (fun _ _ => exact_rel hA.u_nonneg k _) h)
    (fun k a e b h => hsum256_rel' hA k a e b h)
    (fun k hk a b c e bb h => CRel.add hA h (mul_crel hA hk a b))
    KernelCover.hsum256_sum x y hlen _ hnat hrun
  rwa [show 1 + x.length / (4 * 8) + 3 + 3 + x.length % (4 * 8) = x.length / 32 + x.length % 32 + 7
    by omega] at h

theorem euclidAvx_round_chk (hA : ChkModel A val C u) (x y : List α) (hlen : x.length = y.length)
    (hrun : (euclidAvx (chkArith A C) (chkIn x) (chkIn y)).2 = true) :
    |val (euclidAvx A x y) - (List.zipWith (fun a b => (val a - val b) * (val a - val b)) x y).sum|
      ≤ ((1 + u)^(x.length / 32 + x.length % 32 + 9) - 1)
        * ((List.zipWith (fun a b => (val a - val b) * (val a - val b)) x y).map (fun z => |z|)).sum := by
  have hnat := euclidAvx_map Prod.fst (chk_fst_hom A C) (chkIn x) (chkIn y)
  rw [chkIn_fst, chkIn_fst] at hnat
  have h := simd_round_chk hA 8 (by decide)
    (fun a b acc => (chkArith A C).fma ((chkArith A C).sub a b) ((chkArith A C).sub a b) acc)
    (hsum256 (chkArith A C)) (hsum256 (ringArith ℝ))
    (fun r a b => (chkArith A C).add r
      ((chkArith A C).mul ((chkArith A C).sub a b) ((chkArith A C).sub a b)))
    (fun a b => (a - b) * (a - b)) 3 3
    (fun k hk a b c e bb h =>
      fma_crel hA ((chkArith A C).sub a b) ((chkArith A C).sub a b) c
        (fun f _ => dd_crel hA (by omega) a b f) h)
    (fun k a e b h => hsum256_rel' hA k a e b h)
    (fun k hk a b c e bb h => CRel.add hA h (sq_crel hA hk a b))
    KernelCover.hsum256_sum x y hlen _ hnat hrun
  rwa [show 3 + x.length / (4 * 8) + 3 + 3 + x.length % (4 * 8) = x.length / 32 + x.length % 32 + 9
    by omega] at h

end KernelRound
end Arroy
