import ArroyProofs.KernelRound
/-! The standard model of floating-point arithmetic as a CONDITIONAL property of an arbitrary carrier
(`StdModelOn`): the arithmetic works on `α` (e.g. bit patterns), `val : α → ℝ` gives the real value,
`ok` marks the values the model speaks about (finite ones) and `P` the exact results it covers (zero or
in the normal range). The error bounds of the scalar loops relative to it; the hypotheses are explicit
conditions on the intermediate exact results of the run.  They are not instances of the checked bounds of
`KernelRoundChkKernels`: a check of `f32Checks` is sufficient, not necessary, for its side condition (it rejects the
top binade), so `PartialSumsOK` does not give the flag, and these theorems also conclude that the result is `ok`. -/
namespace Arroy

/-- every operation on `ok` operands whose exact result satisfies `P` returns an `ok` value equal to the
exact result times `(1 + δ)`, `|δ| ≤ u` -/
structure StdModelOn {α : Type} (A : Arith α) (val : α → ℝ) (ok : α → Prop) (P : ℝ → Prop) (u : ℝ) : Prop where
  u_nonneg : 0 ≤ u
  sumInit : ok A.sumInit ∧ val A.sumInit = 0
  zero : ok A.zero ∧ val A.zero = 0
  add : ∀ x y, ok x → ok y → P (val x + val y) →
    ok (A.add x y) ∧ ∃ δ : ℝ, |δ| ≤ u ∧ val (A.add x y) = (val x + val y) * (1 + δ)
  sub : ∀ x y, ok x → ok y → P (val x - val y) →
    ok (A.sub x y) ∧ ∃ δ : ℝ, |δ| ≤ u ∧ val (A.sub x y) = (val x - val y) * (1 + δ)
  mul : ∀ x y, ok x → ok y → P (val x * val y) →
    ok (A.mul x y) ∧ ∃ δ : ℝ, |δ| ≤ u ∧ val (A.mul x y) = (val x * val y) * (1 + δ)
  fma : ∀ x y z, ok x → ok y → ok z → P (val x * val y + val z) →
    ok (A.fma x y z) ∧ ∃ δ : ℝ, |δ| ≤ u ∧ val (A.fma x y z) = (val x * val y + val z) * (1 + δ)

/-- the unconditional model is the instance `val = id`, no side conditions -/
theorem StdModel.toOn {A : Arith ℝ} {u : ℝ} (h : StdModel A u) :
    StdModelOn A id (fun _ => True) (fun _ => True) u where
  u_nonneg := h.u_nonneg
  sumInit := ⟨trivial, h.sumInit⟩
  zero := ⟨trivial, h.zero⟩
  add := fun x y _ _ _ => ⟨trivial, h.add x y⟩
  sub := fun x y _ _ _ => ⟨trivial, h.sub x y⟩
  mul := fun x y _ _ _ => ⟨trivial, h.mul x y⟩
  fma := fun x y z _ _ _ _ => ⟨trivial, h.fma x y z⟩

namespace KernelRound
variable {α : Type}

/-- every exact partial sum `fl(a + l₀ + … + l_{k-1}) + l_k` of the recursive summation of `l`
starting from `a` satisfies `P` -/
def PartialSumsOK (A : Arith α) (val : α → ℝ) (P : ℝ → Prop) : α → List α → Prop
  | _, [] => True
  | a, x :: xs => P (val a + val x) ∧ PartialSumsOK A val P (A.add a x) xs

/-- the loop of a scalar kernel `Σ tm(xᵢ, yᵢ)` from an accumulator `c` of grade `k`: every term is `ok`
and of grade `k0 ≤ k` whenever its side condition `C` (the model covers the exact intermediate results
of the term) holds, every partial sum is covered by the model -/
theorem scalar_rel_on {A : Arith α} {val : α → ℝ} {ok : α → Prop} {P : ℝ → Prop} {u : ℝ}
    (hA : StdModelOn A val ok P u) (tm : α → α → α) (ex : ℝ → ℝ → ℝ) (C : α → α → Prop) (k0 : Nat)
    (htm : ∀ a b, ok a → ok b → C a b →
      ok (tm a b) ∧ Rel u k0 (val (tm a b)) (ex (val a) (val b)) |ex (val a) (val b)|) :
    ∀ (x y : List α), (∀ a ∈ x, ok a) → (∀ b ∈ y, ok b) → (∀ p ∈ List.zip x y, C p.1 p.2) →
      ∀ (k : Nat) (c : α) (e b : ℝ), k0 ≤ k → ok c → Rel u k (val c) e b →
      PartialSumsOK A val P c (List.zipWith tm x y) →
      ok ((List.zipWith tm x y).foldl A.add c) ∧
      Rel u (k + (List.zipWith tm x y).length) (val ((List.zipWith tm x y).foldl A.add c))
        (e + (List.zipWith (fun a b => ex (val a) (val b)) x y).sum)
        (b + ((List.zipWith (fun a b => ex (val a) (val b)) x y).map (fun t => |t|)).sum) := by
  intro x
  induction x with
  | nil => intro y _ _ _ k c e b _ hc H _; simpa using ⟨hc, H⟩
  | cons a x ih =>
    intro y hx hy hp k c e b hk hc H hS
    cases y with
    | nil => simpa using ⟨hc, H⟩
    | cons b' y =>
      obtain ⟨tok, trel⟩ := htm a b' (hx a (List.mem_cons_self ..)) (hy b' (List.mem_cons_self ..))
        (hp (a, b') (by simp))
      obtain ⟨hP1, hP2⟩ := hS
      obtain ⟨sok, δ, hδ, hadd⟩ := hA.add c (tm a b') hc tok hP1
      have step := Rel.addlike hA.u_nonneg H (trel.mono hA.u_nonneg hk) hδ hadd
      have := ih y (fun z hz => hx z (List.mem_cons_of_mem _ hz))
        (fun z hz => hy z (List.mem_cons_of_mem _ hz))
        (fun p hp' => hp p (by simp only [List.zip_cons_cons, List.mem_cons]; exact Or.inr hp'))
        (k + 1) _ _ _ (by omega) sok step hP2
      simp only [List.zipWith_cons_cons, List.foldl_cons, List.length_cons, List.sum_cons, List.map_cons]
      rw [show k + ((List.zipWith tm x y).length + 1) = k + 1 + (List.zipWith tm x y).length by omega,
        ← add_assoc, ← add_assoc]
      exact this

/-- a scalar kernel `Σ tm(xᵢ, yᵢ)` summed from `sumInit`: relative error `(1+u)^(n+k0) − 1` -/
theorem scalar_kernel_on {A : Arith α} {val : α → ℝ} {ok : α → Prop} {P : ℝ → Prop} {u : ℝ}
    (hA : StdModelOn A val ok P u) (tm : α → α → α) (ex : ℝ → ℝ → ℝ) (C : α → α → Prop) (k0 : Nat)
    (htm : ∀ a b, ok a → ok b → C a b →
      ok (tm a b) ∧ Rel u k0 (val (tm a b)) (ex (val a) (val b)) |ex (val a) (val b)|)
    (x y : List α) (n : Nat) (hx : x.length = n) (hy : y.length = n)
    (okx : ∀ a ∈ x, ok a) (oky : ∀ b ∈ y, ok b)
    (hterm : ∀ p ∈ List.zip x y, C p.1 p.2)
    (hsum : PartialSumsOK A val P A.sumInit (List.zipWith tm x y)) :
    ok ((List.zipWith tm x y).foldl A.add A.sumInit) ∧
    |val ((List.zipWith tm x y).foldl A.add A.sumInit)
        - (List.zipWith (fun a b => ex (val a) (val b)) x y).sum|
      ≤ ((1 + u) ^ (n + k0) - 1)
        * ((List.zipWith (fun a b => ex (val a) (val b)) x y).map (fun t => |t|)).sum := by
  have h0 : Rel u k0 (val A.sumInit) 0 0 := by rw [hA.sumInit.2]; exact Rel.zero u k0
  obtain ⟨fok, H⟩ := scalar_rel_on hA tm ex C k0 htm x y okx oky hterm k0 A.sumInit 0 0 (le_refl _)
    hA.sumInit.1 h0 hsum
  have hl : (List.zipWith tm x y).length = n := by rw [List.length_zipWith, hx, hy, Nat.min_self]
  rw [hl, zero_add, zero_add, Nat.add_comm] at H
  exact ⟨fok, H.1⟩

/-- scalar dot product, conditional model:
`|fl(Σ xᵢyᵢ) − Σ xᵢyᵢ| ≤ ((1+u)^(n+1) − 1) · Σ|xᵢyᵢ|` when every exact product and every exact
partial sum of the run is covered by the model -/
theorem dotScalar_round_on {A : Arith α} {val : α → ℝ} {ok : α → Prop} {P : ℝ → Prop} {u : ℝ}
    (hA : StdModelOn A val ok P u) (x y : List α) (n : Nat)
    (hx : x.length = n) (hy : y.length = n)
    (okx : ∀ a ∈ x, ok a) (oky : ∀ b ∈ y, ok b)
    (hprod : ∀ p ∈ List.zip x y, P (val p.1 * val p.2))
    (hsum : PartialSumsOK A val P A.sumInit (List.zipWith A.mul x y)) :
    ok (Kernel.dotScalar A x y) ∧
    |val (Kernel.dotScalar A x y) - (List.zipWith (fun a b => val a * val b) x y).sum|
      ≤ ((1 + u)^(n + 1) - 1) * ((List.zipWith (fun a b => val a * val b) x y).map (fun t => |t|)).sum :=
  scalar_kernel_on hA A.mul (fun a b => a * b) (fun a b => P (val a * val b)) 1
    (fun a b ha hb hc => by
      obtain ⟨mok, δ, hδ, hm⟩ := hA.mul a b ha hb hc
      exact ⟨mok, round_rel hA.u_nonneg (le_refl 1) hδ hm⟩)
    x y n hx hy okx oky hprod hsum

theorem euclidScalar_round_on {A : Arith α} {val : α → ℝ} {ok : α → Prop} {P : ℝ → Prop} {u : ℝ}
    (hA : StdModelOn A val ok P u) (x y : List α) (n : Nat)
    (hx : x.length = n) (hy : y.length = n)
    (okx : ∀ a ∈ x, ok a) (oky : ∀ b ∈ y, ok b)
    (hterm : ∀ p ∈ List.zip x y,
      P (val p.1 - val p.2) ∧ P (val (A.sub p.1 p.2) * val (A.sub p.1 p.2)))
    (hsum : PartialSumsOK A val P A.sumInit
      (List.zipWith (fun a b => A.mul (A.sub a b) (A.sub a b)) x y)) :
    ok (Kernel.euclidScalar A x y) ∧
    |val (Kernel.euclidScalar A x y)
        - (List.zipWith (fun a b => (val a - val b) * (val a - val b)) x y).sum|
      ≤ ((1 + u)^(n + 3) - 1)
        * ((List.zipWith (fun a b => (val a - val b) * (val a - val b)) x y).map (fun t => |t|)).sum :=
  scalar_kernel_on hA (fun a b => A.mul (A.sub a b) (A.sub a b)) (fun a b => (a - b) * (a - b))
    (fun a b => P (val a - val b) ∧ P (val (A.sub a b) * val (A.sub a b))) 3
    (fun a b ha hb hc => by
      obtain ⟨sok, δ1, hδ1, h1⟩ := hA.sub a b ha hb hc.1
      obtain ⟨mok, δ2, hδ2, h2⟩ := hA.mul (A.sub a b) (A.sub a b) sok sok hc.2
      exact ⟨mok, sq_rel hA.u_nonneg (le_refl 3) hδ1 hδ2 h1 h2⟩)
    x y n hx hy okx oky hterm hsum

theorem manhattan_round_on {A : Arith α} {val : α → ℝ} {ok : α → Prop} {P : ℝ → Prop} {u : ℝ}
    (hA : StdModelOn A val ok P u) (absf : α → α)
    (habs : ∀ t, ok t → ok (absf t) ∧ val (absf t) = |val t|)
    (x y : List α) (n : Nat)
    (hx : x.length = n) (hy : y.length = n)
    (okx : ∀ a ∈ x, ok a) (oky : ∀ b ∈ y, ok b)
    (hterm : ∀ p ∈ List.zip x y, P (val p.1 - val p.2))
    (hsum : PartialSumsOK A val P A.sumInit (List.zipWith (fun a b => absf (A.sub a b)) x y)) :
    ok (Kernel.manhattanWith A absf x y) ∧
    |val (Kernel.manhattanWith A absf x y) - (List.zipWith (fun a b => |val a - val b|) x y).sum|
      ≤ ((1 + u)^(n + 1) - 1)
        * ((List.zipWith (fun a b => |val a - val b|) x y).map (fun t => |t|)).sum :=
  scalar_kernel_on hA (fun a b => absf (A.sub a b)) (fun a b => |a - b|)
    (fun a b => P (val a - val b)) 1
    (fun a b ha hb hc => by
      obtain ⟨sok, δ, hδ, hs⟩ := hA.sub a b ha hb hc
      obtain ⟨aok, av⟩ := habs _ sok
      rw [av, abs_abs]
      exact ⟨aok, (round_rel hA.u_nonneg (le_refl 1) hδ hs).abs⟩)
    x y n hx hy okx oky hterm hsum

end KernelRound
end Arroy
