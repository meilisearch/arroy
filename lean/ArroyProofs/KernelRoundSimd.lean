import ArroyProofs.KernelRoundChkKernels
/-! The unconditional standard model (`StdModel`, C11_round) as the instance of the checked model in
which every check passes: the seven kernels over `ℝ` are within the standard-model bound of the exact
sums. -/
namespace Arroy

def noChecks (α : Type) : Checks α where
  add := fun _ _ => true
  sub := fun _ _ => true
  mul := fun _ _ => true
  fma := fun _ _ _ => true

theorem StdModel.toChk {A : Arith ℝ} {u : ℝ} (h : StdModel A u) : ChkModel A id (noChecks ℝ) u where
  u_nonneg := h.u_nonneg
  sumInit := h.sumInit
  zero := h.zero
  add := fun x y _ => h.add x y
  sub := fun x y _ => h.sub x y
  mul := fun x y _ => h.mul x y
  fma := fun x y z _ => h.fma x y z

/-- without checks the instrumented run is the plain run with the flag set -/
theorem noChecks_hom {α : Type} (A : Arith α) :
    ArithHom (fun a => (a, true)) A (chkArith A (noChecks α)) where
  zero := rfl
  sumInit := rfl
  add := fun _ _ => rfl
  sub := fun _ _ => rfl
  mul := fun _ _ => rfl
  fma := fun _ _ _ => rfl

namespace KernelRound
open Kernel

inductive All3 (P : ℝ → ℝ → ℝ → Prop) : List ℝ → List ℝ → List ℝ → Prop
  | nil : All3 P [] [] []
  | cons {a b c : ℝ} {as bs cs : List ℝ} : P a b c → All3 P as bs cs → All3 P (a :: as) (b :: bs) (c :: cs)

theorem All3.length {P : ℝ → ℝ → ℝ → Prop} : ∀ {as bs cs}, All3 P as bs cs →
    bs.length = as.length ∧ cs.length = as.length := by
  intro as bs cs H
  induction H with
  | nil => exact ⟨rfl, rfl⟩
  | cons _ _ ih => simp [ih.1, ih.2]

variable {A : Arith ℝ} {u : ℝ}

theorem dotScalar_round (hA : StdModel A u) (x y : List ℝ) (n : Nat)
    (hx : x.length = n) (hy : y.length = n) :
    |Kernel.dotScalar A x y - (List.zipWith (· * ·) x y).sum|
      ≤ ((1 + u)^(n + 1) - 1) * ((List.zipWith (· * ·) x y).map (fun t => |t|)).sum :=
  dotScalar_round_chk hA.toChk x y n hx hy
    (congrArg Prod.snd (dotScalar_map _ (noChecks_hom A) x y))

theorem euclidScalar_round (hA : StdModel A u) (x y : List ℝ) (n : Nat)
    (hx : x.length = n) (hy : y.length = n) :
    |Kernel.euclidScalar A x y - (List.zipWith (fun a b => (a - b) * (a - b)) x y).sum|
      ≤ ((1 + u)^(n + 3) - 1) * ((List.zipWith (fun a b => (a - b) * (a - b)) x y).map (fun t => |t|)).sum :=
  euclidScalar_round_chk hA.toChk x y n hx hy
    (congrArg Prod.snd (euclidScalar_map _ (noChecks_hom A) x y))

theorem manhattan_round (hA : StdModel A u) (x y : List ℝ) (n : Nat)
    (hx : x.length = n) (hy : y.length = n) :
    |Kernel.manhattanWith A (fun t => |t|) x y - (List.zipWith (fun a b => |a - b|) x y).sum|
      ≤ ((1 + u)^(n + 1) - 1) * ((List.zipWith (fun a b => |a - b|) x y).map (fun t => |t|)).sum :=
  manhattan_round_chk hA.toChk (fun t => |t|) (fun _ _ _ => rfl) x y n hx hy
    (congrArg Prod.snd (manhattanWith_map _ (noChecks_hom A) (fun t => |t|) (fun c => (|c.1|, c.2))
      (fun _ => rfl) x y))

theorem dotSse_round (hA : StdModel A u) (x y : List ℝ) (hlen : x.length = y.length) :
    |dotSse A x y - (List.zipWith (· * ·) x y).sum|
      ≤ ((1 + u)^(x.length / 16 + x.length % 16 + 6) - 1)
        * ((List.zipWith (· * ·) x y).map (fun z => |z|)).sum :=
  dotSse_round_chk hA.toChk x y hlen (congrArg Prod.snd (dotSse_map _ (noChecks_hom A) x y))

theorem euclidSse_round (hA : StdModel A u) (x y : List ℝ) (hlen : x.length = y.length) :
    |euclidSse A x y - (List.zipWith (fun a b => (a - b) * (a - b)) x y).sum|
      ≤ ((1 + u)^(x.length / 16 + x.length % 16 + 8) - 1)
        * ((List.zipWith (fun a b => (a - b) * (a - b)) x y).map (fun z => |z|)).sum :=
  euclidSse_round_chk hA.toChk x y hlen (congrArg Prod.snd (euclidSse_map _ (noChecks_hom A) x y))

theorem dotAvx_round (hA : StdModel A u) (x y : List ℝ) (hlen : x.length = y.length) :
    |dotAvx A x y - (List.zipWith (· * ·) x y).sum|
      ≤ ((1 + u)^(x.length / 32 + x.length % 32 + 7) - 1)
        * ((List.zipWith (· * ·) x y).map (fun z => |z|)).sum :=
  dotAvx_round_chk hA.toChk x y hlen (congrArg Prod.snd (dotAvx_map _ (noChecks_hom A) x y))

theorem euclidAvx_round (hA : StdModel A u) (x y : List ℝ) (hlen : x.length = y.length) :
    |euclidAvx A x y - (List.zipWith (fun a b => (a - b) * (a - b)) x y).sum|
      ≤ ((1 + u)^(x.length / 32 + x.length % 32 + 9) - 1)
        * ((List.zipWith (fun a b => (a - b) * (a - b)) x y).map (fun z => |z|)).sum :=
  euclidAvx_round_chk hA.toChk x y hlen (congrArg Prod.snd (euclidAvx_map _ (noChecks_hom A) x y))

end KernelRound
end Arroy
