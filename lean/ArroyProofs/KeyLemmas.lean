import ArroyModel.Key
/-! Helper lemmas about `ArroyModel/Bytes.lean` and `Key.lean`: `chunks`, the big- and little-endian encodings,
byte order. -/
namespace Arroy

theorem Key.lt_iff (a b : Key) : a.lt b = true ↔
    a.index < b.index ∨ (a.index = b.index ∧ (a.mode < b.mode ∨ (a.mode = b.mode ∧ a.item < b.item))) := by
  simp [Key.lt]

theorem be_length (w n : Nat) : (be w n).length = w := by
  induction w generalizing n with
  | zero => rfl
  | succ w ih => simp [be, ih]

theorem le_length (w n : Nat) : (le w n).length = w := by
  induction w generalizing n with
  | zero => rfl
  | succ w ih => simp [le, ih]

theorem be_one {n : Nat} (h : n < 256) : be 1 n = [n] := by
  simp only [be, Nat.pow_zero, Nat.div_one, Nat.mod_eq_of_lt h]

theorem lexLt_irrefl (l : Bytes) : lexLt l l = false := by
  induction l with
  | nil => rfl
  | cons x xs ih => simp [lexLt, ih]

theorem lexLt_append {a b c d : Bytes} (h : a.length = b.length) :
    lexLt (a ++ c) (b ++ d) = (lexLt a b || (a == b && lexLt c d)) := by
  induction a generalizing b with
  | nil => cases b with
    | nil => simp [lexLt]
    | cons _ _ => simp at h
  | cons x xs ih => cases b with
    | nil => simp at h
    | cons y ys =>
      simp only [List.length_cons, Nat.add_right_cancel_iff] at h
      simp only [List.cons_append, lexLt, ih h]
      by_cases hxy : x = y
      · subst hxy; simp
      · have : (x == y) = false := by simpa using hxy
        simp [this]

/-- the leading byte of a `w + 1`-byte number -/
theorem div_pow_lt {n w : Nat} (h : n < 256^(w + 1)) : n / 256^w < 256 := by
  rw [Nat.div_lt_iff_lt_mul (Nat.pow_pos (by decide)), Nat.mul_comm, ← Nat.pow_succ]; exact h

theorem be_lt (w a b : Nat) (ha : a < 256^w) (hb : b < 256^w) :
    lexLt (be w a) (be w b) = decide (a < b) := by
  induction w generalizing a b with
  | zero => simp at ha hb; subst ha hb; simp [be, lexLt]
  | succ w ih =>
    simp only [be, lexLt]
    have hpos : 0 < 256^w := Nat.pow_pos (by decide)
    rw [Nat.mod_eq_of_lt (div_pow_lt ha), Nat.mod_eq_of_lt (div_pow_lt hb), ih _ _ (Nat.mod_lt _ hpos) (Nat.mod_lt _ hpos)]
    have ea := Nat.div_add_mod a (256^w)
    have eb := Nat.div_add_mod b (256^w)
    have ma := Nat.mod_lt a hpos
    have mb := Nat.mod_lt b hpos
    generalize a / 256^w = qa at *
    generalize b / 256^w = qb at *
    generalize a % 256^w = ra at *
    generalize b % 256^w = rb at *
    generalize 256^w = m at *
    subst ea eb
    by_cases h1 : qa < qb
    · have : m * qa + ra < m * qb + rb := by
        have : m * (qa + 1) ≤ m * qb := Nat.mul_le_mul_left m h1
        rw [Nat.mul_add] at this; omega
      simp [h1, this]
    · by_cases h2 : qa = qb
      · subst h2
        simp only [Nat.lt_irrefl, decide_false, beq_self_eq_true, Bool.true_and, Bool.false_or]
        congr 1; apply propext; constructor <;> intro h <;> omega
      · have h3 : qb < qa := by omega
        have : ¬ (m * qa + ra < m * qb + rb) := by
          have : m * (qb + 1) ≤ m * qa := Nat.mul_le_mul_left m h3
          rw [Nat.mul_add] at this; omega
        have hbeq : (qa == qb) = false := by simpa using h2
        simp [h1, hbeq, this]

theorem be_inj (w a b : Nat) (ha : a < 256^w) (hb : b < 256^w) (h : be w a = be w b) : a = b := by
  have h1 := be_lt w a b ha hb
  have h2 := be_lt w b a hb ha
  rw [h] at h1
  rw [lexLt_irrefl] at h1
  rw [← h, lexLt_irrefl] at h2
  have : ¬ a < b := by simpa using h1.symm
  have : ¬ b < a := by simpa using h2.symm
  omega

theorem beq_be (w a b : Nat) (ha : a < 256^w) (hb : b < 256^w) : (be w a == be w b) = (a == b) := by
  by_cases h : a = b
  · subst h; simp
  · have h1 : be w a ≠ be w b := fun e => h (be_inj w a b ha hb e)
    rw [beq_eq_false_iff_ne.2 h1, beq_eq_false_iff_ne.2 h]

theorem foldl_be (acc : Nat) (w n : Nat) (hn : n < 256^w) :
    (be w n).foldl (fun acc b => acc * 256 + b) acc = acc * 256^w + n := by
  induction w generalizing acc n with
  | zero => simp at hn; subst hn; simp [be]
  | succ w ih =>
    have hpos : 0 < 256^w := Nat.pow_pos (by decide)
    simp only [be, List.foldl_cons]
    rw [ih _ _ (Nat.mod_lt _ hpos), Nat.mod_eq_of_lt (div_pow_lt hn)]
    have := Nat.div_add_mod n (256^w)
    rw [Nat.pow_succ, Nat.add_mul, Nat.mul_assoc]
    rw [Nat.mul_comm 256 (256^w)]
    rw [Nat.mul_comm (n / 256^w)]
    omega

theorem ofBe_be (w n : Nat) (hn : n < 256^w) : ofBe (be w n) = n := by
  unfold ofBe; rw [foldl_be 0 w n hn]; simp

theorem ofLe_le (w n : Nat) (hn : n < 256^w) : ofLe (le w n) = n := by
  induction w generalizing n with
  | zero => simp at hn; subst hn; rfl
  | succ w ih =>
    simp only [le, ofLe]
    have : n / 256 < 256^w := by
      rw [Nat.div_lt_iff_lt_mul (by decide)]; rw [Nat.pow_succ] at hn; exact hn
    rw [ih _ this]
    have := Nat.div_add_mod n 256
    omega

namespace Kernel

theorem chunks_nil {α : Type _} (k : Nat) : chunks k ([] : List α) = [] := by
  rw [chunks]; simp

theorem chunks_cons {α : Type _} {k : Nat} (hk : 0 < k) {l : List α} (hl : l ≠ []) :
    chunks k l = l.take k :: chunks k (l.drop k) := by
  rw [chunks]
  have : ¬ (k = 0 ∨ l = []) := by
    intro h; cases h with
    | inl h => omega
    | inr h => exact hl h
  simp [this]

end Kernel

end Arroy
