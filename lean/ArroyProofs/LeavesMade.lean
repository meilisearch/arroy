import ArroyProofs.Properties.Reachable
/-! The invariant "every stored item leaf of the index was made by `Cfg.mkLeaf`" and its preservation
by every step of a history (`add`, `append`, `del`, `clear`, `build`, `prepare` — of any index; a metric
change of the index itself moves the invariant from the old configuration to the new one:
`leavesMade_prepare`, `leavesMade_foldl` for the histories after it). -/
namespace Arroy
open Generated

/-- every stored item leaf of index `c` is `c.mkLeaf xs` for some `xs` of the declared dimension: its
    words are `from_slice xs` and its header is `new_header` of these words. For the dot-product metric
    only the words are constrained (the preprocessing of a build rewrites the header; the query
    functions of that metric do not read it). -/
def LeavesMade (c : Cfg) (s : Store) : Prop :=
  ∀ id hd v, Store.get s (c.itemKey id) = some (.leaf hd v) →
    ∃ xs, xs.length = c.dims ∧ v = c.metric.fromSlice xs ∧
      (c.metric ≠ .dot → hd = c.metric.newHeader c.host v)

/-- for every metric but dot-product the stored value is literally `c.mkLeaf xs` -/
theorem LeavesMade.mkLeaf {c : Cfg} {s : Store} (h : LeavesMade c s) (hm : c.metric ≠ .dot)
    {id : Nat} {hd v : List Nat} (hg : Store.get s (c.itemKey id) = some (.leaf hd v)) :
    ∃ xs, xs.length = c.dims ∧ Val.leaf hd v = c.mkLeaf xs := by
  obtain ⟨xs, hl, hv, hh⟩ := h id hd v hg
  refine ⟨xs, hl, ?_⟩
  unfold Cfg.mkLeaf
  rw [hh hm, hv]

theorem LeavesMade.nil (c : Cfg) : LeavesMade c [] := by
  intro id hd v hg; simp [Store.get] at hg

namespace C01

/-- the operations of the history that write or rewrite item leaves of index `c` do so under the
    configuration `c`: items of the index are added by `c` itself (same metric, dimension, host), and
    a build on the index by a dot-product configuration (whose preprocessing rewrites headers) happens
    only if `c` is dot-product too; a `prepare` on the index does not change the metric (a real metric
    change re-encodes every leaf for the new configuration: see `leavesMade_prepare`, which carries the
    invariant from the old configuration to the new one) -/
def madeBy (c : Cfg) : Op → Prop
  | .add c' _ _ => c'.index = c.index → c' = c
  | .append c' _ _ => c'.index = c.index → c' = c
  | .build c' _ _ _ => c'.index = c.index → c'.metric = .dot → c.metric = .dot
  | .prepare c' m' => c'.index = c.index → m' = c'.metric
  | _ => True

theorem leavesMade_add {c c' : Cfg} {s s' : Store} {id : Nat} {vec : List Nat}
    (hc : c'.index = c.index → c' = c)
    (h : Writer.addItem c' s id vec = .ok s') (hP : LeavesMade c s) : LeavesMade c s' := by
  intro id0 hd v hg
  rw [Writer.get_addItem h, if_neg (Cfg.itemKey_ne_updatedKey c' c id id0)] at hg
  by_cases he : c.itemKey id0 = c'.itemKey id
  · rw [if_pos he] at hg
    have hcc := hc ((Cfg.itemKey_eq_iff c' c id id0).1 he).1.symm
    subst hcc
    simp only [Cfg.mkLeaf, Option.some.injEq, Val.leaf.injEq] at hg
    exact ⟨vec, (Writer.addItem_ok h).1, hg.2.symm, fun _ => by rw [← hg.1, ← hg.2]⟩
  · rw [if_neg he] at hg
    exact hP id0 hd v hg

theorem leavesMade_step (s : Store) (op : Op) (hop : op.wf) (c : Cfg) (hi : c.index < 65536)
    (hq : madeBy c op) (hinv : ∀ c : Cfg, c.index < 65536 → IndexInv c s) (hP : LeavesMade c s) :
    LeavesMade c (step s op) := by
  have hnext := (C01_inv_step freshSupply s op hop hinv c hi).wf
  have hat := stepTo s op
  generalize step s op = s' at hat hnext
  cases hat with
  | noop => exact hP
  | add h => exact leavesMade_add hq h hP
  | append h => exact leavesMade_add hq (Writer.appendItem_ok_eq_addItem (hinv c hi).sorted h) hP
  | del c' id =>
    intro id0 hd v hg
    rw [Writer.get_delItem] at hg
    split at hg
    · cases hg
    · split at hg
      · cases hg
      · exact hP id0 hd v hg
  | clear c' =>
    intro id0 hd v hg
    by_cases he : c.index = c'.index
    · rw [Writer.get_clear_same c' s _ he] at hg; cases hg
    · rw [get_clear_other' c' s (hinv c hi).wf hop _ he] at hg
      exact hP id0 hd v hg
  | @build c' o fuel env st' h =>
    intro id0 hd v hg
    by_cases hk : (c.itemKey id0).wf
    · by_cases hdot : c.metric = .dot
      · -- only the words are constrained: a build keeps them
        rcases C05.C05_build_item_keys c' hop.1 o fuel { env with store := s } st' (hinv c hi).sorted h
          (c.itemKey id0) hk rfl with e | ⟨h0, h', v', e1, e2⟩
        · exact hP id0 hd v (by rw [e]; exact hg)
        · rw [hg] at e2
          cases e2
          obtain ⟨xs, hl, hv, _⟩ := hP id0 h0 v e1
          exact ⟨xs, hl, hv, fun hn => absurd hdot hn⟩
      · -- the value is unchanged: the build is on another index, or is not a dot-product build
        have hsame : Store.get st'.store (c.itemKey id0) = Store.get s (c.itemKey id0) := by
          by_cases he : c'.index = c.index
          · have hm' : c'.metric ≠ .dot := fun e => hdot (hq he e)
            exact Build.build_frameNI c' hop.1 hm' o fuel { env with store := s } () st' h
              (c.itemKey id0) hk (Or.inr rfl)
          · exact Build.build_untouched c' hop.1 o fuel { env with store := s } () st' h
              (c.itemKey id0) hk (fun e => he e.symm)
        exact hP id0 hd v (by rw [← hsame]; exact hg)
    · rw [Store.get_none_of_not_wf hnext hk] at hg
      cases hg
  | @prepare c' m' s' hne h =>
    -- a metric change of the index itself is excluded by `madeBy`
    have he : c'.index ≠ c.index := fun he => hne (hq he)
    intro id0 hd v hg
    have hinv' := hinv c' hop
    rw [prepare_other hinv'.wf hinv'.sorted hop hinv'.leaves h (c.itemKey id0) (fun e => he e.symm)] at hg
    exact hP id0 hd v hg

/-- the words of a leaf made for `c` unpack to at least `c.dims` components -/
theorem toVec_fromSlice_length (m : Metric) (xs : List Nat) : xs.length ≤ (m.toVec (m.fromSlice xs)).length := by
  unfold Metric.toVec Metric.fromSlice
  cases hb : m.isBq with
  | false => simp
  | true =>
    simp only [if_true]
    rw [Writer.bqUnpack_length, BQL.pack_length]
    have : quantizedWordBits = 64 := rfl
    rw [this]; omega

/-- a real metric change needs only the WORDS of the old leaves (`from_slice` of a vector of the declared
    dimension, whatever their headers): every leaf is re-encoded by `Cfg.mkLeaf` for the new metric -/
theorem leavesMade_prepare_of_words {c : Cfg} {m' : Metric} {s s' : Store} (hi : c.index < 65536)
    (hinv : IndexInv c s) (hne : m' ≠ c.metric) (h : Writer.prepareChangingDistance c m' s = .ok s')
    (hP : ∀ id hd v, Store.get s (c.itemKey id) = some (.leaf hd v) →
      ∃ xs, xs.length = c.dims ∧ v = c.metric.fromSlice xs) :
    LeavesMade { c with metric := m' } s' := by
  obtain ⟨s'', h', _, hsome, hleaf, _⟩ := C18.C18_change c m' s hne hinv.wf hinv.sorted hi hinv.leaves
  rw [h] at h'
  cases h'
  intro id0 hd v hg
  have hk : ({ c with metric := m' } : Cfg).itemKey id0 = c.itemKey id0 := rfl
  rw [hk] at hg
  have hx : (Store.get s (c.itemKey id0)).isSome = true := by rw [← hsome, hg]; rfl
  obtain ⟨hd0, v0, hg0⟩ := hinv.leaves.leaf_of_isSome hx
  obtain ⟨xs0, hl0, hv0⟩ := hP id0 hd0 v0 hg0
  rw [hleaf id0 hd0 v0 hg0] at hg
  simp only [Cfg.mkLeaf, Option.some.injEq, Val.leaf.injEq] at hg
  refine ⟨(c.metric.toVec v0).take c.dims, ?_, hg.2.symm, fun _ => by rw [← hg.1, ← hg.2]⟩
  rw [List.length_take]
  have := toVec_fromSlice_length c.metric xs0
  rw [← hv0, hl0] at this
  show min c.dims _ = c.dims
  omega

/-- **a real metric change carries the invariant to the new configuration**: if every leaf of the index was
    made for `c` (the configuration the index is opened with), after `prepare_changing_distance` towards `m'`
    every leaf is made for `{ c with metric := m' }` — from the first `c.dims` components of the f32 view -/
theorem leavesMade_prepare {c : Cfg} {m' : Metric} {s s' : Store} (hi : c.index < 65536)
    (hinv : IndexInv c s) (h : Writer.prepareChangingDistance c m' s = .ok s') (hP : LeavesMade c s) :
    LeavesMade { c with metric := m' } s' := by
  by_cases hne : m' = c.metric
  · subst hne
    rw [C18.C18_same] at h
    cases h; exact hP
  · exact leavesMade_prepare_of_words hi hinv hne h fun id hd v hg =>
      let ⟨xs, hl, hv, _⟩ := hP id hd v hg; ⟨xs, hl, hv⟩

/-- the invariant only reads the index, the metric, the dimension and, through `new_header`, the host -/
theorem LeavesMade.congr {c c' : Cfg} {s : Store} (hP : LeavesMade c s) (hidx : c'.index = c.index)
    (hm : c'.metric = c.metric) (hd : c'.dims = c.dims)
    (hh : c.metric ≠ .dot → ∀ v, c'.metric.newHeader c'.host v = c.metric.newHeader c.host v) :
    LeavesMade c' s := by
  intro id hdr v hg
  rw [Cfg.itemKey_congr hidx] at hg
  obtain ⟨xs, hl, hv, hhdr⟩ := hP id hdr v hg
  exact ⟨xs, by rw [hd]; exact hl, by rw [hm]; exact hv, fun hdot => by
    rw [hm] at hdot; rw [hh hdot]; exact hhdr hdot⟩

theorem leavesMade_foldl (c : Cfg) (hi : c.index < 65536) (ops : List Op)
    (hops : ∀ op ∈ ops, op.wf) (hq : ∀ op ∈ ops, madeBy c op) :
    ∀ s : Store, (∀ c : Cfg, c.index < 65536 → IndexInv c s) → LeavesMade c s →
      LeavesMade c (ops.foldl step s) :=
  fun s hinv hP => (C01_foldl_induction freshSupply (LeavesMade c) (madeBy c)
    (fun s op hop hq hinv _ hP => leavesMade_step s op hop c hi hq hinv hP) ops hops hq s hinv hP).2

/-- **the invariant over histories**: if the items of index `c` are always added under the
    configuration `c` and no dot-product build touches a non-dot-product index `c`, every stored leaf of
    the index is a `c.mkLeaf` value in every reachable state -/
theorem leavesMade_run (c : Cfg) (hi : c.index < 65536) (ops : List Op)
    (hops : ∀ op ∈ ops, op.wf) (hq : ∀ op ∈ ops, madeBy c op) : LeavesMade c (run ops) :=
  leavesMade_foldl c hi ops hops hq [] (fun c _ => C01_inv_empty c) (LeavesMade.nil c)

end C01
end Arroy
