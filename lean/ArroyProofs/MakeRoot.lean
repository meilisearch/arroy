import ArroyProofs.Subst
/-! The first half of one round of `incremental_index_large_descendants`: the subtree `makeT` builds
from a batch is written with its root remapped onto the bucket id `b`. -/
namespace Arroy
open BuildM Generated IdSet

theorem makeT_ids_ok (cx : TreeCtx) (fuel : Nat) (items : List Nat) (g : IdGen) (normals : List (List Nat))
    (rs : List Bool) (res : MakeRes) (inUse : List Nat) (h : makeT cx fuel items g normals rs = .ok res)
    (hg : GenOK inUse g) :
    res.tree.ids.Nodup ∧ (∀ i ∈ res.tree.ids, i ∉ inUse ∧ i < 4294967296) ∧ GenOK (res.tree.ids ++ inUse) res.gen := by
  obtain ⟨h1, h2, _⟩ := makeT_ids cx fuel items g normals rs res inUse h hg.1
  obtain ⟨hb, hg'⟩ := hg.lift (ids := res.tree.ids) (old := fun _ => False) (fun N hN =>
    have hN' := makeT_ids cx fuel items g normals rs res (N :: inUse) h hN
    ⟨fun i hi => Or.inr (hN'.2.1 i hi), hN'.2.2⟩)
  exact ⟨h1, fun i hi => ⟨h2 i hi, (hb i hi).resolve_left id⟩, hg'⟩

/-- the tree rooted at `b` after the remapped write-back of `t` (`ids`: the old content of bucket `b`,
    which stays when `t` is a single item and nothing is written) -/
def rootAt (b : Nat) (ids : List Nat) : T → T
  | .leaf _ => .bucket b ids
  | .bucket _ s => .bucket b s
  | .node _ n l r => .node b n l r

theorem rootAt_ref (b : Nat) (ids : List Nat) (t : T) : (rootAt b ids t).ref = NodeId.mkTree b := by
  cases t <;> rfl

theorem rootAt_ids (b : Nat) (ids : List Nat) (t : T) : (rootAt b ids t).ids = b :: t.ids.tail := by
  cases t <;> rfl

theorem rootAt_items (b : Nat) (ids : List Nat) (t : T) (h : ∀ x, t ≠ .leaf x) : (rootAt b ids t).items = t.items := by
  cases t with
  | leaf x => exact absurd rfl (h x)
  | bucket id s => rfl
  | node id n l r => rfl

theorem rootAt_wf (b : Nat) (ids : List Nat) (t : T) (hs : Sorted ids) (ht : WF t) : WF (rootAt b ids t) := by
  cases t with
  | leaf x => exact hs
  | bucket id s => exact ht
  | node id n l r => exact ht

theorem rootAt_routed (cx : TreeCtx) (b : Nat) (ids : List Nat) (t : T) (ht : RoutedT cx t) :
    RoutedT cx (rootAt b ids t) := by
  cases t with
  | leaf x => trivial
  | bucket id s => trivial
  | node id n l r => exact ht

theorem rootAt_buckets (b : Nat) (ids : List Nat) (t : T) (h : ∀ x, t ≠ .leaf x) :
    ∀ p ∈ (rootAt b ids t).buckets, ∃ q ∈ t.buckets, q.2 = p.2 := by
  cases t with
  | leaf x => exact absurd rfl (h x)
  | bucket id s =>
    intro p hp
    simp only [rootAt, T.buckets, List.mem_singleton] at hp
    subst hp
    exact ⟨(id, s), by simp [T.buckets], rfl⟩
  | node id n l r => intro p hp; exact ⟨p, hp, rfl⟩

/-- the remap of `writeBack`: the drawn root id goes to `b` -/
def remapTo (rootId b : Nat) : Nat → Nat := fun id => if id = rootId then b else id

theorem map_remap_of_not_mem (rootId b : Nat) (ps : List (Nat × Val)) (h : ∀ p ∈ ps, p.1 ≠ rootId) :
    ps.map (fun p => (remapTo rootId b p.1, p.2)) = ps := by
  induction ps with
  | nil => rfl
  | cons p ps ih =>
    simp only [List.map_cons, List.cons.injEq]
    refine ⟨?_, ih (fun q hq => h q (List.mem_cons_of_mem _ hq))⟩
    simp only [remapTo, h p (by simp), ↓reduceIte]

/-- the remapped puts of a freshly made (non-leaf) tree are the cells of the tree re-rooted at `b` -/
theorem remap_cellsPost (b : Nat) (ids : List Nat) (t : T) (hnd : t.ids.Nodup) (h : ∀ x, t ≠ .leaf x) :
    t.cellsPost.map (fun p => (remapTo t.ref.item b p.1, p.2)) = (rootAt b ids t).cellsPost := by
  cases t with
  | leaf x => exact absurd rfl (h x)
  | bucket id s => simp [T.cellsPost, rootAt, remapTo, T.ref]
  | node id n l r =>
    simp only [T.ids, List.nodup_cons, List.mem_append, not_or] at hnd
    have hl : ∀ p ∈ l.cellsPost, p.1 ≠ id := fun p hp e =>
      hnd.1.1 (e ▸ mem_ids_of_mem_cells (l.cellsPost_perm.mem_iff.1 hp))
    have hr : ∀ p ∈ r.cellsPost, p.1 ≠ id := fun p hp e =>
      hnd.1.2 (e ▸ mem_ids_of_mem_cells (r.cellsPost_perm.mem_iff.1 hp))
    simp only [T.cellsPost, rootAt, T.ref, NodeId.item_mkTree, List.map_append, List.map_cons, List.map_nil,
      map_remap_of_not_mem id b _ hl, map_remap_of_not_mem id b _ hr]
    simp [remapTo]

theorem holds_putAll_cellsPost (c : Cfg) (s : Store) (t : T) (hnd : t.ids.Nodup) :
    Holds c (putAll c s t.cellsPost) t := by
  have ad : Adequate c [] t.cellsPost s t := by
    refine adequate_of_cells hnd (fun p hp => (t.cellsPost_perm.mem_iff).1 hp) ?_
    intro cell hc hnp
    exact absurd (List.mem_map_of_mem ((t.cellsPost_perm.mem_iff).2 hc)) hnp
  have := writeback ad
  rwa [applyStaged_nil] at this

/-- first half of a re-split round -/
theorem resplit_root (c : Cfg) (cx : TreeCtx) (fuel : Nat) (batch : List Nat) (g : IdGen) (normals : List (List Nat))
    (rs : List Bool) (r : MakeRes) (inUse : List Nat) (b : Nat) (ids : List Nat) {st st' : BState}
    (hm : makeT cx fuel batch g normals rs = .ok r) (hg : GenOK inUse g) (hb : b ∈ inUse)
    (hget : Store.get st.store (c.treeKey b) = some (.desc ids))
    (hblt : b < 4294967296) (hi : c.index < 65536)
    (h : Build.writeBack c [] r.puts (fun id => if id = r.tree.ref.item then b else id) st = .ok ((), st')) :
    Holds c st'.store (rootAt b ids r.tree) ∧ (rootAt b ids r.tree).ids.Nodup ∧
    (∀ i ∈ (rootAt b ids r.tree).ids, i = b ∨ (i ∉ inUse ∧ i < 4294967296)) ∧
    (∀ k, (∀ i ∈ (rootAt b ids r.tree).ids, k ≠ c.treeKey i) → Store.get st'.store k = Store.get st.store k) ∧
    StoreStep c st.store st'.store ∧
    GenOK ((rootAt b ids r.tree).ids ++ inUse) r.gen := by
  obtain ⟨m1, m2, m3⟩ := makeT_ids_ok cx fuel batch g normals rs r inUse hm hg
  have hputs := makeT_puts cx fuel batch g normals rs r hm
  have hstore := writeBack_nil_store c r.puts _ h
  have hidsmem : ∀ i ∈ (rootAt b ids r.tree).ids, i = b ∨ i ∈ r.tree.ids := by
    intro i hi'
    rw [rootAt_ids] at hi'
    exact (List.mem_cons.1 hi').imp_right List.mem_of_mem_tail
  have hfresh : ∀ i ∈ (rootAt b ids r.tree).ids, i = b ∨ (i ∉ inUse ∧ i < 4294967296) :=
    fun i hi' => (hidsmem i hi').imp_right (m2 i)
  have hnd : (rootAt b ids r.tree).ids.Nodup := by
    rw [rootAt_ids, List.nodup_cons]
    exact ⟨fun hm' => (m2 b (List.mem_of_mem_tail hm')).1 hb, (List.tail_sublist _).nodup m1⟩
  -- what is written: nothing for a single item (the bucket stays), otherwise the cells of the re-rooted tree
  obtain ⟨ps, hps, hsub, hholds⟩ : ∃ ps, st'.store = putAll c st.store ps ∧
      (∀ p ∈ ps, p.1 ∈ (rootAt b ids r.tree).ids) ∧ Holds c (putAll c st.store ps) (rootAt b ids r.tree) := by
    by_cases hleaf : ∃ x, r.tree = .leaf x
    · obtain ⟨x, hx⟩ := hleaf
      refine ⟨[], by rw [hstore, hputs, hx]; rfl, fun _ hp => (nomatch hp), ?_⟩
      rw [hx]
      intro cell hc
      simp only [rootAt, T.cells, List.mem_singleton] at hc
      subst hc
      exact hget
    · have hnl : ∀ x, r.tree ≠ .leaf x := fun x hx => hleaf ⟨x, hx⟩
      refine ⟨(rootAt b ids r.tree).cellsPost, ?_,
        fun p hp => mem_ids_of_mem_cells ((T.cellsPost_perm _).mem_iff.1 hp), holds_putAll_cellsPost c st.store _ hnd⟩
      rw [hstore, hputs]
      exact congrArg (putAll c st.store) (remap_cellsPost b ids r.tree m1 hnl)
  refine ⟨hps ▸ hholds, hnd, hfresh, fun k hk => ?_, ?_, m3.mono (fun i hi' => ?_)⟩
  · rw [hps]
    exact get_putAll_of_not _ _ _ _ (fun p hp => hk _ (hsub p hp))
  · rw [hps]
    exact StoreStep.putAllMap (.refl _) id ps hi
      (fun p hp => (hfresh _ (hsub p hp)).elim (fun e => e ▸ hblt) (fun hf => hf.2))
  · rcases List.mem_append.1 hi' with h' | h'
    · rcases hidsmem i h' with h'' | h''
      · subst h''; exact List.mem_append_right _ hb
      · exact List.mem_append_left _ h''
    · exact List.mem_append_right _ h'

end Arroy
