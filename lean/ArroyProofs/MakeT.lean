import ArroyProofs.InsT
/-! Specification of `makeT` (the tree-level mirror of `make_tree_in_file`). -/
namespace Arroy
open IdSet Generated

namespace T
/-- the cells in the order `make_tree_in_file` writes them: children first -/
def cellsPost : T → List (Nat × Val)
  | leaf _ => []
  | bucket id s => [(id, .desc s)]
  | node id n l r => l.cellsPost ++ r.cellsPost ++ [(id, .split l.ref r.ref n)]

/-- tree-node ids in post-order -/
def idsPost : T → List Nat
  | leaf _ => []
  | bucket id _ => [id]
  | node id _ l r => l.idsPost ++ r.idsPost ++ [id]

/-- number of split nodes -/
def splits : T → Nat
  | leaf _ => 0
  | bucket _ _ => 0
  | node _ _ l r => 1 + l.splits + r.splits

theorem cellsPost_ids (t : T) : t.cellsPost.map (·.1) = t.idsPost := by
  induction t with
  | leaf i => rfl
  | bucket id s => rfl
  | node id n l r ihl ihr => simp [cellsPost, idsPost, ihl, ihr]

theorem cellsPost_perm (t : T) : t.cellsPost.Perm t.cells := by
  induction t with
  | leaf i => exact List.Perm.refl _
  | bucket id s => exact List.Perm.refl _
  | node id n l r ihl ihr =>
    simp only [cellsPost, cells]
    exact (List.perm_append_singleton _ _).trans (List.Perm.cons _ (List.Perm.append ihl ihr))

theorem idsPost_perm (t : T) : t.idsPost.Perm t.ids := by
  induction t with
  | leaf i => exact List.Perm.refl _
  | bucket id s => exact List.Perm.refl _
  | node id n l r ihl ihr =>
    simp only [idsPost, ids]
    exact (List.perm_append_singleton _ _).trans (List.Perm.cons _ (List.Perm.append ihl ihr))
end T

/-- a successful `chooseSplit` settles on a `sideSplit` of `items`, after between 1 and `attempts + 1`
    attempts, each of which polls once and consumes one normal of the oracle -/
theorem chooseSplit_spec {cx : TreeCtx} {items : List Nat} {attempts : Nat} {normals : List (List Nat)}
    {rs : List Bool} {polls : Nat} {n l r : List Nat} {normals' : List (List Nat)} {rs' : List Bool} {k : Nat}
    (h : chooseSplit cx items attempts normals rs polls = .ok (n, l, r, normals', rs', k)) :
    (∃ rs0, sideSplit cx n items rs0 = .ok (l, r, rs')) ∧ polls + 1 ≤ k ∧ k ≤ polls + attempts + 1 ∧
    ∃ pre, normals = pre ++ n :: normals' ∧ k = polls + pre.length + 1 := by
  induction attempts generalizing normals rs polls with
  | zero =>
    unfold chooseSplit at h
    split at h
    · cases h
    · split at h
      · cases h
      · rename_i hs
        split at h
        · cases h; exact ⟨⟨_, hs⟩, by omega, by omega, [], rfl, rfl⟩
        · cases h; exact ⟨⟨_, hs⟩, by omega, by omega, [], rfl, rfl⟩
  | succ a ih =>
    unfold chooseSplit at h
    split at h
    · cases h
    · split at h
      · cases h
      · rename_i hs
        split at h
        · cases h; exact ⟨⟨_, hs⟩, by omega, by omega, [], rfl, rfl⟩
        · obtain ⟨h1, h2, h3, pre, e, hk⟩ := ih h
          exact ⟨h1, by omega, by omega, _ :: pre, congrArg (List.cons _) e, by rw [hk, List.length_cons]; omega⟩

/-- how `make_tree_in_file` ends up splitting `items` under normal `n`: by `D::side` against `n`
    (random for undecided items), or, for a too unbalanced split, at random under a zero normal -/
def MakeSplit (cx : TreeCtx) (items n l r : List Nat) : Prop :=
  (∃ rs0 rs1, sideSplit cx n items rs0 = .ok (l, r, rs1)) ∨
  (∃ m rs1 rs2, n = List.replicate m 0 ∧ randomSplit items rs1 = some (l, r, rs2))

theorem MakeSplit.partition {cx : TreeCtx} {items n l r : List Nat} (h : MakeSplit cx items n l r) :
    Partition items l r := by
  rcases h with ⟨rs0, rs1, h⟩ | ⟨m, rs1, rs2, _, h⟩
  · exact (sideSplit_spec h).toPartition
  · exact randomSplit_spec h

theorem MakeSplit.routed {cx : TreeCtx} {items n l r : List Nat} (h : MakeSplit cx items n l r)
    (hzero : ∀ m, cx.isZero (List.replicate m 0) = true) (hz : cx.isZero n = false) :
    (∀ x ∈ l, cx.side n x ≠ some (some true)) ∧ (∀ x ∈ r, cx.side n x ≠ some (some false)) := by
  rcases h with ⟨rs0, rs1, h⟩ | ⟨m, rs1, rs2, rfl, h⟩
  · exact ⟨(sideSplit_spec h).left, (sideSplit_spec h).right⟩
  · rw [hzero m] at hz; cases hz

theorem makeT_zero {cx : TreeCtx} {items : List Nat} {g : IdGen} {normals : List (List Nat)} {rs : List Bool}
    {res : MakeRes} (h : makeT cx 0 items g normals rs = .ok res) : False := by
  simp [makeT] at h

theorem makeT_succ_ok {cx : TreeCtx} {fuel : Nat} {items : List Nat} {g : IdGen} {normals : List (List Nat)}
    {rs : List Bool} {res : MakeRes} (h : makeT cx (fuel + 1) items g normals rs = .ok res) :
    (∃ x, items = [x] ∧ res = ⟨.leaf x, [], g, normals, rs, 1, 0⟩) ∨
    (items.length ≠ 1 ∧ fits cx.cap items.length = true ∧ ∃ id g', g.next = .ok (id, g') ∧
      res = ⟨.bucket id items, [(id, .desc items)], g', normals, rs, 1, 1⟩) ∨
    (items.length ≠ 1 ∧ fits cx.cap items.length = false ∧
      ∃ n l r normals1 rs2 k a b id g', MakeSplit cx items n l r ∧ 1 ≤ k ∧ k ≤ splitAttempts + 1 ∧
        normals1.length + 1 ≤ normals.length ∧
        makeT cx fuel l g normals1 rs2 = .ok a ∧ makeT cx fuel r a.gen a.normals a.rands = .ok b ∧
        b.gen.next = .ok (id, g') ∧
        res = ⟨.node id n a.tree b.tree, a.puts ++ b.puts ++ [(id, .split a.tree.ref b.tree.ref n)],
               g', b.normals, b.rands, 1 + k + a.polls + b.polls, a.nNew + b.nNew + 1⟩) := by
  simp only [makeT] at h
  split at h
  · cases h; exact Or.inl ⟨_, rfl, rfl⟩
  · rename_i hne
    have hlen : items.length ≠ 1 := by
      intro hl
      match items, hl with
      | [x], _ => exact hne x rfl
    right
    split at h
    · rename_i hfits
      left
      refine ⟨hlen, hfits, ?_⟩
      split at h
      · cases h
      · rename_i id g' hn
        cases h
        exact ⟨id, g', hn, rfl⟩
    · rename_i hfits
      right
      refine ⟨hlen, by simpa using hfits, ?_⟩
      split at h
      · cases h
      · rename_i n l r normals1 rs1 k hcs
        obtain ⟨⟨rs0, hss⟩, hk1, hk2, pre, hpre, _⟩ := chooseSplit_spec hcs
        split at h
        · cases h
        · rename_i n' l' r' rs2 hdec
          have hms : MakeSplit cx items n' l' r' := by
            split at hdec
            · split at hdec
              · rename_i l'' r'' rs2' hrs
                cases hdec
                exact Or.inr ⟨_, _, _, rfl, hrs⟩
              · cases hdec
            · cases hdec
              exact Or.inl ⟨_, _, hss⟩
          split at h
          · cases h
          · rename_i a ha
            split at h
            · cases h
            · rename_i b hb
              split at h
              · cases h
              · rename_i id g' hn
                cases h
                exact ⟨n', l', r', normals1, rs2, k, a, b, id, g', hms, by omega, by omega,
                  by rw [hpre, List.length_append, List.length_cons]; omega, ha, hb, hn, rfl⟩

/-- everything `makeT` guarantees about a successful result `res` on `items` with generator `g` -/
structure MakeSpec (cx : TreeCtx) (items : List Nat) (g : IdGen) (res : MakeRes) : Prop where
  perm : res.tree.items.Perm items
  wf : Sorted items → WF res.tree
  /-- all node ids are fresh and pairwise distinct -/
  ids : ∀ inUse, FreshGen inUse g →
    res.tree.ids.Nodup ∧ (∀ i ∈ res.tree.ids, i ∉ inUse) ∧ FreshGen (res.tree.ids ++ inUse) res.gen
  /-- the puts are exactly the cells of the tree, children before parents, each once -/
  puts : res.puts = res.tree.cellsPost
  /-- every bucket made fits -/
  capacity : ∀ b ∈ res.tree.buckets, b.2.length ≤ cx.cap
  /-- the counter of new nodes is the number of tree nodes made -/
  nNew : res.nNew = res.tree.ids.length
  /-- one poll per call plus one per attempted normal: between 1 and `splitAttempts + 1` for each split node -/
  polls : res.tree.size + res.tree.splits ≤ res.polls ∧
    res.polls ≤ res.tree.size + (splitAttempts + 1) * res.tree.splits
  /-- every item with a decisive margin is on the side of its margin (the random re-split is stored under an
      all-zero normal, which `isZero` must recognise) -/
  routed : (∀ m, cx.isZero (List.replicate m 0) = true) → RoutedT cx res.tree

theorem makeT_spec {cx : TreeCtx} {fuel : Nat} {items : List Nat} {g : IdGen} {normals : List (List Nat)}
    {rs : List Bool} {res : MakeRes} (h : makeT cx fuel items g normals rs = .ok res) : MakeSpec cx items g res := by
  induction fuel generalizing items g normals rs res with
  | zero => exact (makeT_zero h).elim
  | succ fuel ih =>
    rcases makeT_succ_ok h with ⟨x, rfl, rfl⟩ | ⟨_, hf, id, g', hn, rfl⟩ |
      ⟨_, _, n, l, r, normals1, rs2, k, a, b, id, g', hms, hk1, hk2, _, ha, hb, hn, rfl⟩
    · exact {
        perm := List.Perm.refl _
        wf := fun _ => trivial
        ids := fun inUse hg => ⟨by simp [T.ids], by simp [T.ids], by simpa [T.ids] using hg⟩
        puts := rfl
        capacity := fun _ h => nomatch h
        nNew := rfl
        polls := by simp [T.size, T.splits]
        routed := fun _ => trivial }
    · exact {
        perm := List.Perm.refl _
        wf := fun hs => hs
        ids := fun inUse hg => by
          obtain ⟨hfr, hg'⟩ := hg.step hn
          exact ⟨by simp [T.ids], by simpa [T.ids] using hfr, by simpa [T.ids] using hg'⟩
        puts := rfl
        capacity := fun p hp => by
          simp only [T.buckets, List.mem_singleton] at hp
          subst hp
          simpa [fits] using hf
        nNew := rfl
        polls := by simp [T.size, T.splits]
        routed := fun _ => trivial }
    · have A := ih ha
      have B := ih hb
      have P := hms.partition
      exact {
        perm := (List.Perm.append A.perm B.perm).trans P.perm
        wf := fun hs => ⟨A.wf (P.sortedl hs), B.wf (P.sortedr hs)⟩
        ids := fun inUse hg => by
          obtain ⟨A1, A2, A3⟩ := A.ids inUse hg
          obtain ⟨B1, B2, B3⟩ := B.ids (a.tree.ids ++ inUse) A3
          obtain ⟨hfr, hg'⟩ := B3.step hn
          simp only [List.mem_append, not_or] at hfr B2
          refine ⟨?_, ?_, ?_⟩
          · simp only [T.ids, List.nodup_cons, List.mem_append, List.nodup_append, not_or]
            refine ⟨⟨hfr.2.1, hfr.1⟩, A1, B1, ?_⟩
            intro x hxa y hyb hxy
            subst hxy
            exact (B2 x hyb).1 hxa
          · intro i hi
            simp only [T.ids, List.mem_cons, List.mem_append] at hi
            rcases hi with rfl | hi | hi
            · exact hfr.2.2
            · exact A2 i hi
            · exact (B2 i hi).2
          · refine hg'.mono ?_
            intro i hi
            simp only [T.ids, List.mem_cons, List.mem_append] at hi ⊢
            rcases hi with (rfl | hi | hi) | hi
            · exact Or.inl rfl
            · exact Or.inr (Or.inr (Or.inl hi))
            · exact Or.inr (Or.inl hi)
            · exact Or.inr (Or.inr (Or.inr hi))
        puts := by simp only [T.cellsPost, A.puts, B.puts]
        capacity := fun p hp => by
          simp only [T.buckets, List.mem_append] at hp
          exact hp.elim (A.capacity p) (B.capacity p)
        nNew := by simp only [T.ids, List.length_cons, List.length_append, A.nNew, B.nNew]
        polls := by
          obtain ⟨A1, A2⟩ := A.polls
          obtain ⟨B1, B2⟩ := B.polls
          simp only [T.size, T.splits, Nat.mul_add, Nat.mul_one] at A1 A2 B1 B2 ⊢
          omega
        routed := fun hzero => by
          refine ⟨fun hz => ?_, A.routed hzero, B.routed hzero⟩
          obtain ⟨s1, s2⟩ := hms.routed hzero hz
          exact ⟨fun x hx => s1 x (A.perm.mem_iff.1 hx), fun x hx => s2 x (B.perm.mem_iff.1 hx)⟩ }

theorem makeT_items (cx : TreeCtx) (fuel : Nat) (items : List Nat) (g : IdGen) (normals : List (List Nat))
    (rs : List Bool) (res : MakeRes) (h : makeT cx fuel items g normals rs = .ok res) :
    res.tree.items.Perm items ∧ (Sorted items → WF res.tree) :=
  ⟨(makeT_spec h).perm, (makeT_spec h).wf⟩

theorem makeT_mem_items (cx : TreeCtx) (fuel : Nat) (items : List Nat) (g : IdGen) (normals : List (List Nat))
    (rs : List Bool) (res : MakeRes) (h : makeT cx fuel items g normals rs = .ok res) (x : Nat) :
    x ∈ res.tree.items ↔ x ∈ items := (makeT_items cx fuel items g normals rs res h).1.mem_iff

theorem makeT_items_nodup (cx : TreeCtx) (fuel : Nat) (items : List Nat) (g : IdGen) (normals : List (List Nat))
    (rs : List Bool) (res : MakeRes) (h : makeT cx fuel items g normals rs = .ok res) (hs : Sorted items) :
    res.tree.items.Nodup := ((makeT_items cx fuel items g normals rs res h).1.nodup_iff).2 hs.nodup

theorem makeT_ids (cx : TreeCtx) (fuel : Nat) (items : List Nat) (g : IdGen) (normals : List (List Nat))
    (rs : List Bool) (res : MakeRes) (inUse : List Nat) (h : makeT cx fuel items g normals rs = .ok res)
    (hg : FreshGen inUse g) :
    res.tree.ids.Nodup ∧ (∀ i ∈ res.tree.ids, i ∉ inUse) ∧ FreshGen (res.tree.ids ++ inUse) res.gen :=
  (makeT_spec h).ids inUse hg

theorem makeT_puts (cx : TreeCtx) (fuel : Nat) (items : List Nat) (g : IdGen) (normals : List (List Nat))
    (rs : List Bool) (res : MakeRes) (h : makeT cx fuel items g normals rs = .ok res) :
    res.puts = res.tree.cellsPost :=
  (makeT_spec h).puts

theorem makeT_puts_ids (cx : TreeCtx) (fuel : Nat) (items : List Nat) (g : IdGen) (normals : List (List Nat))
    (rs : List Bool) (res : MakeRes) (h : makeT cx fuel items g normals rs = .ok res) :
    res.puts.map (·.1) = res.tree.idsPost := by
  rw [makeT_puts cx fuel items g normals rs res h, T.cellsPost_ids]

/-- each id is put exactly once -/
theorem makeT_puts_nodup (cx : TreeCtx) (fuel : Nat) (items : List Nat) (g : IdGen) (normals : List (List Nat))
    (rs : List Bool) (res : MakeRes) (inUse : List Nat) (h : makeT cx fuel items g normals rs = .ok res)
    (hg : FreshGen inUse g) : (res.puts.map (·.1)).Nodup := by
  rw [makeT_puts_ids cx fuel items g normals rs res h]
  exact (res.tree.idsPost_perm.nodup_iff).2 (makeT_ids cx fuel items g normals rs res inUse h hg).1

theorem makeT_adequate (c : Cfg) (s : Store) (cx : TreeCtx) (fuel : Nat) (items : List Nat) (g : IdGen)
    (normals : List (List Nat)) (rs : List Bool) (res : MakeRes) (inUse : List Nat)
    (h : makeT cx fuel items g normals rs = .ok res) (hg : FreshGen inUse g) :
    Adequate c [] res.puts s res.tree := by
  have hp := makeT_puts cx fuel items g normals rs res h
  refine adequate_of_cells (makeT_ids cx fuel items g normals rs res inUse h hg).1 ?_ ?_
  · intro p hpm
    rw [hp] at hpm
    exact (res.tree.cellsPost_perm.mem_iff).1 hpm
  · intro cell hc hnp
    exfalso
    apply hnp
    rw [hp]
    exact List.mem_map_of_mem ((res.tree.cellsPost_perm.mem_iff).2 hc)

theorem makeT_capacity (cx : TreeCtx) (fuel : Nat) (items : List Nat) (g : IdGen) (normals : List (List Nat))
    (rs : List Bool) (res : MakeRes) (h : makeT cx fuel items g normals rs = .ok res) :
    ∀ b ∈ res.tree.buckets, b.2.length ≤ cx.cap :=
  (makeT_spec h).capacity

theorem makeT_shape (cx : TreeCtx) (fuel : Nat) (items : List Nat) (g : IdGen) (normals : List (List Nat))
    (rs : List Bool) (res : MakeRes) (h : makeT cx fuel items g normals rs = .ok res) :
    (∀ x, items = [x] → res.tree = .leaf x) ∧
    (items.length ≠ 1 → fits cx.cap items.length = true → ∃ id, res.tree = .bucket id items) ∧
    (items.length ≠ 1 → fits cx.cap items.length = false → ∃ id n l r, res.tree = .node id n l r) := by
  cases fuel with
  | zero => exact (makeT_zero h).elim
  | succ fuel =>
    rcases makeT_succ_ok h with ⟨x, rfl, rfl⟩ | ⟨hl, hf, id, g', hn, rfl⟩ |
      ⟨hl, hf, n, l, r, normals1, rs2, k, a, b, id, g', _, _, _, _, ha, hb, hn, rfl⟩
    · refine ⟨?_, fun hne => absurd rfl hne, fun hne => absurd rfl hne⟩
      intro y hy; cases hy; rfl
    · refine ⟨?_, fun _ _ => ⟨id, rfl⟩, fun _ hf' => ?_⟩
      · rintro x rfl; exact absurd rfl hl
      · rw [hf] at hf'; cases hf'
    · refine ⟨?_, fun _ hf' => ?_, fun _ _ => ⟨_, _, _, _, rfl⟩⟩
      · rintro x rfl; exact absurd rfl hl
      · rw [hf] at hf'; cases hf'

theorem makeT_shape_node (cx : TreeCtx) (fuel : Nat) (items : List Nat) (g : IdGen) (normals : List (List Nat))
    (rs : List Bool) (res : MakeRes) (h : makeT cx fuel items g normals rs = .ok res)
    (hcap : 1 ≤ cx.cap) (hlen : cx.cap < items.length) : ∃ id n l r, res.tree = .node id n l r :=
  (makeT_shape cx fuel items g normals rs res h).2.2 (by omega) (by simp [fits]; omega)

theorem makeT_nNew (cx : TreeCtx) (fuel : Nat) (items : List Nat) (g : IdGen) (normals : List (List Nat))
    (rs : List Bool) (res : MakeRes) (h : makeT cx fuel items g normals rs = .ok res) :
    res.nNew = res.tree.ids.length :=
  (makeT_spec h).nNew

theorem makeT_polls (cx : TreeCtx) (fuel : Nat) (items : List Nat) (g : IdGen) (normals : List (List Nat))
    (rs : List Bool) (res : MakeRes) (h : makeT cx fuel items g normals rs = .ok res) :
    res.tree.size + res.tree.splits ≤ res.polls ∧
    res.polls ≤ res.tree.size + (splitAttempts + 1) * res.tree.splits :=
  (makeT_spec h).polls

theorem makeT_polls_pos (cx : TreeCtx) (fuel : Nat) (items : List Nat) (g : IdGen) (normals : List (List Nat))
    (rs : List Bool) (res : MakeRes) (h : makeT cx fuel items g normals rs = .ok res) : 1 ≤ res.polls := by
  have h1 := (makeT_polls cx fuel items g normals rs res h).1
  have : 1 ≤ res.tree.size := by cases res.tree <;> simp [T.size] <;> omega
  omega

theorem makeT_routed (cx : TreeCtx) (fuel : Nat) (items : List Nat) (g : IdGen) (normals : List (List Nat))
    (rs : List Bool) (res : MakeRes) (h : makeT cx fuel items g normals rs = .ok res)
    (hzero : ∀ m, cx.isZero (List.replicate m 0) = true) : RoutedT cx res.tree :=
  (makeT_spec h).routed hzero

theorem Metric.isZero_replicate_zero (m : Metric) (k : Nat) : m.isZero (List.replicate k 0) = true := by
  have h : F32.eq 0 F32.zero = true := by decide +kernel
  unfold Metric.isZero
  split <;> simp [h]

theorem treeCtx_isZero_replicate_zero (c : Cfg) (o : BuildOpts) (s : Store) (k : Nat) :
    (Build.treeCtx c o s).isZero (List.replicate k 0) = true :=
  Metric.isZero_replicate_zero c.metric k

/-! ## non-vacuity: a concrete run -/
namespace MakeTExample
open InsTExample

example : (makeT cx 5 [1, 2, 3, 4, 5] g [[7], [8]] [true, true, false, true]).toOption.map
      (fun r => (r.tree, r.puts.map (·.1), r.polls, r.nNew)) =
    some (.node 5 [7] (.node 3 [8] (.bucket 2 [1, 5]) (.leaf 3)) (.bucket 4 [2, 4]), [2, 3, 4, 5], 7, 4) := by
  decide +kernel

example : Sorted [1, 2, 3, 4, 5] ∧ (∀ m, cx.isZero (List.replicate m 0) = true) :=
  ⟨by decide, fun m => by simp [cx]⟩
end MakeTExample

end Arroy
