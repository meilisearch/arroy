import ArroyProofs.Nns
/-! Budget monotonicity of `nnsByLeaf`: the traversal does not depend on the query options other than the
filter; the exact answer over a subset of ids is, rank by rank, no better than over a superset. -/
namespace Arroy
namespace Reader

/-- the traversal reads only the filter of the query options -/
theorem traverse_congr_q (c : Cfg) (s : Store) (qv : List Nat) (q₁ q₂ : QueryOpts)
    (hc : q₁.candidates = q₂.candidates) (k fuel : Nat) (queue : List (Nat × NodeId)) (nns : List Nat) :
    traverse c s qv q₁ k fuel queue nns = traverse c s qv q₂ k fuel queue nns := by
  have hstep : ∀ queue nns, popStep c s qv q₁ queue nns = popStep c s qv q₂ queue nns := by
    obtain ⟨n₁, k₁, o₁, f₁⟩ := q₁
    obtain ⟨n₂, k₂, o₂, f₂⟩ := q₂
    obtain rfl : f₁ = f₂ := hc
    intro queue nns
    rfl
  induction fuel generalizing queue nns with
  | zero => rfl
  | succ n ih =>
    rw [traverse_succ, traverse_succ, hstep]
    simp only [ih]

/-- an element at rank `k` of a sublist sits at some rank `i ≥ k` of the list -/
theorem rank_le_of_sublist {α : Type} {A B : List α} (h : A.Sublist B) :
    ∀ (k : Nat) (a : α), A[k]? = some a → ∃ i, k ≤ i ∧ B[i]? = some a := by
  induction h with
  | slnil => intro k a ha; cases ha
  | cons b _ ih =>
    intro k a ha
    obtain ⟨i, hi, hb⟩ := ih k a ha
    exact ⟨i + 1, Nat.le_succ_of_le hi, by rw [List.getElem?_cons_succ]; exact hb⟩
  | cons_cons x _ ih =>
    intro k a ha
    cases k with
    | zero => exact ⟨0, Nat.le_refl _, ha⟩
    | succ k =>
      rw [List.getElem?_cons_succ] at ha
      obtain ⟨i, hi, hb⟩ := ih k a ha
      exact ⟨i + 1, Nat.succ_le_succ hi, by rw [List.getElem?_cons_succ]; exact hb⟩

/-- a sublist of a sorted list is, rank by rank, no smaller -/
theorem sublist_rank {α : Type} (le : α → α → Prop) (refl : ∀ a, le a a) {A B : List α} (h : A.Sublist B)
    (hp : B.Pairwise le) (j : Nat) (a b : α) (ha : A[j]? = some a) (hb : B[j]? = some b) : le b a := by
  obtain ⟨i, hi, hia⟩ := rank_le_of_sublist h j a ha
  rcases Nat.lt_or_ge j i with hlt | hge
  · obtain ⟨hj', rfl⟩ := List.getElem?_eq_some_iff.1 hb
    obtain ⟨hi', rfl⟩ := List.getElem?_eq_some_iff.1 hia
    exact List.pairwise_iff_getElem.1 hp j i hj' hi' hlt
  · obtain rfl : i = j := by omega
    rw [hia] at hb; cases hb; exact refl _

theorem scored_nodup (c : Cfg) (s : Store) (qh qv : List Nat) (ids : List Nat) (h : ids.Nodup) :
    (scored c s qh qv ids).Nodup :=
  List.Pairwise.map _ (fun a b hab e => hab (by simpa using congrArg Prod.snd e)) h

theorem sortedScored_subset (c : Cfg) (s : Store) (qh qv : List Nat) (ids₁ ids₂ : List Nat)
    (h₁ : ids₁.Nodup) (h₂ : ids₂.Nodup) (hsub : ∀ x ∈ ids₁, x ∈ ids₂) :
    sortedScored c s qh qv ids₁ = (sortedScored c s qh qv ids₂).filter (fun p => decide (p.2 ∈ ids₁)) := by
  symm
  apply sortedScored_unique
  · apply (List.perm_ext_iff_of_nodup ?_ (scored_nodup c s qh qv ids₁ h₁)).2
    · intro p
      rw [List.mem_filter, (sortedScored_perm c s qh qv ids₂).mem_iff]
      simp only [scored, List.mem_map, decide_eq_true_eq]
      constructor
      · rintro ⟨⟨id, _, rfl⟩, h⟩; exact ⟨id, h, rfl⟩
      · rintro ⟨id, h, rfl⟩; exact ⟨⟨id, hsub id h, rfl⟩, h⟩
    · exact List.Nodup.sublist List.filter_sublist
        ((sortedScored_perm c s qh qv ids₂).nodup_iff.2 (scored_nodup c s qh qv ids₂ h₂))
  · exact (sortedScored_pairwise c s qh qv ids₂).sublist List.filter_sublist

/-- **monotonicity of the exact answer in the candidate set**: over a superset of candidates the answer is
no shorter, and at every rank the returned item is at least as near -/
theorem exactOver_mono (c : Cfg) (s : Store) (dims : Nat) (qh qv : List Nat) (count : Nat) (ids₁ ids₂ : List Nat)
    (h₁ : ids₁.Nodup) (h₂ : ids₂.Nodup) (hsub : ∀ x ∈ ids₁, x ∈ ids₂) :
    (exactOver c s dims qh qv count ids₁).length ≤ (exactOver c s dims qh qv count ids₂).length ∧
    ∀ (j : Nat) (a₁ a₂ : Nat × Nat), (exactOver c s dims qh qv count ids₁)[j]? = some a₁ →
      (exactOver c s dims qh qv count ids₂)[j]? = some a₂ →
      scoreLe (scoreOf c s qh qv a₂.1, a₂.1) (scoreOf c s qh qv a₁.1, a₁.1) = true := by
  constructor
  · rw [exactOver_length, exactOver_length]
    have := h₁.length_le_of_subset hsub
    omega
  · intro j a₁ a₂ e₁ e₂
    have r₁ := exactOver_rescored c s dims qh qv count ids₁
    have r₂ := exactOver_rescored c s dims qh qv count ids₂
    have g₁ : ((sortedScored c s qh qv ids₁).take count)[j]? = some (scoreOf c s qh qv a₁.1, a₁.1) := by
      rw [← r₁, List.getElem?_map, e₁]; rfl
    have g₂ : ((sortedScored c s qh qv ids₂).take count)[j]? = some (scoreOf c s qh qv a₂.1, a₂.1) := by
      rw [← r₂, List.getElem?_map, e₂]; rfl
    rw [List.getElem?_take] at g₁ g₂
    by_cases hj : j < count
    · simp only [hj, if_true] at g₁ g₂
      exact sublist_rank (fun a b => scoreLe a b = true) scoreLe_refl
        (sortedScored_subset c s qh qv ids₁ ids₂ h₁ h₂ hsub ▸ List.filter_sublist)
        (sortedScored_pairwise c s qh qv ids₂)
        j _ _ g₁ g₂
    · simp [hj] at g₁

end Reader
end Arroy
