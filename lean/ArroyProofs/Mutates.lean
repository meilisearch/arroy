import ArroyProofs.BuildCore
/-! What an operation other than a build of index `c` does to index `c`: the forest and the metadata
stay, and every item whose presence or vector changes gets an updated mark. -/
namespace Arroy
open Generated IdSet Transp

structure Mutates (c : Cfg) (s s' : Store) : Prop where
  tree : ∀ i, Store.get s' (c.treeKey i) = Store.get s (c.treeKey i)
  meta_eq : Store.get s' c.metaKey = Store.get s c.metaKey
  marks : ∀ id, (Store.get s' (c.updatedKey id)).isNone → (Store.get s (c.updatedKey id)).isNone ∧
    Store.get s' (c.itemKey id) = Store.get s (c.itemKey id)

theorem Mutates.refl (c : Cfg) (s : Store) : Mutates c s s := ⟨fun _ => rfl, rfl, fun _ h => ⟨h, rfl⟩⟩

theorem Mutates.of_same {c : Cfg} {s s' : Store} (h : ∀ k : Key, k.index = c.index → Store.get s' k = Store.get s k) :
    Mutates c s s' :=
  ⟨fun _ => h _ rfl, h _ rfl, fun id hn => ⟨by rw [h _ rfl] at hn; exact hn, h _ rfl⟩⟩

/-- an item operation of any index: the store changes at most under the item key and the updated key of
one id, and unless the mark is set nothing changes at all -/
theorem Mutates.of_item_write {c c' : Cfg} {s s' : Store} {id : Nat}
    (hother : ∀ k, k ≠ c'.updatedKey id → k ≠ c'.itemKey id → Store.get s' k = Store.get s k)
    (hmark : (Store.get s' (c'.updatedKey id)).isSome = true ∨
      (Store.get s' (c'.updatedKey id) = Store.get s (c'.updatedKey id) ∧
        Store.get s' (c'.itemKey id) = Store.get s (c'.itemKey id))) : Mutates c s s' := by
  refine ⟨fun i => hother _ (c.treeKey_ne_updatedKey c' i id) (c.treeKey_ne_itemKey2 c' i id),
    hother _ (Cfg.metaKey_ne_updatedKey c' c id) (Cfg.metaKey_ne_itemKey c' c id), ?_⟩
  intro id' hnone
  have h1 : c.updatedKey id' ≠ c'.itemKey id := fun e => Cfg.itemKey_ne_updatedKey c c' id' id e.symm
  have h2 : c.itemKey id' ≠ c'.updatedKey id := Cfg.itemKey_ne_updatedKey c' c id id'
  by_cases he : c.updatedKey id' = c'.updatedKey id
  · -- the marked id itself: the mark is not set, so nothing changed
    have hi : c.itemKey id' = c'.itemKey id :=
      (Cfg.itemKey_eq_iff c' c id id').2 ((Cfg.updatedKey_eq_iff c' c id id').1 he)
    rw [he] at hnone ⊢
    rw [hi]
    rcases hmark with hs | ⟨hu, hit⟩
    · rw [Option.isNone_iff_eq_none] at hnone; rw [hnone] at hs; cases hs
    · exact ⟨by rw [← hu]; exact hnone, hit⟩
  · have h3 : c.itemKey id' ≠ c'.itemKey id := fun e =>
      he ((Cfg.updatedKey_eq_iff c' c id id').2 ((Cfg.itemKey_eq_iff c' c id id').1 e))
    rw [hother _ he h1] at hnone
    exact ⟨hnone, hother _ h2 h3⟩

theorem Mutates.add {c c' : Cfg} {s s' : Store} {id : Nat} {vec : List Nat}
    (h : Writer.addItem c' s id vec = .ok s') : Mutates c s s' := by
  have hg := Writer.get_addItem h
  refine Mutates.of_item_write (fun k hu hi => by rw [hg, if_neg hu, if_neg hi]) (Or.inl ?_)
  rw [hg, if_pos rfl]; rfl

theorem Mutates.del (c c' : Cfg) (s : Store) (id : Nat) : Mutates c s (Writer.delItem c' s id).1 := by
  have hg := Writer.get_delItem c' s id
  refine Mutates.of_item_write (fun k hu hi => by rw [hg, if_neg (fun e => hu e.1), if_neg hi]) ?_
  by_cases hp : (Store.get s (c'.itemKey id)).isSome = true
  · left; rw [hg, if_pos ⟨rfl, hp⟩]; rfl
  · right
    have hne : c'.updatedKey id ≠ c'.itemKey id := fun e => Cfg.itemKey_ne_updatedKey c' c' id id e.symm
    rw [hg, if_neg (fun e => hp e.2), if_neg hne, hg, if_neg (fun e => hp e.2), if_pos rfl]
    simp only [Bool.not_eq_true, Option.isSome_eq_false_iff, Option.isNone_iff_eq_none] at hp
    exact ⟨rfl, hp.symm⟩

theorem get_clear_other' (c' : Cfg) (s : Store) (hw : Store.WF s) (hi' : c'.index < 65536) (k : Key)
    (h : k.index ≠ c'.index) : Store.get (Writer.clear c' s) k = Store.get s k := by
  by_cases hk : k.wf
  · exact Writer.get_clear_other c' s k hk hi' h
  · have h1 := Store.get_none_of_not_wf hw hk
    rw [h1]
    unfold Writer.clear Store.deletePrefix
    exact Store.get_filter_of_none _ _ _ h1

theorem Mutates.clear_other {c c' : Cfg} {s : Store} (hw : Store.WF s) (hi' : c'.index < 65536)
    (hne : c.index ≠ c'.index) : Mutates c s (Writer.clear c' s) :=
  Mutates.of_same (fun k hk => get_clear_other' c' s hw hi' k (by rw [hk]; exact hne))

theorem Mutates.build_other {c c' : Cfg} {o : BuildOpts} {s s' : Store} {roots0 roots' : List Nat} {ts0 ts' : List T}
    (b : BuildOut c' o s s' roots0 ts0 roots' ts') (hne : c.index ≠ c'.index) : Mutates c s s' :=
  Mutates.of_same (fun k hk => b.other k (by rw [hk]; exact hne))

theorem Old.mutate {c : Cfg} {s s' : Store} {roots items : List Nat} {ts : List T} (old : Old c s roots items ts)
    (m : Mutates c s s') : Old c s' roots items ts := by
  refine ⟨old.forest.frame m.tree, by rw [rootsOf_congr m.meta_eq, old.roots_eq], ?_⟩
  intro id hnone
  obtain ⟨h1, h2⟩ := m.marks id hnone
  rw [old.marks id h1, h2]

end Arroy
