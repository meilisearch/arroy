import ArroyProofs.Traverse
import ArroyProofs.OrdLemmas
/-! `nnsByLeaf` after the traversal: scoring, sorting, truncation. The exact answer over a set of ids
(`exactOver`) and its properties; `nnsByLeaf` is `exactOver` of the deduplicated candidate list. -/
namespace Arroy
namespace Reader

/-- the true score of the stored item `id` against the query leaf `(qh, qv)` (0 if `id` is not a leaf) -/
def scoreOf (c : Cfg) (s : Store) (qh qv : List Nat) (id : Nat) : Nat :=
  match s.get (c.itemKey id) with
  | some (.leaf h v) => c.metric.builtDistance c.host qh qv h v
  | _ => 0

def scored (c : Cfg) (s : Store) (qh qv : List Nat) (ids : List Nat) : List (Nat × Nat) :=
  ids.map fun id => (scoreOf c s qh qv id, id)

def sortedScored (c : Cfg) (s : Store) (qh qv : List Nat) (ids : List Nat) : List (Nat × Nat) :=
  (scored c s qh qv ids).mergeSort scoreLe

/-- the exact answer over the id set `ids`: the `count` nearest, with their reported distances -/
def exactOver (c : Cfg) (s : Store) (dims : Nat) (qh qv : List Nat) (count : Nat) (ids : List Nat) : List (Nat × Nat) :=
  ((sortedScored c s qh qv ids).take count).map fun (d, id) => (id, c.metric.normalizedDistance d dims)

theorem scoreAll_ok (c : Cfg) (s : Store) (qh qv : List Nat) (ids : List Nat) (h : ∀ id ∈ ids, IsLeaf c s id) :
    scoreAll c s qh qv ids = .ok (scored c s qh qv ids) := by
  induction ids with
  | nil => rfl
  | cons id rest ih =>
    obtain ⟨hd, v, hg⟩ := h id List.mem_cons_self
    have := ih (fun x hx => h x (List.mem_cons_of_mem _ hx))
    simp [scoreAll, hg, this, scored, scoreOf]

theorem scoreAll_ok_inv (c : Cfg) (s : Store) (qh qv : List Nat) (ids : List Nat) (r : List (Nat × Nat))
    (h : scoreAll c s qh qv ids = .ok r) : (∀ id ∈ ids, IsLeaf c s id) ∧ r = scored c s qh qv ids := by
  induction ids generalizing r with
  | nil => simp [scoreAll] at h; subst h; simp [scored]
  | cons id rest ih =>
    simp only [scoreAll] at h
    split at h
    · rename_i hd v hg
      split at h
      · rename_i r' hr
        cases h
        obtain ⟨h1, h2⟩ := ih r' hr
        refine ⟨?_, ?_⟩
        · intro x hx
          rcases List.mem_cons.1 hx with rfl | hx
          · exact ⟨hd, v, hg⟩
          · exact h1 x hx
        · simp [scored, scoreOf, hg, h2]
      · cases h
    · cases h
    · cases h

theorem nnsByLeaf_empty (c : Cfg) (s : Store) (rd : ReaderState) (qh qv : List Nat) (q : QueryOpts)
    (he : rd.items = []) : nnsByLeaf c s rd qh qv q = .ok [] := by
  simp [nnsByLeaf, he]

/-- `nnsByLeaf`, forwards: once the traversal succeeds and its candidates are stored leaves, the answer is
the exact answer over the deduplicated candidates -/
theorem nnsByLeaf_of_traverse (c : Cfg) (s : Store) (rd : ReaderState) (qh qv : List Nat) (q : QueryOpts)
    (nns : List Nat) (hne : rd.items ≠ [])
    (ht : traverse c s qv q (budget c.metric rd.roots.length q) (2 * s.length + rd.roots.length + 2)
      (rd.roots.map fun r => (F32.inf, NodeId.mkTree r)) [] = .ok nns)
    (hl : ∀ id ∈ IdSet.ofList nns, IsLeaf c s id) :
    nnsByLeaf c s rd qh qv q = .ok (exactOver c s rd.dims qh qv q.count (IdSet.ofList nns)) := by
  unfold nnsByLeaf
  have : rd.items.isEmpty = false := by cases h : rd.items <;> simp_all
  simp only [this, Bool.false_eq_true, if_false, ht, scoreAll_ok c s qh qv _ hl]
  rfl

/-- `nnsByLeaf`, backwards: a successful answer is empty on an empty index, and otherwise the exact answer
over the deduplicated candidates of a successful traversal, all of which are stored leaves -/
theorem nnsByLeaf_ok_inv (c : Cfg) (s : Store) (rd : ReaderState) (qh qv : List Nat) (q : QueryOpts)
    (ans : List (Nat × Nat)) (h : nnsByLeaf c s rd qh qv q = .ok ans) :
    (rd.items = [] ∧ ans = []) ∨
    ∃ nns, rd.items ≠ [] ∧
      traverse c s qv q (budget c.metric rd.roots.length q) (2 * s.length + rd.roots.length + 2)
        (rd.roots.map fun r => (F32.inf, NodeId.mkTree r)) [] = .ok nns ∧
      (∀ id ∈ IdSet.ofList nns, IsLeaf c s id) ∧
      ans = exactOver c s rd.dims qh qv q.count (IdSet.ofList nns) := by
  unfold nnsByLeaf at h
  split at h
  · rename_i he
    left
    cases h
    exact ⟨List.isEmpty_iff.1 he, rfl⟩
  · rename_i he
    have hne : rd.items ≠ [] := fun e => he (by simp [e])
    right
    simp only at h
    split at h
    · cases h
    · rename_i nns ht
      split at h
      · cases h
      · rename_i sc hs
        cases h
        obtain ⟨h1, h2⟩ := scoreAll_ok_inv c s qh qv _ sc hs
        exact ⟨nns, hne, ht, h1, by subst h2; rfl⟩

theorem sortedScored_perm (c : Cfg) (s : Store) (qh qv : List Nat) (ids : List Nat) :
    (sortedScored c s qh qv ids).Perm (scored c s qh qv ids) := List.mergeSort_perm _ _

theorem sortedScored_pairwise (c : Cfg) (s : Store) (qh qv : List Nat) (ids : List Nat) :
    (sortedScored c s qh qv ids).Pairwise (fun a b => scoreLe a b = true) :=
  List.pairwise_mergeSort scoreLe_trans scoreLe_total _

theorem sortedScored_ids_perm (c : Cfg) (s : Store) (qh qv : List Nat) (ids : List Nat) :
    ((sortedScored c s qh qv ids).map (·.2)).Perm ids := by
  have := (sortedScored_perm c s qh qv ids).map (·.2)
  simpa [scored, List.map_map, Function.comp_def] using this

theorem sortedScored_length (c : Cfg) (s : Store) (qh qv : List Nat) (ids : List Nat) :
    (sortedScored c s qh qv ids).length = ids.length := by
  simp [sortedScored, scored]

theorem sortedScored_score (c : Cfg) (s : Store) (qh qv : List Nat) (ids : List Nat) :
    ∀ p ∈ sortedScored c s qh qv ids, p.1 = scoreOf c s qh qv p.2 ∧ p.2 ∈ ids := by
  intro p hp
  have hp' := (sortedScored_perm c s qh qv ids).mem_iff.1 hp
  obtain ⟨id, hid, rfl⟩ := List.mem_map.1 hp'
  exact ⟨rfl, hid⟩

/-- the sorted scored list is the only `scoreLe`-sorted arrangement of the scored ids:
ties in distance are broken by id, so the exact answer is unique -/
theorem sortedScored_unique (c : Cfg) (s : Store) (qh qv : List Nat) (ids : List Nat)
    (l : List (Nat × Nat)) (hp : l.Perm (scored c s qh qv ids)) (hs : l.Pairwise (fun a b => scoreLe a b = true)) :
    l = sortedScored c s qh qv ids := by
  refine List.Perm.eq_of_pairwise (le := fun a b => scoreLe a b = true) ?_ hs (sortedScored_pairwise c s qh qv ids)
    (hp.trans (sortedScored_perm c s qh qv ids).symm)
  intro a b ha hb h1 h2
  have ha' := hp.mem_iff.1 ha
  have hb' := (sortedScored_perm c s qh qv ids).mem_iff.1 hb
  obtain ⟨ia, _, rfl⟩ := List.mem_map.1 ha'
  obtain ⟨ib, _, rfl⟩ := List.mem_map.1 hb'
  have := (scoreLe_antisymm _ _ h1 h2).2
  simp only at this
  subst this; rfl

theorem exactOver_eq_map (c : Cfg) (s : Store) (dims : Nat) (qh qv : List Nat) (count : Nat) (ids : List Nat) :
    exactOver c s dims qh qv count ids =
      (((sortedScored c s qh qv ids).take count).map (·.2)).map
        fun id => (id, c.metric.normalizedDistance (scoreOf c s qh qv id) dims) := by
  unfold exactOver
  rw [List.map_map]
  apply List.map_congr_left
  intro p hp
  have := (sortedScored_score c s qh qv ids p (List.mem_of_mem_take hp)).1
  obtain ⟨d, id⟩ := p
  simp only at this
  simp [this]

theorem exactOver_ids (c : Cfg) (s : Store) (dims : Nat) (qh qv : List Nat) (count : Nat) (ids : List Nat) :
    (exactOver c s dims qh qv count ids).map (·.1) = ((sortedScored c s qh qv ids).map (·.2)).take count := by
  rw [exactOver_eq_map, List.map_map, List.map_take]
  simp [Function.comp_def]

theorem exactOver_length (c : Cfg) (s : Store) (dims : Nat) (qh qv : List Nat) (count : Nat) (ids : List Nat) :
    (exactOver c s dims qh qv count ids).length = min count ids.length := by
  simp [exactOver, sortedScored_length]

theorem exactOver_nodup (c : Cfg) (s : Store) (dims : Nat) (qh qv : List Nat) (count : Nat) (ids : List Nat)
    (hnd : ids.Nodup) : ((exactOver c s dims qh qv count ids).map (·.1)).Nodup := by
  rw [exactOver_ids]
  exact List.Nodup.sublist (List.take_sublist _ _) ((sortedScored_ids_perm c s qh qv ids).nodup_iff.2 hnd)

theorem exactOver_mem (c : Cfg) (s : Store) (dims : Nat) (qh qv : List Nat) (count : Nat) (ids : List Nat) :
    ∀ p ∈ exactOver c s dims qh qv count ids,
      p.1 ∈ ids ∧ p.2 = c.metric.normalizedDistance (scoreOf c s qh qv p.1) dims := by
  intro p hp
  rw [exactOver_eq_map] at hp
  obtain ⟨id, hid, rfl⟩ := List.mem_map.1 hp
  refine ⟨?_, rfl⟩
  obtain ⟨p, hp1, rfl⟩ := List.mem_map.1 hid
  exact (sortedScored_score c s qh qv ids p (List.mem_of_mem_take hp1)).2

/-- the answer re-scored with the true scores is the head of the sorted scored list -/
theorem exactOver_rescored (c : Cfg) (s : Store) (dims : Nat) (qh qv : List Nat) (count : Nat) (ids : List Nat) :
    (exactOver c s dims qh qv count ids).map (fun p => (scoreOf c s qh qv p.1, p.1)) =
      (sortedScored c s qh qv ids).take count := by
  rw [exactOver_eq_map, List.map_map, List.map_map]
  conv => rhs; rw [← List.map_id ((sortedScored c s qh qv ids).take count)]
  apply List.map_congr_left
  intro p hp
  have := (sortedScored_score c s qh qv ids p (List.mem_of_mem_take hp)).1
  obtain ⟨d, id⟩ := p
  simp only at this
  simp [this]

theorem exactOver_sorted (c : Cfg) (s : Store) (dims : Nat) (qh qv : List Nat) (count : Nat) (ids : List Nat) :
    ((exactOver c s dims qh qv count ids).map (fun p => (scoreOf c s qh qv p.1, p.1))).Pairwise
      (fun a b => scoreLe a b = true) := by
  rw [exactOver_rescored]
  exact (sortedScored_pairwise c s qh qv ids).sublist (List.take_sublist _ _)

/-- everything that is not returned is no nearer than anything returned -/
theorem exactOver_best (c : Cfg) (s : Store) (dims : Nat) (qh qv : List Nat) (count : Nat) (ids : List Nat)
    (p : Nat × Nat) (hp : p ∈ exactOver c s dims qh qv count ids) (y : Nat) (hy : y ∈ ids)
    (hny : y ∉ (exactOver c s dims qh qv count ids).map (·.1)) :
    scoreLe (scoreOf c s qh qv p.1, p.1) (scoreOf c s qh qv y, y) = true := by
  have hpm : (scoreOf c s qh qv p.1, p.1) ∈ (sortedScored c s qh qv ids).take count := by
    rw [← exactOver_rescored c s dims]
    exact List.mem_map.2 ⟨p, hp, rfl⟩
  have hym : (scoreOf c s qh qv y, y) ∈ sortedScored c s qh qv ids :=
    (sortedScored_perm c s qh qv ids).mem_iff.2 (List.mem_map.2 ⟨y, hy, rfl⟩)
  have hyd : (scoreOf c s qh qv y, y) ∈ (sortedScored c s qh qv ids).drop count := by
    rw [← List.take_append_drop count (sortedScored c s qh qv ids), List.mem_append] at hym
    rcases hym with h | h
    · exfalso; apply hny
      rw [exactOver_ids, ← List.map_take]
      exact List.mem_map.2 ⟨_, h, rfl⟩
    · exact h
  have hpw := sortedScored_pairwise c s qh qv ids
  rw [← List.take_append_drop count (sortedScored c s qh qv ids), List.pairwise_append] at hpw
  exact hpw.2.2 _ hpm _ hyd

end Reader
end Arroy
