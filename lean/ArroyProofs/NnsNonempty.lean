import ArroyProofs.Exact
import ArroyProofs.TreeView
/-! Helper lemmas for C15 over histories: the roots an opened reader holds are those of the metadata; an
unfiltered query with `count ≥ 1` and a budget ≥ 1 on a valid forest over a non-empty index has a non-empty
answer; the budget is ≥ 1 unless `search_k` or the oversampling is set to 0. -/
namespace Arroy
open Generated Transp Reader

namespace Reader

theorem open_roots {c : Cfg} {s : Store} {rd : ReaderState} (h : Reader.open c s = .ok rd) :
    rd.roots = rootsOf c s := by
  unfold Reader.open at h
  unfold rootsOf
  split at h
  · rename_i name dims items roots hm
    rw [hm]
    split at h
    · cases h
    · split at h
      · cases h
      · cases h; rfl
  · cases h
  · cases h

theorem nnsByLeaf_nonempty {c : Cfg} {s : Store} {rd : ReaderState} (F : ForestOK c s rd) (hne : rd.items ≠ [])
    (qh qv : List Nat) (q : QueryOpts) (hq : q.candidates = none) (hcount : 1 ≤ q.count)
    (hb : 1 ≤ budget c.metric rd.roots.length q) :
    ∃ ans, nnsByLeaf c s rd qh qv q = .ok ans ∧ 1 ≤ ans.length := by
  obtain ⟨ts, F⟩ := F
  obtain ⟨nns, left, _, hp, hk, _, ha⟩ := nnsByLeaf_forest F hne qh qv q
  refine ⟨_, ha, ?_⟩
  -- the loop stopped on a met budget, or collected what the first tree contributes: every item
  obtain ⟨x, hx⟩ : ∃ x, x ∈ nns := by
    rcases hk with hk | rfl
    · exact List.exists_mem_of_length_pos (by omega)
    · obtain ⟨y, hy⟩ := List.exists_mem_of_ne_nil _ hne
      obtain ⟨t, ht⟩ := forest_exists_tree F hne
      have hy' : y ∈ ts.flatMap (T.collect q) :=
        List.mem_flatMap.2 ⟨t, ht, by rw [collect_none q hq]; exact (F.reach t ht y).2 hy⟩
      rw [List.append_nil] at hp
      exact ⟨y, hp.mem_iff.2 hy'⟩
  have hof : 1 ≤ (IdSet.ofList nns).length := List.length_pos_of_mem (IdSet.mem_ofList.2 hx)
  rw [exactOver_length]
  omega

/-- the budget is at least 1 as soon as there is a tree, `count ≥ 1`, and neither `search_k` nor the
    oversampling is set to 0 (unset, they are `count × trees` and the metric's default, 1 or 3) -/
theorem budget_pos (m : Metric) (nRoots : Nat) (q : QueryOpts) (hr : 1 ≤ nRoots) (hcount : 1 ≤ q.count)
    (hk : q.searchK ≠ some 0) (ho : q.oversampling ≠ some 0) : 1 ≤ budget m nRoots q := by
  have hsat : ∀ a b, 1 ≤ a → 1 ≤ b → 1 ≤ satMul a b :=
    fun a b ha hb => Nat.le_min.2 ⟨Nat.mul_le_mul ha hb, by decide⟩
  refine hsat _ _ ?_ (oversampling_pos m q ho)
  cases hs : q.searchK with
  | none => exact hsat _ _ hcount hr
  | some k => exact Nat.pos_of_ne_zero (n := k) fun e => hk (by rw [hs, e])

end Reader
end Arroy
