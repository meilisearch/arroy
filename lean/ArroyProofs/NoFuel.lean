import ArroyProofs.BuildM
import ArroyProofs.MakeT
import ArroyProofs.DeleteForest
import ArroyProofs.TransparentBuild
import ArroyProofs.ExtraTrees
/-! Termination of the bounded loops of the model: "never runs out of fuel where the fuel is the
model's own".

`NoFuelE x`        : the `Except Err` computation `x` is not `.error (.fuel _)`.
`FuelOnlyAt P m st`: if the run of `m` from `st` is `.error (.fuel w)` then `P w`.
`FuelOnly P m`     : the same from every state.
`NoFuelErr m`      : `FuelOnly (fun _ => False) m`, written out.

The predicates are closed under every construct of `ArroyModel/Build.lean`. The tree-level routines
(`insertT`, `sideSplit`, `chooseSplit`, `IdGen.next`) raise `dbFull`, `oracle` and `panic` only
(`ErrOnly E x` for every `E` with `TreeErr E`: in particular never `.fuel`, never `.cancelled`); `makeT`
does not report `.fuel` when its fuel exceeds the number of normals left in the oracle stream (every split
level consumes one), the batch loop `insertItemsInCurrentTrees` does not when its fuel exceeds the number
of items to insert (every pass consumes `k ≥ 1` of them), and `reify` / `deleteTree` with fuel
`s.length + 1` succeed on a store that holds the tree with pairwise distinct node ids.

For the whole `build`: `build = buildPrefix >>= buildSuffix` (everything before the re-split loop; the loop
and the metadata write): the prefix can only report `delete_tree`, the suffix only the budget of the loop. -/
namespace Arroy
open BuildM Generated

def NoFuelE {α : Type} (x : Except Err α) : Prop := ∀ w, x ≠ .error (.fuel w)

def NoFuelErr {α : Type} (m : BuildM α) : Prop := ∀ st w, m st ≠ .error (.fuel w)

def FuelOnly {α : Type} (P : String → Prop) (m : BuildM α) : Prop := ∀ st w, m st = .error (.fuel w) → P w

def FuelOnlyAt {α : Type} (P : String → Prop) (m : BuildM α) (st : BState) : Prop :=
  ∀ w, m st = .error (.fuel w) → P w

theorem NoFuelE.ok {α : Type} (a : α) : NoFuelE (.ok a : Except Err α) := by intro w h; cases h

theorem NoFuelE.error {α : Type} {e : Err} (he : ∀ w, e ≠ .fuel w) : NoFuelE (.error e : Except Err α) := by
  intro w h; injection h with h; exact he w h

/-! ## closure under the constructs of `BuildM` -/

variable {α β : Type}

theorem FuelOnlyAt.bind' {P : String → Prop} {m : BuildM α} {f : α → BuildM β} {st : BState}
    (hm : FuelOnlyAt P m st) (hf : ∀ a st1, m st = .ok (a, st1) → FuelOnlyAt P (f a) st1) :
    FuelOnlyAt P (BuildM.bind' m f) st := by
  intro w h
  cases hms : m st with
  | error e =>
    rw [bind'_of_err hms] at h
    injection h with h
    subst h
    exact hm w hms
  | ok r =>
    obtain ⟨a, st1⟩ := r
    rw [bind'_of_ok hms] at h
    exact hf a st1 hms w h

theorem FuelOnlyAt.mono {P Q : String → Prop} {m : BuildM α} {st : BState} (h : FuelOnlyAt P m st)
    (hPQ : ∀ w, P w → Q w) : FuelOnlyAt Q m st := fun w e => hPQ w (h w e)

theorem FuelOnly.at {P : String → Prop} {m : BuildM α} (h : FuelOnly P m) (st : BState) : FuelOnlyAt P m st := h st

namespace FuelOnly
variable {P : String → Prop}

theorem bind' {m : BuildM α} {f : α → BuildM β} (hm : FuelOnly P m) (hf : ∀ a, FuelOnly P (f a)) :
    FuelOnly P (BuildM.bind' m f) :=
  fun st => FuelOnlyAt.bind' (hm st) (fun a st1 _ => hf a st1)

theorem bind {m : BuildM α} {f : α → BuildM β} (hm : FuelOnly P m) (hf : ∀ a, FuelOnly P (f a)) :
    FuelOnly P (m >>= f) := bind' hm hf

theorem mono {Q : String → Prop} {m : BuildM α} (h : FuelOnly P m) (hPQ : ∀ w, P w → Q w) : FuelOnly Q m :=
  fun st => FuelOnlyAt.mono (h st) hPQ

theorem liftExcept {x : Except Err α} (hx : ∀ w, x = .error (.fuel w) → P w) : FuelOnly P (BuildM.liftExcept x) := by
  intro st w h
  cases x with
  | ok a => cases h
  | error e =>
    simp only [BuildM.liftExcept] at h
    injection h with h
    subst h
    exact hx w rfl

theorem fail_fuel {w : String} (h : P w) : FuelOnly P (BuildM.fail (.fuel w) : BuildM α) := by
  intro st w' e
  simp only [BuildM.fail] at e
  injection e with e
  injection e with e
  subst e
  exact h

end FuelOnly

theorem FuelOnly.noFuel {α : Type} {m : BuildM α} (h : FuelOnly (fun _ => False) m) : NoFuelErr m :=
  fun st w e => h st w e

namespace NoFuelErr

theorem fuelOnly {m : BuildM α} (h : NoFuelErr m) (P : String → Prop) : FuelOnly P m :=
  fun st w e => (h st w e).elim

theorem of_ok {m : BuildM α} (h : ∀ st, ∃ r, m st = .ok r) : NoFuelErr m := by
  intro st w e
  obtain ⟨r, hr⟩ := h st
  rw [hr] at e; cases e

theorem pure' (a : α) : NoFuelErr (BuildM.pure' a) := of_ok fun _ => ⟨_, rfl⟩
theorem pure (a : α) : NoFuelErr (pure a : BuildM α) := pure' a

/-- failing with anything but `.fuel` -/
theorem fail {e : Err} (he : ∀ w, e ≠ .fuel w) : NoFuelErr (BuildM.fail e : BuildM α) := by
  intro st w h
  simp only [BuildM.fail] at h
  injection h with h
  exact he w h

theorem bind' {m : BuildM α} {f : α → BuildM β} (hm : NoFuelErr m) (hf : ∀ a, NoFuelErr (f a)) :
    NoFuelErr (BuildM.bind' m f) := FuelOnly.bind' (P := fun _ => False) hm hf

theorem bind {m : BuildM α} {f : α → BuildM β} (hm : NoFuelErr m) (hf : ∀ a, NoFuelErr (f a)) :
    NoFuelErr (m >>= f) := bind' hm hf

theorem getStore : NoFuelErr BuildM.getStore := of_ok fun _ => ⟨_, rfl⟩
theorem setStore (s : Store) : NoFuelErr (BuildM.setStore s) := of_ok fun _ => ⟨_, rfl⟩
theorem modifyStore (f : Store → Store) : NoFuelErr (BuildM.modifyStore f) := of_ok fun _ => ⟨_, rfl⟩

/-- any state update that cannot fail (the state-peeking lambdas of `Build.lean`) -/
theorem update (g : BState → α) (u : BState → BState) : NoFuelErr (fun s => .ok (g s, u s) : BuildM α) :=
  of_ok fun _ => ⟨_, rfl⟩

/-- lifting a computation that never returns `.fuel` -/
theorem liftExcept {x : Except Err α} (hx : NoFuelE x) : NoFuelErr (BuildM.liftExcept x) :=
  FuelOnly.liftExcept (P := fun _ => False) (fun w e => hx w e)

/-- `poll` fails with `cancelled` only -/
theorem poll : NoFuelErr BuildM.poll := by
  intro st w h
  unfold BuildM.poll at h
  split at h
  · split at h <;> cases h
  · cases h

theorem pollN (k : Nat) : NoFuelErr (BuildM.pollN k) := by
  induction k with
  | zero => exact pure' ()
  | succ k ih => exact bind' poll (fun _ => ih)

/-- `nextBatch` fails with `oracle` only -/
theorem nextBatch : NoFuelErr BuildM.nextBatch := by
  intro st w h
  unfold BuildM.nextBatch at h
  split at h <;> cases h

theorem orDefault (m : BuildM α) (d : α) : NoFuelErr (BuildM.orDefault m d) := by
  intro st w h
  unfold BuildM.orDefault at h
  split at h <;> cases h

theorem forEach (l : List α) (f : α → BuildM Unit) (hf : ∀ a, NoFuelErr (f a)) :
    NoFuelErr (BuildM.forEach l f) := by
  induction l with
  | nil => exact pure' ()
  | cons x xs ih => exact bind' (hf x) (fun _ => ih)

theorem ite {p : Prop} [Decidable p] {a b : BuildM α} (ha : NoFuelErr a) (hb : NoFuelErr b) :
    NoFuelErr (if p then a else b) := by
  split <;> assumption

theorem usedTreeNode (c : Cfg) : NoFuelErr (Build.usedTreeNode c) := by
  intro st w h
  unfold Build.usedTreeNode at h
  dsimp only at h
  split at h
  · split at h <;> cases h
  · cases h

/-- `reifyRoot` fails with `panic` only (its fuel `s.length + 1` running out is reported as a panic:
    see `reifyRoot_ok_of_holds` for when it cannot) -/
theorem reifyRoot (c : Cfg) (s : Store) (root : Nat) : NoFuelErr (Build.reifyRoot c s root) := by
  unfold Build.reifyRoot
  split
  · exact pure _
  · exact fail (by intro w h; cases h)

end NoFuelErr

theorem NoFuelErr.at {m : BuildM α} (h : NoFuelErr m) (st : BState) (P : String → Prop) : FuelOnlyAt P m st :=
  h.fuelOnly P st

/-! ## the errors of the tree-level routines -/

/-- every error of `x` satisfies `E` -/
def ErrOnly {α : Type} (E : Err → Prop) (x : Except Err α) : Prop := ∀ e, x = .error e → E e

/-- `E` holds of what the tree-level routines raise on their own: id space exhausted, a missing oracle
    event, a panic -/
structure TreeErr (E : Err → Prop) : Prop where
  dbFull : E .dbFull
  oracle : ∀ s, E (.oracle s)
  panic : ∀ s, E (.panic s)

theorem TreeErr.notFuel : TreeErr (fun e => ∀ w, e ≠ .fuel w) :=
  ⟨fun _ h => Err.noConfusion h, fun _ _ h => Err.noConfusion h, fun _ _ h => Err.noConfusion h⟩

theorem ErrOnly.noFuelE {x : Except Err α} (h : ErrOnly (fun e => ∀ w, e ≠ .fuel w) x) : NoFuelE x :=
  fun w hx => h _ hx w rfl

variable {E : Err → Prop}

/-- an error passed on -/
theorem ErrOnly.passed {x : Except Err α} (hx : ErrOnly E x) {e : Err} (he : x = .error e) :
    ErrOnly E (.error e : Except Err β) := by
  intro e' h; cases h; exact hx e he

/-- `ConcurrentNodeIds::next` fails with `dbFull` only -/
theorem IdGen.next_errOnly (hE : TreeErr E) (g : IdGen) : ErrOnly E g.next := by
  intro e h
  unfold IdGen.next at h
  dsimp only at h
  split at h
  · cases h; exact hE.dbFull
  · split at h
    · split at h <;> cases h
    · cases h

/-- `sideSplit` fails with `panic` (leaf missing) or `oracle` (random bits exhausted) only -/
theorem sideSplit_errOnly (hE : TreeErr E) (cx : TreeCtx) (n : List Nat) (xs : List Nat) (rs : List Bool) :
    ErrOnly E (sideSplit cx n xs rs) := by
  induction xs generalizing rs with
  | nil => intro e h; cases h
  | cons x xs ih =>
    intro e h
    unfold sideSplit at h
    split at h
    · cases h; exact hE.panic _
    · split at h
      · split at h <;> cases h
      · rename_i e' he
        exact (ih _).passed he e h
    · split at h
      · cases h; exact hE.oracle _
      · split at h
        · split at h <;> cases h
        · rename_i e' he
          exact (ih _).passed he e h

/-- `chooseSplit` fails with `oracle` (no normal left) or like `sideSplit` only -/
theorem chooseSplit_errOnly (hE : TreeErr E) (cx : TreeCtx) (items : List Nat) (attempts : Nat)
    (normals : List (List Nat)) (rs : List Bool) (polls : Nat) :
    ErrOnly E (chooseSplit cx items attempts normals rs polls) := by
  induction attempts generalizing normals rs polls with
  | zero =>
    intro e h
    unfold chooseSplit at h
    split at h
    · cases h; exact hE.oracle _
    · split at h
      · rename_i e' he
        exact (sideSplit_errOnly hE _ _ _ _).passed he e h
      · split at h <;> cases h
  | succ a ih =>
    intro e h
    unfold chooseSplit at h
    split at h
    · cases h; exact hE.oracle _
    · split at h
      · rename_i e' he
        exact (sideSplit_errOnly hE _ _ _ _).passed he e h
      · split at h
        · cases h
        · exact ih _ _ _ e h

/-- `insert_items_in_file` has no fuel: it recurses on the tree -/
theorem insertT_errOnly (hE : TreeErr E) (cx : TreeCtx) (t : T) (ins : List Nat) (g : IdGen) (rs : List Bool) :
    ErrOnly E (insertT cx t ins g rs) := by
  induction t generalizing ins g rs with
  | leaf i =>
    intro e h
    unfold insertT at h
    dsimp only at h
    split at h
    · split at h
      · rename_i e' he
        exact (IdGen.next_errOnly hE g).passed he e h
      · cases h
    · cases h
  | bucket id s =>
    intro e h
    unfold insertT at h
    dsimp only at h
    split at h <;> cases h
  | node id n l r ihl ihr =>
    intro e h
    unfold insertT at h
    dsimp only at h
    split at h
    · rename_i e' he
      cases h
      split at he
      · split at he
        · cases he
        · cases he; exact hE.oracle _
      · exact sideSplit_errOnly hE _ _ _ _ _ he
    · split at h
      · rename_i e' he
        exact (ihl _ _ _).passed he e h
      · split at h
        · rename_i e' he
          exact (ihr _ _ _).passed he e h
        · cases h

theorem IdGen.next_noFuel (g : IdGen) : NoFuelE g.next := (IdGen.next_errOnly .notFuel g).noFuelE

theorem sideSplit_noFuel (cx : TreeCtx) (n : List Nat) (xs : List Nat) (rs : List Bool) :
    NoFuelE (sideSplit cx n xs rs) := (sideSplit_errOnly .notFuel cx n xs rs).noFuelE

theorem chooseSplit_noFuel (cx : TreeCtx) (items : List Nat) (attempts : Nat) (normals : List (List Nat))
    (rs : List Bool) (polls : Nat) : NoFuelE (chooseSplit cx items attempts normals rs polls) :=
  (chooseSplit_errOnly .notFuel cx items attempts normals rs polls).noFuelE

theorem insertT_noFuel (cx : TreeCtx) (t : T) (ins : List Nat) (g : IdGen) (rs : List Bool) :
    NoFuelE (insertT cx t ins g rs) := (insertT_errOnly .notFuel cx t ins g rs).noFuelE

/-- every attempt consumes one normal of the oracle stream -/
theorem chooseSplit_normals {cx : TreeCtx} {items : List Nat} {attempts : Nat} {normals : List (List Nat)}
    {rs : List Bool} {polls : Nat} {n l r : List Nat} {normals' : List (List Nat)} {rs' : List Bool} {k : Nat}
    (h : chooseSplit cx items attempts normals rs polls = .ok (n, l, r, normals', rs', k)) :
    normals'.length + (k - polls) = normals.length ∧ polls + 1 ≤ k := by
  obtain ⟨_, _, _, pre, rfl, rfl⟩ := chooseSplit_spec h
  simp only [List.length_append, List.length_cons]
  omega

/-- the normal `make_tree_in_file` settles on is one of the oracle's, and what is left of the oracle is
    a part of it -/
theorem chooseSplit_normals_mem {cx : TreeCtx} {items : List Nat} {attempts : Nat} {normals : List (List Nat)}
    {rs : List Bool} {polls : Nat} {n l r : List Nat} {normals' : List (List Nat)} {rs' : List Bool} {k : Nat}
    (h : chooseSplit cx items attempts normals rs polls = .ok (n, l, r, normals', rs', k)) :
    n ∈ normals ∧ ∀ x ∈ normals', x ∈ normals := by
  obtain ⟨_, _, _, pre, rfl, _⟩ := chooseSplit_spec h
  exact ⟨by simp, fun x hx => by simp [hx]⟩

/-! ## `makeT`: every split level consumes a normal -/

/-- the normals left after `makeT` plus the split nodes made are at most the normals it started with -/
theorem makeT_normals_splits (cx : TreeCtx) (fuel : Nat) (items : List Nat) (g : IdGen) (normals : List (List Nat))
    (rs : List Bool) (res : MakeRes) (h : makeT cx fuel items g normals rs = .ok res) :
    res.normals.length + res.tree.splits ≤ normals.length := by
  induction fuel generalizing items g normals rs res with
  | zero => exact (makeT_zero h).elim
  | succ fuel ih =>
    rcases makeT_succ_ok h with ⟨x, _, rfl⟩ | ⟨_, _, id, g', _, rfl⟩ |
      ⟨_, _, n, l, r, normals1, rs2, k, a, b, id, g', _, _, _, hn, ha, hb, _, rfl⟩
    · simp [T.splits]
    · simp [T.splits]
    · have A := ih _ _ _ _ _ ha
      have B := ih _ _ _ _ _ hb
      simp only [T.splits]
      omega

/-- the depth of a tree is at most its number of split nodes plus one -/
theorem T.depth_le_splits (t : T) : t.depth ≤ t.splits + 1 := by
  induction t with
  | leaf i => simp [T.depth, T.splits]
  | bucket id s => simp [T.depth, T.splits]
  | node id n l r ihl ihr => simp only [T.depth, T.splits]; omega

/-- `makeT` reports `.fuel` only if its fuel does not exceed the number of normals left -/
theorem makeT_errOnly (hE : TreeErr E) (cx : TreeCtx) (fuel : Nat) (items : List Nat) (g : IdGen)
    (normals : List (List Nat)) (rs : List Bool)
    (hf : normals.length < fuel ∨ E (.fuel "make_tree_in_file")) : ErrOnly E (makeT cx fuel items g normals rs) := by
  induction fuel generalizing items g normals rs with
  | zero =>
    intro e h
    simp only [makeT, Except.error.injEq] at h
    subst h
    exact hf.resolve_left (Nat.not_lt_zero _)
  | succ fuel ih =>
    intro e h
    simp only [makeT] at h
    split at h
    · cases h
    · split at h
      · split at h
        · rename_i e' he
          exact (IdGen.next_errOnly hE g).passed he e h
        · cases h
      · split at h
        · rename_i e' he
          exact (chooseSplit_errOnly hE _ _ _ _ _ _).passed he e h
        · rename_i n l r normals1 rs1 k hcs
          have hn := (chooseSplit_normals hcs).1
          have hk := (chooseSplit_normals hcs).2
          split at h
          · rename_i e' hdec
            cases h
            split at hdec
            · split at hdec
              · cases hdec
              · cases hdec; exact hE.oracle _
            · cases hdec
          · rename_i n' l' r' rs2 hdec
            split at h
            · rename_i e' he
              exact (ih _ _ _ _ (hf.imp_left (by omega))).passed he e h
            · rename_i a ha
              have hA := makeT_normals_splits _ _ _ _ _ _ _ ha
              split at h
              · rename_i e' he
                exact (ih _ _ _ _ (hf.imp_left (by omega))).passed he e h
              · rename_i b hb
                split at h
                · rename_i e' he
                  exact (IdGen.next_errOnly hE _).passed he e h
                · cases h

theorem makeT_noFuel (cx : TreeCtx) (fuel : Nat) (items : List Nat) (g : IdGen) (normals : List (List Nat))
    (rs : List Bool) (hf : normals.length < fuel) : NoFuelE (makeT cx fuel items g normals rs) :=
  (makeT_errOnly .notFuel cx fuel items g normals rs (Or.inl hf)).noFuelE

/-! ## the batch loop -/

theorem writeBack_noFuel (c : Cfg) (removed : List Nat) (puts : List (Nat × Val)) (remap : Nat → Nat) :
    NoFuelErr (Build.writeBack c removed puts remap) := by
  unfold Build.writeBack
  exact .bind (.forEach _ _ fun _ => .bind .poll fun _ => .modifyStore _)
    fun _ => .forEach _ _ fun _ => .bind .poll fun _ => .modifyStore _

theorem insertRoots_noFuel (c : Cfg) (o : BuildOpts) (snap : Store) (batch roots : List Nat) (g : IdGen) :
    NoFuelErr (Build.insertRoots c o snap batch roots g) := by
  induction roots generalizing g with
  | nil => unfold Build.insertRoots; exact .pure _
  | cons r rest ih =>
    unfold Build.insertRoots
    refine .bind .poll fun _ => .bind (.reifyRoot _ _ _) fun t => .bind (.update _ _) fun st => ?_
    refine .bind (.liftExcept (insertT_noFuel _ _ _ _ _)) fun r => .bind (.update _ _) fun _ => ?_
    exact .bind (.pollN _) fun _ => .bind (ih _) fun ⟨_, _, _⟩ => .pure _

/-- every pass of `insert_items_in_current_trees` consumes `k ≥ 1` items: a fuel larger than the number
    of items to insert is never exhausted -/
theorem insertItemsInCurrentTrees_noFuel (c : Cfg) (o : BuildOpts) (roots : List Nat) (fuel : Nat)
    (toInsert : List Nat) (g : IdGen) (hf : toInsert.length < fuel) :
    NoFuelErr (Build.insertItemsInCurrentTrees c o roots fuel toInsert g) := by
  induction fuel generalizing toInsert g with
  | zero => omega
  | succ fuel ih =>
    unfold Build.insertItemsInCurrentTrees
    split
    · exact NoFuelErr.pure _
    · refine NoFuelErr.bind NoFuelErr.poll (fun _ => ?_)
      refine NoFuelErr.bind NoFuelErr.getStore (fun snapshot => ?_)
      refine NoFuelErr.bind NoFuelErr.nextBatch (fun k => ?_)
      split
      · exact NoFuelErr.fail (by intro w h; cases h)
      · rename_i hk
        refine NoFuelErr.bind (insertRoots_noFuel _ _ _ _ _ _) (fun x => ?_)
        split
        refine NoFuelErr.bind (NoFuelErr.forEach _ _ (fun _ => writeBack_noFuel _ _ _ _)) (fun _ => ?_)
        refine NoFuelErr.bind (ih _ _ (by simp only [List.length_drop]; omega)) (fun y => ?_)
        split
        exact NoFuelErr.pure _

/-! ## `reify` and `deleteTree` with the model's fuel `s.length + 1` -/

/-- `reifyRoot` succeeds (no `.fuel`, no `.panic`, nothing else) on a store holding the tree -/
theorem reifyRoot_ok_of_holds (c : Cfg) (s : Store) (t : T) (root : Nat) (h : Holds c s t) (hnd : t.ids.Nodup)
    (hr : t.ref = NodeId.mkTree root) (st : BState) : Build.reifyRoot c s root st = .ok (t, st) := by
  apply reifyRoot_of_reify
  rw [← hr]
  exact reify_of_holds_nodup c s t h hnd

/-- `delete_tree` on a held tree with distinct node ids succeeds with enough fuel for its depth (what it
    then does to the store is `deleteTree_spec`) -/
theorem deleteTree_ok_of_holds (c : Cfg) (t : T) : ∀ (fuel : Nat) (s : Store), Holds c s t → t.ids.Nodup →
    t.depth ≤ fuel → ∃ s', Build.deleteTree c fuel t.ref s = .ok s' := by
  have hkey : ∀ id, (⟨c.index, (NodeId.mkTree id).mode, (NodeId.mkTree id).item⟩ : Key) = c.treeKey id := fun _ => rfl
  induction t with
  | leaf i =>
    intro fuel s _ _ hd
    cases fuel with
    | zero => simp [T.depth] at hd
    | succ f => exact ⟨s, by simp [Build.deleteTree, T.ref]⟩
  | bucket id its =>
    intro fuel s hh _ hd
    cases fuel with
    | zero => simp [T.depth] at hd
    | succ f =>
      have hb : Store.get s (c.treeKey id) = some (.desc its) := hh.bucket
      refine ⟨Store.erase s (c.treeKey id), ?_⟩
      show Build.deleteTree c (f + 1) (NodeId.mkTree id) s = _
      unfold Build.deleteTree
      rw [hkey, hb]
      simp
  | node id n l r ihl ihr =>
    intro fuel s hh hnd hd
    cases fuel with
    | zero => simp [T.depth] at hd
    | succ f =>
      simp only [T.depth] at hd
      simp only [T.ids, List.nodup_cons, List.mem_append, not_or, List.nodup_append] at hnd
      obtain ⟨_, hndl, hndr, hdisj⟩ := hnd
      have hroot : Store.get s (c.treeKey id) = some (.split l.ref r.ref n) := hh.root
      obtain ⟨s1, e1⟩ := ihl f s hh.left hndl (by omega)
      -- the right subtree is still held: the left deletion erased none of its nodes
      have hr1 : Holds c s1 r := hh.right.frame (by
        intro i hi
        rw [(deleteTree_spec c l f s s1 hh.left hndl e1).2, if_neg]
        intro hm
        obtain ⟨j, hj, e⟩ := List.mem_map.1 hm
        exact hdisj j hj i hi (Cfg.treeKey_inj.1 e))
      obtain ⟨s2, e2⟩ := ihr f s1 hr1 hndr (by omega)
      refine ⟨Store.erase s2 (c.treeKey id), ?_⟩
      show Build.deleteTree c (f + 1) (NodeId.mkTree id) s = _
      unfold Build.deleteTree
      rw [hkey, hroot]
      simp [e1, e2]

/-- `delete_tree` with the fuel `delete_extra_trees` passes succeeds on a held tree with distinct ids -/
theorem deleteTree_ok_of_holds_nodup (c : Cfg) (s : Store) (t : T) (h : Holds c s t) (hnd : t.ids.Nodup) :
    ∃ s', Build.deleteTree c (s.length + 1) t.ref s = .ok s' ∧
      (∀ i ∈ t.ids, Store.get s' (c.treeKey i) = none) ∧
      (∀ k, (∀ i ∈ t.ids, k ≠ c.treeKey i) → Store.get s' k = Store.get s k) := by
  obtain ⟨s', e⟩ := deleteTree_ok_of_holds c t _ s h hnd (depth_le_store_length c s t h hnd)
  have spec := (deleteTree_spec c t _ s s' h hnd e).2
  refine ⟨s', e, fun i hi => ?_, fun k hk => ?_⟩
  · rw [spec, if_pos (List.mem_map_of_mem hi)]
  · rw [spec, if_neg]
    intro hm
    obtain ⟨i, hi, e'⟩ := List.mem_map.1 hm
    exact hk i hi e'.symm

/-! ## the re-split loop: only its own budget can run out -/

/-- inside `incremental_index_large_descendants` every inner loop runs on the model's own fuel and never
    exhausts it: a `.fuel` error can only be the budget `loopFuel` of the (probabilistically terminating)
    outer loop -/
theorem incrementalIndexLargeDescendants_fuelOnly (c : Cfg) (o : BuildOpts) (fuel : Nat) (large : List Nat)
    (g : IdGen) :
    FuelOnly (fun w => w = "incremental_index_large_descendants")
      (Build.incrementalIndexLargeDescendants c o fuel large g) := by
  induction fuel generalizing large g with
  | zero =>
    unfold Build.incrementalIndexLargeDescendants
    split
    · exact (NoFuelErr.pure _).fuelOnly _
    · exact FuelOnly.fail_fuel rfl
  | succ fuel ih =>
    unfold Build.incrementalIndexLargeDescendants
    split
    · exact (NoFuelErr.pure _).fuelOnly _
    · refine FuelOnly.bind (NoFuelErr.poll.fuelOnly _) (fun _ => ?_)
      refine FuelOnly.bind (NoFuelErr.getStore.fuelOnly _) (fun s => ?_)
      split
      · refine FuelOnly.bind (NoFuelErr.nextBatch.fuelOnly _) (fun k => ?_)
        split
        · exact (NoFuelErr.fail (by intro w h; cases h)).fuelOnly _
        · dsimp only
          refine FuelOnly.bind ((NoFuelErr.update _ _).fuelOnly _) (fun st0 => ?_)
          refine FuelOnly.bind ((NoFuelErr.liftExcept (makeT_noFuel _ _ _ _ _ _ (by omega))).fuelOnly _) (fun r => ?_)
          refine FuelOnly.bind ((NoFuelErr.update _ _).fuelOnly _) (fun _ => ?_)
          refine FuelOnly.bind ((NoFuelErr.pollN _).fuelOnly _) (fun _ => ?_)
          refine FuelOnly.bind ((writeBack_noFuel _ _ _ _).fuelOnly _) (fun _ => ?_)
          refine FuelOnly.bind ((insertItemsInCurrentTrees_noFuel _ _ _ _ _ _ (by omega)).fuelOnly _) (fun x => ?_)
          exact ih _ _
      · exact (NoFuelErr.fail (by intro w h; cases h)).fuelOnly _

/-! ## the whole `build`: which fuel labels can be reported at all -/

/-- the only fuel `delete_tree` can report is its own -/
theorem deleteTree_fuel_label (c : Cfg) : ∀ (fuel : Nat) (ref : NodeId) (s : Store) (w : String),
    Build.deleteTree c fuel ref s = .error (.fuel w) → w = "delete_tree" := by
  intro fuel
  induction fuel with
  | zero =>
    intro ref s w h
    simp only [Build.deleteTree] at h
    injection h with h
    injection h with h
    exact h.symm
  | succ f ih =>
    intro ref s w h
    unfold Build.deleteTree at h
    split at h
    · cases h
    · split at h
      · cases h
      · split at h
        · rename_i e he
          injection h with h
          subst h
          exact ih _ _ _ he
        · split at h
          · rename_i e he
            injection h with h
            subst h
            exact ih _ _ _ he
          · cases h
      · cases h
      · cases h

theorem deleteExtraTrees_fuelOnly (c : Cfg) (k : Nat) (roots : List Nat) :
    FuelOnly (fun w => w = "delete_tree") (Build.deleteExtraTrees c k roots) := by
  induction k generalizing roots with
  | zero => unfold Build.deleteExtraTrees; exact (NoFuelErr.pure _).fuelOnly _
  | succ k ih =>
    unfold Build.deleteExtraTrees
    refine FuelOnly.bind (NoFuelErr.poll.fuelOnly _) (fun _ => ?_)
    split
    · exact (NoFuelErr.pure _).fuelOnly _
    · refine FuelOnly.bind (NoFuelErr.getStore.fuelOnly _) (fun s => ?_)
      refine FuelOnly.bind (FuelOnly.liftExcept (fun w h => deleteTree_fuel_label c _ _ _ w h)) (fun s' => ?_)
      refine FuelOnly.bind ((NoFuelErr.setStore _).fuelOnly _) (fun _ => ?_)
      exact ih _

theorem deleteLoop_noFuel (c : Cfg) (o : BuildOpts) (D : List Nat) (s : Store) (roots : List Nat) :
    NoFuelErr (Build.deleteLoop c o D s roots) := by
  induction roots with
  | nil => unfold Build.deleteLoop; exact .pure _
  | cons r rest ih =>
    unfold Build.deleteLoop
    exact .bind .poll fun _ => .bind (.reifyRoot _ _ _) fun t => .bind (.pollN _) fun _ =>
      .bind ih fun ⟨_, _, _⟩ => .pure _

theorem deleteItemsFromTrees_noFuel (c : Cfg) (o : BuildOpts) (roots D : List Nat) :
    NoFuelErr (Build.deleteItemsFromTrees c o roots D) := by
  unfold Build.deleteItemsFromTrees
  exact .bind .getStore fun s => .bind (deleteLoop_noFuel _ _ _ _ _) fun ⟨_, _, _⟩ =>
    .bind (writeBack_noFuel _ _ _ _) fun _ => .pure _

theorem newTrees_noFuel (c : Cfg) (items : List Nat) (k : Nat) (roots large : List Nat) (g : IdGen) :
    NoFuelErr (Build.newTrees c items k roots large g) := by
  induction k generalizing roots large g with
  | zero => unfold Build.newTrees; exact .pure _
  | succ k ih =>
    unfold Build.newTrees
    exact .bind (.liftExcept (IdGen.next_noFuel _)) fun ⟨_, _⟩ => .bind (.modifyStore _) fun _ => ih _ _ _

theorem preProcessItems_noFuel (c : Cfg) : NoFuelErr (Build.preProcessItems c) := by
  unfold Build.preProcessItems
  exact .bind .poll fun _ => .ite (.modifyStore _) (.pure _)

theorem itemIndices_noFuel (c : Cfg) : NoFuelErr (Build.itemIndices c) := by
  unfold Build.itemIndices
  exact .bind .getStore fun _ => .bind (.pollN _) fun _ => .pure _

theorem resetUpdated_noFuel (c : Cfg) : NoFuelErr (Build.resetUpdated c) := by
  unfold Build.resetUpdated
  exact .bind .getStore fun _ => .bind (.forEach _ _ fun _ => .bind .poll fun _ => .modifyStore _) fun _ => .pure _

theorem writeMetadata_noFuel (c : Cfg) (a b : List Nat) : NoFuelErr (Build.writeMetadata c a b) :=
  .modifyStore _

theorem singleLeaf_noFuel (c : Cfg) (items : List Nat) : NoFuelErr (Build.singleLeaf c items) := by
  have rest : ∀ r, NoFuelErr (do
      poll
      Build.writeMetadata c items r
      modifyStore fun st => Store.put st c.versionKey
        (.version crateVersion.1 crateVersion.2.1 crateVersion.2.2) : BuildM Unit) :=
    fun _ => .bind .poll fun _ => .bind (writeMetadata_noFuel _ _ _) fun _ => .modifyStore _
  unfold Build.singleLeaf
  exact .bind (.modifyStore _) fun _ => .ite (.bind (.modifyStore _) fun _ => rest _) (rest _)

/-! ## `build` as what precedes the re-split loop, then the loop and the metadata

`buildPrefix` is everything before the re-split loop (the "prefix" of `BuildPrefix.lean` is shorter: the first
three steps only). The body of `Build.build` is written out again here because the model defines it in one piece:
the fuel theorems below, and the termination argument of the loop (`ResplitFairBuild.lean`), need the state the
loop starts in as a value. -/

section
open Transp

/-- `Transp.afterUsed` up to the re-split loop: the roots, the queue and the id generator the loop starts with -/
def afterUsedPrefix (c : Cfg) (o : BuildOpts) (items updated roots used : List Nat) :
    BuildM (List Nat × List Nat × IdGen) := do
  let toDelete := updated
  let toInsert := IdSet.inter items updated
  let g := IdGen.new used
  let target := Build.targetNTrees o c.dims items.length roots.length
  let roots ← Build.deleteExtraTrees c (roots.length - target) roots
  let roots ← Build.deleteItemsFromTrees c o roots toDelete
  let (large, g) ← Build.insertItemsInCurrentTrees c o roots (toInsert.length + 1) toInsert g
  Build.newTrees c items (target - roots.length) roots large g

theorem afterUsed_eq_prefix (c : Cfg) (o : BuildOpts) (fuel : Nat) (items updated roots used : List Nat) :
    afterUsed c o fuel items updated roots used =
      bind' (afterUsedPrefix c o items updated roots used) (fun x =>
        bind' (Build.incrementalIndexLargeDescendants c o fuel x.2.1 x.2.2) (fun _ => Build.writeMetadata c items x.1)) := by
  simp only [afterUsed, afterUsedPrefix, bind_eq, bind'_assoc]

/-- `Build.build` up to the re-split loop: `none` on the single-leaf path (no loop), otherwise the items, the
    roots, the queue and the id generator the loop starts with.  It does not depend on the loop budget. -/
def buildPrefix (c : Cfg) (o : BuildOpts) : BuildM (Option (List Nat × List Nat × List Nat × IdGen)) :=
  bind' (Build.preProcessItems c) (fun _ => bind' (Build.itemIndices c) (fun items =>
    bind' (Build.resetUpdated c) (fun updated =>
      if fits (Build.cap c o) items.length then bind' (Build.singleLeaf c items) (fun _ => pure' none) else
      bind' getStore (fun s => bind' (Build.usedTreeNode c) (fun used =>
        bind' (afterUsedPrefix c o items updated (rootsOf c s) used) (fun x => pure' (some (items, x))))))))

/-- what `build` does after the prefix: the loop, then the metadata -/
def buildSuffix (c : Cfg) (o : BuildOpts) (loopFuel : Nat) :
    Option (List Nat × List Nat × List Nat × IdGen) → BuildM Unit
  | none => pure' ()
  | some (items, roots, large, g) =>
    bind' (Build.incrementalIndexLargeDescendants c o loopFuel large g) (fun _ => Build.writeMetadata c items roots)

theorem build_eq_prefix (c : Cfg) (o : BuildOpts) (loopFuel : Nat) :
    Build.build c o loopFuel = bind' (buildPrefix c o) (buildSuffix c o loopFuel) := by
  rw [build_eq]
  simp only [buildPrefix, bind'_assoc]
  refine congrArg (bind' _) (funext fun _ => congrArg (bind' _) (funext fun items => congrArg (bind' _)
    (funext fun updated => ?_)))
  rw [bind'_ite]
  split
  · simp only [bind'_assoc, bind'_pure'_left, buildSuffix, bind'_pure' (α := Unit)]
  · simp only [bind'_assoc, bind'_pure'_left, buildSuffix]
    refine congrArg (bind' getStore) (funext fun s => congrArg (bind' _) (funext fun used => ?_))
    rw [afterUsed_eq_prefix]

end

/-- the only fuel the prefix can report exhausted is `delete_tree`'s -/
theorem buildPrefix_fuelOnly (c : Cfg) (o : BuildOpts) : FuelOnly (fun w => w = "delete_tree") (buildPrefix c o) := by
  unfold buildPrefix
  refine FuelOnly.bind' ((preProcessItems_noFuel c).fuelOnly _) (fun _ => ?_)
  refine FuelOnly.bind' ((itemIndices_noFuel c).fuelOnly _) (fun items => ?_)
  refine FuelOnly.bind' ((resetUpdated_noFuel c).fuelOnly _) (fun updated => ?_)
  split
  · exact FuelOnly.bind' ((singleLeaf_noFuel c items).fuelOnly _) (fun _ => (NoFuelErr.pure' _).fuelOnly _)
  · refine FuelOnly.bind' (NoFuelErr.getStore.fuelOnly _) (fun s => ?_)
    refine FuelOnly.bind' ((NoFuelErr.usedTreeNode c).fuelOnly _) (fun used => ?_)
    refine FuelOnly.bind' ?_ (fun x => (NoFuelErr.pure' _).fuelOnly _)
    unfold afterUsedPrefix
    dsimp only
    refine FuelOnly.bind (deleteExtraTrees_fuelOnly _ _ _) (fun roots1 => ?_)
    refine FuelOnly.bind ((deleteItemsFromTrees_noFuel _ _ _ _).fuelOnly _) (fun roots2 => ?_)
    refine FuelOnly.bind ((insertItemsInCurrentTrees_noFuel _ _ _ _ _ _ (Nat.lt_succ_self _)).fuelOnly _) (fun x => ?_)
    exact (newTrees_noFuel _ _ _ _ _ _).fuelOnly _

/-- the only fuel the suffix can report exhausted is the budget of the loop -/
theorem buildSuffix_fuelOnly (c : Cfg) (o : BuildOpts) (loopFuel : Nat)
    (x : Option (List Nat × List Nat × List Nat × IdGen)) :
    FuelOnly (fun w => w = "incremental_index_large_descendants") (buildSuffix c o loopFuel x) := by
  cases x with
  | none => exact (NoFuelErr.pure' _).fuelOnly _
  | some y =>
    exact FuelOnly.bind' (incrementalIndexLargeDescendants_fuelOnly _ _ _ _ _)
      (fun _ => (writeMetadata_noFuel _ _ _).fuelOnly _)

/-- the labels of the two fuels that can be reported by `build`: the budget of the re-split loop, and
    `delete_tree` (only on a store whose trees are not trees: see `deleteTree_ok_of_holds_nodup`) -/
def buildFuelLabel (w : String) : Prop := w = "incremental_index_large_descendants" ∨ w = "delete_tree"

/-- `build` can only report the budget of the re-split loop or `delete_tree` as exhausted -/
theorem build_fuelOnly (c : Cfg) (o : BuildOpts) (loopFuel : Nat) :
    FuelOnly buildFuelLabel (Build.build c o loopFuel) := by
  rw [build_eq_prefix]
  exact FuelOnly.bind' ((buildPrefix_fuelOnly c o).mono (fun _ => Or.inr))
    (fun x => (buildSuffix_fuelOnly c o loopFuel x).mono (fun _ => Or.inl))

end Arroy
