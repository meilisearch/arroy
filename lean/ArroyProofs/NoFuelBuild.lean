import ArroyProofs.NoFuel
import ArroyProofs.PreprocessFrame
import ArroyProofs.PrefixLemmas
/-! `build` on a store whose metadata roots are a forest (held trees, pairwise distinct node ids): the only
fuel that can be reported exhausted is the budget of the re-split loop.  `delete_extra_trees` deletes one held
tree after the other; each deletion leaves the other trees held (their node ids are disjoint). -/
namespace Arroy
open BuildM Generated

/-! ## deleting the extra trees of a forest -/

/-- the roots are pairwise distinct and each is the root of a tree of a held forest with distinct node ids -/
def DeletableRoots (c : Cfg) (s : Store) (roots : List Nat) : Prop :=
  roots.Nodup ∧ ∃ ts : List T, (ts.flatMap T.ids).Nodup ∧ (∀ t ∈ ts, Holds c s t) ∧
    ∀ root ∈ roots, ∃ t ∈ ts, t.ref = NodeId.mkTree root

theorem flatMap_nodup_disjoint {α β : Type} (f : α → List β) : ∀ (l : List α), (l.flatMap f).Nodup →
    ∀ a ∈ l, ∀ b ∈ l, a ≠ b → ∀ x ∈ f a, x ∉ f b := by
  intro l
  induction l with
  | nil => intro _ a ha; cases ha
  | cons y ys ih =>
    intro hnd a ha b hb hab x hxa hxb
    simp only [List.flatMap_cons, List.nodup_append] at hnd
    obtain ⟨_, hys, hdj⟩ := hnd
    simp only [List.mem_cons] at ha hb
    rcases ha with rfl | ha <;> rcases hb with rfl | hb
    · exact hab rfl
    · exact hdj x hxa x (List.mem_flatMap.2 ⟨b, hb, hxb⟩) rfl
    · exact hdj x hxb x (List.mem_flatMap.2 ⟨a, ha, hxa⟩) rfl
    · exact ih hys a ha b hb hab x hxa hxb

theorem filter_flatMap_sublist {α β : Type} (f : α → List β) (p : α → Bool) (l : List α) :
    ((l.filter p).flatMap f).Sublist (l.flatMap f) := by
  induction l with
  | nil => simp
  | cons y ys ih =>
    simp only [List.filter_cons]
    split
    · simp only [List.flatMap_cons]; exact List.Sublist.append (List.Sublist.refl _) ih
    · simp only [List.flatMap_cons]; exact ih.trans (List.sublist_append_right _ _)

/-- on a forest `delete_extra_trees` never runs `delete_tree` out of fuel -/
theorem deleteExtraTrees_noFuel_of_forest (c : Cfg) (k : Nat) : ∀ (roots : List Nat) (st : BState),
    DeletableRoots c st.store roots → FuelOnlyAt (fun _ => False) (Build.deleteExtraTrees c k roots) st := by
  induction k with
  | zero => intro roots st _; unfold Build.deleteExtraTrees; exact (NoFuelErr.pure _).at st _
  | succ k ih =>
    intro roots st hD
    unfold Build.deleteExtraTrees
    refine FuelOnlyAt.bind' (NoFuelErr.poll.at st _) (fun u st1 hp => ?_)
    have hs1 : st1.store = st.store := NoWrite.poll _ _ _ hp
    cases roots with
    | nil => exact (NoFuelErr.pure _).at st1 _
    | cons root rest =>
      dsimp only
      obtain ⟨hrn, ts, hnd, hholds, hroots⟩ := hD
      obtain ⟨t0, ht0, href⟩ := hroots root (by simp)
      have ht0nd : t0.ids.Nodup := (List.pairwise_flatMap.1 hnd).1 t0 ht0
      obtain ⟨s', hdel, hgone, hframe⟩ := deleteTree_ok_of_holds_nodup c st.store t0 (hholds t0 ht0) ht0nd
      rw [href] at hdel
      show FuelOnlyAt _ (BuildM.liftExcept (Build.deleteTree c (st1.store.length + 1) (NodeId.mkTree root) st1.store) >>= _) st1
      rw [hs1]
      refine FuelOnlyAt.bind' ?_ (fun s2 st2 hl => ?_)
      · intro w h
        simp only [BuildM.liftExcept, hdel] at h
        cases h
      · have e2 : s2 = s' ∧ st2 = st1 := by
          simp only [BuildM.liftExcept, hdel, Except.ok.injEq, Prod.mk.injEq] at hl
          exact ⟨hl.1.symm, hl.2.symm⟩
        obtain ⟨rfl, rfl⟩ := e2
        refine FuelOnlyAt.bind' ((NoFuelErr.setStore _).at _ _) (fun u3 st3 hset => ?_)
        have e3 : st3.store = s2 := by
          simp only [BuildM.setStore, Except.ok.injEq, Prod.mk.injEq] at hset
          rw [← hset.2]
        apply ih
        rw [e3]
        have hperm := Build.swapRemove0_perm root rest
        rw [List.nodup_cons] at hrn
        refine ⟨hperm.nodup_iff.2 hrn.2, ts.filter (fun t => decide (t ≠ t0)), ?_, ?_, ?_⟩
        · exact List.Nodup.sublist (filter_flatMap_sublist _ _ _) hnd
        · intro t ht
          obtain ⟨htm, hne⟩ := List.mem_filter.1 ht
          have hne' : t ≠ t0 := by simpa using hne
          refine (hholds t htm).frame (fun i hi => hframe _ (fun j hj e => ?_))
          have := Cfg.treeKey_inj.1 e
          subst this
          exact flatMap_nodup_disjoint T.ids ts hnd t htm t0 ht0 hne' i hi hj
        · intro r hr
          have hr' : r ∈ rest := hperm.mem_iff.1 hr
          obtain ⟨t, ht, hrf⟩ := hroots r (List.mem_cons_of_mem _ hr')
          refine ⟨t, List.mem_filter.2 ⟨ht, ?_⟩, hrf⟩
          have : t ≠ t0 := by
            rintro rfl
            rw [href] at hrf
            have : root = r := by simpa [NodeId.mkTree] using hrf
            subst this
            exact hrn.1 hr'
          simpa using this

/-! ## the first steps of `build` keep the tree cells and the metadata entry -/

/-- every tree cell and the metadata entry of index `c.index` are the same in both stores -/
def TreeKeep (c : Cfg) (s s' : Store) : Prop :=
  (∀ id, Store.get s' (c.treeKey id) = Store.get s (c.treeKey id)) ∧ Store.get s' c.metaKey = Store.get s c.metaKey

theorem TreeKeep.storeRel (c : Cfg) : StoreRel (TreeKeep c) where
  refl := fun _ => ⟨fun _ => rfl, rfl⟩
  trans := fun h1 h2 => ⟨fun id => (h2.1 id).trans (h1.1 id), h2.2.trans h1.2⟩

theorem TreeKeep.put_item (c : Cfg) (s : Store) (k : Key) (v : Val)
    (hk : isPrefixOf (encodePrefix c.index (some modeItem)) (encodeKey k) = true) : TreeKeep c s (Store.put s k v) := by
  have hm := ((isPrefixOf_kind_all c.index modeItem k).1 hk).2
  refine ⟨fun id => Store.get_put_other _ _ _ _ ?_, Store.get_put_other _ _ _ _ ?_⟩
  · exact Key.ne_of_mode_ne (a := c.treeKey id) fun e => by
      rw [← e] at hm; exact absurd hm (show ¬ modeTree % 256 = modeItem % 256 by decide)
  · exact Key.ne_of_mode_ne (a := c.metaKey) fun e => by
      rw [← e] at hm; exact absurd hm (show ¬ modeMetadata % 256 = modeItem % 256 by decide)

theorem TreeKeep.erase_updated (c : Cfg) (s : Store) (id : Nat) : TreeKeep c s (Store.erase s (c.updatedKey id)) :=
  ⟨fun i => Store.get_erase_other _ _ _ (Key.ne_of_mode_ne (show modeTree ≠ modeUpdated by decide)),
    Store.get_erase_other _ _ _ (Key.ne_of_mode_ne (show modeMetadata ≠ modeUpdated by decide))⟩

theorem preProcessItems_treeKeep (c : Cfg) : StorePres (TreeKeep c) (Build.preProcessItems c) :=
  Build.preProcessItems_pres (TreeKeep.storeRel c) (fun _ s =>
    Build.preprocessDot_inv (TreeKeep c s) c s ((TreeKeep.storeRel c).refl s)
      (fun st kv _ _ _ _ hp hst => (TreeKeep.storeRel c).trans hst (TreeKeep.put_item c st kv.1 _ hp)))

theorem resetUpdated_treeKeep (c : Cfg) : StorePres (TreeKeep c) (Build.resetUpdated c) := by
  have hR := TreeKeep.storeRel c
  unfold Build.resetUpdated
  refine StorePres.bind hR (StorePres.of_noWrite hR NoWrite.getStore) (fun s => ?_)
  refine StorePres.bind hR (StorePres.forEach hR _ _ (fun id => ?_)) (fun _ => StorePres.pure hR _)
  exact StorePres.bind hR (StorePres.of_noWrite hR NoWrite.poll)
    (fun _ => StorePres.modifyStore _ (fun s => TreeKeep.erase_updated c s id))

theorem TreeKeep.holds {c : Cfg} {s s' : Store} (h : TreeKeep c s s') {t : T} (ht : Holds c s t) : Holds c s' t :=
  ht.frame (fun i _ => h.1 i)

theorem TreeKeep.rootsOf {c : Cfg} {s s' : Store} (h : TreeKeep c s s') : Transp.rootsOf c s' = Transp.rootsOf c s := by
  unfold Transp.rootsOf; rw [h.2]

/-! ## the whole build -/

/-- the metadata roots of the store are pairwise distinct roots of a held forest with distinct node ids -/
def RootsForest (c : Cfg) (s : Store) : Prop := DeletableRoots c s (Transp.rootsOf c s)

theorem DeletableRoots.keep {c : Cfg} {s s' : Store} {roots : List Nat} (h : DeletableRoots c s roots)
    (hk : TreeKeep c s s') : DeletableRoots c s' roots := by
  obtain ⟨h1, ts, h2, h3, h4⟩ := h
  exact ⟨h1, ts, h2, fun t ht => hk.holds (h3 t ht), h4⟩

/-- what `ForestWith` provides -/
theorem deletableRoots_of_forest (c : Cfg) (s : Store) (roots : List Nat) (ts : List T)
    (hrefs : ts.map T.ref = roots.map NodeId.mkTree) (hholds : ∀ t ∈ ts, Holds c s t)
    (hnd : (ts.flatMap T.ids).Nodup) : DeletableRoots c s roots := by
  refine ⟨?_, ts, hnd, hholds, ?_⟩
  · have hroots : roots = ts.map (fun t => t.ref.item) := by
      have := congrArg (List.map NodeId.item) hrefs
      simpa [List.map_map, Function.comp_def] using this.symm
    exact hroots ▸ roots_nodup_of_ids_nodup (not_leaf_of_refs hrefs) hnd
  · intro root hr
    have hmem : NodeId.mkTree root ∈ ts.map T.ref := by rw [hrefs]; exact List.mem_map_of_mem hr
    obtain ⟨t, ht, hrf⟩ := List.mem_map.1 hmem
    exact ⟨t, ht, hrf⟩

/-- on a forest the prefix of `build` reports no exhausted fuel at all -/
theorem buildPrefix_noFuel_of_forest (c : Cfg) (o : BuildOpts) (st : BState) (hF : RootsForest c st.store) :
    FuelOnlyAt (fun _ => False) (buildPrefix c o) st := by
  have hR := TreeKeep.storeRel c
  unfold buildPrefix
  refine FuelOnlyAt.bind' ((preProcessItems_noFuel c).at st _) (fun _ st1 h1 => ?_)
  have k1 : TreeKeep c st.store st1.store := preProcessItems_treeKeep c st _ st1 h1
  refine FuelOnlyAt.bind' ((itemIndices_noFuel c).at st1 _) (fun items st2 h2 => ?_)
  have k2 : st2.store = st1.store := Build.itemIndices_noWrite c st1 items st2 h2
  refine FuelOnlyAt.bind' ((resetUpdated_noFuel c).at st2 _) (fun updated st3 h3 => ?_)
  have k3 : TreeKeep c st2.store st3.store := resetUpdated_treeKeep c st2 _ st3 h3
  have k : TreeKeep c st.store st3.store := by
    rw [k2] at k3
    exact hR.trans k1 k3
  split
  · exact (NoFuelErr.bind' (singleLeaf_noFuel c items) (fun _ => NoFuelErr.pure' _)).at st3 _
  · refine FuelOnlyAt.bind' (NoFuelErr.getStore.at st3 _) (fun s st4 h4 => ?_)
    obtain ⟨rfl, rfl⟩ : s = st3.store ∧ st4 = st3 := by cases h4; exact ⟨rfl, rfl⟩
    refine FuelOnlyAt.bind' ((NoFuelErr.usedTreeNode c).at _ _) (fun used st5 h5 => ?_)
    have k5 : st5.store = st4.store := NoWrite.usedTreeNode c st4 used st5 h5
    refine FuelOnlyAt.bind' ?_ (fun x st6 _ => (NoFuelErr.pure' _).at st6 _)
    unfold afterUsedPrefix
    dsimp only
    refine FuelOnlyAt.bind' (deleteExtraTrees_noFuel_of_forest c _ _ st5 ?_) (fun roots1 st6 _ => FuelOnly.at ?_ st6)
    · rw [k5, k.rootsOf]
      exact hF.keep k
    · refine FuelOnly.bind (deleteItemsFromTrees_noFuel _ _ _ _) (fun roots2 => ?_)
      refine FuelOnly.bind (insertItemsInCurrentTrees_noFuel _ _ _ _ _ _ (Nat.lt_succ_self _)) (fun x => ?_)
      exact newTrees_noFuel _ _ _ _ _ _

/-- **`build` on a forest**: the only fuel that can be reported exhausted is the budget of the re-split loop -/
theorem build_fuelOnly_of_forest (c : Cfg) (o : BuildOpts) (loopFuel : Nat) (st : BState)
    (hF : RootsForest c st.store) (w : String) (h : Build.build c o loopFuel st = .error (.fuel w)) :
    w = "incremental_index_large_descendants" := by
  rw [build_eq_prefix] at h
  exact FuelOnlyAt.bind' ((buildPrefix_noFuel_of_forest c o st hF).mono (fun _ => False.elim))
    (fun x st1 _ => buildSuffix_fuelOnly c o loopFuel x st1) w h

end Arroy
