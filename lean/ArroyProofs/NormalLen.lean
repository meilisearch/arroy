import ArroyProofs.BuildFrame
/-! The split normals of the trees of an index all have the length of the normals the oracle supplied.

`SplitLen c d s`: every value stored under a tree key of index `c` that is a split node has a normal of
`d` words. A build started on such a store with an oracle all of whose normals have `d` words ends on
such a store (`SplitLen.keeps`, an instance of `BuildKeeps`): the normals it writes are normals it read
(`delT`, `insertT`), normals taken from the oracle, or `List.replicate n.length 0` of such a normal (`makeT`). -/
namespace Arroy
open Generated BuildM

/-- a split value carries a normal of `d` words (anything else passes) -/
def Val.NLen (d : Nat) : Val → Prop
  | .split _ _ n => n.length = d
  | _ => True

@[simp] theorem Val.nlen_split (d : Nat) (l r : NodeId) (n : List Nat) : Val.NLen d (.split l r n) ↔ n.length = d := Iff.rfl
@[simp] theorem Val.nlen_desc (d : Nat) (s : List Nat) : Val.NLen d (.desc s) ↔ True := Iff.rfl
@[simp] theorem Val.nlen_leaf (d : Nat) (h v : List Nat) : Val.NLen d (.leaf h v) ↔ True := Iff.rfl
@[simp] theorem Val.nlen_metadata (d : Nat) (a : Bytes) (b : Nat) (e f : List Nat) : Val.NLen d (.metadata a b e f) ↔ True := Iff.rfl
@[simp] theorem Val.nlen_version (d a b e : Nat) : Val.NLen d (.version a b e) ↔ True := Iff.rfl

theorem Val.nlen_of_nok {d : Nat} {v : Val} (h : Val.NOk (fun n => n.length = d) v) : Val.NLen d v := by
  cases v <;> exact h

/-- every split node stored under a tree key of the index has a normal of `d` words -/
def SplitLen (c : Cfg) (d : Nat) (s : Store) : Prop :=
  ∀ id v, Store.get s (c.treeKey id) = some v → Val.NLen d v

theorem SplitLen.nil (c : Cfg) (d : Nat) : SplitLen c d [] := by
  intro id v h; simp [Store.get] at h

theorem SplitLen.put {c : Cfg} {d : Nat} {s : Store} (h : SplitLen c d s) (k : Key) (v : Val) (hv : Val.NLen d v) :
    SplitLen c d (Store.put s k v) := by
  intro id v' hg
  rw [Store.get_put] at hg
  split at hg
  · cases hg; exact hv
  · exact h id v' hg

theorem SplitLen.filter {c : Cfg} {d : Nat} {s : Store} (h : SplitLen c d s) (p : Key → Bool) :
    SplitLen c d (s.filter (fun kv => p kv.1)) := by
  intro id v hg
  rw [Store.get_filter_key] at hg
  split at hg
  · exact h id v hg
  · cases hg

theorem SplitLen.erase {c : Cfg} {d : Nat} {s : Store} (h : SplitLen c d s) (k : Key) :
    SplitLen c d (Store.erase s k) := by
  intro id v hg
  rw [Store.get_erase] at hg
  split at hg
  · cases hg
  · exact h id v hg

theorem SplitLen.deleteRange {c : Cfg} {d : Nat} {s : Store} (h : SplitLen c d s) (lo hi : Key) :
    SplitLen c d (Store.deleteRange s lo hi) := by
  intro id v hg
  rw [Store.get_deleteRange_bytes] at hg
  split at hg
  · exact h id v hg
  · cases hg

theorem SplitLen.congr_index {c c' : Cfg} {d : Nat} {s : Store} (he : c'.index = c.index) :
    SplitLen c' d s ↔ SplitLen c d s := by
  simp only [SplitLen, Cfg.treeKey, he]

theorem SplitLen.keeps (c : Cfg) (d : Nat) : BuildKeeps c (fun n => n.length = d) (SplitLen c d) where
  zero := fun n hn => by simp [hn]
  read := fun s id _ _ _ hs hg => hs id _ hg
  putTree := fun _ _ v hs hv => hs.put _ v (Val.nlen_of_nok hv)
  putMeta := fun _ _ _ hs => hs.put _ _ trivial
  putVersion := fun _ hs => hs.put _ _ trivial
  erase := fun _ _ _ _ hs => hs.erase _
  delRange := fun _ hs => hs.deleteRange _ _

/-- the DotProduct preprocessing writes leaves only -/
theorem SplitLen.preprocessDot {c : Cfg} {d : Nat} {s : Store} (h : SplitLen c d s) :
    SplitLen c d (Build.preprocessDot c s) :=
  Build.preprocessDot_inv (SplitLen c d) c s h (fun _ _ _ _ _ _ _ hst => hst.put _ _ trivial)

end Arroy
