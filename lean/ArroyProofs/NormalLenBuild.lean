import ArroyProofs.NormalLen
namespace Arroy

/-- **one build**: from a store whose split normals (index `c`) all have `d` words, with an oracle whose
    normals all have `d` words, a successful build ends on such a store -/
theorem Build.build_splitLen {c : Cfg} {d : Nat} (o : BuildOpts) (fuel : Nat) (st st' : BState)
    (h : Build.build c o fuel st = .ok ((), st')) (hs : SplitLen c d st.store)
    (hN : ∀ n ∈ st.normals, n.length = d) : SplitLen c d st'.store :=
  (Build.build_keeps (SplitLen.keeps c d) (fun _ _ hs => hs.preprocessDot) o fuel st () st' ⟨hs, hN⟩ h).1.1

/-- the trees `Check.trees` reads have the normals of the store -/
theorem trees_tlen {c : Cfg} {d : Nat} {s : Store} (hs : SplitLen c d s) :
    ∀ t ∈ Check.trees c s, ∀ n ∈ t.normals, n.length = d :=
  trees_tok' (fun id _ _ _ hg => hs id _ hg)

end Arroy
