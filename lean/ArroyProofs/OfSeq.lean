import ArroyProofs.ForestDefs
import ArroyProofs.FreshNew
import ArroyProofs.IdGenNext
/-! An id generator that hands out ANY given finite sequence of ids and then counts up:
`IdGen.ofSeq seq next` (`available := seq`, `sel := 0`, `look := true`, `current := next`). Its draws are
`seq` in order, then `next, next+1, …` (`ofSeq_nextN`), and it is a fresh supply (`GenOK`) as soon as `seq` is
duplicate-free, unused, and `next` lies above everything (`genOK_ofSeq`). -/
namespace Arroy

namespace IdGen
/-- the generator that hands out `seq` in order, then `next, next+1, …`. The request counter `used`
    starts at `next - seq.length`, i.e. every id below `next` that is not in `seq` counts as in use, so
    that `DatabaseFull` is reported exactly when the counter would leave the `u32` range. -/
def ofSeq (seq : List Nat) (next : Nat) : IdGen :=
  { available := seq, sel := 0, look := true, current := next, used := next - seq.length }
end IdGen

/-- the `j`-th id (counting from 0) of the supply `seq, next, next+1, …` -/
def supplyAt (seq : List Nat) (next j : Nat) : Nat :=
  seq.getD j (next + (j - seq.length))

theorem supplyAt_lt {seq : List Nat} {next j : Nat} (h : j < seq.length) : supplyAt seq next j = seq[j] := by
  simp [supplyAt, h]

theorem supplyAt_ge {seq : List Nat} {next j : Nat} (h : seq.length ≤ j) :
    supplyAt seq next j = next + (j - seq.length) := by
  simp [supplyAt, List.getD_eq_getElem?_getD, List.getElem?_eq_none h]

/-- the state of `ofSeq seq next` after `j` draws -/
structure OfSeqAt (seq : List Nat) (next j : Nat) (g : IdGen) : Prop where
  avail : g.available = seq
  used : g.used = next - seq.length + j
  seqPhase : j ≤ seq.length → j < 4294967296 → g.look = true ∧ g.sel = j ∧ g.current = next
  ctrPhase : seq.length < j → g.look = false ∧ g.current = (next + (j - seq.length)) % 4294967296

theorem ofSeqAt_zero (seq : List Nat) (next : Nat) : OfSeqAt seq next 0 (IdGen.ofSeq seq next) :=
  ⟨rfl, rfl, fun _ _ => ⟨rfl, rfl, rfl⟩, fun h => absurd h (Nat.not_lt_zero _)⟩

theorem OfSeqAt.next_ok_iff {seq : List Nat} {next j : Nat} {g : IdGen} (h : OfSeqAt seq next j g) :
    (∃ id g', g.next = .ok (id, g')) ↔ next - seq.length + j < 4294967296 := by
  rw [IdGen.next_ok_iff, h.used]
  omega

theorem OfSeqAt.step {seq : List Nat} {next j : Nat} {g g' : IdGen} {id : Nat} (h : OfSeqAt seq next j g)
    (hlen : seq.length ≤ next) (hn : g.next = .ok (id, g')) :
    id = supplyAt seq next j ∧ next - seq.length + j < 4294967296 ∧ OfSeqAt seq next (j + 1) g' := by
  have hlt : next - seq.length + j < 4294967296 := h.next_ok_iff.1 ⟨id, g', hn⟩
  have hu : g.used ≤ 4294967295 := by rw [h.used]; exact Nat.le_of_lt_succ hlt
  have hu' : g.used + 1 = next - seq.length + (j + 1) := by rw [h.used]; rfl
  have hj32 : j < 4294967296 := Nat.lt_of_le_of_lt (Nat.le_add_left _ _) hlt
  rcases Nat.lt_trichotomy j seq.length with hj | hj | hj
  · -- inside the sequence
    obtain ⟨hlook, hsel, hcur⟩ := h.seqPhase (Nat.le_of_lt hj) hj32
    have ha : g.available[g.sel]? = some seq[j] := by rw [h.avail, hsel, List.getElem?_eq_getElem hj]
    rw [IdGen.next_avail hu hlook ha] at hn
    cases hn
    refine ⟨(supplyAt_lt hj).symm, hlt, ⟨h.avail, hu', fun _ h2 => ⟨hlook, ?_, hcur⟩, fun h1 => ?_⟩⟩
    · show (g.sel + 1) % _ = _
      rw [hsel, Nat.mod_eq_of_lt h2]
    · exact absurd h1 (Nat.not_lt.2 hj)
  · -- the sequence has just run out: the first id of the counter
    subst hj
    obtain ⟨hlook, hsel, hcur⟩ := h.seqPhase (Nat.le_refl _) hj32
    have ha : g.available[g.sel]? = none := by rw [h.avail, hsel, List.getElem?_eq_none (Nat.le_refl _)]
    rw [IdGen.next_exhausted hu hlook ha] at hn
    cases hn
    refine ⟨?_, hlt, ⟨h.avail, hu', fun h1 => absurd h1 (Nat.not_succ_le_self _), fun _ => ⟨rfl, ?_⟩⟩⟩
    · rw [supplyAt_ge (Nat.le_refl _), Nat.sub_self, hcur]; rfl
    · show (g.current + 1) % _ = _
      rw [hcur, Nat.add_sub_cancel_left]
  · -- the counter
    obtain ⟨hlook, hcur⟩ := h.ctrPhase hj
    rw [IdGen.next_counter hu hlook] at hn
    cases hn
    refine ⟨?_, hlt, ⟨h.avail, hu', fun h1 => absurd h1 (Nat.not_le.2 (Nat.lt_succ_of_lt hj)),
      fun _ => ⟨hlook, ?_⟩⟩⟩
    · have hlt' : next + (j - seq.length) < 4294967296 := by
        rw [← Nat.add_sub_assoc (Nat.le_of_lt hj), Nat.sub_add_comm hlen]; exact hlt
      rw [supplyAt_ge (Nat.le_of_lt hj), hcur, Nat.mod_eq_of_lt hlt']
    · show (g.current + 1) % _ = _
      rw [hcur, Nat.mod_add_mod, Nat.succ_sub (Nat.le_of_lt hj)]
      rfl

theorem nextN_succ_ok {k : Nat} {g g' : IdGen} {ids : List Nat} (e : nextN (k + 1) g = .ok (ids, g')) :
    ∃ id g1 ids2, g.next = .ok (id, g1) ∧ nextN k g1 = .ok (ids2, g') ∧ ids = id :: ids2 := by
  simp only [nextN] at e
  split at e
  · cases e
  · rename_i id g1 hn
    split at e
    · cases e
    · rename_i ids2 g2 hk
      cases e
      exact ⟨id, g1, ids2, hn, hk, rfl⟩

/-- `k` draws from the state after `j` draws return the ids number `j, …, j + k - 1` of the supply, and the request
    counter has stayed a `u32` -/
theorem OfSeqAt.nextN_eq {seq : List Nat} {next : Nat} (hlen : seq.length ≤ next)
    (k : Nat) : ∀ {j : Nat} {g g' : IdGen} {ids : List Nat}, OfSeqAt seq next j g → nextN k g = .ok (ids, g') →
    ids = (List.range' j k).map (supplyAt seq next) ∧ (k = 0 ∨ next - seq.length + j + k ≤ 4294967296) ∧
      OfSeqAt seq next (j + k) g' := by
  induction k with
  | zero =>
    intro j g g' ids h e
    cases e
    exact ⟨rfl, Or.inl rfl, h⟩
  | succ k ih =>
    intro j g g' ids h e
    obtain ⟨id, g1, ids2, hn, hk, rfl⟩ := nextN_succ_ok e
    obtain ⟨hid, hlt, h1⟩ := h.step hlen hn
    obtain ⟨e1, e2, e3⟩ := ih h1 hk
    refine ⟨?_, Or.inr ?_, ?_⟩
    · rw [List.range'_succ, List.map_cons, hid, e1]
    · rcases e2 with rfl | e2
      · exact hlt
      · omega
    · rw [show j + (k + 1) = j + 1 + k by omega]; exact e3

/-! ## the supply `seq, next, next+1, …` -/

theorem supplyAt_inj {seq : List Nat} {next : Nat} (hnd : seq.Nodup) (hlt : ∀ x ∈ seq, x < next) {a b : Nat}
    (h : supplyAt seq next a = supplyAt seq next b) : a = b := by
  have hp := List.pairwise_iff_getElem.1 (List.nodup_iff_pairwise_ne.1 hnd)
  rcases Nat.lt_or_ge a seq.length with ha | ha <;> rcases Nat.lt_or_ge b seq.length with hb | hb
  · rw [supplyAt_lt ha, supplyAt_lt hb] at h
    rcases Nat.lt_trichotomy a b with hab | hab | hab
    · exact absurd h (hp a b ha hb hab)
    · exact hab
    · exact absurd h.symm (hp b a hb ha hab)
  · rw [supplyAt_lt ha, supplyAt_ge hb] at h
    have := hlt _ (List.getElem_mem ha); omega
  · rw [supplyAt_ge ha, supplyAt_lt hb] at h
    have := hlt _ (List.getElem_mem hb); omega
  · rw [supplyAt_ge ha, supplyAt_ge hb] at h
    omega

theorem supply_take (seq : List Nat) (next k : Nat) :
    (List.range' 0 k).map (supplyAt seq next) = (seq ++ List.range' next (k - seq.length)).take k := by
  apply List.ext_getElem
  · simp only [List.length_map, List.length_range', List.length_take, List.length_append]; omega
  · intro i h1 h2
    simp only [List.length_map, List.length_range'] at h1
    rw [List.getElem_map, List.getElem_range', List.getElem_take, List.getElem_append]
    split
    · rename_i hi
      rw [supplyAt_lt (by omega)]; simp
    · rename_i hi
      rw [supplyAt_ge (by omega), List.getElem_range']; simp

/-- **the draws of `ofSeq seq next`**: `k` draws succeed iff the request counter stays a `u32`
    (`next - seq.length + k ≤ 2^32`: the ids below `next` outside `seq` count as in use) … -/
theorem ofSeq_nextN_ok_iff (seq : List Nat) (next k : Nat) :
    (∃ ids g', nextN k (IdGen.ofSeq seq next) = .ok (ids, g')) ↔
      (k = 0 ∨ next - seq.length + k ≤ 4294967296) := by
  rw [← nextN_eq]
  exact Ids.nextN_ok_iff k (IdGen.ofSeq seq next)

/-- … and they return exactly `seq` in order, then `next, next+1, …` -/
theorem ofSeq_nextN {seq : List Nat} {next : Nat} (hlen : seq.length ≤ next) {k : Nat} {ids : List Nat} {g' : IdGen}
    (h : nextN k (IdGen.ofSeq seq next) = .ok (ids, g')) :
    ids = (seq ++ List.range' next (k - seq.length)).take k := by
  rw [← supply_take]
  exact (OfSeqAt.nextN_eq hlen k (ofSeqAt_zero seq next) h).1

theorem ofSeq_next_cons (x : Nat) (seq : List Nat) (next : Nat) (h : next - (seq.length + 1) ≤ 4294967295) :
    ∃ g', (IdGen.ofSeq (x :: seq) next).next = .ok (x, g') := by
  have hnf : ¬ next - (seq.length + 1) > 4294967295 := by omega
  simp only [IdGen.next, IdGen.ofSeq, IdGen.u32Max, List.length_cons, hnf, if_false, if_true,
    List.getElem?_cons_zero]
  exact ⟨_, rfl⟩

theorem length_le_of_nodup_lt {seq : List Nat} {next : Nat} (hnd : seq.Nodup) (hseq : ∀ x ∈ seq, x < next) :
    seq.length ≤ next := by
  have := List.Nodup.length_le_of_subset hnd (l₂ := List.range next) (fun x hx => List.mem_range.2 (hseq x hx))
  simpa using this

/-- **`ofSeq seq next` is a fresh supply**: if `seq` is duplicate-free, disjoint from the ids in use and made of
    `u32`s, and `next` lies above every id in use and every id of `seq`, every id it hands out is new, distinct
    from the others, and a `u32`. -/
theorem genOK_ofSeq {used seq : List Nat} {next : Nat} (hnd : seq.Nodup) (hdisj : ∀ x ∈ seq, x ∉ used)
    (hu32 : ∀ x ∈ seq, x < 4294967296) (hseq : ∀ x ∈ seq, x < next) (hused : ∀ x ∈ used, x < next) :
    GenOK used (IdGen.ofSeq seq next) := by
  have hlen := length_le_of_nodup_lt hnd hseq
  have key : ∀ (k : Nat) (ids : List Nat) (g' : IdGen), nextN k (IdGen.ofSeq seq next) = .ok (ids, g') →
      ids.Nodup ∧ ∀ i ∈ ids, i ∉ used ∧ i < 4294967296 := by
    intro k ids g' e
    obtain ⟨rfl, hk, _⟩ := OfSeqAt.nextN_eq hlen k (ofSeqAt_zero seq next) e
    refine ⟨?_, ?_⟩
    · rw [List.nodup_iff_pairwise_ne]
      exact List.Pairwise.map _ (fun a b hab he => hab (supplyAt_inj hnd hseq he))
        (List.nodup_iff_pairwise_ne.1 (List.nodup_range' 1))
    · intro i hi
      obtain ⟨m, hm, rfl⟩ := List.mem_map.1 hi
      rw [List.mem_range'_1] at hm
      rcases Nat.lt_or_ge m seq.length with hml | hml
      · rw [supplyAt_lt hml]
        exact ⟨hdisj _ (List.getElem_mem hml), hu32 _ (List.getElem_mem hml)⟩
      · rw [supplyAt_ge hml]
        refine ⟨fun hin => ?_, ?_⟩
        · have := hused _ hin; omega
        · rcases hk with rfl | hk <;> omega
  exact ⟨fun k ids g' e => ⟨(key k ids g' e).1, fun i hi => ((key k ids g' e).2 i hi).1⟩,
    fun k ids g' e i hi => ((key k ids g' e).2 i hi).2⟩

/-- one above the largest element -/
def supNext (l : List Nat) : Nat := l.foldr (fun x m => max (x + 1) m) 0

theorem lt_supNext {l : List Nat} {x : Nat} (h : x ∈ l) : x < supNext l := by
  induction l with
  | nil => cases h
  | cons y ys ih =>
    simp only [supNext, List.foldr_cons]
    rcases List.mem_cons.1 h with rfl | h
    · omega
    · have := ih h
      simp only [supNext] at this
      omega

end Arroy
