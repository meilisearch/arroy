import ArroyModel.Reader
import ArroyProofs.FloatOrd
/-! The order `scoreLe` of the result heap through the float keys of `FloatOrd`: `(score, id)` pairs are
compared by (class, magnitude, id), lexicographically. -/
namespace Arroy
namespace Reader

def skey (p : Nat × Nat) : Int × Int × Nat := ((F32.key p.1).1, (F32.key p.1).2, p.2)

def sle (x y : Int × Int × Nat) : Prop :=
  x.1 < y.1 ∨ (x.1 = y.1 ∧ (x.2.1 < y.2.1 ∨ (x.2.1 = y.2.1 ∧ x.2.2 ≤ y.2.2)))

theorem scoreLe_iff (a b : Nat × Nat) : scoreLe a b = true ↔ sle (skey a) (skey b) := by
  unfold scoreLe sle skey
  simp only [Bool.or_eq_true, Bool.and_eq_true, decide_eq_true_eq]
  exact F32.ordLt_or_ordEq_and _ _ _

theorem scoreLe_refl (a : Nat × Nat) : scoreLe a a = true := by
  rw [scoreLe_iff]; unfold sle; omega

theorem scoreLe_trans (a b c : Nat × Nat) (h1 : scoreLe a b = true) (h2 : scoreLe b c = true) :
    scoreLe a c = true := by
  rw [scoreLe_iff] at *; unfold sle at *; omega

theorem scoreLe_total (a b : Nat × Nat) : (scoreLe a b || scoreLe b a) = true := by
  rw [Bool.or_eq_true, scoreLe_iff, scoreLe_iff]; unfold sle; omega

/-- antisymmetry up to the float equivalence: mutually-`≤` pairs have `ordEq` scores and the same id -/
theorem scoreLe_antisymm (a b : Nat × Nat) (h1 : scoreLe a b = true) (h2 : scoreLe b a = true) :
    F32.ordEq a.1 b.1 = true ∧ a.2 = b.2 := by
  rw [scoreLe_iff] at *; rw [F32.ordEq_iff]; unfold sle skey at *
  refine ⟨Prod.ext ?_ ?_, ?_⟩ <;> simp only at * <;> omega

/-- hence on pairs with distinct ids `scoreLe` is a strict total order -/
theorem scoreLe_antisymm_ids (a b : Nat × Nat) (hne : a.2 ≠ b.2) (h1 : scoreLe a b = true) :
    scoreLe b a = false := by
  cases h : scoreLe b a
  · rfl
  · exact absurd (scoreLe_antisymm a b h1 h).2 hne

end Reader
end Arroy
