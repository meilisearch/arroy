import ArroyProofs.OrdLemmas
import ArroyProofs.SoftFloatSymm
/-! Order facts about the priorities of the traversal queue (`Metric.pqDistance`): `F32.min`, `F32.neg`,
`F32.lt` on non-NaN values, all proved from the soft-float definitions through the keys of `OrdLemmas`;
the queue order `entryLt` and the maximality of what `popMax` returns. -/
namespace Arroy
namespace SF

/-- a strict comparison that holds involves no NaN -/
theorem lt_notNaN (f : Fmt) (a b : Nat) (h : lt f a b = true) : isNaN f a = false ∧ isNaN f b = false := by
  unfold lt at h
  unfold isNaN
  cases ha : unpack f a <;> cases hb : unpack f b <;> simp_all [ltV]

end SF

namespace F32

theorem lt_notNaN {a b : Nat} (h : lt a b = true) : isNaN a = false ∧ isNaN b = false :=
  SF.lt_notNaN _ a b h

theorem lt_iff_key {a b : Nat} (ha : isNaN a = false) (hb : isNaN b = false) :
    lt a b = true ↔ SF.klt (key a) (key b) := SF.lt_iff_of_notNaN _ a b ha hb

theorem key_zero : key zero = (0, 0) := by decide
theorem isNaN_zero : isNaN zero = false := by decide
theorem isNaN_inf : isNaN inf = false := by decide
theorem lt_zero_inf : lt zero inf = true := by decide

/-- positive: strictly greater than zero (hence not NaN) -/
theorem pos_iff_key {p : Nat} (hp : isNaN p = false) :
    lt zero p = true ↔ (0 < (key p).1 ∨ ((key p).1 = 0 ∧ 0 < (key p).2)) := by
  rw [lt_iff_key isNaN_zero hp, key_zero]; unfold SF.klt
  constructor <;> (intro h; simp only at h ⊢; omega)

theorem neg_iff_key {p : Nat} (hp : isNaN p = false) :
    lt p zero = true ↔ ((key p).1 < 0 ∨ ((key p).1 = 0 ∧ (key p).2 < 0)) := by
  rw [lt_iff_key hp isNaN_zero, key_zero]; unfold SF.klt
  constructor <;> (intro h; simp only at h ⊢; omega)

theorem lt_asymm {a b : Nat} (h : lt a b = true) : lt b a = false := by
  obtain ⟨ha, hb⟩ := lt_notNaN h
  cases h' : lt b a
  · rfl
  · rw [lt_iff_key ha hb] at h; rw [lt_iff_key hb ha] at h'; unfold SF.klt at h h'; omega

theorem lt_irrefl (a : Nat) : lt a a = false := by
  cases h : lt a a
  · rfl
  · have := lt_asymm h; rw [h] at this; cases this

theorem ordLt_eq_lt {a b : Nat} (ha : isNaN a = false) (hb : isNaN b = false) : ordLt a b = lt a b := by
  simp only [ordLt, SF.ordLt, isNaN] at *; simp [ha, hb, lt]

theorem min_eq {a b : Nat} (ha : isNaN a = false) (hb : isNaN b = false) :
    F32.min a b = if lt b a = true then b else a := by
  simp only [F32.min, SF.min, isNaN] at *
  simp only [ha, hb, Bool.false_eq_true, if_false]
  rfl

theorem min_notNaN {a b : Nat} (ha : isNaN a = false) (hb : isNaN b = false) : isNaN (F32.min a b) = false := by
  rw [min_eq ha hb]; split <;> assumption

theorem pos_min {a b : Nat} (ha : isNaN a = false) (hb : isNaN b = false) :
    lt zero (F32.min a b) = true ↔ (lt zero a = true ∧ lt zero b = true) := by
  rw [min_eq ha hb]
  split
  · rename_i h
    rw [lt_iff_key hb ha] at h
    rw [pos_iff_key ha, pos_iff_key hb]; unfold SF.klt at h; omega
  · rename_i h
    have h' : ¬ SF.klt (key b) (key a) := by rw [← lt_iff_key hb ha]; exact h
    rw [pos_iff_key ha, pos_iff_key hb]; unfold SF.klt at h'; omega

theorem isNaN_neg (a : Nat) : isNaN (neg a) = isNaN a := by
  simp only [isNaN, SF.isNaN, neg, fmt, SF.unpack_neg SF.f32 (by decide)]
  cases SF.unpack SF.f32 a <;> rfl

theorem key_neg {a : Nat} (ha : isNaN a = false) : key (neg a) = (-(key a).1, -(key a).2) := by
  have hn := (SF.isNaN_false_iff SF.f32 a).1 ha
  simp only [key, SF.key, neg, fmt, SF.unpack_neg SF.f32 (by decide)]
  rw [SF.cls_negV hn, SF.mag_negV]

theorem pos_neg {a : Nat} (ha : isNaN a = false) : lt zero (neg a) = true ↔ lt a zero = true := by
  have hn : isNaN (neg a) = false := by rw [isNaN_neg]; exact ha
  rw [pos_iff_key hn, neg_iff_key ha, key_neg ha]
  simp only; omega

end F32

namespace Reader

/-- key of a queue entry: float key, then the node id (mode, item) -/
def ekey (a : Nat × NodeId) : Int × Int × Nat × Nat := ((F32.key a.1).1, (F32.key a.1).2, a.2.mode, a.2.item)

def elt (x y : Int × Int × Nat × Nat) : Prop :=
  x.1 < y.1 ∨ (x.1 = y.1 ∧ (x.2.1 < y.2.1 ∨ (x.2.1 = y.2.1 ∧
    (x.2.2.1 < y.2.2.1 ∨ (x.2.2.1 = y.2.2.1 ∧ x.2.2.2 < y.2.2.2)))))

theorem entryLt_iff (a b : Nat × NodeId) : entryLt a b = true ↔ elt (ekey a) (ekey b) := by
  unfold entryLt elt ekey NodeId.lt
  simp only [Bool.or_eq_true, Bool.and_eq_true, decide_eq_true_eq, beq_iff_eq]
  exact F32.ordLt_or_ordEq_and _ _ _

theorem entryLt_irrefl (a : Nat × NodeId) : entryLt a a = false := by
  cases h : entryLt a a
  · rfl
  · rw [entryLt_iff] at h; unfold elt at h; omega

theorem entryLt_trans {a b c : Nat × NodeId} (h1 : entryLt a b = true) (h2 : entryLt b c = true) :
    entryLt a c = true := by
  rw [entryLt_iff] at *; unfold elt at *; omega

theorem popMax_max : ∀ (l : List (Nat × NodeId)) (m : Nat × NodeId) (rest : List (Nat × NodeId)),
    popMax l = some (m, rest) → ∀ e ∈ l, entryLt m e = false
  | [], _, _, h => by simp [popMax] at h
  | x :: xs, m, rest, h => by
    simp only [popMax] at h
    cases hp : popMax xs with
    | none =>
      rw [hp] at h
      simp only [Option.some.injEq, Prod.mk.injEq] at h
      obtain ⟨rfl, _⟩ := h
      have hxs : xs = [] := by
        cases xs with
        | nil => rfl
        | cons y ys =>
          simp only [popMax] at hp
          split at hp
          · cases hp
          · split at hp <;> cases hp
      subst hxs
      intro e he
      simp only [List.mem_singleton] at he
      subst he; exact entryLt_irrefl _
    | some mr =>
      obtain ⟨m', rest'⟩ := mr
      rw [hp] at h
      have ih := popMax_max xs m' rest' hp
      simp only at h
      split at h
      · rename_i hlt
        simp only [Option.some.injEq, Prod.mk.injEq] at h
        obtain ⟨rfl, _⟩ := h
        intro e he
        rcases List.mem_cons.1 he with rfl | he
        · exact entryLt_irrefl _
        · cases h' : entryLt x e
          · rfl
          · have := entryLt_trans hlt h'; rw [ih e he] at this; cases this
      · rename_i hlt
        simp only [Option.some.injEq, Prod.mk.injEq] at h
        obtain ⟨rfl, _⟩ := h
        intro e he
        rcases List.mem_cons.1 he with rfl | he
        · simpa using hlt
        · exact ih e he

/-- a popped maximum with a non-NaN priority is positive as soon as some queued entry is positive -/
theorem pos_of_max {m g : Nat × NodeId} (hm : F32.isNaN m.1 = false) (hg : F32.lt F32.zero g.1 = true)
    (hmax : entryLt m g = false) : F32.lt F32.zero m.1 = true := by
  have hgn := (F32.lt_notNaN hg).2
  have h1 : F32.ordLt m.1 g.1 = false := by
    unfold entryLt at hmax
    simp only [Bool.or_eq_false_iff] at hmax
    exact hmax.1
  have h0 : F32.ordLt F32.zero g.1 = true := by rw [F32.ordLt_eq_lt F32.isNaN_zero hgn]; exact hg
  rw [← F32.ordLt_eq_lt F32.isNaN_zero hm]
  rcases F32.ord_total m.1 g.1 with h | h | h
  · rw [h1] at h; cases h
  · exact F32.ordLt_of_ordEq_right h0 (F32.ordEq_symm h)
  · exact F32.ordLt_trans h0 h

end Reader
end Arroy
