import ArroyProofs.KeyLemmas
import ArroyProofs.Properties.C16
/-! Prefixes and the tree range of one index: which keys a prefix scan / `delete_range` visits.
The prefix and range lemmas come in two forms: for **all** keys (in terms of the fields modulo their width,
since the encoders truncate) and for well-formed keys. -/
namespace Arroy
open Generated

theorem be_mod (w n : Nat) : be w (n % 256^w) = be w n := by
  cases w with
  | zero => rfl
  | succ w =>
    have hpos : 0 < 256^w := Nat.pow_pos (by decide)
    simp only [be]
    have e1 : n % 256^(w+1) / 256^w % 256 = n / 256^w % 256 := by
      rw [Nat.pow_succ, Nat.mod_mul_right_div_self, Nat.mod_mod]
    have e2 : n % 256^(w+1) % 256^w = n % 256^w := by
      rw [Nat.pow_succ]; exact Nat.mod_mul_right_mod n (256^w) 256
    rw [e1, e2]

theorem be_eq_iff (w a b : Nat) : be w a = be w b ↔ a % 256^w = b % 256^w := by
  have hpos : 0 < 256^w := Nat.pow_pos (by decide)
  constructor
  · intro h
    rw [← be_mod w a, ← be_mod w b] at h
    exact be_inj w _ _ (Nat.mod_lt _ hpos) (Nat.mod_lt _ hpos) h
  · intro h
    rw [← be_mod w a, ← be_mod w b, h]

/-- the key as the encoder sees it: every field truncated to its width -/
def Key.norm (k : Key) : Key := ⟨k.index % 256^2, k.mode % 256^1, k.item % 256^4⟩

theorem Key.norm_wf (k : Key) : k.norm.wf :=
  ⟨Nat.mod_lt _ (by decide), Nat.mod_lt _ (by decide), Nat.mod_lt _ (by decide)⟩

theorem Key.norm_of_wf {k : Key} (h : k.wf) : k.norm = k := by
  obtain ⟨h1, h2, h3⟩ := h
  cases k
  simp only [Key.norm] at *
  rw [Nat.mod_eq_of_lt h1, Nat.mod_eq_of_lt h2, Nat.mod_eq_of_lt h3]

theorem encodeKey_norm (k : Key) : encodeKey k.norm = encodeKey k := by
  rw [C16.encodeKey_eq, C16.encodeKey_eq]
  simp only [Key.norm, be_mod]

theorem isPrefixOf_append_of_length (p a rest : Bytes) (h : p.length = a.length) :
    isPrefixOf p (a ++ rest) = true ↔ p = a := by
  unfold isPrefixOf
  rw [List.isPrefixOf_iff_prefix, List.prefix_iff_eq_take, h, List.take_left']
  rfl

/-- index prefix, **all** keys: the scan visits exactly the keys whose index has the same low 16 bits -/
theorem isPrefixOf_index_all (i : Nat) (k : Key) :
    isPrefixOf (encodePrefix i none) (encodeKey k) = true ↔ k.index % 65536 = i % 65536 := by
  rw [C16.encodeKey_eq]
  simp only [encodePrefix, List.append_nil]
  rw [isPrefixOf_append_of_length _ _ _ (by simp [be_length]), be_eq_iff]
  constructor <;> intro h <;> simpa using h.symm

theorem isPrefixOf_kind_all (i m : Nat) (k : Key) :
    isPrefixOf (encodePrefix i (some m)) (encodeKey k) = true ↔
      k.index % 65536 = i % 65536 ∧ k.mode % 256 = m % 256 := by
  rw [C16.encodeKey_eq]
  simp only [encodePrefix]
  rw [← List.append_assoc, isPrefixOf_append_of_length _ _ _ (by simp [be_length])]
  constructor
  · intro h
    obtain ⟨h1, h2⟩ := List.append_inj h (by simp [be_length])
    rw [be_eq_iff] at h1 h2
    exact ⟨by simpa using h1.symm, by simpa using h2.symm⟩
  · rintro ⟨h1, h2⟩
    have e1 : be 2 i = be 2 k.index := (be_eq_iff 2 _ _).2 (by simpa using h1.symm)
    have e2 : be 1 m = be 1 k.mode := (be_eq_iff 1 _ _).2 (by simpa using h2.symm)
    rw [e1, e2]

theorem isPrefixOf_index (i : Nat) (k : Key) (hk : k.wf) (hi : i < 65536) :
    isPrefixOf (encodePrefix i none) (encodeKey k) = true ↔ k.index = i := by
  rw [isPrefixOf_index_all, Nat.mod_eq_of_lt hk.1, Nat.mod_eq_of_lt hi]

theorem isPrefixOf_kind (i m : Nat) (k : Key) (hk : k.wf) (hi : i < 65536) (hm : m < 256) :
    isPrefixOf (encodePrefix i (some m)) (encodeKey k) = true ↔ k.index = i ∧ k.mode = m := by
  rw [isPrefixOf_kind_all, Nat.mod_eq_of_lt hk.1, Nat.mod_eq_of_lt hi, Nat.mod_eq_of_lt hm]
  have := hk.2.1
  rw [Nat.mod_eq_of_lt (by simpa using this)]

/-- the range `Key::tree(i, 0) ..= Key::tree(i, u32::MAX)` of the single-bucket shortcut:
    a well-formed key is kept by `delete_range` iff it is not a tree key of index `i` -/
theorem treeRange_keeps (i : Nat) (k : Key) (hk : k.wf) (hi : i < 65536) :
    (lexLt (encodeKey k) (encodeKey (Key.mkTree i 0)) ||
      lexLt (encodeKey (Key.mkTree i 4294967295)) (encodeKey k)) = true ↔
    ¬ (k.index = i ∧ k.mode = modeTree) := by
  have wlo : (Key.mkTree i 0).wf := ⟨hi, by simp [Key.mkTree, modeTree], by simp [Key.mkTree]⟩
  have whi : (Key.mkTree i 4294967295).wf := ⟨hi, by simp [Key.mkTree, modeTree], by simp [Key.mkTree]⟩
  rw [C16.C16_key_order _ _ hk wlo, C16.C16_key_order _ _ whi hk]
  have h3 : k.item < 4294967296 := hk.2.2
  rw [Bool.or_eq_true, Key.lt_iff, Key.lt_iff]
  simp only [Key.mkTree, modeTree]
  constructor
  · -- below `(i, tree, 0)` or above `(i, tree, 2^32 - 1)`: not a tree key of index `i`
    rintro ((h | ⟨e, h | ⟨_, h⟩⟩) | (h | ⟨e, h | ⟨_, h⟩⟩)) ⟨e1, e2⟩
    · exact absurd e1 (Nat.ne_of_lt h)
    · exact absurd e2 (Nat.ne_of_lt h)
    · exact absurd h (Nat.not_lt_zero _)
    · exact absurd e1.symm (Nat.ne_of_lt h)
    · exact absurd e2.symm (Nat.ne_of_lt h)
    · exact absurd h3 (Nat.not_lt.2 h)
  · intro hn
    rcases Nat.lt_trichotomy k.index i with h | h | h
    · exact Or.inl (Or.inl h)
    · rcases Nat.lt_trichotomy k.mode 2 with h' | h' | h'
      · exact Or.inl (Or.inr ⟨h, Or.inl h'⟩)
      · exact absurd ⟨h, h'⟩ hn
      · exact Or.inr (Or.inr ⟨h.symm, Or.inl h'⟩)
    · exact Or.inr (Or.inl h)

theorem treeRange_keeps_all (i : Nat) (k : Key) (hi : i < 65536) :
    (lexLt (encodeKey k) (encodeKey (Key.mkTree i 0)) ||
      lexLt (encodeKey (Key.mkTree i 4294967295)) (encodeKey k)) = true ↔
    ¬ (k.index % 65536 = i ∧ k.mode % 256 = modeTree) := by
  rw [← encodeKey_norm k, treeRange_keeps i k.norm k.norm_wf hi]
  rfl

end Arroy
