import ArroyProofs.FrameRels
/-! The DotProduct preprocessing (`DotProduct::preprocess`): it rewrites only the header of the item
leaves of its own index. -/
namespace Arroy
open Generated

/-- in a sorted store an entry is what `get` returns -/
theorem Frame.get_of_mem_sorted {s : Store} (hs : Store.Sorted s) {k : Key} {v : Val} (h : (k, v) ∈ s) :
    Store.get s k = some v :=
  (Store.get_eq_some_iff hs k v).2 h


theorem Build.preprocessDot_otherSame (c : Cfg) (hi : c.index < 65536) (s : Store) :
    OtherSame c.index s (Build.preprocessDot c s) := by
  apply Build.preprocessDot_inv (fun st => OtherSame c.index s st) c s ((OtherSame.storeRel _).refl s)
  intro st kv hdr h _ _ hp hst
  refine (OtherSame.storeRel _).trans hst ?_
  apply Store.filter_put_of_false _ (fun k => k.index % 65536 != c.index)
  have := ((isPrefixOf_kind_all c.index modeItem kv.1).1 hp).1
  rw [Nat.mod_eq_of_lt hi] at this
  simp [this]

theorem Build.preprocessDot_noNewUpdated (c : Cfg) (s : Store) :
    NoNewUpdated c.index s (Build.preprocessDot c s) := by
  apply Build.preprocessDot_inv (fun st => NoNewUpdated c.index s st) c s ((NoNewUpdated.storeRel _).refl s)
  intro st kv hdr h _ _ hp hst
  refine (NoNewUpdated.storeRel _).trans hst ?_
  intro k' hp' hk'
  rcases Frame.mem_keys_put hk' with e | e
  · subst e
    have h1 := ((isPrefixOf_kind_all c.index modeItem _).1 hp).2
    have h2 := ((isPrefixOf_kind_all c.index modeUpdated _).1 hp').2
    rw [h1] at h2
    simp [modeItem, modeUpdated] at h2
  · exact e

/-- on a sorted store the preprocessing changes, for **every** key, at most the header of a leaf, and
    nothing outside the item keys of its index -/
theorem Build.preprocessDot_header (c : Cfg) (s : Store) (hs : Store.Sorted s) (k : Key) :
    SameUpToHeader (Store.get s k) (Store.get (Build.preprocessDot c s) k) ∧
    (isPrefixOf (encodePrefix c.index (some modeItem)) (encodeKey k) = false →
      Store.get (Build.preprocessDot c s) k = Store.get s k) := by
  apply Build.preprocessDot_inv (fun st => SameUpToHeader (Store.get s k) (Store.get st k) ∧
    (isPrefixOf (encodePrefix c.index (some modeItem)) (encodeKey k) = false → Store.get st k = Store.get s k)) c s
    ⟨SameUpToHeader.refl _, fun _ => rfl⟩
  intro st kv hdr h _ hmem hp ⟨h1, h2⟩
  by_cases e : k = kv.1
  · subst e
    rw [Store.get_put_same]
    refine ⟨?_, fun hn => ?_⟩
    · rw [Frame.get_of_mem_sorted hs hmem]
      exact Or.inr ⟨h, hdr, kv.2, rfl, rfl⟩
    · rw [hp] at hn; cases hn
  · rw [Store.get_put_other _ _ _ _ e]
    exact ⟨h1, h2⟩

theorem Build.preprocessDot_onlyTreeMarksMeta (c : Cfg) (hi : c.index < 65536) (s : Store) (hs : Store.Sorted s) :
    OnlyTreeMarksMeta c.index s (Build.preprocessDot c s) := by
  intro k hk hn
  obtain ⟨h1, h2⟩ := Build.preprocessDot_header c s hs k
  refine ⟨fun _ => h1, fun hm => h2 ?_⟩
  cases hp : isPrefixOf (encodePrefix c.index (some modeItem)) (encodeKey k)
  · rfl
  · exact absurd ((isPrefixOf_kind c.index modeItem k hk hi (by decide)).1 hp).2 hm

end Arroy
