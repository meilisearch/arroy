import ArroyProofs.IndexInvOps
import ArroyProofs.Mutates
import ArroyProofs.IndexInvPrepare
/-! # C01 — every tree of a built index covers exactly the live items, each once

`Forest c s roots items ts` (ArroyProofs/ForestDefs.lean): the store holds the trees `ts` at `roots`;
no node is shared or reachable twice; the trees cover exactly the tree keys of the index; every tree
reaches exactly `items`, each item once. `IndexInv c s` is the invariant of the histories
`((add | append | del | clear)* build)+`.

Hypotheses of the theorems: `c.index < 65536`; `1 ≤ Build.cap c o` (split_after ≥ 1, or the default
dimension ≥ 1); `o.nTrees ≠ some 0` (only for "a non-empty index has a tree"); `FreshSupply` — the id
generator started on the used tree ids hands out fresh 32-bit ids (property C13, proved separately).
The oracle streams (normals, random sides, batch lengths), the loop fuel and the cancellation schedule
are arbitrary: the theorems are about runs that return `.ok`. -/

namespace Arroy.C01
open Arroy Generated Transp

/-- everything the proof establishes about a successful build, relative to the forest `ts0` the index
    held before (`Old`); the other C01/C04/C15 statements are projections of this one -/
theorem C01_build_out (c : Cfg) (o : BuildOpts) (fuel : Nat) (st st' : BState) (roots0 items0 : List Nat) (ts0 : List T)
    (hi : c.index < 65536) (hcap : 1 ≤ Build.cap c o) (hfresh : FreshSupply)
    (hs : Store.Sorted st.store) (hw : Store.WF st.store) (old : Old c st.store roots0 items0 ts0)
    (h : Build.build c o fuel st = .ok ((), st')) :
    ∃ roots' ts', BuildOut c o st.store st'.store roots0 ts0 roots' ts' :=
  buildWith_out IdGen.new c o fuel st st' roots0 items0 ts0 hi hcap hfresh hs hw old h

/-- **C01, one build**: from a state satisfying the index invariant, a successful build leaves
    metadata listing exactly the stored items, a valid forest over them, at least one tree if there
    is an item, no updated mark, and the invariant again. -/
theorem C01_build (c : Cfg) (o : BuildOpts) (fuel : Nat) (st st' : BState)
    (hi : c.index < 65536) (hcap : 1 ≤ Build.cap c o) (hn : o.nTrees ≠ some 0) (hfresh : FreshSupply)
    (hinv : IndexInv c st.store) (h : Build.build c o fuel st = .ok ((), st')) :
    ∃ roots ts,
      Store.get st'.store c.metaKey =
        some (.metadata c.metric.nameBytes c.dims (st.store.keysOf c.index modeItem) roots) ∧
      Forest c st'.store roots (st.store.keysOf c.index modeItem) ts ∧
      (st.store.keysOf c.index modeItem ≠ [] → roots ≠ []) ∧
      (∀ id, Store.get st'.store (c.updatedKey id) = none) ∧
      IndexInv c st'.store := by
  obtain ⟨_, _, _, roots', ts', _, b⟩ := buildWith_out_of_inv IdGen.new c o fuel st st' hi hcap hfresh hinv.1 h
  exact ⟨roots', ts', b.metadata, b.forest, b.rootsNonempty hn, b.no_marks,
    b.inv hinv.sorted hinv.wf hinv.leaves hi hn⟩

/-- C01 for one build, without the clause on the number of trees (any `n_trees`, even 0) -/
theorem C01_build_any (c : Cfg) (o : BuildOpts) (fuel : Nat) (st st' : BState)
    (hi : c.index < 65536) (hcap : 1 ≤ Build.cap c o) (hfresh : FreshSupply)
    (hinv : IndexInvW c st.store) (h : Build.build c o fuel st = .ok ((), st')) :
    ∃ roots ts,
      Store.get st'.store c.metaKey =
        some (.metadata c.metric.nameBytes c.dims (st.store.keysOf c.index modeItem) roots) ∧
      Forest c st'.store roots (st.store.keysOf c.index modeItem) ts ∧
      (∀ id, Store.get st'.store (c.updatedKey id) = none) ∧
      IndexInvW c st'.store := by
  obtain ⟨_, _, _, roots', ts', _, b⟩ := buildWith_out_of_inv IdGen.new c o fuel st st' hi hcap hfresh hinv h
  exact ⟨roots', ts', b.metadata, b.forest, b.no_marks, b.invW hinv.sorted hinv.wf hinv.leaves hi⟩

/-- `C01_build_out` from the index invariant, with the old forest it provides -/
theorem C01_build_out_of_inv (c : Cfg) (o : BuildOpts) (fuel : Nat) (st st' : BState)
    (hi : c.index < 65536) (hcap : 1 ≤ Build.cap c o) (hfresh : FreshSupply)
    (hinv : IndexInvW c st.store) (h : Build.build c o fuel st = .ok ((), st')) :
    ∃ roots0 items0 ts0 roots' ts', Old c st.store roots0 items0 ts0 ∧
      BuildOut c o st.store st'.store roots0 ts0 roots' ts' :=
  buildWith_out_of_inv IdGen.new c o fuel st st' hi hcap hfresh hinv h

/-! ## the item operations preserve the invariant (of every index) -/

theorem C01_inv_empty (c : Cfg) : IndexInv c [] :=
  ⟨⟨Store.sorted_nil, Store.wf_nil, C05.itemsAreLeaves_nil c, Or.inl ⟨rfl, fun _ => rfl⟩⟩,
    fun _ _ _ _ h => by cases h⟩

theorem C01_inv_add {c c' : Cfg} {s s' : Store} {id : Nat} {vec : List Nat} (hinv : IndexInv c s)
    (hi' : c'.index < 65536) (hid : id < 4294967296) (h : Writer.addItem c' s id vec = .ok s') : IndexInv c s' :=
  IndexInv_add hinv hi' hid h

theorem C01_inv_append {c c' : Cfg} {s s' : Store} {id : Nat} {vec : List Nat} (hinv : IndexInv c s)
    (hi' : c'.index < 65536) (hid : id < 4294967296) (h : Writer.appendItem c' s id vec = .ok s') : IndexInv c s' :=
  IndexInv_append hinv hi' hid h

theorem C01_inv_del {c c' : Cfg} {s : Store} {id : Nat} (hinv : IndexInv c s)
    (hi' : c'.index < 65536) (hid : id < 4294967296) : IndexInv c (Writer.delItem c' s id).1 :=
  IndexInv_del hinv hi' hid

theorem C01_inv_clear {c c' : Cfg} {s : Store} (hinv : IndexInv c s) (hi' : c'.index < 65536) :
    IndexInv c (Writer.clear c' s) :=
  IndexInv_clear hinv hi'

/-- the metric change keeps the invariant of every index (`hinv'`: the invariant of the changed index) -/
theorem C01_inv_prepare {c c' : Cfg} {m' : Metric} {s s' : Store} (hinv : IndexInv c s) (hinv' : IndexInv c' s)
    (hi' : c'.index < 65536) (h : Writer.prepareChangingDistance c' m' s = .ok s') : IndexInv c s' :=
  IndexInv_prepare hinv hinv' hi' h

/-- one step of a history; `build` carries its options, the fuel of the re-split loop and the
    oracle streams / poll counter / cancellation schedule (`env`; its `store` field is ignored);
    `prepare c m'` is `Writer::prepare_changing_distance` on the index opened as `c`, towards metric `m'` -/
inductive Op where
  | add (c : Cfg) (id : Nat) (vec : List Nat)
  | append (c : Cfg) (id : Nat) (vec : List Nat)
  | del (c : Cfg) (id : Nat)
  | clear (c : Cfg)
  | build (c : Cfg) (o : BuildOpts) (fuel : Nat) (env : BState)
  | prepare (c : Cfg) (m' : Metric)

def Op.wf : Op → Prop
  | .add c id _ => c.index < 65536 ∧ id < 4294967296
  | .append c id _ => c.index < 65536 ∧ id < 4294967296
  | .del c id => c.index < 65536 ∧ id < 4294967296
  | .clear c => c.index < 65536
  | .build c o _ _ => c.index < 65536 ∧ 1 ≤ Build.cap c o ∧ o.nTrees ≠ some 0
  | .prepare c _ => c.index < 65536

/-- a failed operation changes nothing (a failed build is followed by an abort) -/
def step (s : Store) : Op → Store
  | .add c id vec => match Writer.addItem c s id vec with
    | .ok s' => s'
    | .error _ => s
  | .append c id vec => match Writer.appendItem c s id vec with
    | .ok s' => s'
    | .error _ => s
  | .del c id => (Writer.delItem c s id).1
  | .clear c => Writer.clear c s
  | .build c o fuel env => match Build.build c o fuel { env with store := s } with
    | .ok (_, st') => st'.store
    | .error _ => s
  | .prepare c m' => match Writer.prepareChangingDistance c m' s with
    | .ok s' => s'
    | .error _ => s

def run (ops : List Op) : Store := ops.foldl step []

theorem run_snoc (ops : List Op) (op : Op) : run (ops ++ [op]) = step (run ops) op := by
  simp only [run, List.foldl_append, List.foldl_cons, List.foldl_nil]

theorem run_append (h ops : List Op) : run (h ++ ops) = ops.foldl step (run h) := by
  simp only [run, List.foldl_append]

theorem run_build {ops : List Op} {c : Cfg} {o : BuildOpts} {fuel : Nat} {env st' : BState}
    (h : Build.build c o fuel { env with store := run ops } = .ok ((), st')) :
    run (ops ++ [.build c o fuel env]) = st'.store := by
  rw [run_snoc]; simp only [step, h]

theorem forall_snoc {α : Type} {P : α → Prop} {l : List α} {a : α} (hl : ∀ x ∈ l, P x) (ha : P a) :
    ∀ x ∈ l ++ [a], P x :=
  List.forall_mem_append.2 ⟨hl, fun x h => by rw [List.mem_singleton.1 h]; exact ha⟩

/-- induction over well-formed histories from their end, for statements that relate `run ops` to a function of
    `ops` (`run_snoc` gives the step; the invariant of every index of `run ops` is `C01_history_inv`) -/
theorem history_induction {P : List Op → Prop} (h0 : P [])
    (hsnoc : ∀ ops op, (∀ o ∈ ops, o.wf) → op.wf → P ops → P (ops ++ [op]))
    (ops : List Op) (hops : ∀ op ∈ ops, op.wf) : P ops := by
  suffices ∀ (l pre : List Op), (∀ o ∈ pre, o.wf) → (∀ o ∈ l, o.wf) → P pre → P (pre ++ l) from
    this ops [] (fun _ h => nomatch h) hops h0
  intro l
  induction l with
  | nil => intro pre _ _ h; rwa [List.append_nil]
  | cons op l ih =>
    intro pre hpre hl h
    have hop := hl op List.mem_cons_self
    have := ih (pre ++ [op]) (forall_snoc hpre hop) (fun o ho => hl o (List.mem_cons_of_mem _ ho)) (hsnoc pre op hpre hop h)
    rwa [List.append_assoc] at this

/-- a build step that changes the store is a successful build -/
theorem step_build_ne {s s' : Store} {c : Cfg} {o : BuildOpts} {fuel : Nat} {env : BState}
    (h : step s (.build c o fuel env) = s') (hne : s' ≠ s) :
    ∃ st', Build.build c o fuel { env with store := s } = .ok ((), st') ∧ st'.store = s' := by
  simp only [step] at h
  split at h
  · rename_i u st' hb
    exact ⟨st', hb, h⟩
  · exact absurd h.symm hne

/-! Three case analyses of a step, for three kinds of statement. `stepTo`: what `step s op` IS (a `noop`, or the
successful call with its equation) — for properties of the store that a failed call trivially keeps. `stepAt`: what
a step does to ONE index (a `Mutates` change, or a clear / build / metric change of that index) — for properties of
that index, through `C01_history_induction`. `C06.accepted_step` (C06History): the step of an operation the model
ACCEPTS (`C06.accepted`), without a `noop` case and with `append` as the `add` it is — for functions of the history
(`C06.status`, `C05.spec`) that change exactly on the accepted operations of their index. -/

/-- `StepTo s op s'`: the ways `step s op` comes out as `s'`. Either nothing happened (the operation failed, or
    it was a metric change to the metric the index has), or the operation succeeded with the recorded equation. -/
inductive StepTo (s : Store) : Op → Store → Prop
  | noop (op : Op) : StepTo s op s
  | add {c id vec s'} (h : Writer.addItem c s id vec = .ok s') : StepTo s (.add c id vec) s'
  | append {c id vec s'} (h : Writer.appendItem c s id vec = .ok s') : StepTo s (.append c id vec) s'
  | del (c id) : StepTo s (.del c id) (Writer.delItem c s id).1
  | clear (c) : StepTo s (.clear c) (Writer.clear c s)
  | build {c o fuel env st'} (h : Build.build c o fuel { env with store := s } = .ok ((), st')) :
      StepTo s (.build c o fuel env) st'.store
  | prepare {c m' s'} (hne : m' ≠ c.metric) (h : Writer.prepareChangingDistance c m' s = .ok s') :
      StepTo s (.prepare c m') s'

theorem stepTo (s : Store) (op : Op) : StepTo s op (step s op) := by
  cases op with
  | add c id vec =>
    simp only [step]
    cases h : Writer.addItem c s id vec with
    | ok s' => exact .add h
    | error e => exact .noop _
  | append c id vec =>
    simp only [step]
    cases h : Writer.appendItem c s id vec with
    | ok s' => exact .append h
    | error e => exact .noop _
  | del c id => exact .del c id
  | clear c => exact .clear c
  | build c o fuel env =>
    simp only [step]
    cases h : Build.build c o fuel { env with store := s } with
    | ok r => exact .build h
    | error e => exact .noop _
  | prepare c m' =>
    simp only [step]
    cases h : Writer.prepareChangingDistance c m' s with
    | error e => exact .noop _
    | ok s' =>
      by_cases hne : m' = c.metric
      · subst hne
        rw [C18.C18_same] at h
        cases h
        exact .noop _
      · exact .prepare hne h

theorem C01_inv_step (hfresh : FreshSupply) (s : Store) (op : Op) (hop : op.wf)
    (hinv : ∀ c : Cfg, c.index < 65536 → IndexInv c s) :
    ∀ c : Cfg, c.index < 65536 → IndexInv c (step s op) := by
  intro c hi
  have hto := stepTo s op
  generalize step s op = s' at hto
  cases hto with
  | noop => exact hinv c hi
  | add h => exact IndexInv_add (hinv c hi) hop.1 hop.2 h
  | append h => exact IndexInv_append (hinv c hi) hop.1 hop.2 h
  | del => exact IndexInv_del (hinv c hi) hop.1 hop.2
  | clear => exact IndexInv_clear (hinv c hi) hop
  | @build c' o fuel env st' h =>
    obtain ⟨hi', hcap, hn⟩ := hop
    have hinv' := hinv c' hi'
    obtain ⟨_, _, _, _, _, _, b⟩ := C01_build_out_of_inv c' o fuel _ st' hi' hcap hfresh hinv'.1 h
    by_cases he : c.index = c'.index
    · exact (b.inv hinv'.sorted hinv'.wf hinv'.leaves hi' hn).congr_index he
    · exact b.inv_other he (hinv c hi)
  | @prepare c' m' _ _ h => exact IndexInv_prepare (hinv c hi) (hinv c' hop) hop h

/-- induction along a history started in any state satisfying the invariant of every index: each step is handed
    the invariants before and after it. `Q` is a side condition on the operations of the history. -/
theorem C01_foldl_induction (hfresh : FreshSupply) (P : Store → Prop) (Q : Op → Prop)
    (hstep : ∀ s op, op.wf → Q op → (∀ c : Cfg, c.index < 65536 → IndexInv c s) →
      (∀ c : Cfg, c.index < 65536 → IndexInv c (step s op)) → P s → P (step s op))
    (ops : List Op) (hops : ∀ op ∈ ops, op.wf) (hQ : ∀ op ∈ ops, Q op) :
    ∀ s0 : Store, (∀ c : Cfg, c.index < 65536 → IndexInv c s0) → P s0 →
      (∀ c : Cfg, c.index < 65536 → IndexInv c (ops.foldl step s0)) ∧ P (ops.foldl step s0) := by
  induction ops with
  | nil => intro s h hP; exact ⟨h, hP⟩
  | cons op ops ih =>
    intro s hinv hP
    have hop := hops op (by simp)
    have hnext := C01_inv_step hfresh s op hop hinv
    exact ih (fun op' h' => hops op' (List.mem_cons_of_mem _ h')) (fun op' h' => hQ op' (List.mem_cons_of_mem _ h')) _
      hnext (hstep s op hop (hQ op (by simp)) hinv hnext hP)

/-- the invariant of every index along a history started in any state satisfying it -/
theorem C01_inv_foldl (hfresh : FreshSupply) (ops : List Op) (hops : ∀ op ∈ ops, op.wf) :
    ∀ s : Store, (∀ c : Cfg, c.index < 65536 → IndexInv c s) →
      ∀ c : Cfg, c.index < 65536 → IndexInv c (ops.foldl step s) :=
  fun s h => (C01_foldl_induction hfresh (fun _ => True) (fun _ => True) (fun _ _ _ _ _ _ _ => trivial) ops hops
    (fun _ _ => trivial) s h trivial).1

/-- the invariant of every index holds after every history -/
theorem C01_history_inv (hfresh : FreshSupply) (ops : List Op) (hops : ∀ op ∈ ops, op.wf) :
    ∀ c : Cfg, c.index < 65536 → IndexInv c (run ops) :=
  C01_inv_foldl hfresh ops hops [] (fun c _ => C01_inv_empty c)

/-- **C01**: after any history of item operations and builds (on any indexes, failed operations
    being no-ops), a successful build of index `c` leaves a valid forest over exactly the stored items
    of `c`, with at least one tree if there is an item, and no updated mark. -/
theorem C01_history (hfresh : FreshSupply) (ops : List Op) (hops : ∀ op ∈ ops, op.wf)
    (c : Cfg) (o : BuildOpts) (fuel : Nat) (env st' : BState) (hwf : (Op.build c o fuel env).wf)
    (h : Build.build c o fuel { env with store := run ops } = .ok ((), st')) :
    run (ops ++ [.build c o fuel env]) = st'.store ∧
    ∃ roots ts,
      Store.get st'.store c.metaKey =
        some (.metadata c.metric.nameBytes c.dims ((run ops).keysOf c.index modeItem) roots) ∧
      Forest c st'.store roots ((run ops).keysOf c.index modeItem) ts ∧
      ((run ops).keysOf c.index modeItem ≠ [] → roots ≠ []) ∧
      (∀ id, Store.get st'.store (c.updatedKey id) = none) := by
  refine ⟨?_, ?_⟩
  · simp only [run_snoc, step, h]
  · obtain ⟨roots, ts, h1, h2, h3, h4, _⟩ :=
      C01_build c o fuel { env with store := run ops } st' hwf.1 hwf.2.1 hwf.2.2 hfresh
        (C01_history_inv hfresh ops hops c hwf.1) h
    exact ⟨roots, ts, h1, h2, h3, h4⟩

/-- `StepAt c s op s'`: what a step of a history does to index `c`. A marked mutation (`Mutates`: an item
    operation on any index; a build, clear or metric change of another index; a failed operation), a clear of the
    index, a successful build of the index (with everything `C01_build_out` establishes about it), or a metric
    change of the index to another metric (after which the index is `Unbuilt`). -/
inductive StepAt (c : Cfg) (s : Store) : Op → Store → Prop
  | mutates {op s'} (m : Mutates c s s') : StepAt c s op s'
  | clear {c'} (he : c'.index = c.index) : StepAt c s (.clear c') (Writer.clear c' s)
  | build {c' o fuel env st' roots0 items0 ts0 roots' ts'} (he : c'.index = c.index)
      (old : Old c' s roots0 items0 ts0) (b : BuildOut c' o s st'.store roots0 ts0 roots' ts')
      (h : Build.build c' o fuel { env with store := s } = .ok ((), st')) : StepAt c s (.build c' o fuel env) st'.store
  | prepare {c' m' s'} (he : c'.index = c.index) (hne : m' ≠ c'.metric)
      (h : Writer.prepareChangingDistance c' m' s = .ok s') (hu : Unbuilt c s') : StepAt c s (.prepare c' m') s'

theorem stepAt (hfresh : FreshSupply) (c : Cfg) (s : Store) (op : Op) (hop : op.wf)
    (hinv : ∀ c : Cfg, c.index < 65536 → IndexInv c s) : StepAt c s op (step s op) := by
  have hto := stepTo s op
  generalize step s op = s' at hto
  cases hto with
  | noop => exact .mutates (Mutates.refl c s)
  | add h => exact .mutates (Mutates.add h)
  | @append c' _ _ _ h => exact .mutates (Mutates.add (Writer.appendItem_ok_eq_addItem (hinv c' hop.1).sorted h))
  | del c' id => exact .mutates (Mutates.del c c' s id)
  | clear c' =>
    by_cases he : c'.index = c.index
    · exact .clear he
    · exact .mutates (Mutates.clear_other (hinv c' hop).wf hop (fun e => he e.symm))
  | @build c' o fuel env st' h =>
    obtain ⟨roots0, items0, ts0, roots', ts', old, b⟩ :=
      C01_build_out_of_inv c' o fuel _ st' hop.1 hop.2.1 hfresh (hinv c' hop.1).1 h
    by_cases he : c'.index = c.index
    · exact .build he old b h
    · exact .mutates (Mutates.build_other b (fun e => he e.symm))
  | @prepare c' m' s' hne h =>
    have hinv' := hinv c' hop
    by_cases he : c'.index = c.index
    · exact .prepare he hne h (prepare_unbuilt hne hinv'.wf hinv'.sorted hop hinv'.leaves he.symm h).1
    · exact .mutates (Mutates.prepare_other hinv'.wf hinv'.sorted hop hinv'.leaves h (fun e => he e.symm))

/-- induction over histories for a property `P` of the store that concerns index `c` only, from any
    starting state `s0` satisfying the invariant of every index (e.g. a reachable state):
    `P` must survive the marked mutations (`Mutates`: item operations on any index, builds, clears and
    metric changes of other indexes), a clear of the index, a metric change of the index to another metric
    (after which the index is `Unbuilt`), and a successful build of the index (given everything
    `C01_build_out` establishes about it). `Q` is a side condition on the operations of the history. -/
theorem C01_history_induction_from (hfresh : FreshSupply) (c : Cfg) (hi : c.index < 65536) (P : Store → Prop)
    (Q : Op → Prop)
    (hmut : ∀ s s', IndexInv c s → IndexInv c s' → Mutates c s s' → P s → P s')
    (hclear : ∀ s c', IndexInv c s → c'.index = c.index → P s → P (Writer.clear c' s))
    (hbuild : ∀ s c' o fuel env st' roots0 items0 ts0 roots' ts', IndexInv c' s → c'.index = c.index →
      (Op.build c' o fuel env).wf → Q (.build c' o fuel env) → Old c' s roots0 items0 ts0 →
      BuildOut c' o s st'.store roots0 ts0 roots' ts' →
      Build.build c' o fuel { env with store := s } = .ok ((), st') → P s → P st'.store)
    (hprepare : ∀ s c' m' s', IndexInv c s → IndexInv c s' → c'.index = c.index → m' ≠ c'.metric →
      Q (.prepare c' m') → Writer.prepareChangingDistance c' m' s = .ok s' → Unbuilt c s' → P s → P s')
    (ops : List Op) (hops : ∀ op ∈ ops, op.wf) (hQ : ∀ op ∈ ops, Q op) :
    ∀ (s0 : Store), (∀ c : Cfg, c.index < 65536 → IndexInv c s0) → P s0 → P (ops.foldl step s0) := by
  intro s0 hinv0 h0
  refine (C01_foldl_induction hfresh P Q ?_ ops hops hQ s0 hinv0 h0).2
  intro s op hop hq hinv hinvNext hP
  have hat := stepAt hfresh c s op hop hinv
  have hnext := hinvNext c hi
  clear hinvNext
  generalize step s op = s' at hat hnext
  cases hat with
  | mutates m => exact hmut s s' (hinv c hi) hnext m hP
  | clear he => exact hclear s _ (hinv c hi) he hP
  | @build c' _ _ _ _ _ _ _ _ _ he old b h => exact hbuild s c' _ _ _ _ _ _ _ _ _ (hinv c' hop.1) he hop hq old b h hP
  | prepare he hne h hu => exact hprepare s _ _ s' (hinv c hi) hnext he hne hq h hu hP

/-- induction over histories for a property `P` of the store that concerns index `c` only:
    `P` must survive the marked mutations (`Mutates`: item operations on any index, builds, clears and
    metric changes of other indexes), a clear of the index, a metric change of the index to another metric
    (after which the index is `Unbuilt`), and a successful build of the index (given everything
    `C01_build_out` establishes about it). `Q` is a side condition on the operations of the history. -/
theorem C01_history_induction (hfresh : FreshSupply) (c : Cfg) (hi : c.index < 65536) (P : Store → Prop)
    (Q : Op → Prop)
    (h0 : P [])
    (hmut : ∀ s s', IndexInv c s → IndexInv c s' → Mutates c s s' → P s → P s')
    (hclear : ∀ s c', IndexInv c s → c'.index = c.index → P s → P (Writer.clear c' s))
    (hbuild : ∀ s c' o fuel env st' roots0 items0 ts0 roots' ts', IndexInv c' s → c'.index = c.index →
      (Op.build c' o fuel env).wf → Q (.build c' o fuel env) → Old c' s roots0 items0 ts0 →
      BuildOut c' o s st'.store roots0 ts0 roots' ts' →
      Build.build c' o fuel { env with store := s } = .ok ((), st') → P s → P st'.store)
    (hprepare : ∀ s c' m' s', IndexInv c s → IndexInv c s' → c'.index = c.index → m' ≠ c'.metric →
      Q (.prepare c' m') → Writer.prepareChangingDistance c' m' s = .ok s' → Unbuilt c s' → P s → P s')
    (ops : List Op) (hops : ∀ op ∈ ops, op.wf) (hQ : ∀ op ∈ ops, Q op) : P (run ops) :=
  C01_history_induction_from hfresh c hi P Q hmut hclear hbuild hprepare ops hops hQ []
    (fun c _ => C01_inv_empty c) h0

end Arroy.C01
