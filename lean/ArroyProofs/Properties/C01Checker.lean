import ArroyProofs.Properties.C01
import ArroyProofs.ForestUnique
/-! # C01 — the executable checker `Check.forestValid` accepts every valid forest

`Check.forestValid` is what the harness runs on the dumps of the real crate; this file proves that it
reports nothing on a store satisfying the `Forest` predicate of the theorems (COMPLETENESS of the checker for
that predicate: what the theorems conclude is never rejected by the tested predicate), in particular after every
successful build. The converse — a store the checker accepts is a `Forest` — is not proved here. -/
namespace Arroy.C01
open Arroy Generated Transp IdSet

theorem nodup_true {l : List Nat} (h : l.Nodup) : Check.nodup l = true := by
  simp [Check.nodup, length_ofList h]

theorem bad_nil (c : Cfg) (s : Store) (roots : List Nat) (ts : List T)
    (hre : roots.map (fun r => reify c s (s.length + 1) (NodeId.mkTree r)) = ts.map some)
    (g : Nat × Option T → Option String) (hg : ∀ p, p.2.isNone = false → g p = none) :
    List.filterMap g (List.map (fun r => (r, reify c s (s.length + 1) (NodeId.mkTree r))) roots) = [] := by
  rw [List.filterMap_eq_nil_iff]
  intro p hp
  obtain ⟨r, hr, rfl⟩ := List.mem_map.1 hp
  apply hg
  have : reify c s (s.length + 1) (NodeId.mkTree r) ∈ ts.map some := by
    rw [← hre]; exact List.mem_map_of_mem (f := fun r => reify c s (s.length + 1) (NodeId.mkTree r)) hr
  obtain ⟨t, _, ht⟩ := List.mem_map.1 this
  simp only
  rw [← ht]; rfl

/-- the checker reports nothing on a built index whose metadata lists the stored items and whose roots carry a valid
    forest (despite the name this is completeness: `Forest … → forestValid = []`) -/
theorem C01_checker_sound (c : Cfg) (s : Store) (name : Bytes) (dims : Nat) (items roots : List Nat) (ts : List T)
    (hi : c.index < 65536) (hs : Store.Sorted s) (hw : Store.WF s)
    (hm : Store.get s c.metaKey = some (.metadata name dims items roots))
    (f : Forest c s roots items ts) (hitems : items = s.keysOf c.index modeItem) :
    Check.forestValid c s = [] := by
  have hre := f.reify_eq
  have hts : List.filterMap (fun x : Nat × Option T => x.snd)
      (List.map (fun r => (r, reify c s (s.length + 1) (NodeId.mkTree r))) roots) = ts := by
    apply filterMap_map_some
    rw [List.map_map]
    exact hre
  have hsi : Sorted (s.keysOf c.index modeItem) := Store.keysOf_sorted hs hw _ _ hi (by decide)
  have h1 : Check.nodup (List.flatMap T.ids ts) = true := nodup_true f.ids_nodup
  have h2 : (ofList (List.flatMap T.ids ts) == s.keysOf c.index modeTree) = true := by
    have : ofList (List.flatMap T.ids ts) = s.keysOf c.index modeTree := by
      apply sorted_ext (sorted_ofList _) (Store.keysOf_sorted hs hw _ _ hi (by decide))
      intro id
      rw [mem_ofList, Store.mem_keysOf_iff hw _ _ _ hi (by decide), ← f.cover id]
      rfl
    rw [this]; exact beq_self_eq_true _
  have h3 : (items == s.keysOf c.index modeItem) = true := by rw [hitems]; exact beq_self_eq_true _
  have h5 : Check.nodup roots = true := nodup_true f.roots_nodup
  unfold Check.forestValid
  simp only [hm]
  rw [bad_nil c s roots ts hre _ (by intro p hp; simp only [hp, Bool.false_eq_true, ↓reduceIte])]
  simp only [List.isEmpty_nil, Bool.not_true, Bool.false_eq_true, ↓reduceIte, hts, h1, h2, h3, h5,
    List.append_nil, List.nil_append]
  rw [List.flatMap_eq_nil_iff]
  intro x hx
  have hx2 : x.2 ∈ ts := (List.of_mem_zip hx).2
  have e1 : Check.nodup x.2.items = true := nodup_true (f.items_nodup _ hx2)
  have e2 : (ofList x.2.items == s.keysOf c.index modeItem) = true := by
    have : ofList x.2.items = s.keysOf c.index modeItem := by
      apply sorted_ext (sorted_ofList _) hsi
      intro y
      rw [mem_ofList, f.reach _ hx2 y, hitems]
    rw [this]; exact beq_self_eq_true _
  simp only [e1, e2, ↓reduceIte, List.append_nil]

/-- an index that was never built: no metadata, no tree node -/
theorem C01_checker_sound_unbuilt (c : Cfg) (s : Store) (hi : c.index < 65536) (hw : Store.WF s)
    (h : Unbuilt c s) : Check.forestValid c s = [] := by
  unfold Check.forestValid
  simp only [h.1]
  have : s.keysOf c.index modeTree = [] := keysOf_tree_nil hw hi (fun id => by rw [h.2 id]; rfl)
  simp [this]

/-- **the checker's verdict after a successful build**: `Check.forestValid` reports nothing -/
theorem _root_.Arroy.BuildOut.forestValid {c : Cfg} {o : BuildOpts} {s s' : Store} {roots0 roots' : List Nat} {ts0 ts' : List T}
    (b : BuildOut c o s s' roots0 ts0 roots' ts') (hinv : IndexInvW c s) (hi : c.index < 65536) :
    Check.forestValid c s' = [] :=
  C01_checker_sound c s' _ _ _ roots' ts' hi (b.step.sorted hinv.sorted) (b.step.wf hinv.wf) b.metadata b.forest
    (b.keysOf_item hinv.sorted hinv.wf hi).symm

theorem C01_checker_build (c : Cfg) (o : BuildOpts) (fuel : Nat) (st st' : BState)
    (hi : c.index < 65536) (hcap : 1 ≤ Build.cap c o) (hfresh : FreshSupply)
    (hinv : IndexInvW c st.store) (h : Build.build c o fuel st = .ok ((), st')) :
    Check.forestValid c st'.store = [] := by
  obtain ⟨_, _, _, _, _, _, b⟩ := C01_build_out_of_inv c o fuel st st' hi hcap hfresh hinv h
  exact b.forestValid hinv hi

/-- and in every state a history reaches right after a successful build -/
theorem C01_checker_history (hfresh : FreshSupply) (ops : List Op) (hops : ∀ op ∈ ops, op.wf)
    (c : Cfg) (o : BuildOpts) (fuel : Nat) (env st' : BState) (hwf : (Op.build c o fuel env).wf)
    (h : Build.build c o fuel { env with store := run ops } = .ok ((), st')) :
    Check.forestValid c (run (ops ++ [.build c o fuel env])) = [] := by
  rw [(C01_history hfresh ops hops c o fuel env st' hwf h).1]
  exact C01_checker_build c o fuel _ st' hwf.1 hwf.2.1 hfresh (C01_history_inv hfresh ops hops c hwf.1).1 h

end Arroy.C01
