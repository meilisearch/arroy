import ArroyProofs.Properties.C01Checker
import ArroyProofs.Properties.C15Build
import ArroyProofs.Properties.C04Build
import ArroyProofs.Properties.C10Reach
/-! Non-vacuity of the C01 / C04 / C10 / C15 build theorems: a concrete two-round history
(Euclidean, dimension 2, `n_trees = 1`, `split_after = 2`) whose builds succeed. Round 1 builds five
items into a tree with two splits and a single-item child; round 2 adds an item, deletes one, and
the build re-splits the bucket that overflows (subtree root remapped onto the bucket id). -/
namespace Arroy.C01.Ex
open Arroy Generated Transp C01

def cEx : Cfg := { index := 0, metric := .euclidean, dims := 2 }
def oEx : BuildOpts := { nTrees := some 1, splitAfter := some 2 }
/-- f32 bit patterns: 1, 2, 3, -1, -2, 2.5, -1.5 -/
def f1 : Nat := 1065353216
def f2 : Nat := 1073741824
def f3 : Nat := 1077936128
def fm1 : Nat := 3212836864
def fm2 : Nat := 3221225472
def f25 : Nat := 1075838976
def fm15 : Nat := 3217031168
/-- oracle streams of the two builds (normals, random sides, batch lengths) -/
def env1 : BState := { store := [], normals := [[f1, 0], [0, f1]], rands := [], batches := [5] }
def env2 : BState := { store := [], normals := [[f1, fm15]], rands := [], batches := [1, 3], cancelAt := some 1000 }
def ops1 : List Op :=
  [.add cEx 0 [fm2, 0], .add cEx 1 [fm1, 0], .add cEx 2 [f1, fm1], .add cEx 3 [f2, f1], .add cEx 4 [f3, f1],
   .build cEx oEx 5 env1]
def ops2 : List Op := ops1 ++ [.add cEx 5 [f25, f2], .del cEx 0]

instance (op : Op) : Decidable op.wf := by
  cases op <;> unfold Op.wf <;> infer_instance

def isOk : Except Err (Unit × BState) → Bool
  | .ok _ => true
  | .error _ => false

theorem ok_of_isOk {r : Except Err (Unit × BState)} (h : isOk r = true) : ∃ st', r = .ok ((), st') := by
  cases r with
  | ok r => exact ⟨r.2, rfl⟩
  | error e => cases h

theorem ops2_wf : ∀ op ∈ ops2, op.wf := by decide
theorem build2_wf : (Op.build cEx oEx 5 env2).wf := by decide

/-- the store the history `ops2` leaves (evaluated once, `run_ops2`): the forest of the first build, the five stored
    items, and the marks of the added item 5 and the deleted item 0 -/
def s2 : Store :=
  [(cEx.metaKey, .metadata cEx.metric.nameBytes 2 [0, 1, 2, 3, 4] [0]),
   (cEx.updatedKey 0, .unit), (cEx.updatedKey 5, .unit),
   (cEx.treeKey 0, .split (.mkTree 1) (.mkTree 3) [f1, 0]),
   (cEx.treeKey 1, .desc [0, 1]), (cEx.treeKey 2, .desc [3, 4]),
   (cEx.treeKey 3, .split (.mkItem 2) (.mkTree 2) [0, f1]),
   (cEx.itemKey 1, .leaf [0] [fm1, 0]), (cEx.itemKey 2, .leaf [0] [f1, fm1]), (cEx.itemKey 3, .leaf [0] [f2, f1]),
   (cEx.itemKey 4, .leaf [0] [f3, f1]), (cEx.itemKey 5, .leaf [0] [f25, f2])]

/-- the store after the second build (`run_ops3`): bucket 2 was re-split, its subtree root remapped onto id 2 -/
def s3 : Store :=
  [(cEx.metaKey, .metadata cEx.metric.nameBytes 2 [1, 2, 3, 4, 5] [0]),
   (cEx.treeKey 0, .split (.mkTree 1) (.mkTree 3) [f1, 0]),
   (cEx.treeKey 1, .desc [1]),
   (cEx.treeKey 2, .split (.mkItem 5) (.mkTree 4) [f1, fm15]),
   (cEx.treeKey 3, .split (.mkItem 2) (.mkTree 2) [0, f1]),
   (cEx.treeKey 4, .desc [3, 4]),
   (cEx.itemKey 1, .leaf [0] [fm1, 0]), (cEx.itemKey 2, .leaf [0] [f1, fm1]), (cEx.itemKey 3, .leaf [0] [f2, f1]),
   (cEx.itemKey 4, .leaf [0] [f3, f1]), (cEx.itemKey 5, .leaf [0] [f25, f2])]

theorem run_ops2 : run ops2 = s2 := by decide +kernel

-- from here on the concrete history is only used through `run_ops2`
attribute [local irreducible] run

theorem run_ops3 : run (ops2 ++ [.build cEx oEx 5 env2]) = s3 := by
  rw [run_snoc, run_ops2]
  decide +kernel

/-- the state before the second build: items 1..5 stored, a forest of four nodes, two marks -/
theorem before2 : (run ops2).keysOf 0 modeItem = [1, 2, 3, 4, 5] ∧ (run ops2).keysOf 0 modeTree = [0, 1, 2, 3] ∧
    (run ops2).keysOf 0 modeUpdated = [0, 5] ∧ rootsOf cEx (run ops2) = [0] := by
  rw [run_ops2]
  decide +kernel

/-- the second build succeeds: a failed build would have left `s2` -/
theorem build2_store : ∃ st', Build.build cEx oEx 5 { env2 with store := run ops2 } = .ok ((), st') ∧ st'.store = s3 := by
  apply step_build_ne
  · rw [← run_snoc, run_ops3]
  · rw [run_ops2]
    decide

theorem build2_result : ∃ st', Build.build cEx oEx 5 { env2 with store := run ops2 } = .ok ((), st') :=
  let ⟨st', h, _⟩ := build2_store
  ⟨st', h⟩

/-- the second build is on the main path (more items than one bucket holds) -/
theorem big2 : fits (Build.cap cEx oEx) ((run ops2).keysOf cEx.index modeItem).length = false := by
  rw [run_ops2]
  decide +kernel

theorem before2_ok : (Check.capacityOk cEx (run ops2) (Build.cap cEx oEx)).isEmpty = true ∧
    (Check.routed cEx (run ops2)).isEmpty = true := by
  rw [run_ops2]
  decide +kernel

/-- the forest after the second build (`#eval Check.forestValid …` gives `[]`; `IdSet.ofList` uses
    `List.mergeSort`, which the kernel cannot unfold, so only the trees are checked by `decide`) -/
theorem after2_ok :
    Check.trees cEx (run (ops2 ++ [.build cEx oEx 5 env2])) =
      [.node 0 [f1, 0] (.bucket 1 [1]) (.node 3 [0, f1] (.leaf 2) (.node 2 [f1, fm15] (.leaf 5) (.bucket 4 [3, 4])))] := by
  rw [run_ops3]
  decide +kernel

def oLeaf : BuildOpts := { splitAfter := some 10 }
theorem single_ok : isOk (Build.build cEx oLeaf 0 { store := run ops2 }) = true ∧
    fits (Build.cap cEx oLeaf) ((run ops2).keysOf cEx.index modeItem).length = true := by
  rw [run_ops2]
  decide +kernel

/-- `C01_history` / `C01_build` apply to it: the hypotheses are satisfiable on an incremental build
    with deletion, insertion and re-split -/
example (hfresh : FreshSupply) : ∃ st' roots ts,
    Build.build cEx oEx 5 { env2 with store := run ops2 } = .ok ((), st') ∧
    Forest cEx st'.store roots [1, 2, 3, 4, 5] ts ∧ roots ≠ [] ∧ IndexInv cEx (run ops2) := by
  obtain ⟨st', h⟩ := build2_result
  obtain ⟨_, roots, ts, _, hf, hne, _⟩ := C01_history hfresh ops2 ops2_wf cEx oEx 5 env2 st' build2_wf h
  rw [show (run ops2).keysOf cEx.index modeItem = [1, 2, 3, 4, 5] from before2.1] at hf hne
  exact ⟨st', roots, ts, h, hf, hne (by simp), C01_history_inv hfresh ops2 ops2_wf cEx build2_wf.1⟩

/-- `C01_checker_history`, and the checker really runs on this state -/
example (hfresh : FreshSupply) : Check.forestValid cEx (run (ops2 ++ [.build cEx oEx 5 env2])) = [] := by
  obtain ⟨st', h⟩ := build2_result
  exact C01_checker_history hfresh ops2 ops2_wf cEx oEx 5 env2 st' build2_wf h

/-- `C15_root_count`: one tree was requested -/
example (hfresh : FreshSupply) : ∃ st', Build.build cEx oEx 5 { env2 with store := run ops2 } = .ok ((), st') ∧
    (rootsOf cEx st'.store).length = 1 := by
  obtain ⟨st', h⟩ := build2_result
  have hinv := (C01_history_inv hfresh ops2 ops2_wf cEx build2_wf.1).1
  exact ⟨st', h, (C15.C15_root_count cEx oEx 5 _ st' build2_wf.1 build2_wf.2.1 hfresh hinv h big2).2.2 1 rfl⟩

/-- `C15_capacity` and `C04_routed`: their hypotheses hold of the forest before the second build
    (capacity 2 respected; routed w.r.t. the stored vectors — item 5, whose mark is set, is not yet in
    any tree) -/
example (hfresh : FreshSupply) : ∃ st', Build.build cEx oEx 5 { env2 with store := run ops2 } = .ok ((), st') ∧
    Check.capacityOk cEx st'.store (Build.cap cEx oEx) = [] ∧ Check.routed cEx st'.store = [] := by
  obtain ⟨st', h⟩ := build2_result
  have hinv := (C01_history_inv hfresh ops2 ops2_wf cEx build2_wf.1).1
  have h0 : Check.capacityOk cEx (run ops2) (Build.cap cEx oEx) = [] ∧ Check.routed cEx (run ops2) = [] :=
    ⟨List.isEmpty_iff.1 before2_ok.1, List.isEmpty_iff.1 before2_ok.2⟩
  exact ⟨st', h, C15.C15_capacity_checker cEx oEx 5 _ st' build2_wf.1 build2_wf.2.1 hfresh hinv h h0.1,
    C04.C04_routed_checker cEx oEx 5 _ st' build2_wf.1 build2_wf.2.1 hfresh hinv h h0.2⟩

/-- `C15_single`: with `split_after = 10` the same items fit one bucket -/
example (hfresh : FreshSupply) : ∃ st', Build.build cEx oLeaf 0 { store := run ops2 } = .ok ((), st') ∧
    Check.trees cEx st'.store = [.bucket 0 [1, 2, 3, 4, 5]] := by
  have hok := single_ok
  cases hb : Build.build cEx oLeaf 0 { store := run ops2 } with
  | error e => rw [hb] at hok; cases hok.1
  | ok r =>
    obtain ⟨u, st'⟩ := r
    have hinv := (C01_history_inv hfresh ops2 ops2_wf cEx build2_wf.1).1
    have := (C15.C15_single cEx oLeaf 0 { store := run ops2 } st' build2_wf.1 (by decide) hfresh hinv hb hok.2).2
    rw [show (run ops2).keysOf cEx.index modeItem = [1, 2, 3, 4, 5] from before2.1] at this
    exact ⟨st', rfl, this⟩

/-- `C10_transparent_ok_reachable`: the second build runs under a cancellation schedule (`some 1000`) -/
example (hfresh : FreshSupply) : ∃ st', Build.build cEx oEx 5 (erase { env2 with store := run ops2 }) = .ok ((), erase st') := by
  obtain ⟨st', h⟩ := build2_result
  exact ⟨st', C10.C10_transparent_ok_reachable hfresh ops2 ops2_wf cEx build2_wf.1 oEx 5 env2 st' h⟩

/-- `C15_capacity_history` and `C04_history`: their side conditions on the history hold -/
theorem ops2_cap : ∀ op ∈ ops2 ++ [Op.build cEx oEx 5 env2], C15.capIs cEx 2 op := by
  intro op hop
  simp only [ops2, ops1, List.mem_append, List.mem_cons, List.not_mem_nil, or_false] at hop
  rcases hop with ((rfl | rfl | rfl | rfl | rfl | rfl) | (rfl | rfl)) | rfl <;>
    first | trivial | (intro _; rfl)

theorem ops2_same : ∀ op ∈ ops2, C04.sameCfg cEx op := by
  intro op hop
  simp only [ops2, ops1, List.mem_append, List.mem_cons, List.not_mem_nil, or_false] at hop
  rcases hop with (rfl | rfl | rfl | rfl | rfl | rfl) | (rfl | rfl) <;>
    first | trivial | (intro _; rfl)

example (hfresh : FreshSupply) : Check.capacityOk cEx (run (ops2 ++ [Op.build cEx oEx 5 env2])) 2 = [] := by
  apply C15.C15_capacity_history_checker hfresh cEx build2_wf.1 2 _ _ ops2_cap
  intro op hop
  rcases List.mem_append.1 hop with h | h
  · exact ops2_wf op h
  · simp only [List.mem_singleton] at h; subst h; exact build2_wf

example (hfresh : FreshSupply) : ∃ st', Build.build cEx oEx 5 { env2 with store := run ops2 } = .ok ((), st') ∧
    Check.routed cEx st'.store = [] := by
  obtain ⟨st', h⟩ := build2_result
  exact ⟨st', h, (C04.C04_history hfresh cEx ops2 ops2_wf ops2_same oEx 5 env2 st' build2_wf h).2⟩

end Arroy.C01.Ex
