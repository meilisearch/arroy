import ArroyProofs.Properties.C05History
import ArroyProofs.LeavesMade
import ArroyProofs.BQRequant
/-! # C02 over histories — the ANSWER of an unlimited-budget query as a function of what happened

`Reachable.lean` (`C02_exact_reachable`) states exact search against the stored leaves of the state the build
left; `C05History.lean` (`C05_history`) states the stored vectors as a function of the history (`C05.spec`).
Here the two are composed: the answer of the query is `specAnswer c (C05.spec c.index ops) qh qv count` — the
entries of the abstract item map scored by `built_distance` against the query, sorted by
`(OrderedFloat score, id)`, truncated to `count`, reported through `normalized_distance`. No store, no leaf,
no tree occurs in the right-hand side.

Side conditions (all decidable, syntactic, on the operations of index `c.index` only):
* `C05.Typed` / `C05.metricOf` — those of `C05_history`: the index is written at the dimension `c.dims` and under
  the metric it has at that point;
* `Written c.index c.host m0 ops` —
  (a) while the index is Cosine, its items are written from the host `c.host` (the Cosine header holds the norm
      of the vector, computed by the run-time-dispatched dot-product kernel of the WRITING host; every other
      metric either has no norm in its header or — quantised Cosine — computes it without the kernels);
      likewise a metric change TOWARDS Cosine is made from `c.host`;
  (b) no build under a dot-product `Cfg` is run on the index while its metric is not dot-product (the
      preprocessing of a dot-product build rewrites the headers of all items; `built_distance` of dot-product
      itself never reads a header, so for a dot-product index nothing is asked). -/
namespace Arroy

deriving instance DecidableEq for Host

namespace C02
open Arroy Generated Reader

/-! ## the specification of the answer -/

/-- the score of a vector `v` of the abstract item map against the query leaf `(qh, qv)`: `built_distance`
    between the query and the leaf `add_item` makes of `v` (words `from_slice v`, header `new_header` of them) -/
def specScore (c : Cfg) (qh qv v : List Nat) : Nat :=
  c.metric.builtDistance c.host qh qv (c.metric.newHeader c.host (c.metric.fromSlice v)) (c.metric.fromSlice v)

/-- every entry of the map with its score -/
def specScored (c : Cfg) (m : C05.IMap) (qh qv : List Nat) : List (Nat × Nat) :=
  m.map fun p => (specScore c qh qv p.2, p.1)

/-- **the answer, from the abstract item map only**: score every entry, sort by `(OrderedFloat score, id)`,
    keep `count`, report `(id, normalized_distance score)` -/
def specAnswer (c : Cfg) (m : C05.IMap) (qh qv : List Nat) (count : Nat) : List (Nat × Nat) :=
  (((specScored c m qh qv).mergeSort scoreLe).take count).map
    fun (d, id) => (id, c.metric.normalizedDistance d c.dims)

/-! ### the map holds READ-BACK vectors; scoring them is scoring the vectors as written -/

/-- the stored words of the read-back of `v` are the stored words of `v`: for an f32 metric the read-back is
    `v`; for a quantised one it is the `±1.0` sign pattern, which packs to the same words -/
theorem fromSlice_readback (m : Metric) (v : List Nat) :
    m.fromSlice (C05.readback m v.length v) = m.fromSlice v := by
  cases hb : m.isBq with
  | false => rw [C05.readback_f32 m hb]
  | true =>
    simp only [C05.readback, Metric.toVec, Metric.fromSlice, hb, if_true]
    exact BQL.pack_unpack_pack v

theorem specScore_readback (c : Cfg) (qh qv v : List Nat) (hv : v.length = c.dims) :
    specScore c qh qv (C05.readback c.metric c.dims v) = specScore c qh qv v := by
  unfold specScore
  rw [← hv, fromSlice_readback]

/-! ## headers: who reads them, who computes them with the host's kernels -/

/-- only Cosine reads the header of the ITEM in `built_distance` -/
theorem builtDistance_item_header (m : Metric) (hm : m ≠ .cosine) (host : Host) (ph pv qh qh' qv : List Nat) :
    m.builtDistance host ph pv qh qv = m.builtDistance host ph pv qh' qv := by
  cases m <;> first | rfl | exact absurd rfl hm

/-- only Cosine computes a header with the kernels of the host -/
theorem newHeader_host (m : Metric) (hm : m ≠ .cosine) (h h' : Host) (v : List Nat) :
    m.newHeader h v = m.newHeader h' v := by
  cases m <;> first | rfl | exact absurd rfl hm

/-! ## every stored leaf was made by `add_item` — along TYPED histories, metric changes included -/

/-- the `Cfg` the index is read with, host included -/
def hcfg (i : Nat) (mt : Metric) (d : Nat) (host : Host) : Cfg := { index := i, metric := mt, dims := d, host := host }

theorem hcfg_eta (c : Cfg) : hcfg c.index c.metric c.dims c.host = c := rfl

/-- `LeavesMade` depends on the host only for Cosine -/
theorem leavesMade_congr {c c' : Cfg} {s : Store} (hi : c.index = c'.index) (hm : c.metric = c'.metric)
    (hd : c.dims = c'.dims) (hh : c.metric = .cosine → c.host = c'.host) (h : LeavesMade c s) :
    LeavesMade c' s := by
  intro id hdr v hg
  have hk : c'.itemKey id = c.itemKey id := Cfg.itemKey_congr hi.symm id
  rw [hk] at hg
  obtain ⟨xs, hl, hv, hhd⟩ := h id hdr v hg
  refine ⟨xs, by rw [← hd]; exact hl, by rw [← hm]; exact hv, fun hdot => ?_⟩
  rw [← hm] at hdot ⊢
  rw [hhd hdot]
  by_cases hc : c.metric = .cosine
  · rw [hh hc]
  · exact newHeader_host _ hc _ _ _

/-- what `Written` asks of one operation, the index having metric `mt` at that point -/
def opWritten (i : Nat) (host : Host) (mt : Metric) : C01.Op → Prop
  | .add c _ v => c.index = i → v.length = c.dims → mt = .cosine → c.host = host
  | .append c _ v => c.index = i → v.length = c.dims → mt = .cosine → c.host = host
  | .build c _ _ _ => c.index = i → c.metric = .dot → mt = .dot
  | .prepare c m' => c.index = i → m' ≠ c.metric → m' = .cosine → c.host = host
  | _ => True

instance (i : Nat) (host : Host) (mt : Metric) (op : C01.Op) : Decidable (opWritten i host mt op) := by
  cases op <;> unfold opWritten <;> infer_instance

/-- **the side condition of `C02_history` beyond `C05.Typed`**: while index `i` is Cosine its items are written
    (and a change towards Cosine is made) from `host`; no dot-product build runs on it while it is not
    dot-product. `mt`: the metric of the index at the start (then `C05.metricStep`). -/
def Written (i : Nat) (host : Host) : Metric → List C01.Op → Prop
  | _, [] => True
  | mt, op :: ops => opWritten i host mt op ∧ Written i host (C05.metricStep i mt op) ops

instance decWritten (i : Nat) (host : Host) : (mt : Metric) → (ops : List C01.Op) → Decidable (Written i host mt ops)
  | _, [] => isTrue trivial
  | mt, op :: ops =>
    have := decWritten i host (C05.metricStep i mt op) ops
    by unfold Written; infer_instance

theorem written_append (i : Nat) (host : Host) (ops : List C01.Op) (op : C01.Op) : ∀ mt,
    Written i host mt (ops ++ [op]) ↔ Written i host mt ops ∧ opWritten i host (C05.metricOf i mt ops) op := by
  induction ops with
  | nil => intro mt; simp [Written, C05.metricOf]
  | cons a ops ih =>
    intro mt
    simp only [List.cons_append, Written, ih, C05.metricOf, List.foldl_cons, and_assoc]

theorem made_step {i d : Nat} {host : Host} (hi : i < 65536) {mt : Metric} (s : Store) (op : C01.Op) (hop : op.wf)
    (hinv : ∀ c : Cfg, c.index < 65536 → IndexInv c s) (hP : LeavesMade (hcfg i mt d host) s)
    (ht : C05.opTyped i d mt op) (hw : opWritten i host mt op) :
    LeavesMade (hcfg i (C05.metricStep i mt op) d host) (C01.step s op) := by
  have hKi : (hcfg i mt d host).index < 65536 := hi
  cases he : C06.effective i s op with
  | false =>
    rw [C05.metricStep_not_effective hop hinv ht he]
    intro id hdr v hg
    rw [C06.step_not_effective s op hop hinv (hcfg i mt d host) he _ rfl] at hg
    exact hP id hdr v hg
  | true =>
    obtain ⟨hidx, hacc⟩ := (C06.effective_iff i s op).1 he
    -- an accepted `add` of the index: made for the `Cfg` of the call, which `Typed` and `Written` equate with ours
    have hadd : ∀ {c' : Cfg} {id : Nat} {vec : List Nat} {s' : Store}, c'.index = i →
        (c'.index = i → vec.length = c'.dims → c'.metric = mt ∧ c'.dims = d) →
        (c'.index = i → vec.length = c'.dims → mt = .cosine → c'.host = host) →
        Writer.addItem c' s id vec = .ok s' → LeavesMade (hcfg i mt d host) s' := by
      intro c' id vec s' hidx ht hw h
      obtain ⟨hm, hd⟩ := ht hidx (Writer.addItem_ok h).1
      have hh := hw hidx (Writer.addItem_ok h).1
      have h1 : LeavesMade c' s := leavesMade_congr hidx.symm hm.symm hd.symm (fun e => (hh e).symm) hP
      exact leavesMade_congr hidx hm hd (fun e => hh (hm ▸ e)) (C01.leavesMade_add (fun _ => rfl) h h1)
    have hstep := fun hq => C01.leavesMade_step s op hop _ hKi hq hinv hP
    have hd := C06.accepted_step (hinv _ hKi).sorted hacc
    generalize C01.step s op = s' at hd hstep
    cases hd with
    | add h => exact hadd hidx ht hw h
    | append h => exact hadd hidx ht hw h
    | del => exact hstep trivial
    | clear => exact hstep trivial
    | build => exact hstep hw
    | @prepare c' m' _ hne h =>
      have hidx : c'.index = i := hidx
      obtain ⟨hm, hd⟩ := ht hidx
      have hstep : C05.metricStep i mt (.prepare c' m') = m' := by simp [C05.metricStep, hidx]
      rw [hstep]
      have hinv' := hinv c' hop
      obtain ⟨s'', h', _, hsome, hleaf, _⟩ :=
        C18.C18_change c' m' s hne hinv'.wf hinv'.sorted hop hinv'.leaves
      rw [h] at h'
      cases h'
      intro id0 hdr v hg
      have hk : ∀ mt', (hcfg i mt' d host).itemKey id0 = c'.itemKey id0 := fun mt' =>
        Cfg.itemKey_congr (c' := hcfg i mt' d host) hidx.symm id0
      rw [hk] at hg
      have hx : (Store.get s (c'.itemKey id0)).isSome = true := by rw [← hsome, hg]; rfl
      obtain ⟨hd0, v0, hg0⟩ := hinv'.leaves.leaf_of_isSome hx
      obtain ⟨xs0, hl0, hv0, _⟩ := hP id0 hd0 v0 (by rw [hk]; exact hg0)
      rw [hleaf id0 hd0 v0 hg0] at hg
      simp only [Cfg.mkLeaf, Option.some.injEq, Val.leaf.injEq] at hg
      refine ⟨(c'.metric.toVec v0).take c'.dims, ?_, hg.2.symm, fun _ => ?_⟩
      · rw [List.length_take]
        have := C01.toVec_fromSlice_length mt xs0
        rw [hm, hd]
        show min d _ = d
        have hv0' : v0 = mt.fromSlice xs0 := hv0
        rw [← hv0'] at this
        have hl0' : xs0.length = d := hl0
        omega
      · rw [← hg.1, ← hg.2]
        show m'.newHeader c'.host _ = m'.newHeader host _
        by_cases hc : m' = .cosine
        · rw [hw hidx hne hc]
        · exact newHeader_host _ hc _ _ _

/-- **every stored leaf of the index is `c.mkLeaf` of a vector of the declared dimension** (for dot-product:
    has the words of one) after every well-formed, typed, written history — metric changes included -/
theorem made_history (ops : List C01.Op) (hops : ∀ op ∈ ops, op.wf) (c : Cfg) (hi : c.index < 65536)
    (m0 : Metric) (ht : C05.Typed c.index c.dims m0 ops) (hm : c.metric = C05.metricOf c.index m0 ops)
    (hw : Written c.index c.host m0 ops) : LeavesMade c (C01.run ops) := by
  have h : C05.Typed c.index c.dims m0 ops → Written c.index c.host m0 ops →
      LeavesMade (hcfg c.index (C05.metricOf c.index m0 ops) c.dims c.host) (C01.run ops) := by
    refine C01.history_induction (P := fun ops => C05.Typed c.index c.dims m0 ops → Written c.index c.host m0 ops →
      LeavesMade (hcfg c.index (C05.metricOf c.index m0 ops) c.dims c.host) (C01.run ops)) ?_ ?_ ops hops
    · exact fun _ _ => LeavesMade.nil _
    · intro ops op hops hop ih ht hw
      obtain ⟨ht, hto⟩ := (C05.typed_append _ _ _ _ _).1 ht
      obtain ⟨hw, hwo⟩ := (written_append _ _ _ _ _).1 hw
      rw [C01.run_snoc, C05.metricOf_snoc]
      exact made_step hi _ op hop (C01.C01_invariant ops hops) (ih ht hw) hto hwo
  have h := h ht hw
  rw [← hm] at h
  exact h

/-! ## the exact answer over the stored leaves IS the answer computed from the map -/

theorem lookup_of_mem_asc {m : C05.IMap} (ha : C05.Asc m) {id : Nat} {v : List Nat} (h : (id, v) ∈ m) :
    List.lookup id m = some v := by
  induction m with
  | nil => cases h
  | cons p r ih =>
    obtain ⟨j, w⟩ := p
    unfold C05.Asc at ha ih
    rw [List.map_cons, List.pairwise_cons] at ha
    rw [C05.lk_cons]
    rcases List.mem_cons.1 h with e | h'
    · cases e; rw [if_pos rfl]
    · have hlt : j < id := ha.1 id (List.mem_map.2 ⟨(id, v), h', rfl⟩)
      rw [if_neg (by omega)]
      exact ih ha.2 h'

theorem mem_of_lookup {m : C05.IMap} {id : Nat} {v : List Nat} (h : List.lookup id m = some v) : (id, v) ∈ m := by
  induction m with
  | nil => cases h
  | cons p r ih =>
    obtain ⟨j, w⟩ := p
    rw [C05.lk_cons] at h
    by_cases e : id = j
    · rw [if_pos e] at h; cases h; subst e; exact List.mem_cons_self
    · rw [if_neg e] at h; exact List.mem_cons_of_mem _ (ih h)

/-- the stored leaf of an entry of the map: the words are `from_slice` of the entry's vector, the header
    (but for dot-product) `new_header` of these words; the vector has the declared dimension -/
theorem leaf_of_lookup {c : Cfg} {s : Store} {m : C05.IMap} (hr : C05.Rep c s m) (hP : LeavesMade c s)
    {id : Nat} {v : List Nat} (hl : List.lookup id m = some v) :
    ∃ hd, Store.get s (c.itemKey id) = some (.leaf hd (c.metric.fromSlice v)) ∧
      (c.metric ≠ .dot → hd = c.metric.newHeader c.host (c.metric.fromSlice v)) ∧ v.length = c.dims := by
  have hv := hr.1 id
  rw [hl] at hv
  unfold Writer.itemVector Writer.itemLeaf at hv
  cases hg : Store.get s (c.itemKey id) with
  | none => rw [hg] at hv; cases hv
  | some val =>
    rw [hg] at hv
    cases val with
    | leaf hd w =>
      simp only [Option.map_some, Option.some.injEq] at hv
      obtain ⟨xs, hxl, hxw, hhd⟩ := hP id hd w hg
      have hw : c.metric.fromSlice v = w := by
        rw [← hv, hxw, ← hxl]
        exact fromSlice_readback c.metric xs
      have hlen := C01.toVec_fromSlice_length c.metric xs
      rw [hw]
      refine ⟨hd, rfl, hhd, ?_⟩
      rw [← hv, hxw, List.length_take]
      omega
    | _ => cases hv

/-- `by_item` on a store that represents the map `m`: `None` for an id outside the map; for an id of the map, the
    query by the leaf `add_item` makes of its vector (the stored header may differ for the dot product, whose
    `built_distance` reads none) -/
theorem byItem_spec {c : Cfg} {s : Store} {m : C05.IMap} (hr : C05.Rep c s m) (hP : LeavesMade c s)
    (rd : ReaderState) (id : Nat) (q : QueryOpts) :
    (List.lookup id m = none → byItem c s rd id q = .ok none) ∧
    (∀ v, List.lookup id m = some v → byItem c s rd id q =
      (nnsByLeaf c s rd (c.metric.newHeader c.host (c.metric.fromSlice v)) (c.metric.fromSlice v) q).map some) := by
  refine ⟨fun hl => ?_, fun v hl => ?_⟩
  · have hv := hr.1 id
    rw [hl] at hv
    unfold Writer.itemVector at hv
    unfold byItem
    cases hi : Writer.itemLeaf c s id with
    | none => rfl
    | some x => rw [hi] at hv; cases hv
  · obtain ⟨hd, hg, hhd, _⟩ := leaf_of_lookup hr hP hl
    have hi : Writer.itemLeaf c s id = some (hd, c.metric.fromSlice v) := by
      unfold Writer.itemLeaf; rw [hg]
    have hq : nnsByLeaf c s rd hd (c.metric.fromSlice v) q =
        nnsByLeaf c s rd (c.metric.newHeader c.host (c.metric.fromSlice v)) (c.metric.fromSlice v) q := by
      by_cases hdot : c.metric = .dot
      · exact nnsByLeaf_headerless c _ _ (by rw [hdot]; decide) _ _ _ _
      · rw [hhd hdot]
    unfold byItem
    simp only [hi, hq]
    cases nnsByLeaf c s rd (c.metric.newHeader c.host (c.metric.fromSlice v)) (c.metric.fromSlice v) q <;> rfl

theorem scoreOf_spec {c : Cfg} {s : Store} {m : C05.IMap} (hr : C05.Rep c s m) (hP : LeavesMade c s)
    {id : Nat} {v : List Nat} (hl : List.lookup id m = some v) (qh qv : List Nat) :
    scoreOf c s qh qv id = specScore c qh qv v := by
  obtain ⟨hd, hg, hhd, _⟩ := leaf_of_lookup hr hP hl
  unfold scoreOf specScore
  rw [hg]
  by_cases hdot : c.metric = .dot
  · exact builtDistance_item_header _ (by rw [hdot]; decide) _ _ _ _ _ _
  · rw [hhd hdot]

/-- **the bridge**: on a store that represents the map `m` and whose leaves were made by `add_item`, the exact
    answer over the ids of a part `m'` of the map is `specAnswer` of that part -/
theorem exactOver_spec_sub {c : Cfg} {s : Store} {m m' : C05.IMap} (hr : C05.Rep c s m) (hP : LeavesMade c s)
    (hsub : ∀ p ∈ m', p ∈ m) (qh qv : List Nat) (count : Nat) :
    exactOver c s c.dims qh qv count (m'.map (·.1)) = specAnswer c m' qh qv count := by
  have hsc : scored c s qh qv (m'.map (·.1)) = specScored c m' qh qv := by
    unfold scored specScored
    rw [List.map_map]
    apply List.map_congr_left
    intro p hp
    show (scoreOf c s qh qv p.1, p.1) = _
    rw [scoreOf_spec hr hP (lookup_of_mem_asc hr.2 (show (p.1, p.2) ∈ m from hsub p hp))]
  unfold exactOver sortedScored specAnswer
  rw [hsc]

theorem exactOver_spec {c : Cfg} {s : Store} {m : C05.IMap} (hr : C05.Rep c s m) (hP : LeavesMade c s)
    (qh qv : List Nat) (count : Nat) :
    exactOver c s c.dims qh qv count (m.map (·.1)) = specAnswer c m qh qv count :=
  exactOver_spec_sub hr hP (fun _ h => h) qh qv count

/-! ## properties of `specAnswer` (pure list facts) -/

theorem specSorted_perm (c : Cfg) (m : C05.IMap) (qh qv : List Nat) :
    ((specScored c m qh qv).mergeSort scoreLe).Perm (specScored c m qh qv) := List.mergeSort_perm _ _

theorem specSorted_pairwise (c : Cfg) (m : C05.IMap) (qh qv : List Nat) :
    ((specScored c m qh qv).mergeSort scoreLe).Pairwise (fun a b => scoreLe a b = true) :=
  List.pairwise_mergeSort scoreLe_trans scoreLe_total _

theorem specScored_ids (c : Cfg) (m : C05.IMap) (qh qv : List Nat) :
    (specScored c m qh qv).map (·.2) = m.map (·.1) := by
  unfold specScored; rw [List.map_map]; rfl

/-- the sorted scored list is the only sorted arrangement of the scored entries (ties are broken by id, and
    the ids of the map are distinct): a way to COMPUTE `specAnswer` -/
theorem specAnswer_of_sorted (c : Cfg) {m : C05.IMap} (ha : C05.Asc m) (qh qv : List Nat) (count : Nat)
    (l : List (Nat × Nat)) (hp : l.Perm (specScored c m qh qv))
    (hs : l.Pairwise (fun a b => scoreLe a b = true)) :
    specAnswer c m qh qv count = (l.take count).map fun (d, id) => (id, c.metric.normalizedDistance d c.dims) := by
  have : l = (specScored c m qh qv).mergeSort scoreLe := by
    refine List.Perm.eq_of_pairwise (le := fun a b => scoreLe a b = true) ?_ hs (specSorted_pairwise c m qh qv)
      (hp.trans (specSorted_perm c m qh qv).symm)
    intro a b ha' hb' h1 h2
    have hid := (scoreLe_antisymm _ _ h1 h2).2
    obtain ⟨ea, hea, rfl⟩ := List.mem_map.1 (hp.mem_iff.1 ha')
    obtain ⟨eb, heb, rfl⟩ := List.mem_map.1 ((specSorted_perm c m qh qv).mem_iff.1 hb')
    simp only at hid
    have h1' := lookup_of_mem_asc ha (show (ea.1, ea.2) ∈ m from hea)
    have h2' := lookup_of_mem_asc ha (show (eb.1, eb.2) ∈ m from heb)
    rw [hid, h2'] at h1'
    have hv : eb.2 = ea.2 := Option.some.inj h1'
    show (specScore c qh qv ea.2, ea.1) = (specScore c qh qv eb.2, eb.1)
    rw [hid, hv]
  unfold specAnswer
  rw [this]

theorem specAnswer_length (c : Cfg) (m : C05.IMap) (qh qv : List Nat) (count : Nat) :
    (specAnswer c m qh qv count).length = min count m.length := by
  simp [specAnswer, specScored]

theorem specAnswer_ids (c : Cfg) (m : C05.IMap) (qh qv : List Nat) (count : Nat) :
    (specAnswer c m qh qv count).map (·.1) = (((specScored c m qh qv).mergeSort scoreLe).map (·.2)).take count := by
  unfold specAnswer
  rw [List.map_map, ← List.map_take]
  rfl

theorem specAnswer_mem (c : Cfg) (m : C05.IMap) (qh qv : List Nat) (count : Nat) :
    ∀ p ∈ specAnswer c m qh qv count, ∃ v, (p.1, v) ∈ m ∧
      p.2 = c.metric.normalizedDistance (specScore c qh qv v) c.dims := by
  intro p hp
  unfold specAnswer at hp
  obtain ⟨x, hx, rfl⟩ := List.mem_map.1 hp
  have hx' := (specSorted_perm c m qh qv).mem_iff.1 (List.mem_of_mem_take hx)
  obtain ⟨e, he, rfl⟩ := List.mem_map.1 hx'
  exact ⟨e.2, he, rfl⟩

theorem specAnswer_nodup (c : Cfg) {m : C05.IMap} (ha : C05.Asc m) (qh qv : List Nat) (count : Nat) :
    ((specAnswer c m qh qv count).map (·.1)).Nodup := by
  rw [specAnswer_ids]
  refine List.Nodup.sublist (List.take_sublist _ _) ?_
  have hp := (specSorted_perm c m qh qv).map (·.2)
  rw [specScored_ids] at hp
  exact hp.nodup_iff.2 (List.Pairwise.imp (fun h => Nat.ne_of_lt h) ha : (m.map (·.1)).Pairwise (· ≠ ·))

theorem specAnswer_all (c : Cfg) (m : C05.IMap) (qh qv : List Nat) (count : Nat) (hc : m.length ≤ count) :
    ((specAnswer c m qh qv count).map (·.1)).Perm (m.map (·.1)) := by
  rw [specAnswer_ids, List.take_of_length_le (by simp [specScored]; exact hc)]
  have hp := (specSorted_perm c m qh qv).map (·.2)
  rw [specScored_ids] at hp
  exact hp

/-- the score of the entry of `id` in the map (0 if there is none) -/
def scoreIn (c : Cfg) (m : C05.IMap) (qh qv : List Nat) (id : Nat) : Nat :=
  match List.lookup id m with
  | some v => specScore c qh qv v
  | none => 0

/-- the answer, re-scored from the map, is the head of the sorted scored list -/
theorem specAnswer_rescored (c : Cfg) {m : C05.IMap} (ha : C05.Asc m) (qh qv : List Nat) (count : Nat) :
    (specAnswer c m qh qv count).map (fun p => (scoreIn c m qh qv p.1, p.1)) =
      ((specScored c m qh qv).mergeSort scoreLe).take count := by
  unfold specAnswer
  rw [List.map_map]
  conv => rhs; rw [← List.map_id (((specScored c m qh qv).mergeSort scoreLe).take count)]
  apply List.map_congr_left
  intro x hx
  obtain ⟨e, he, rfl⟩ := List.mem_map.1 ((specSorted_perm c m qh qv).mem_iff.1 (List.mem_of_mem_take hx))
  show (scoreIn c m qh qv e.1, e.1) = _
  unfold scoreIn
  rw [lookup_of_mem_asc ha (show (e.1, e.2) ∈ m from he)]
  rfl

theorem specAnswer_sorted (c : Cfg) {m : C05.IMap} (ha : C05.Asc m) (qh qv : List Nat) (count : Nat) :
    ((specAnswer c m qh qv count).map (fun p => (scoreIn c m qh qv p.1, p.1))).Pairwise
      (fun a b => scoreLe a b = true) := by
  rw [specAnswer_rescored c ha]
  exact (specSorted_pairwise c m qh qv).sublist (List.take_sublist _ _)

theorem specAnswer_best (c : Cfg) {m : C05.IMap} (ha : C05.Asc m) (qh qv : List Nat) (count : Nat)
    (p : Nat × Nat) (hp : p ∈ specAnswer c m qh qv count) (y : Nat) (vy : List Nat) (hy : (y, vy) ∈ m)
    (hny : y ∉ (specAnswer c m qh qv count).map (·.1)) :
    scoreLe (scoreIn c m qh qv p.1, p.1) (specScore c qh qv vy, y) = true := by
  have hpm : (scoreIn c m qh qv p.1, p.1) ∈ ((specScored c m qh qv).mergeSort scoreLe).take count := by
    rw [← specAnswer_rescored c ha]
    exact List.mem_map.2 ⟨p, hp, rfl⟩
  have hym : (specScore c qh qv vy, y) ∈ (specScored c m qh qv).mergeSort scoreLe :=
    (specSorted_perm c m qh qv).mem_iff.2 (List.mem_map.2 ⟨(y, vy), hy, rfl⟩)
  have hyd : (specScore c qh qv vy, y) ∈ ((specScored c m qh qv).mergeSort scoreLe).drop count := by
    rw [← List.take_append_drop count ((specScored c m qh qv).mergeSort scoreLe), List.mem_append] at hym
    rcases hym with h | h
    · exfalso; apply hny
      rw [specAnswer_ids, ← List.map_take]
      exact List.mem_map.2 ⟨_, h, rfl⟩
    · exact h
  have hpw := specSorted_pairwise c m qh qv
  rw [← List.take_append_drop count ((specScored c m qh qv).mergeSort scoreLe), List.pairwise_append] at hpw
  exact hpw.2.2 _ hpm _ hyd

/-! ## C02 over histories -/

theorem history_core (ops : List C01.Op) (hops : ∀ op ∈ ops, op.wf)
    (c : Cfg) (o : BuildOpts) (fuel : Nat) (env st' : BState) (hwf : (C01.Op.build c o fuel env).wf)
    (h : Build.build c o fuel { env with store := C01.run ops } = .ok ((), st'))
    (m0 : Metric) (ht : C05.Typed c.index c.dims m0 ops) (hm : c.metric = C05.metricOf c.index m0 ops)
    (hw : Written c.index c.host m0 ops) :
    C05.Rep c st'.store (C05.spec c.index ops) ∧ LeavesMade c st'.store ∧
    ∃ roots, Reader.open c st'.store = .ok ⟨roots, c.dims, (C05.spec c.index ops).map (·.1)⟩ ∧
      ForestOK c st'.store ⟨roots, c.dims, (C05.spec c.index ops).map (·.1)⟩ := by
  obtain ⟨hrun, hspec, _⟩ := C05.C05_history_reader_ids ops hops c o fuel env st' hwf h
  obtain ⟨_, hmet, hty⟩ := C05.build_snoc ops c o fuel env
  have hops' := C01.forall_snoc hops hwf
  have hm' : c.metric = C05.metricOf c.index m0 (ops ++ [.build c o fuel env]) := by rw [hmet]; exact hm
  have hrep := C05.rep_history _ hops' c hwf.1 m0 (hty _ _ _ ht) hm'
  have hmade := made_history _ hops' c hwf.1 m0 (hty _ _ _ ht) hm'
    ((written_append _ _ _ _ _).2 ⟨hw, fun _ hdot => by rw [← hm]; exact hdot⟩)
  rw [hrun] at hrep hmade
  rw [hspec] at hrep
  obtain ⟨roots, h1, h2, _⟩ := C01.C01_forestOK_reachable ops hops c o fuel env st' hwf h
  rw [C05.keysOf_run ops hops c hwf.1] at h1 h2
  exact ⟨hrep, hmade, roots, h1, h2⟩

/-- **C02 over histories**: for every well-formed history `ops` (any mix of add / append / del / clear / build /
    prepare over any indexes, rejected calls and failed builds included) in which index `c.index` is written
    at dimension `c.dims` under the metric it has at that point (`C05.Typed`, `C05.metricOf` — the side
    conditions of `C05_history`) and as `Written` asks (Cosine items from the host `c.host`; no dot-product
    build on a non-dot-product index), every successful `Build.build c …` leaves a state on which
    `Reader::open` succeeds with the ids of the specification map, and every query `(qh, qv)` with an unlimited
    budget (`search_k = usize::MAX`, no filter, oversampling ≠ 0, trees × items ≤ `usize::MAX`) returns
    `specAnswer c (C05.spec c.index ops) qh qv count`: the answer is a function of the history, the query and
    `count` only — not of the trees, the build options, the oracle streams, the fuel or the other indexes. -/
theorem C02_history (ops : List C01.Op) (hops : ∀ op ∈ ops, op.wf)
    (c : Cfg) (o : BuildOpts) (fuel : Nat) (env st' : BState) (hwf : (C01.Op.build c o fuel env).wf)
    (h : Build.build c o fuel { env with store := C01.run ops } = .ok ((), st'))
    (m0 : Metric) (ht : C05.Typed c.index c.dims m0 ops) (hm : c.metric = C05.metricOf c.index m0 ops)
    (hw : Written c.index c.host m0 ops) :
    ∃ roots,
      Reader.open c st'.store = .ok ⟨roots, c.dims, (C05.spec c.index ops).map (·.1)⟩ ∧
      ∀ (qh qv : List Nat) (q : QueryOpts), q.candidates = none → q.searchK = some usizeMax →
        q.oversampling ≠ some 0 → roots.length * (C05.spec c.index ops).length ≤ usizeMax →
        nnsByLeaf c st'.store ⟨roots, c.dims, (C05.spec c.index ops).map (·.1)⟩ qh qv q =
          .ok (specAnswer c (C05.spec c.index ops) qh qv q.count) := by
  obtain ⟨hrep, hmade, roots, h1, h2⟩ := history_core ops hops c o fuel env st' hwf h m0 ht hm hw
  refine ⟨roots, h1, fun qh qv q hq hk ho hsz => ?_⟩
  rw [C02_exact_usizeMax h2 qh qv q hq hk ho (by simpa using hsz)]
  exact congrArg Except.ok (exactOver_spec hrep hmade qh qv q.count)

/-- **C02 over histories, through `QueryBuilder::by_vector`**: the query vector `vec` (of the declared
    dimension) is scored as the leaf `add_item` would make of it -/
theorem C02_history_by_vector (ops : List C01.Op) (hops : ∀ op ∈ ops, op.wf)
    (c : Cfg) (o : BuildOpts) (fuel : Nat) (env st' : BState) (hwf : (C01.Op.build c o fuel env).wf)
    (h : Build.build c o fuel { env with store := C01.run ops } = .ok ((), st'))
    (m0 : Metric) (ht : C05.Typed c.index c.dims m0 ops) (hm : c.metric = C05.metricOf c.index m0 ops)
    (hw : Written c.index c.host m0 ops) :
    ∃ roots,
      Reader.open c st'.store = .ok ⟨roots, c.dims, (C05.spec c.index ops).map (·.1)⟩ ∧
      ∀ (vec : List Nat) (q : QueryOpts), vec.length = c.dims → q.candidates = none →
        q.searchK = some usizeMax → q.oversampling ≠ some 0 →
        roots.length * (C05.spec c.index ops).length ≤ usizeMax →
        byVector c st'.store ⟨roots, c.dims, (C05.spec c.index ops).map (·.1)⟩ vec q =
          .ok (specAnswer c (C05.spec c.index ops) (c.metric.newHeader c.host (c.metric.fromSlice vec))
            (c.metric.fromSlice vec) q.count) := by
  obtain ⟨roots, h1, h2⟩ := C02_history ops hops c o fuel env st' hwf h m0 ht hm hw
  refine ⟨roots, h1, fun vec q hd hq hk ho hsz => ?_⟩
  unfold byVector
  simp only [hd, ne_eq, not_true_eq_false, if_false]
  exact h2 _ _ q hq hk ho hsz

/-- **C02 over histories, through `QueryBuilder::by_item`**: an id that is not in the specification map
    (never written, deleted, cleared) gives `None`; an id of the map is answered as the query by its own
    vector `v` (the one last written, as read back) -/
theorem C02_history_by_item (ops : List C01.Op) (hops : ∀ op ∈ ops, op.wf)
    (c : Cfg) (o : BuildOpts) (fuel : Nat) (env st' : BState) (hwf : (C01.Op.build c o fuel env).wf)
    (h : Build.build c o fuel { env with store := C01.run ops } = .ok ((), st'))
    (m0 : Metric) (ht : C05.Typed c.index c.dims m0 ops) (hm : c.metric = C05.metricOf c.index m0 ops)
    (hw : Written c.index c.host m0 ops) :
    ∃ roots,
      Reader.open c st'.store = .ok ⟨roots, c.dims, (C05.spec c.index ops).map (·.1)⟩ ∧
      ∀ (id : Nat) (q : QueryOpts), q.candidates = none →
        q.searchK = some usizeMax → q.oversampling ≠ some 0 →
        roots.length * (C05.spec c.index ops).length ≤ usizeMax →
        byItem c st'.store ⟨roots, c.dims, (C05.spec c.index ops).map (·.1)⟩ id q =
          .ok ((List.lookup id (C05.spec c.index ops)).map fun v =>
            specAnswer c (C05.spec c.index ops) (c.metric.newHeader c.host (c.metric.fromSlice v))
              (c.metric.fromSlice v) q.count) := by
  obtain ⟨hrep, hmade, _⟩ := history_core ops hops c o fuel env st' hwf h m0 ht hm hw
  obtain ⟨roots, h1, h2⟩ := C02_history ops hops c o fuel env st' hwf h m0 ht hm hw
  refine ⟨roots, h1, fun id q hq hk ho hsz => ?_⟩
  obtain ⟨hnone, hsome⟩ := byItem_spec hrep hmade ⟨roots, c.dims, (C05.spec c.index ops).map (·.1)⟩ id q
  cases hl : List.lookup id (C05.spec c.index ops) with
  | none => exact hnone hl
  | some v => rw [hsome v hl, h2 _ _ q hq hk ho hsz]; rfl

/-- **what the answer is, clause by clause** (the statement of C02 against the history): under the hypotheses
    of `C02_history`, the answer `ans` of an unlimited-budget query
    * has `min count (number of entries of the specification map)` entries;
    * holds each id at most once;
    * holds only ids of the map, each reported with the normalised `built_distance` between the query and the
      vector the map holds for it (the one last written and not since deleted or cleared);
    * is sorted nearest first on these scores (under `OrderedFloat`, ties by id);
    * leaves out no entry of the map that is strictly nearer than an entry returned (no stored item is
      unreachable by search);
    * holds every id of the map once `count` is at least their number. -/
theorem C02_history_answer_spec (ops : List C01.Op) (hops : ∀ op ∈ ops, op.wf)
    (c : Cfg) (o : BuildOpts) (fuel : Nat) (env st' : BState) (hwf : (C01.Op.build c o fuel env).wf)
    (h : Build.build c o fuel { env with store := C01.run ops } = .ok ((), st'))
    (m0 : Metric) (ht : C05.Typed c.index c.dims m0 ops) (hm : c.metric = C05.metricOf c.index m0 ops)
    (hw : Written c.index c.host m0 ops) :
    ∃ roots,
      Reader.open c st'.store = .ok ⟨roots, c.dims, (C05.spec c.index ops).map (·.1)⟩ ∧
      ∀ (qh qv : List Nat) (q : QueryOpts), q.candidates = none → q.searchK = some usizeMax →
        q.oversampling ≠ some 0 → roots.length * (C05.spec c.index ops).length ≤ usizeMax →
        ∃ ans, nnsByLeaf c st'.store ⟨roots, c.dims, (C05.spec c.index ops).map (·.1)⟩ qh qv q = .ok ans ∧
          ans.length = min q.count (C05.spec c.index ops).length ∧
          (ans.map (·.1)).Nodup ∧
          (∀ p ∈ ans, ∃ v, List.lookup p.1 (C05.spec c.index ops) = some v ∧
            p.2 = c.metric.normalizedDistance (specScore c qh qv v) c.dims) ∧
          (ans.map fun p => (scoreIn c (C05.spec c.index ops) qh qv p.1, p.1)).Pairwise
            (fun a b => scoreLe a b = true) ∧
          (∀ p ∈ ans, ∀ y vy, List.lookup y (C05.spec c.index ops) = some vy → y ∉ ans.map (·.1) →
            scoreLe (scoreIn c (C05.spec c.index ops) qh qv p.1, p.1) (specScore c qh qv vy, y) = true) ∧
          ((C05.spec c.index ops).length ≤ q.count → (ans.map (·.1)).Perm ((C05.spec c.index ops).map (·.1))) := by
  obtain ⟨roots, h1, h2⟩ := C02_history ops hops c o fuel env st' hwf h m0 ht hm hw
  have ha : C05.Asc (C05.spec c.index ops) := C05.asc_spec ops hops c hwf.1
  refine ⟨roots, h1, fun qh qv q hq hk ho hsz => ⟨_, h2 qh qv q hq hk ho hsz, specAnswer_length _ _ _ _ _,
    specAnswer_nodup c ha _ _ _, fun p hp => ?_, specAnswer_sorted c ha _ _ _,
    fun p hp y vy hy hny => specAnswer_best c ha qh qv q.count p hp y vy (mem_of_lookup hy) hny,
    specAnswer_all c _ _ _ _⟩⟩
  obtain ⟨v, hv, hd⟩ := specAnswer_mem c _ qh qv q.count p hp
  exact ⟨v, lookup_of_mem_asc ha hv, hd⟩

/-- **no deleted, cleared or never-written item is ever returned**: an id that is not in the specification map
    of the history is in no answer; and an id that is returned carries the distance to the vector the map
    holds for it — for an overwritten item, the LAST vector written (`C02_history_overwritten`) -/
theorem C02_history_deleted_never_returned (ops : List C01.Op) (hops : ∀ op ∈ ops, op.wf)
    (c : Cfg) (o : BuildOpts) (fuel : Nat) (env st' : BState) (hwf : (C01.Op.build c o fuel env).wf)
    (h : Build.build c o fuel { env with store := C01.run ops } = .ok ((), st'))
    (m0 : Metric) (ht : C05.Typed c.index c.dims m0 ops) (hm : c.metric = C05.metricOf c.index m0 ops)
    (hw : Written c.index c.host m0 ops) :
    ∃ roots,
      Reader.open c st'.store = .ok ⟨roots, c.dims, (C05.spec c.index ops).map (·.1)⟩ ∧
      ∀ (qh qv : List Nat) (q : QueryOpts), q.candidates = none → q.searchK = some usizeMax →
        q.oversampling ≠ some 0 → roots.length * (C05.spec c.index ops).length ≤ usizeMax →
        ∃ ans, nnsByLeaf c st'.store ⟨roots, c.dims, (C05.spec c.index ops).map (·.1)⟩ qh qv q = .ok ans ∧
          (∀ id, id ∉ (C05.spec c.index ops).map (·.1) → id ∉ ans.map (·.1)) ∧
          (∀ p ∈ ans, ∃ v, List.lookup p.1 (C05.spec c.index ops) = some v ∧
            p.2 = c.metric.normalizedDistance (specScore c qh qv v) c.dims) := by
  obtain ⟨roots, h1, h2⟩ := C02_history_answer_spec ops hops c o fuel env st' hwf h m0 ht hm hw
  refine ⟨roots, h1, fun qh qv q hq hk ho hsz => ?_⟩
  obtain ⟨ans, ha, _, _, hmem, _⟩ := h2 qh qv q hq hk ho hsz
  refine ⟨ans, ha, fun id hid hin => hid ?_, hmem⟩
  obtain ⟨p, hp, rfl⟩ := List.mem_map.1 hin
  obtain ⟨v, hv, _⟩ := hmem p hp
  exact List.mem_map.2 ⟨(p.1, v), mem_of_lookup hv, rfl⟩

/-- **the number of results**: `min count (number of entries of the specification map)` -/
theorem C02_history_count (ops : List C01.Op) (hops : ∀ op ∈ ops, op.wf)
    (c : Cfg) (o : BuildOpts) (fuel : Nat) (env st' : BState) (hwf : (C01.Op.build c o fuel env).wf)
    (h : Build.build c o fuel { env with store := C01.run ops } = .ok ((), st'))
    (m0 : Metric) (ht : C05.Typed c.index c.dims m0 ops) (hm : c.metric = C05.metricOf c.index m0 ops)
    (hw : Written c.index c.host m0 ops) :
    ∃ roots,
      Reader.open c st'.store = .ok ⟨roots, c.dims, (C05.spec c.index ops).map (·.1)⟩ ∧
      ∀ (qh qv : List Nat) (q : QueryOpts), q.candidates = none → q.searchK = some usizeMax →
        q.oversampling ≠ some 0 → roots.length * (C05.spec c.index ops).length ≤ usizeMax →
        ∃ ans, nnsByLeaf c st'.store ⟨roots, c.dims, (C05.spec c.index ops).map (·.1)⟩ qh qv q = .ok ans ∧
          ans.length = min q.count (C05.spec c.index ops).length := by
  obtain ⟨roots, h1, h2⟩ := C02_history_answer_spec ops hops c o fuel env st' hwf h m0 ht hm hw
  refine ⟨roots, h1, fun qh qv q hq hk ho hsz => ?_⟩
  obtain ⟨ans, ha, hl, _⟩ := h2 qh qv q hq hk ho hsz
  exact ⟨ans, ha, hl⟩

/-- **an overwritten item is scored with its LAST vector**: whatever the history did to `id` before, after an
    `add_item c id v` of the declared dimension and a successful build, every answer that holds `id` reports
    the distance between the query and THAT vector `v` (scored as `add_item` stored it), and `id` is in the
    answer as soon as `count` reaches the number of stored items -/
theorem C02_history_overwritten (ops : List C01.Op) (hops : ∀ op ∈ ops, op.wf)
    (c : Cfg) (o : BuildOpts) (fuel : Nat) (env st' : BState) (hwf : (C01.Op.build c o fuel env).wf)
    (id : Nat) (hid : id < 4294967296) (v : List Nat) (hv : v.length = c.dims)
    (h : Build.build c o fuel { env with store := C01.run (ops ++ [.add c id v]) } = .ok ((), st'))
    (m0 : Metric) (ht : C05.Typed c.index c.dims m0 ops) (hm : c.metric = C05.metricOf c.index m0 ops)
    (hw : Written c.index c.host m0 ops) :
    C05.spec c.index (ops ++ [.add c id v]) =
      C05.mset id (C05.readback c.metric c.dims v) (C05.spec c.index ops) ∧
    ∃ roots,
      Reader.open c st'.store = .ok ⟨roots, c.dims, (C05.spec c.index (ops ++ [.add c id v])).map (·.1)⟩ ∧
      ∀ (qh qv : List Nat) (q : QueryOpts), q.candidates = none → q.searchK = some usizeMax →
        q.oversampling ≠ some 0 →
        roots.length * (C05.spec c.index (ops ++ [.add c id v])).length ≤ usizeMax →
        ∃ ans, nnsByLeaf c st'.store ⟨roots, c.dims, (C05.spec c.index (ops ++ [.add c id v])).map (·.1)⟩
            qh qv q = .ok ans ∧
          (∀ p ∈ ans, p.1 = id → p.2 = c.metric.normalizedDistance (specScore c qh qv v) c.dims) ∧
          ((C05.spec c.index (ops ++ [.add c id v])).length ≤ q.count → id ∈ ans.map (·.1)) := by
  obtain ⟨hs, ht', hm'⟩ := C05.add_snoc ops c id v hv m0 ht hm
  have hops' := C01.forall_snoc hops (show (C01.Op.add c id v).wf from ⟨hwf.1, hid⟩)
  have hw' : Written c.index c.host m0 (ops ++ [.add c id v]) :=
    (written_append _ _ _ _ _).2 ⟨hw, fun _ _ _ => rfl⟩
  obtain ⟨roots, h1, h2⟩ := C02_history_answer_spec _ hops' c o fuel env st' hwf h m0 ht' hm' hw'
  have hl : List.lookup id (C05.spec c.index (ops ++ [.add c id v])) = some (C05.readback c.metric c.dims v) := by
    rw [hs, C05.lookup_mset, if_pos rfl]
  refine ⟨hs, roots, h1, fun qh qv q hq hk ho hsz => ?_⟩
  obtain ⟨ans, ha, _, _, hmem, _, _, hall⟩ := h2 qh qv q hq hk ho hsz
  refine ⟨ans, ha, fun p hp hpid => ?_, fun hc => ?_⟩
  · obtain ⟨v', hv', hd⟩ := hmem p hp
    rw [hpid, hl] at hv'
    cases hv'
    rw [hd, specScore_readback c qh qv v hv]
  · exact (hall hc).mem_iff.2 (List.mem_map.2 ⟨(id, _), mem_of_lookup hl, rfl⟩)

/-! ## non-vacuity

(A) the history of `C05History.lean` (`C05.Ex.hBack`: adds on two indexes, an overwrite, deletes, a rejected add,
    a clear, a build, the metric changed to binary-quantised Euclidean, an add under it, the metric changed back)
    followed by its last build;
(B) the two-round history of `C01Examples.lean` (`C01.Ex.ops2`: five adds, a build, an add, a delete) followed by
    its second build — five distinct vectors, the answer is not in id order, the deleted item is not returned;
(C) a Cosine index (the metric that reads headers) with an overwrite and a delete;
(D) the quantised index in the middle of (A).
Every closed fact below is computed by the kernel (`decide +kernel`): the builds really run. -/
namespace Ex
open C01.Ex C05.Ex

instance (m : C05.IMap) : Decidable (C05.Asc m) := by unfold C05.Asc; infer_instance

/-- how the examples compute `specAnswer`: from an explicitly given sorted arrangement -/
theorem answer_of (c : Cfg) {m : C05.IMap} (ha : C05.Asc m) (qh qv : List Nat) (count : Nat)
    (l : List (Nat × Nat)) (r : List (Nat × Nat)) (hp : l.Perm (specScored c m qh qv))
    (hs : l.Pairwise (fun a b => scoreLe a b = true))
    (hr : (l.map fun (d, id) => (id, c.metric.normalizedDistance d c.dims)) = r) :
    specAnswer c m qh qv count = r.take count := by
  rw [specAnswer_of_sorted c ha qh qv count l hp hs, ← hr, List.map_take]

/-! ### (A) metric changes: Euclidean → quantised → Euclidean -/

theorem A_side : C05.Typed cEx.index cEx.dims .euclidean hBack ∧ cEx.metric = C05.metricOf cEx.index .euclidean hBack ∧
    Written cEx.index cEx.host .euclidean hBack := by decide +kernel

theorem A_open : Reader.open cEx (C01.run (hBack ++ [.build cEx oLeaf 0 e0])) = .ok ⟨[0], 2, [3, 4]⟩ := by
  decide +kernel

theorem A_scored : specScored cEx [(3, [fm1, f1]), (4, [fm1, f1])] [0] [f1, f1] = [(1082130432, 3), (1082130432, 4)] ∧
    ([(1082130432, 3), (1082130432, 4)] : List (Nat × Nat)).Pairwise (fun a b => scoreLe a b = true) ∧
    ([(1082130432, 3), (1082130432, 4)].map fun ((d, id) : Nat × Nat) =>
      (id, cEx.metric.normalizedDistance d cEx.dims)) = [(3, f2), (4, f2)] ∧
    cEx.metric.newHeader cEx.host (cEx.metric.fromSlice [f1, f1]) = [0] ∧ cEx.metric.fromSlice [f1, f1] = [f1, f1] := by
  decide +kernel

/-- `C02_history` / `C02_history_by_vector` on (A): both stored items read (-1.0, 1.0) after the two metric
    changes; the query (1.0, 1.0) is at distance 2.0 of both; the tie is broken by id -/
example : ∃ st', Build.build cEx oLeaf 0 { e0 with store := C01.run hBack } = .ok ((), st') ∧
    Reader.open cEx st'.store = .ok ⟨[0], 2, [3, 4]⟩ ∧
    ∀ count, byVector cEx st'.store ⟨[0], 2, [3, 4]⟩ [f1, f1] { count := count, searchK := some usizeMax } =
      .ok (([(3, f2), (4, f2)] : List (Nat × Nat)).take count) := by
  obtain ⟨st', hb⟩ := C06.ok_of_okB C05.Ex.last_build_ok
  obtain ⟨roots, h1, h2⟩ := C02_history_by_vector hBack hBack_wf cEx oLeaf 0 e0 st' (by decide) hb .euclidean
    A_side.1 A_side.2.1 A_side.2.2
  have hs : C05.spec cEx.index hBack = [(3, [fm1, f1]), (4, [fm1, f1])] := C05.Ex.specs.2.2.2.2.2.2.2.2.2.2.1
  rw [hs] at h1 h2
  cases (C01.run_build hb ▸ A_open).symm.trans h1
  refine ⟨st', hb, h1, fun count => ?_⟩
  refine (h2 [f1, f1] { count := count, searchK := some usizeMax } rfl rfl rfl (by simp) (by decide)).trans ?_
  rw [A_scored.2.2.2.1, A_scored.2.2.2.2]
  exact congrArg Except.ok (answer_of cEx (by decide) _ _ _ _ _ (by rw [A_scored.1]) A_scored.2.1 A_scored.2.2.1)

/-! ### (B) five distinct vectors, an incremental build, a deleted item -/

theorem B_side : C05.Typed cEx.index cEx.dims .euclidean ops2 ∧ cEx.metric = C05.metricOf cEx.index .euclidean ops2 ∧
    Written cEx.index cEx.host .euclidean ops2 ∧
    C05.spec cEx.index ops2 = [(1, [fm1, 0]), (2, [f1, fm1]), (3, [f2, f1]), (4, [f3, f1]), (5, [f25, f2])] := by
  decide +kernel

theorem B_open : Reader.open cEx (C01.run (ops2 ++ [.build cEx oEx 5 env2])) = .ok ⟨[0], 2, [1, 2, 3, 4, 5]⟩ := by
  rw [run_ops3]
  decide +kernel

/-- the sorted arrangement of the scores of the five items against the query (2.0, 1.0), and what is reported:
    item 3 at 0.0, item 4 at 1.0, item 5 at √1.25, item 2 at √5, item 1 at √10 -/
theorem B_scored :
    ([(0, 3), (1065353216, 4), (1067450368, 5), (1084227584, 2), (1092616192, 1)] : List (Nat × Nat)).Perm
      (specScored cEx [(1, [fm1, 0]), (2, [f1, fm1]), (3, [f2, f1]), (4, [f3, f1]), (5, [f25, f2])] [0] [f2, f1]) ∧
    ([(0, 3), (1065353216, 4), (1067450368, 5), (1084227584, 2), (1092616192, 1)] : List (Nat × Nat)).Pairwise
      (fun a b => scoreLe a b = true) ∧
    ([(0, 3), (1065353216, 4), (1067450368, 5), (1084227584, 2), (1092616192, 1)].map fun ((d, id) : Nat × Nat) =>
      (id, cEx.metric.normalizedDistance d cEx.dims)) =
        [(3, 0), (4, f1), (5, 1066343357), (2, 1074731965), (1, 1078616770)] := by
  decide +kernel

/-- `C02_history` / `C02_history_deleted_never_returned` / `C02_history_count` on (B): the answer to the query
    (2.0, 1.0), for every `count` and every query header; item 0, deleted after the first build, is not in it -/
example : ∃ st', Build.build cEx oEx 5 { env2 with store := C01.run ops2 } = .ok ((), st') ∧
    Reader.open cEx st'.store = .ok ⟨[0], 2, [1, 2, 3, 4, 5]⟩ ∧
    ∀ count, nnsByLeaf cEx st'.store ⟨[0], 2, [1, 2, 3, 4, 5]⟩ [0] [f2, f1] { count := count, searchK := some usizeMax } =
      .ok (([(3, 0), (4, f1), (5, 1066343357), (2, 1074731965), (1, 1078616770)] : List (Nat × Nat)).take count) := by
  obtain ⟨st', hb⟩ := build2_result
  obtain ⟨roots, h1, h2⟩ := C02_history ops2 ops2_wf cEx oEx 5 env2 st' build2_wf hb .euclidean
    B_side.1 B_side.2.1 B_side.2.2.1
  rw [B_side.2.2.2] at h1 h2
  cases (C01.run_build hb ▸ B_open).symm.trans h1
  refine ⟨st', hb, h1, fun count => ?_⟩
  refine (h2 [0] [f2, f1] { count := count, searchK := some usizeMax } rfl rfl (by simp) (by decide)).trans ?_
  exact congrArg Except.ok (answer_of cEx (by decide) _ _ _ _ _ B_scored.1 B_scored.2.1 B_scored.2.2)

/-- … and through the clauses of `C02_history_answer_spec`: whatever the query, five results for `count ≥ 5`, each
    id once, item 0 never -/
example : ∃ st', Build.build cEx oEx 5 { env2 with store := C01.run ops2 } = .ok ((), st') ∧
    ∀ qh qv, ∃ ans, nnsByLeaf cEx st'.store ⟨[0], 2, [1, 2, 3, 4, 5]⟩ qh qv { count := 7, searchK := some usizeMax } =
      .ok ans ∧ ans.length = 5 ∧ (ans.map (·.1)).Nodup ∧ 0 ∉ ans.map (·.1) ∧ (ans.map (·.1)).Perm [1, 2, 3, 4, 5] := by
  obtain ⟨st', hb⟩ := build2_result
  have hopen := C01.run_build hb ▸ B_open
  obtain ⟨roots, h1, h2⟩ := C02_history_answer_spec ops2 ops2_wf cEx oEx 5 env2 st' build2_wf hb .euclidean
    B_side.1 B_side.2.1 B_side.2.2.1
  obtain ⟨roots', h1', h3⟩ := C02_history_deleted_never_returned ops2 ops2_wf cEx oEx 5 env2 st' build2_wf hb
    .euclidean B_side.1 B_side.2.1 B_side.2.2.1
  obtain ⟨roots'', h1'', h4⟩ := C02_history_count ops2 ops2_wf cEx oEx 5 env2 st' build2_wf hb
    .euclidean B_side.1 B_side.2.1 B_side.2.2.1
  rw [B_side.2.2.2] at h1 h2 h1' h3 h1'' h4
  cases hopen.symm.trans h1
  cases hopen.symm.trans h1'
  cases hopen.symm.trans h1''
  refine ⟨st', hb, fun qh qv => ?_⟩
  obtain ⟨ans, ha, hl, hnd, _, _, _, hall⟩ := h2 qh qv { count := 7, searchK := some usizeMax } rfl rfl (by simp) (by decide)
  obtain ⟨ans', ha', hdel, _⟩ := h3 qh qv { count := 7, searchK := some usizeMax } rfl rfl (by simp) (by decide)
  obtain ⟨ans'', ha'', hl''⟩ := h4 qh qv { count := 7, searchK := some usizeMax } rfl rfl (by simp) (by decide)
  rw [ha] at ha' ha''
  cases ha'; cases ha''
  exact ⟨ans, ha, hl'', hnd, hdel 0 (by decide), hall (by decide)⟩

/-! ### (C) Cosine: the item header is read; an overwrite and a delete -/

def cC : Cfg := { index := 2, metric := .cosine, dims := 2 }
/-- item 1 written as (1.0, 0.0), item 2, item 3, item 2 deleted -/
def hC : List C01.Op := [.add cC 1 [f1, 0], .add cC 2 [0, f1], .add cC 3 [fm1, 0], .del cC 2]

theorem hC_wf : ∀ op ∈ hC, op.wf := by decide

/-- … then item 1 OVERWRITTEN with (1.0, 1.0) -/
theorem C_side : C05.Typed cC.index cC.dims .cosine hC ∧ cC.metric = C05.metricOf cC.index .cosine hC ∧
    Written cC.index cC.host .cosine hC ∧
    C05.spec cC.index (hC ++ [.add cC 1 [f1, f1]]) = [(1, [f1, f1]), (3, [fm1, 0])] ∧
    C06.okB (Build.build cC oLeaf 0 { e0 with store := C01.run (hC ++ [.add cC 1 [f1, f1]]) }) = true ∧
    Reader.open cC (C01.run ((hC ++ [.add cC 1 [f1, f1]]) ++ [.build cC oLeaf 0 e0])) = .ok ⟨[0], 2, [1, 3]⟩ := by
  decide +kernel

/-- `C02_history_overwritten` on (C): against the query leaf of (1.0, 0.0), item 1 is reported at the Cosine
    distance of its LAST vector (1.0, 1.0) — `(1 - 1/√2)/2`, not 0 — and is returned for `count = 2` -/
example : ∃ st', Build.build cC oLeaf 0 { e0 with store := C01.run (hC ++ [.add cC 1 [f1, f1]]) } = .ok ((), st') ∧
    ∃ ans, nnsByLeaf cC st'.store ⟨[0], 2, [1, 3]⟩ [f1] [f1, 0] { count := 2, searchK := some usizeMax } = .ok ans ∧
      (1, 1041626650) ∈ ans := by
  obtain ⟨st', hb⟩ := C06.ok_of_okB C_side.2.2.2.2.1
  obtain ⟨_, roots, h1, h2⟩ := C02_history_overwritten hC hC_wf cC oLeaf 0 e0 st' (by decide) 1 (by decide)
    [f1, f1] rfl hb .cosine C_side.1 C_side.2.1 C_side.2.2.1
  rw [C_side.2.2.2.1] at h1 h2
  cases (C01.run_build hb ▸ C_side.2.2.2.2.2).symm.trans h1
  obtain ⟨ans, ha, hd, hin⟩ := h2 [f1] [f1, 0] { count := 2, searchK := some usizeMax } rfl rfl (by simp) (by decide)
  refine ⟨st', hb, ans, ha, ?_⟩
  obtain ⟨p, hp, hp1⟩ := List.mem_map.1 (hin (by decide))
  have := hd p hp hp1
  have hval : cC.metric.normalizedDistance (specScore cC [f1] [f1, 0] [f1, f1]) cC.dims = 1041626650 := by
    decide +kernel
  rw [hval] at this
  have : p = (1, 1041626650) := Prod.ext hp1 this
  rw [← this]; exact hp

/-- `C02_history_by_item` on (C): item 3 = (-1.0, 0.0) is its own nearest neighbour at distance 0, item 1 follows;
    the deleted item 2 gives `None` -/
example : ∃ st', Build.build cC oLeaf 0 { e0 with store := C01.run (hC ++ [.add cC 1 [f1, f1]]) } = .ok ((), st') ∧
    byItem cC st'.store ⟨[0], 2, [1, 3]⟩ 3 { count := 2, searchK := some usizeMax } = .ok (some [(3, 0), (1, 1062896250)]) ∧
    byItem cC st'.store ⟨[0], 2, [1, 3]⟩ 2 { count := 2, searchK := some usizeMax } = .ok none := by
  obtain ⟨st', hb⟩ := C06.ok_of_okB C_side.2.2.2.2.1
  have hwf : ∀ op ∈ hC ++ [.add cC 1 [f1, f1]], op.wf := by decide
  have hside : C05.Typed cC.index cC.dims .cosine (hC ++ [.add cC 1 [f1, f1]]) ∧
      cC.metric = C05.metricOf cC.index .cosine (hC ++ [.add cC 1 [f1, f1]]) ∧
      Written cC.index cC.host .cosine (hC ++ [.add cC 1 [f1, f1]]) := by decide +kernel
  obtain ⟨roots, h1, h2⟩ := C02_history_by_item _ hwf cC oLeaf 0 e0 st' (by decide) hb .cosine
    hside.1 hside.2.1 hside.2.2
  rw [C_side.2.2.2.1] at h1 h2
  cases (C01.run_build hb ▸ C_side.2.2.2.2.2).symm.trans h1
  refine ⟨st', hb, ?_, ?_⟩
  · refine (h2 3 { count := 2, searchK := some usizeMax } rfl rfl (by simp) (by decide)).trans ?_
    have hl : List.lookup 3 [(1, [f1, f1]), (3, [fm1, 0])] = some [fm1, 0] := by decide
    rw [hl]
    simp only [Option.map_some]
    have hsc : ([(0, 3), (1062896250, 1)] : List (Nat × Nat)).Perm
          (specScored cC [(1, [f1, f1]), (3, [fm1, 0])] (cC.metric.newHeader cC.host (cC.metric.fromSlice [fm1, 0]))
            (cC.metric.fromSlice [fm1, 0])) ∧
        ([(0, 3), (1062896250, 1)] : List (Nat × Nat)).Pairwise (fun a b => scoreLe a b = true) := by decide +kernel
    exact congrArg (fun x => Except.ok (some x))
      (answer_of cC (by decide) _ _ 2 _ [(3, 0), (1, 1062896250)] hsc.1 hsc.2 (by decide +kernel))
  · refine (h2 2 { count := 2, searchK := some usizeMax } rfl rfl (by simp) (by decide)).trans ?_
    have hl : List.lookup 2 [(1, [f1, f1]), (3, [fm1, 0])] = none := by decide
    rw [hl]; rfl

/-! ### (D) a quantised index: the map holds sign patterns, the leaves hold words -/

theorem D_side : C05.Typed cBq.index cBq.dims .euclidean hBqAdd ∧ cBq.metric = C05.metricOf cBq.index .euclidean hBqAdd ∧
    Written cBq.index cBq.host .euclidean hBqAdd ∧
    C06.okB (Build.build cBq oLeaf 0 { e0 with store := C01.run hBqAdd }) = true ∧
    Reader.open cBq (C01.run (hBqAdd ++ [.build cBq oLeaf 0 e0])) = .ok ⟨[0], 2, [3, 4]⟩ := by
  decide +kernel

theorem hBqAdd_wf : ∀ op ∈ hBqAdd, op.wf := by decide

/-- `C02_history_by_vector` on (D): index 0, written under Euclidean and changed to binary-quantised Euclidean;
    the query (1.0, -1.0) differs from both stored sign patterns (-, +) in two bits: distance 4·2/2 = 4.0 -/
example : ∃ st', Build.build cBq oLeaf 0 { e0 with store := C01.run hBqAdd } = .ok ((), st') ∧
    ∀ count, byVector cBq st'.store ⟨[0], 2, [3, 4]⟩ [f1, fm1] { count := count, searchK := some usizeMax } =
      .ok (([(3, 1082130432), (4, 1082130432)] : List (Nat × Nat)).take count) := by
  obtain ⟨st', hb⟩ := C06.ok_of_okB D_side.2.2.2.1
  obtain ⟨roots, h1, h2⟩ := C02_history_by_vector hBqAdd hBqAdd_wf cBq oLeaf 0 e0 st' (by decide) hb .euclidean
    D_side.1 D_side.2.1 D_side.2.2.1
  have hs : C05.spec cBq.index hBqAdd = [(3, [fm1, f1]), (4, [fm1, f1])] := C05.Ex.specs.2.2.2.2.2.2.2.2.2.1
  rw [hs] at h1 h2
  cases (C01.run_build hb ▸ D_side.2.2.2.2).symm.trans h1
  refine ⟨st', hb, fun count => ?_⟩
  refine (h2 [f1, fm1] { count := count, searchK := some usizeMax } rfl rfl rfl (by simp) (by decide)).trans ?_
  have hsc : ([(1090519040, 3), (1090519040, 4)] : List (Nat × Nat)).Perm
        (specScored cBq [(3, [fm1, f1]), (4, [fm1, f1])]
          (cBq.metric.newHeader cBq.host (cBq.metric.fromSlice [f1, fm1])) (cBq.metric.fromSlice [f1, fm1])) ∧
      ([(1090519040, 3), (1090519040, 4)] : List (Nat × Nat)).Pairwise (fun a b => scoreLe a b = true) := by
    decide +kernel
  exact congrArg Except.ok
    (answer_of cBq (by decide) _ _ _ _ [(3, 1082130432), (4, 1082130432)] hsc.1 hsc.2 (by decide +kernel))

/-! ### (E) dot-product: the builds rewrite the item headers, the answer does not depend on them -/

def cP : Cfg := { index := 3, metric := .dot, dims := 2 }
/-- two items, a build (whose preprocessing rewrites their headers), a third item -/
def hP : List C01.Op := [.add cP 1 [f1, f2], .add cP 2 [f2, fm1], .build cP oLeaf 0 e0, .add cP 3 [fm1, fm1]]

theorem E_side : (∀ op ∈ hP, op.wf) ∧ C05.Typed cP.index cP.dims .dot hP ∧ cP.metric = C05.metricOf cP.index .dot hP ∧
    Written cP.index cP.host .dot hP ∧
    C05.spec cP.index hP = [(1, [f1, f2]), (2, [f2, fm1]), (3, [fm1, fm1])] ∧
    C06.okB (Build.build cP oLeaf 0 { e0 with store := C01.run hP }) = true ∧
    Reader.open cP (C01.run (hP ++ [.build cP oLeaf 0 e0])) = .ok ⟨[0], 2, [1, 2, 3]⟩ ∧
    -- the stored header of item 1 after the second build is NOT `new_header` of its words
    Store.get (C01.run (hP ++ [.build cP oLeaf 0 e0])) (cP.itemKey 1) = some (.leaf [0, 1084227584] [f1, f2]) ∧
    cP.metric.newHeader cP.host [f1, f2] = [0, 0] := by
  decide +kernel

/-- `C02_history_by_vector` on (E): the query (1.0, 1.0) has dot products 3, 1, -2 with the three items; the
    largest product comes first and the reported "distance" is the product -/
example : ∃ st', Build.build cP oLeaf 0 { e0 with store := C01.run hP } = .ok ((), st') ∧
    ∀ count, byVector cP st'.store ⟨[0], 2, [1, 2, 3]⟩ [f1, f1] { count := count, searchK := some usizeMax } =
      .ok (([(1, f3), (2, f1), (3, fm2)] : List (Nat × Nat)).take count) := by
  obtain ⟨hwf, ht, hm, hw, hs, hok, hopen, _⟩ := E_side
  obtain ⟨st', hb⟩ := C06.ok_of_okB hok
  obtain ⟨roots, h1, h2⟩ := C02_history_by_vector hP hwf cP oLeaf 0 e0 st' (by decide) hb .dot ht hm hw
  rw [hs] at h1 h2
  cases (C01.run_build hb ▸ hopen).symm.trans h1
  refine ⟨st', hb, fun count => ?_⟩
  refine (h2 [f1, f1] { count := count, searchK := some usizeMax } rfl rfl rfl (by simp) (by decide)).trans ?_
  have hsc : ([(3225419776, 1), (3212836864, 2), (1073741824, 3)] : List (Nat × Nat)).Perm
        (specScored cP [(1, [f1, f2]), (2, [f2, fm1]), (3, [fm1, fm1])]
          (cP.metric.newHeader cP.host (cP.metric.fromSlice [f1, f1])) (cP.metric.fromSlice [f1, f1])) ∧
      ([(3225419776, 1), (3212836864, 2), (1073741824, 3)] : List (Nat × Nat)).Pairwise
        (fun a b => scoreLe a b = true) := by decide +kernel
  exact congrArg Except.ok
    (answer_of cP (by decide) _ _ _ _ [(1, f3), (2, f1), (3, fm2)] hsc.1 hsc.2 (by decide +kernel))

/-! ### the side condition `Written` cannot be dropped -/

def cD : Cfg := { cC with metric := .dot }
/-- (C) with a build under a dot-product `Cfg` run on the Cosine index: typed (builds are not constrained by
    `C05.Typed`), not `Written` -/
def hBad : List C01.Op := hC ++ [.add cC 1 [f1, f1], .build cD oLeaf 0 e0]

theorem bad_side :
    (∀ op ∈ hBad, op.wf) ∧ C05.Typed cC.index cC.dims .cosine hBad ∧ cC.metric = C05.metricOf cC.index .cosine hBad ∧
    ¬ Written cC.index cC.host .cosine hBad ∧
    C05.spec cC.index hBad = [(1, [f1, f1]), (3, [fm1, 0])] ∧
    C06.okB (Build.build cC oLeaf 0 { e0 with store := C01.run hBad }) = true ∧
    Reader.open cC (C01.run (hBad ++ [.build cC oLeaf 0 e0])) = .ok ⟨[0], 2, [1, 3]⟩ ∧
    cC.metric.normalizedDistance (scoreOf cC (C01.run (hBad ++ [.build cC oLeaf 0 e0])) [f1] [f1, 0] 1) cC.dims = 0 ∧
    cC.metric.normalizedDistance (specScore cC [f1] [f1, 0] [f1, f1]) cC.dims = 1041626650 := by
  decide +kernel

/-- the dot-product build succeeds and rewrites the headers of the Cosine leaves; the next Cosine build succeeds,
    the reader opens, and the unlimited-budget query by the leaf of (1.0, 0.0) reports item 1 at distance 0.0 —
    not the Cosine distance `1041626650` of its vector (1.0, 1.0) — so the answer is NOT `specAnswer` of the
    specification map (which is unaffected: `C05_history` needs no such condition). The history is well-formed and
    `C05.Typed` (builds are not constrained there); only `Written` fails. -/
example : ∃ st', Build.build cC oLeaf 0 { e0 with store := C01.run hBad } = .ok ((), st') ∧
    Reader.open cC st'.store = .ok ⟨[0], 2, [1, 3]⟩ ∧
    nnsByLeaf cC st'.store ⟨[0], 2, [1, 3]⟩ [f1] [f1, 0] { count := 2, searchK := some usizeMax } ≠
      .ok (specAnswer cC (C05.spec cC.index hBad) [f1] [f1, 0] 2) := by
  obtain ⟨hwf, _, _, _, hs, hok, hopen, hbad, hgood⟩ := bad_side
  obtain ⟨st', hb⟩ := C06.ok_of_okB hok
  obtain ⟨roots, h1, h2⟩ := C02_exact_reachable hBad hwf cC oLeaf 0 e0 st' (by decide) hb
  rw [C05.keysOf_run hBad hwf cC (by decide), hs] at h1 h2
  rw [C01.run_build hb] at hopen hbad
  cases hopen.symm.trans h1
  refine ⟨st', hb, h1, fun heq => ?_⟩
  have hex := h2 [f1] [f1, 0] { count := 2, searchK := some usizeMax } rfl rfl (by simp) (by decide)
  rw [hs] at heq
  have heq := hex.symm.trans heq
  have heq' := Except.ok.inj heq
  -- item 1 is in both answers (count = 2 = number of items) …
  have hin : 1 ∈ (specAnswer cC [(1, [f1, f1]), (3, [fm1, 0])] [f1] [f1, 0] 2).map (·.1) :=
    (specAnswer_all cC _ _ _ 2 (by decide)).mem_iff.2 (by decide)
  obtain ⟨p, hp, hp1⟩ := List.mem_map.1 hin
  -- … with the distance of its vector in `specAnswer`, with the stored score in the exact answer
  obtain ⟨v, hv, hd⟩ := specAnswer_mem cC _ _ _ _ p hp
  have hv' := lookup_of_mem_asc (m := [(1, [f1, f1]), (3, [fm1, 0])]) (by decide) hv
  rw [hp1] at hv'
  have hvv : v = [f1, f1] := by
    have : List.lookup 1 [(1, [f1, f1]), (3, [fm1, 0])] = some [f1, f1] := by decide
    rw [this] at hv'; exact (Option.some.inj hv').symm
  rw [← heq'] at hp
  have hd' := (exactOver_mem _ _ _ _ _ _ _ p hp).2
  rw [hp1] at hd'
  rw [hvv, hgood] at hd
  rw [hbad, hd] at hd'
  exact absurd hd' (by decide)

end Ex

end C02
end Arroy
