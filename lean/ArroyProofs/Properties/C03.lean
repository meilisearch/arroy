import ArroyProofs.Exact
import ArroyProofs.Monotone
import ArroyProofs.ForestExample
import ArroyProofs.WellFormedCheck
/-! C03 — any-budget, filtered search results are well-formed and budget-monotone. -/
namespace Arroy.C03
open Arroy Reader

/-- **C03 (well-formedness, no hypothesis at all)**: whatever the store, the budget, the oversampling and the
filter, a successful `nns_by_leaf` returns at most `count` results, with pairwise distinct ids, each
stored as a leaf (now, in this store), inside the filter, carrying the normalised true score, and the
results are ordered nearest first on the true scores (ties by id). -/
theorem C03_wellformed (c : Cfg) (s : Store) (rd : ReaderState) (qh qv : List Nat) (q : QueryOpts)
    (ans : List (Nat × Nat)) (h : nnsByLeaf c s rd qh qv q = .ok ans) :
    ans.length ≤ q.count ∧
    (ans.map (·.1)).Nodup ∧
    (∀ p ∈ ans, IsLeaf c s p.1 ∧ inCandidates q p.1 = true ∧
      p.2 = c.metric.normalizedDistance (scoreOf c s qh qv p.1) rd.dims) ∧
    (ans.map fun p => (scoreOf c s qh qv p.1, p.1)).Pairwise (fun a b => scoreLe a b = true) := by
  rcases nnsByLeaf_ok_inv c s rd qh qv q ans h with ⟨_, rfl⟩ | ⟨nns, _, ht, hl, rfl⟩
  · simp
  · refine ⟨?_, exactOver_nodup _ _ _ _ _ _ _ (IdSet.sorted_ofList nns).nodup, ?_, exactOver_sorted ..⟩
    · rw [exactOver_length]; exact Nat.min_le_left _ _
    · intro p hp
      have hm := exactOver_mem _ _ _ _ _ _ _ p hp
      obtain ⟨add, rfl, hc⟩ := traverse_appends c s qv q _ _ _ [] nns ht
      exact ⟨hl _ hm.1, hc _ (IdSet.mem_ofList.1 hm.1), hm.2⟩

/-- the executable predicate `Check.wellFormed`, which the harness runs on the implementation's answers,
reports no violation on any successful answer of the model -/
theorem C03_wellformed_check (c : Cfg) (s : Store) (rd : ReaderState) (qh qv : List Nat) (q : QueryOpts)
    (ans : List (Nat × Nat)) (h : nnsByLeaf c s rd qh qv q = .ok ans) :
    Check.wellFormed c s rd.dims qh qv q ans = [] := by
  obtain ⟨h1, h2, h3, h4⟩ := C03_wellformed c s rd qh qv q ans h
  exact wellFormed_nil c s rd.dims qh qv q ans h1 h2 h3 h4

/-- **C03 (totality on a valid forest)**: on a valid forest a query never fails, for any count, budget,
oversampling and filter (sorted or not), and every result is an item of the index. -/
theorem C03_total {c : Cfg} {s : Store} {rd : ReaderState} (F : ForestOK c s rd) (qh qv : List Nat)
    (q : QueryOpts) :
    ∃ ans, nnsByLeaf c s rd qh qv q = .ok ans ∧ ∀ p ∈ ans, p.1 ∈ rd.items := by
  obtain ⟨ts, F⟩ := F
  by_cases hne : rd.items = []
  · exact ⟨[], nnsByLeaf_empty c s rd qh qv q hne, by simp⟩
  · obtain ⟨nns, _, _, _, _, hm, ha⟩ := nnsByLeaf_forest F hne qh qv q
    exact ⟨_, ha, fun p hp => (hm _ (IdSet.mem_ofList.1 (exactOver_mem _ _ _ _ _ _ _ p hp).1)).1⟩

/-- **C03 (filter + unlimited budget = exact search restricted to the filter)**: on a valid forest whose
buckets are sorted id sets, with a sorted filter `cs` and a budget of at least trees × items, the answer is
the exact answer over the items that are in `cs`. -/
theorem C03_filter_exact {c : Cfg} {s : Store} {rd : ReaderState} (F : ForestOK c s rd) (hd : DescSorted c s)
    (qh qv : List Nat) (q : QueryOpts) (cs : List Nat) (hq : q.candidates = some cs) (hcs : IdSet.Sorted cs)
    (hb : rd.roots.length * rd.items.length ≤ budget c.metric rd.roots.length q) :
    nnsByLeaf c s rd qh qv q =
      .ok (exactOver c s rd.dims qh qv q.count (rd.items.filter fun x => cs.contains x)) := by
  have := nnsByLeaf_exact F qh qv q (Or.inr ⟨hd, fun cs' h => by rw [hq] at h; cases h; exact hcs⟩) hb
  rw [this]
  congr 3
  funext x
  simp [inCandidates, hq]

theorem C03_filter_exact_usizeMax {c : Cfg} {s : Store} {rd : ReaderState} (F : ForestOK c s rd)
    (hd : DescSorted c s) (qh qv : List Nat) (q : QueryOpts) (cs : List Nat) (hq : q.candidates = some cs)
    (hcs : IdSet.Sorted cs) (hk : q.searchK = some usizeMax) (ho : q.oversampling ≠ some 0)
    (hsz : rd.roots.length * rd.items.length ≤ usizeMax) :
    nnsByLeaf c s rd qh qv q =
      .ok (exactOver c s rd.dims qh qv q.count (rd.items.filter fun x => cs.contains x)) :=
  C03_filter_exact F hd qh qv q cs hq hcs (by rw [budget_unlimited _ _ q hk ho]; exact hsz)

/-- **C03 (default budget)**: leaving `search_k` and the oversampling unset asks for
`count × trees × default oversampling`, each product saturating at `usize::MAX`; nothing overflows,
for any `count`; the default oversampling is 1 for the f32 metrics and 3 for the quantised ones. -/
theorem C03_default_budget (m : Metric) (n : Nat) (q : QueryOpts) (hk : q.searchK = none)
    (ho : q.oversampling = none) :
    budget m n q = min (min (q.count * n) usizeMax * m.oversampling) usizeMax ∧
    budget m n q ≤ usizeMax ∧
    m.oversampling = (if m.isBq then 3 else 1) := by
  refine ⟨?_, ?_, ?_⟩
  · simp [budget, satMul, hk, ho]
  · unfold budget satMul; exact Nat.min_le_right _ _
  · cases m <;> decide

/-- the budget never exceeds `usize::MAX`, whatever the options -/
theorem C03_budget_le (m : Metric) (n : Nat) (q : QueryOpts) : budget m n q ≤ usizeMax := by
  unfold budget satMul; exact Nat.min_le_right _ _

/-- below saturation the default budget is literally `count × trees × oversampling` -/
theorem C03_default_budget_small (m : Metric) (n : Nat) (q : QueryOpts) (hk : q.searchK = none)
    (ho : q.oversampling = none) (hs : q.count * n * m.oversampling ≤ usizeMax) :
    budget m n q = q.count * n * m.oversampling := by
  have h1 : 1 ≤ m.oversampling := by cases m <;> decide
  have h2 : q.count * n ≤ q.count * n * m.oversampling := Nat.le_mul_of_pos_right _ h1
  have h3 : q.count * n ≤ usizeMax := Nat.le_trans h2 hs
  simp only [budget, satMul, hk, ho, Option.getD_none]
  have : (q.count * n).min usizeMax = q.count * n := Nat.min_eq_left h3
  rw [this]
  exact Nat.min_eq_left hs

/-- **C03 (by_item, unknown id)**: no result rather than an error -/
theorem C03_by_item_absent (c : Cfg) (s : Store) (rd : ReaderState) (id : Nat) (q : QueryOpts)
    (h : s.get (c.itemKey id) = none) : byItem c s rd id q = .ok none := by
  simp [byItem, Writer.itemLeaf, h]

/-- **C03 (by_item, stored id)**: the query by the stored leaf -/
theorem C03_by_item_present (c : Cfg) (s : Store) (rd : ReaderState) (id : Nat) (q : QueryOpts) (h v : List Nat)
    (hs : s.get (c.itemKey id) = some (.leaf h v)) :
    byItem c s rd id q = (nnsByLeaf c s rd h v q).map some := by
  simp only [byItem, Writer.itemLeaf, hs]
  cases nnsByLeaf c s rd h v q <;> rfl

/-- `item_vector` of a stored f32 leaf of the declared dimension is its vector -/
theorem itemVector_f32 (c : Cfg) (s : Store) (id : Nat) (h v : List Nat)
    (hs : s.get (c.itemKey id) = some (.leaf h v)) (hbq : c.metric.isBq = false) (hl : c.dims = v.length) :
    Writer.itemVector c s id = some v := by
  simp [Writer.itemVector, Writer.itemLeaf, hs, Metric.toVec, hbq, hl]

/-- **C03 (by_item = by_vector of the item's vector)**, f32 metrics: when the stored header is the one
`new_header` computes from the stored vector (as written by `Cfg.mkLeaf`; for the dot-product metric a
build may have rewritten it, see `C03_by_item_eq_by_vector_headerless`) -/
theorem C03_by_item_eq_by_vector (c : Cfg) (s : Store) (rd : ReaderState) (id : Nat) (q : QueryOpts)
    (h v : List Nat) (hs : s.get (c.itemKey id) = some (.leaf h v)) (hbq : c.metric.isBq = false)
    (hh : h = c.metric.newHeader c.host v) (hl : v.length = rd.dims) (hd : c.dims = rd.dims) :
    Writer.itemVector c s id = some v ∧
    byItem c s rd id q = (byVector c s rd v q).map some := by
  refine ⟨itemVector_f32 c s id h v hs hbq (hd.trans hl.symm), ?_⟩
  rw [C03_by_item_present c s rd id q h v hs]
  simp only [byVector, hl, ne_eq, not_true_eq_false, if_false, Metric.fromSlice, hbq, Bool.false_eq_true, ← hh]

/-- **C03 (by_item = by_vector)** for Euclidean, Manhattan and dot-product: no hypothesis on the stored header -/
theorem C03_by_item_eq_by_vector_headerless (c : Cfg) (s : Store) (rd : ReaderState) (id : Nat) (q : QueryOpts)
    (h v : List Nat) (hs : s.get (c.itemKey id) = some (.leaf h v)) (hbq : c.metric.isBq = false)
    (hm : headerless c.metric = true) (hl : v.length = rd.dims) (hd : c.dims = rd.dims) :
    Writer.itemVector c s id = some v ∧
    byItem c s rd id q = (byVector c s rd v q).map some := by
  refine ⟨itemVector_f32 c s id h v hs hbq (hd.trans hl.symm), ?_⟩
  rw [C03_by_item_present c s rd id q h v hs]
  simp only [byVector, hl, ne_eq, not_true_eq_false, if_false, Metric.fromSlice, hbq, Bool.false_eq_true]
  rw [nnsByLeaf_headerless c s rd hm h]

/-- **C03 (prefix)**: the sequence of pops does not depend on the budget: same state, same fuel, budgets
`k₁ ≤ k₂`; if the traversal for `k₂` succeeds so does the one for `k₁`, and its candidate list is a prefix. -/
theorem C03_prefix (c : Cfg) (s : Store) (qv : List Nat) (q : QueryOpts) (k₁ k₂ : Nat) (hk : k₁ ≤ k₂)
    (fuel : Nat) (queue : List (Nat × NodeId)) (nns out₂ : List Nat)
    (h : traverse c s qv q k₂ fuel queue nns = .ok out₂) :
    ∃ out₁, traverse c s qv q k₁ fuel queue nns = .ok out₁ ∧ out₁ <+: out₂ :=
  traverse_prefix c s qv q k₁ k₂ hk fuel queue nns out₂ h

/-- **C03 (budget monotonicity)**, no hypothesis on the store: two queries on the same index with the same
query leaf, count and filter, the first with the smaller budget (`budget` is `search_k × oversampling`,
saturating). If the second succeeds, so does the first; the first answer is no longer than the second;
and at every rank the second answer's item is at least as near (on the true scores, ties by id) as the first's. -/
theorem C03_monotone (c : Cfg) (s : Store) (rd : ReaderState) (qh qv : List Nat) (q₁ q₂ : QueryOpts)
    (hcount : q₁.count = q₂.count) (hcand : q₁.candidates = q₂.candidates)
    (hbud : budget c.metric rd.roots.length q₁ ≤ budget c.metric rd.roots.length q₂)
    (ans₂ : List (Nat × Nat)) (h₂ : nnsByLeaf c s rd qh qv q₂ = .ok ans₂) :
    ∃ ans₁, nnsByLeaf c s rd qh qv q₁ = .ok ans₁ ∧
      ans₁.length ≤ ans₂.length ∧
      ∀ (j : Nat) (a₁ a₂ : Nat × Nat), ans₁[j]? = some a₁ → ans₂[j]? = some a₂ →
        scoreLe (scoreOf c s qh qv a₂.1, a₂.1) (scoreOf c s qh qv a₁.1, a₁.1) = true := by
  rcases nnsByLeaf_ok_inv c s rd qh qv q₂ ans₂ h₂ with ⟨he, rfl⟩ | ⟨nns₂, hne, ht₂, hl₂, rfl⟩
  · refine ⟨[], nnsByLeaf_empty c s rd qh qv q₁ he, Nat.le_refl _, ?_⟩
    intro j a₁ a₂ h; simp at h
  · obtain ⟨nns₁, ht₁, hpre⟩ := traverse_prefix c s qv q₂ _ _ hbud _ _ _ _ ht₂
    rw [← traverse_congr_q c s qv q₁ q₂ hcand] at ht₁
    have hsub : ∀ x ∈ IdSet.ofList nns₁, x ∈ IdSet.ofList nns₂ := by
      intro x hx
      rw [IdSet.mem_ofList] at hx ⊢
      exact hpre.subset hx
    have hl₁ : ∀ id ∈ IdSet.ofList nns₁, IsLeaf c s id := fun id hid => hl₂ id (hsub id hid)
    refine ⟨_, nnsByLeaf_of_traverse c s rd qh qv q₁ nns₁ hne ht₁ hl₁, ?_⟩
    rw [hcount]
    exact exactOver_mono c s rd.dims qh qv q₂.count _ _ (IdSet.sorted_ofList nns₁).nodup (IdSet.sorted_ofList nns₂).nodup hsub

/-! ### non-vacuity (the index of `ArroyProofs/ForestExample.lean`: a split node, a bucket, an item child) -/

section Examples
open ForestExample

/-- `C03_wellformed` / `C03_monotone`: a successful answer exists for any options (here: budget 1, a filter) -/
example : ∃ ans, nnsByLeaf ForestExample.c ForestExample.s ForestExample.rd [F32.zero] [F32.zero, F32.zero]
    { count := 2, searchK := some 1, candidates := some [2, 1] } = .ok ans :=
  let ⟨ans, h, _⟩ := C03_total forestOK _ _ _; ⟨ans, h⟩

/-- `C03_filter_exact`: hypotheses hold for the filter `{1, 2}` -/
example :
    nnsByLeaf ForestExample.c ForestExample.s ForestExample.rd [F32.zero] [F32.zero, F32.zero]
        { count := 5, searchK := some usizeMax, candidates := some [1, 2] } =
      .ok (exactOver ForestExample.c ForestExample.s 2 [F32.zero] [F32.zero, F32.zero] 5 [1, 2]) :=
  C03_filter_exact_usizeMax forestOK descSorted _ _ _ [1, 2] rfl (by decide) rfl (by decide) (by decide)

/-- `C03_monotone`: budgets 1 and `usize::MAX` -/
example : budget ForestExample.c.metric ForestExample.rd.roots.length { count := 2, searchK := some 1 } ≤
    budget ForestExample.c.metric ForestExample.rd.roots.length { count := 2, searchK := some usizeMax } := by
  decide

/-- `C03_default_budget`: 10 × 2 trees × 1, 10 × 2 × 3, and no overflow for `count = 2^63` (finding D) -/
example : budget .euclidean 2 { count := 10 } = 20 := by decide
example : budget .bqCosine 2 { count := 10 } = 60 := by decide
example : budget .euclidean 2 { count := 2 ^ 63 } = usizeMax := by decide
example : budget .bqEuclidean 2 { count := usizeMax } = usizeMax := by decide

/-- `C03_by_item_absent` / `_present` / `_eq_by_vector`: ids 7 (absent) and 1 (stored with a `new_header` header) -/
example : ForestExample.s.get (ForestExample.c.itemKey 7) = none := by decide
example : ForestExample.s.get (ForestExample.c.itemKey 1) = some (.leaf [F32.zero] [F32.one, F32.zero]) := by decide
example : [F32.zero] = ForestExample.c.metric.newHeader ForestExample.c.host [F32.one, F32.zero] := by decide
example (q : QueryOpts) :
    byItem ForestExample.c ForestExample.s ForestExample.rd 1 q =
      (byVector ForestExample.c ForestExample.s ForestExample.rd [F32.one, F32.zero] q).map some :=
  (C03_by_item_eq_by_vector _ _ _ 1 q [F32.zero] [F32.one, F32.zero] (by decide) (by decide) (by decide) rfl rfl).2

/-- `C03_prefix`: the traversal for the larger budget succeeds on the example -/
example : ∃ out₂, traverse ForestExample.c ForestExample.s [F32.zero, F32.zero] { count := 2 } usizeMax
    (2 * ForestExample.s.length + ForestExample.rd.roots.length + 2)
    (ForestExample.rd.roots.map fun r => (F32.inf, NodeId.mkTree r)) [] = .ok out₂ :=
  let ⟨o, h, _⟩ := traverse_forest forestWith _ _ _; ⟨o, h⟩

end Examples

end Arroy.C03
