import ArroyProofs.BQRequant
import ArroyProofs.LeavesMade
/-! # C03 — `by_item` = `by_vector` of the item's vector, quantised metrics, and over histories

`QueryBuilder::by_item(id)` queries by the stored leaf `(h, v)` of `id`; `by_vector(item_vector(id))`
takes the f32 view of `v` truncated to the dimension (components `±1.0`), quantises it again and
computes a fresh header. For the quantised metrics the two coincide because re-quantising is the
identity on words produced by `from_slice` (`C03_requantise`: `C12_roundtrip` + `C12_sign_only`); the
header is the same as well (`C03_mkLeaf_readback`) and, after repair J, is not read by any quantised
`built_distance` (`C03_bq_header_irrelevant`). Together with `C03_by_item_eq_by_vector` (f32 metrics)
this gives the statement for **every** metric on every state whose leaves were written by `Cfg.mkLeaf`
(`LeavesMade`), an invariant of all histories (`C03_leaves_made_reachable`), hence the end-to-end form
`C03_by_item_eq_by_vector_reachable`. -/
namespace Arroy.C03
open Arroy Generated Reader

/-- **re-quantisation**: quantising the f32 view (truncated to the dimension) of a quantised vector gives
    the stored words back, whatever the dimension (multiple of 64 or not) and the component values -/
theorem C03_requantise (xs : List Nat) :
    BQ.pack ((BQ.unpack (BQ.pack xs)).take xs.length) = BQ.pack xs := BQL.pack_unpack_pack xs

theorem C03_requantise_metric (m : Metric) (hm : m.isBq = true) (xs : List Nat) :
    m.fromSlice ((m.toVec (m.fromSlice xs)).take xs.length) = m.fromSlice xs := by
  simp only [Metric.fromSlice, Metric.toVec, hm, if_true]
  exact C03_requantise xs

/-- the leaf `by_vector` builds from the vector read back is the leaf that was written: same words,
    same header (`new_header` depends on the words only) -/
theorem C03_mkLeaf_readback (c : Cfg) (hbq : c.metric.isBq = true) (xs : List Nat) :
    c.mkLeaf ((c.metric.toVec (c.metric.fromSlice xs)).take xs.length) = c.mkLeaf xs := by
  unfold Cfg.mkLeaf
  simp only [C03_requantise_metric c.metric hbq xs]

/-- no quantised metric reads a leaf header in `built_distance` (BQ-cosine included, after repair J:
    the product of the norms is computed from the word counts), so the header of the query leaf does
    not influence the answer -/
theorem C03_bq_header_irrelevant (c : Cfg) (s : Store) (rd : ReaderState) (hbq : c.metric.isBq = true)
    (qh qh' qv : List Nat) (q : QueryOpts) : nnsByLeaf c s rd qh qv q = nnsByLeaf c s rd qh' qv q :=
  nnsByLeaf_headerless c s rd (headerless_of_isBq hbq) qh qh' qv q

/-- **C03 (by_item = by_vector of the item's vector), quantised metrics**: when the stored words are
    `from_slice xs` for a vector `xs` of the declared dimension (as `add_item` writes them; the stored
    header is arbitrary), `item_vector` returns the sign view `±1.0` of `xs`, and querying by it gives
    exactly the answer of `by_item` (same result or same error), for every count, budget and filter. -/
theorem C03_by_item_eq_by_vector_bq (c : Cfg) (s : Store) (rd : ReaderState) (id : Nat) (q : QueryOpts)
    (h xs : List Nat) (hs : s.get (c.itemKey id) = some (.leaf h (BQ.pack xs)))
    (hbq : c.metric.isBq = true) (hl : xs.length = rd.dims) (hd : c.dims = rd.dims) :
    Writer.itemVector c s id = some (xs.map C12.sgn) ∧
    byItem c s rd id q = (byVector c s rd (xs.map C12.sgn) q).map some := by
  constructor
  · simp only [Writer.itemVector, Writer.itemLeaf, hs, Option.map_some, Metric.toVec, hbq, if_true, hd, ← hl]
    rw [C12.C12_roundtrip]
  · rw [C03_by_item_present c s rd id q h _ hs]
    have hlen : (xs.map C12.sgn).length = rd.dims := by rw [List.length_map]; exact hl
    have hpack : BQ.pack (xs.map C12.sgn) = BQ.pack xs :=
      C12.C12_sign_only _ _ (BQL.signs_map_sgn xs)
    simp only [byVector, hlen, ne_eq, not_true_eq_false, if_false, Metric.fromSlice, hbq, if_true, hpack]
    rw [nnsByLeaf_headerless c s rd (headerless_of_isBq hbq) h]

theorem C03_by_item_eq_by_vector_mkLeaf (c : Cfg) (s : Store) (rd : ReaderState) (id : Nat) (q : QueryOpts)
    (xs : List Nat) (hs : s.get (c.itemKey id) = some (c.mkLeaf xs))
    (hbq : c.metric.isBq = true) (hl : xs.length = c.dims) (hd : rd.dims = c.dims) :
    Writer.itemVector c s id = some (xs.map C12.sgn) ∧
    byItem c s rd id q = (byVector c s rd (xs.map C12.sgn) q).map some := by
  simp only [Cfg.mkLeaf, Metric.fromSlice, hbq, if_true] at hs
  exact C03_by_item_eq_by_vector_bq c s rd id q _ xs hs hbq (hl.trans hd.symm) hd.symm

/-- **C03 (by_item = by_vector), every metric**, on a state whose item leaves were made by `Cfg.mkLeaf`
    (`LeavesMade`: words `from_slice xs` with `xs` of the declared dimension, header `new_header` of the
    words except for dot-product where a build rewrites it and no query reads it): for every id,
    `by_item(id)` is `None` when `item_vector(id)` is, and otherwise is `by_vector(item_vector(id))`. -/
theorem C03_by_item_eq_by_vector_made (c : Cfg) (s : Store) (rd : ReaderState) (hP : LeavesMade c s)
    (hd : rd.dims = c.dims) (id : Nat) (q : QueryOpts) :
    byItem c s rd id q =
      match Writer.itemVector c s id with
      | none => .ok none
      | some vec => (byVector c s rd vec q).map some := by
  by_cases hl : IsLeaf c s id
  · obtain ⟨h, v, hg⟩ := hl
    obtain ⟨xs, hl, hv, hh⟩ := hP id h v hg
    cases hbq : c.metric.isBq with
    | true =>
      simp only [Metric.fromSlice, hbq, if_true] at hv
      subst hv
      obtain ⟨e1, e2⟩ := C03_by_item_eq_by_vector_bq c s rd id q h xs hg hbq (hl.trans hd.symm) hd.symm
      rw [e1, e2]
    | false =>
      simp only [Metric.fromSlice, hbq, Bool.false_eq_true, if_false] at hv
      subst hv
      by_cases hdot : c.metric = .dot
      · obtain ⟨e1, e2⟩ := C03_by_item_eq_by_vector_headerless c s rd id q h v hg hbq
          (by rw [hdot]; decide) (hl.trans hd.symm) hd.symm
        rw [e1, e2]
      · obtain ⟨e1, e2⟩ := C03_by_item_eq_by_vector c s rd id q h v hg hbq (hh hdot)
          (hl.trans hd.symm) hd.symm
        rw [e1, e2]
  · have hn : Writer.itemLeaf c s id = none := by
      unfold Writer.itemLeaf
      split
      · rename_i h v hg; exact absurd ⟨h, v, hg⟩ hl
      · rfl
    simp [byItem, Writer.itemVector, hn]

/-- **the leaves of every reachable state are `mkLeaf` values**: in a history where the items of index
    `c` are added under the configuration `c` (`C01.madeBy`; builds of the index are arbitrary except
    that a dot-product build requires `c` to be dot-product), every stored leaf of the index is
    `c.mkLeaf xs` for some `xs` of length `c.dims` (for dot-product: up to the header).
    Builds of any index, deletions, clears, overwrites and failed operations are all allowed. -/
theorem C03_leaves_made_reachable (c : Cfg) (hi : c.index < 65536) (ops : List C01.Op)
    (hops : ∀ op ∈ ops, op.wf) (hq : ∀ op ∈ ops, C01.madeBy c op) : LeavesMade c (C01.run ops) :=
  C01.leavesMade_run c hi ops hops hq

/-- the invariant after one more build of the index itself -/
theorem leavesMade_build (ops : List C01.Op) (hops : ∀ op ∈ ops, op.wf) (c : Cfg)
    (hq : ∀ op ∈ ops, C01.madeBy c op) (o : BuildOpts) (fuel : Nat) (env st' : BState)
    (hwf : (C01.Op.build c o fuel env).wf)
    (h : Build.build c o fuel { env with store := C01.run ops } = .ok ((), st')) : LeavesMade c st'.store := by
  rw [← (C01.C01_forest ops hops c o fuel env st' hwf h).1]
  apply C01.leavesMade_run c hwf.1
  · intro op hop
    rcases List.mem_append.1 hop with hop | hop
    · exact hops op hop
    · rw [List.mem_singleton.1 hop]; exact hwf
  · intro op hop
    rcases List.mem_append.1 hop with hop | hop
    · exact hq op hop
    · rw [List.mem_singleton.1 hop]; exact fun _ e => e

/-- **C03 (by_item = by_vector), end to end, every metric** (Euclidean, Manhattan, cosine, dot-product
    and the three quantised ones): after any history in which the items of index `c` were added under
    the configuration `c`, and a successful build, `Reader::open` succeeds and for every id and every
    query options `by_item(id)` is `None` if the id is not stored and otherwise equals
    `by_vector(item_vector(id))` — same answer or same error. -/
theorem C03_by_item_eq_by_vector_reachable (ops : List C01.Op) (hops : ∀ op ∈ ops, op.wf)
    (c : Cfg) (hq : ∀ op ∈ ops, C01.madeBy c op)
    (o : BuildOpts) (fuel : Nat) (env st' : BState) (hwf : (C01.Op.build c o fuel env).wf)
    (h : Build.build c o fuel { env with store := C01.run ops } = .ok ((), st')) :
    ∃ roots,
      Reader.open c st'.store = .ok ⟨roots, c.dims, (C01.run ops).keysOf c.index modeItem⟩ ∧
      ∀ (id : Nat) (q : QueryOpts),
        byItem c st'.store ⟨roots, c.dims, (C01.run ops).keysOf c.index modeItem⟩ id q =
          match Writer.itemVector c st'.store id with
          | none => .ok none
          | some vec => (byVector c st'.store ⟨roots, c.dims, (C01.run ops).keysOf c.index modeItem⟩ vec q).map some := by
  obtain ⟨roots, h1, _⟩ := C01.C01_reader_reachable ops hops c o fuel env st' hwf h
  have hP : LeavesMade c st'.store := leavesMade_build ops hops c hq o fuel env st' hwf h
  exact ⟨roots, h1, fun id q => C03_by_item_eq_by_vector_made c st'.store _ hP rfl id q⟩

/-- the quantised case spelled out: the stored id `x` reads back as a `±1.0` vector `vec` of the declared
    dimension, and `by_item(x) = by_vector(vec)` -/
theorem C03_by_item_eq_by_vector_reachable_bq (ops : List C01.Op) (hops : ∀ op ∈ ops, op.wf)
    (c : Cfg) (hbq : c.metric.isBq = true) (hq : ∀ op ∈ ops, C01.madeBy c op)
    (o : BuildOpts) (fuel : Nat) (env st' : BState) (hwf : (C01.Op.build c o fuel env).wf)
    (h : Build.build c o fuel { env with store := C01.run ops } = .ok ((), st'))
    (x : Nat) (hx : (Store.get st'.store (c.itemKey x)).isSome = true) :
    ∃ roots vec,
      Reader.open c st'.store = .ok ⟨roots, c.dims, (C01.run ops).keysOf c.index modeItem⟩ ∧
      Writer.itemVector c st'.store x = some vec ∧ vec.length = c.dims ∧
      (∀ y ∈ vec, y = F32.one ∨ y = F32.negOne) ∧
      ∀ q : QueryOpts,
        byItem c st'.store ⟨roots, c.dims, (C01.run ops).keysOf c.index modeItem⟩ x q =
          (byVector c st'.store ⟨roots, c.dims, (C01.run ops).keysOf c.index modeItem⟩ vec q).map some := by
  obtain ⟨roots, h1, _, _, _, hinv⟩ := C01.C01_reader_reachable ops hops c o fuel env st' hwf h
  obtain ⟨hd, v, hg⟩ := hinv.leaves.leaf_of_isSome hx
  have hP : LeavesMade c st'.store := leavesMade_build ops hops c hq o fuel env st' hwf h
  obtain ⟨xs, hl, hv, _⟩ := hP x hd v hg
  simp only [Metric.fromSlice, hbq, if_true] at hv
  subst hv
  have key := fun q => C03_by_item_eq_by_vector_bq c st'.store
    ⟨roots, c.dims, (C01.run ops).keysOf c.index modeItem⟩ x q hd xs hg hbq hl rfl
  refine ⟨roots, xs.map C12.sgn, h1, (key default).1, by rw [List.length_map]; exact hl, ?_, fun q => (key q).2⟩
  intro y hy
  obtain ⟨a, _, rfl⟩ := List.mem_map.1 hy
  unfold C12.sgn
  split
  · exact Or.inl rfl
  · exact Or.inr rfl

section Examples

/-- BQ-cosine, dimension 3 (not a multiple of 64): the vector (1.0, -2.0, -0.0) -/
def bqCfg : Cfg := ⟨0, .bqCosine, 3, {}⟩
def bqVec : List Nat := [1065353216, 3221225472, 2147483648]
def bqOps : List C01.Op := [.add bqCfg 7 bqVec, .add ⟨1, .dot, 2, {}⟩ 0 [0, 0], .build ⟨1, .dot, 2, {}⟩ {} 0 { store := [] }]

example : bqCfg.metric.isBq = true ∧ bqVec.length = bqCfg.dims := by decide
example : ∃ s', Writer.addItem bqCfg [] 7 bqVec = .ok s' ∧ Store.get s' (bqCfg.itemKey 7) = some (bqCfg.mkLeaf bqVec) :=
  ⟨_, rfl, by decide +kernel⟩
/-- the stored word is `0b001`, read back as (1.0, -1.0, -1.0), quantised again to `0b001` -/
example : BQ.pack bqVec = [1] ∧ (BQ.unpack (BQ.pack bqVec)).take 3 = [F32.one, F32.negOne, F32.negOne] ∧
    BQ.pack [F32.one, F32.negOne, F32.negOne] = [1] := by decide +kernel
theorem bqOps_ok : ∀ op ∈ bqOps, op.wf ∧ C01.madeBy bqCfg op := by
  intro op hop
  simp only [bqOps, List.mem_cons, List.not_mem_nil, or_false] at hop
  rcases hop with rfl | rfl | rfl
  · exact ⟨by decide, fun _ => rfl⟩
  · exact ⟨by decide, fun e => absurd e (by decide)⟩
  · exact ⟨by decide, fun e => absurd e (by decide)⟩
example : ∀ op ∈ bqOps, op.wf ∧ C01.madeBy bqCfg op := bqOps_ok
theorem bqBuild_ok : ∃ st', Build.build bqCfg {} 0 { store := C01.run bqOps } = .ok ((), st') ∧
    (Store.get st'.store (bqCfg.itemKey 7)).isSome = true := by
  have h : (match Build.build bqCfg {} 0 { store := C01.run bqOps } with
      | .ok (_, st') => (Store.get st'.store (bqCfg.itemKey 7)).isSome
      | .error _ => false) = true := by decide +kernel
  cases hb : Build.build bqCfg {} 0 { store := C01.run bqOps } with
  | error e => rw [hb] at h; cases h
  | ok r => rw [hb] at h; exact ⟨r.2, rfl, h⟩
/-- the build of the quantised index after that history succeeds and keeps item 7 -/
example : ∃ st', Build.build bqCfg {} 0 { store := C01.run bqOps } = .ok ((), st') ∧
    (Store.get st'.store (bqCfg.itemKey 7)).isSome = true := bqBuild_ok
example : (C01.Op.build bqCfg {} 0 { store := [] }).wf := by decide
/-- the end-to-end theorem applied to that history: item 7 reads back and `by_item 7 = by_vector` of it -/
example : ∃ st' roots vec, Build.build bqCfg {} 0 { store := C01.run bqOps } = .ok ((), st') ∧
    Writer.itemVector bqCfg st'.store 7 = some vec ∧ vec.length = 3 ∧
    ∀ q : QueryOpts, byItem bqCfg st'.store ⟨roots, 3, (C01.run bqOps).keysOf 0 modeItem⟩ 7 q =
      (byVector bqCfg st'.store ⟨roots, 3, (C01.run bqOps).keysOf 0 modeItem⟩ vec q).map some := by
  obtain ⟨st', hb, hx⟩ := bqBuild_ok
  obtain ⟨roots, vec, _, h2, h3, _, h5⟩ := C03_by_item_eq_by_vector_reachable_bq bqOps (fun op h => (bqOps_ok op h).1)
    bqCfg rfl (fun op h => (bqOps_ok op h).2) {} 0 { store := [] } st' (by decide) hb 7 hx
  exact ⟨st', roots, vec, hb, h2, h3, h5⟩

end Examples

end Arroy.C03
