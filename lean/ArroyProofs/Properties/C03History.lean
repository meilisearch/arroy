import ArroyProofs.Properties.C02History
import ArroyProofs.Properties.C03Sorted
/-! # C03 over histories — ANY budget, ANY filter, stated against what happened

`C03.lean` states the properties of an any-budget, filtered query against the store (`scoreOf`, `IsLeaf`,
`exactOver` over stored ids), `Reachable.lean` over the state `run ops` of the history grammar leaves.
`C02History.lean` expresses the unlimited-budget, unfiltered answer through the abstract item map of the
history (`C05.spec c.index ops`, id ↦ vector as read back). Here the two are composed: every clause of C03 is
stated with the abstract map only — no store, no leaf, no tree on the right-hand sides.

Hypotheses `(H)`, those of `C02_history`: a well-formed history `ops`, a successful `Build.build c …` on
`run ops`, the index written at the dimension `c.dims` under the metric it has at that point (`C05.Typed`,
`C05.metricOf`) and as `C02.Written` asks (Cosine items from the host `c.host`; no dot-product build on a
non-dot-product index).

* `C03_history_wellformed` — every query (any count, budget, oversampling, filter — sorted or not) succeeds;
  at most `count` results, ids distinct, each a key of the map and inside the filter, each carrying
  `normalized_distance (specScore …)` of the vector the map holds for it, sorted by `(specScore, id)`, and
  the reported distances nearest first;
* `C03_history_filter_exact` — unlimited budget + sorted filter `f` = `C02.specAnswer` of `restrict map f`;
* `C03_history_monotone` — a larger budget never shortens the answer nor makes any rank worse (on `specScore`);
* `C03_history_by_item` — `by_item id` is `by_vector` of the map's vector for `id`, `None` for an id that is
  not in the map, for every option set. -/
namespace Arroy
namespace C03
open Arroy Generated Reader

/-! ## the map restricted to a filter -/

/-- the entries of the abstract item map whose id is in the filter `f` -/
def restrict (m : C05.IMap) (f : List Nat) : C05.IMap := m.filter fun p => f.contains p.1

theorem restrict_ids (m : C05.IMap) (f : List Nat) :
    (restrict m f).map (·.1) = (m.map (·.1)).filter fun x => f.contains x := by
  unfold restrict
  rw [List.filter_map]
  rfl

theorem restrict_sublist (m : C05.IMap) (f : List Nat) : (restrict m f).Sublist m := List.filter_sublist

theorem asc_restrict {m : C05.IMap} (h : C05.Asc m) (f : List Nat) : C05.Asc (restrict m f) := by
  unfold C05.Asc at *
  exact h.sublist ((restrict_sublist m f).map _)

theorem mem_restrict {m : C05.IMap} {f : List Nat} {p : Nat × List Nat} :
    p ∈ restrict m f ↔ p ∈ m ∧ p.1 ∈ f := by
  unfold restrict
  rw [List.mem_filter, List.contains_iff_mem]

/-- looking an id up in the restricted map: the entry of the map if the id is in the filter, nothing otherwise -/
theorem lookup_restrict {m : C05.IMap} (ha : C05.Asc m) (f : List Nat) (id : Nat) :
    List.lookup id (restrict m f) = if id ∈ f then List.lookup id m else none := by
  cases hl : List.lookup id (restrict m f) with
  | some v =>
    have hmem := mem_restrict.1 (C02.mem_of_lookup hl)
    rw [if_pos hmem.2, C02.lookup_of_mem_asc ha hmem.1]
  | none =>
    by_cases hf : id ∈ f
    · rw [if_pos hf]
      cases hl' : List.lookup id m with
      | none => rfl
      | some v =>
        have := C02.lookup_of_mem_asc (asc_restrict ha f) (mem_restrict.2 ⟨C02.mem_of_lookup hl', hf⟩)
        rw [hl] at this; cases this
    · rw [if_neg hf]

theorem restrict_all (m : C05.IMap) (f : List Nat) (h : ∀ p ∈ m, p.1 ∈ f) : restrict m f = m := by
  unfold restrict
  exact List.filter_eq_self.2 fun p hp => List.contains_iff_mem.2 (h p hp)

/-- **the bridge, restricted**: the exact answer over the stored ids that are in the filter is `specAnswer` of
    the restricted map -/
theorem exactOver_spec_restrict {c : Cfg} {s : Store} {m : C05.IMap} (hr : C05.Rep c s m) (hP : LeavesMade c s)
    (f : List Nat) (qh qv : List Nat) (count : Nat) :
    exactOver c s c.dims qh qv count ((m.map (·.1)).filter fun x => f.contains x) =
      C02.specAnswer c (restrict m f) qh qv count := by
  rw [← restrict_ids]
  exact C02.exactOver_spec_sub hr hP (fun p hp => (restrict_sublist m f).subset hp) qh qv count

theorem scoreIn_eq_scoreOf {c : Cfg} {s : Store} {m : C05.IMap} (hr : C05.Rep c s m) (hP : LeavesMade c s)
    (qh qv : List Nat) {id : Nat} (hid : id ∈ m.map (·.1)) :
    C02.scoreIn c m qh qv id = scoreOf c s qh qv id := by
  have hs := (C05.mem_map_fst_iff_lookup m id).1 hid
  unfold C02.scoreIn
  cases hl : List.lookup id m with
  | none => rw [hl] at hs; cases hs
  | some v => exact (C02.scoreOf_spec hr hP hl qh qv).symm

/-! ## the budget grows with `search_k` -/

theorem satMul_mono {a b a' b' : Nat} (ha : a ≤ a') (hb : b ≤ b') : satMul a b ≤ satMul a' b' := by
  unfold satMul
  have := Nat.mul_le_mul ha hb
  show min (a * b) usizeMax ≤ min (a' * b') usizeMax
  omega

theorem budget_mono_searchK (m : Metric) (n : Nat) (q : QueryOpts) (k₁ k₂ : Nat) (hk : k₁ ≤ k₂) :
    budget m n { q with searchK := some k₁ } ≤ budget m n { q with searchK := some k₂ } := by
  unfold budget
  exact satMul_mono hk (Nat.le_refl _)

/-! ## the built state at the end of a typed, written history -/

theorem history_core_desc (ops : List C01.Op) (hops : ∀ op ∈ ops, op.wf)
    (c : Cfg) (o : BuildOpts) (fuel : Nat) (env st' : BState) (hwf : (C01.Op.build c o fuel env).wf)
    (h : Build.build c o fuel { env with store := C01.run ops } = .ok ((), st'))
    (m0 : Metric) (ht : C05.Typed c.index c.dims m0 ops) (hm : c.metric = C05.metricOf c.index m0 ops)
    (hw : C02.Written c.index c.host m0 ops) :
    C05.Rep c st'.store (C05.spec c.index ops) ∧ LeavesMade c st'.store ∧ DescSorted c st'.store ∧
    ∃ roots, Reader.open c st'.store = .ok ⟨roots, c.dims, (C05.spec c.index ops).map (·.1)⟩ ∧
      ForestOK c st'.store ⟨roots, c.dims, (C05.spec c.index ops).map (·.1)⟩ := by
  obtain ⟨hrep, hmade, roots, h1, h2⟩ := C02.history_core ops hops c o fuel env st' hwf h m0 ht hm hw
  obtain ⟨_, _, _, h3⟩ := C01.C01_forestOK_reachable ops hops c o fuel env st' hwf h
  exact ⟨hrep, hmade, h3, roots, h1, h2⟩

/-! ## C03 over histories -/

/-- **C03 over histories (totality + well-formedness)**: under `(H)`, `Reader::open` succeeds with the ids of the
    specification map and EVERY query — any query leaf `(qh, qv)`, any `count`, any budget (`search_k`,
    oversampling, set or not), any candidate filter (sorted or not) — returns `.ok ans` where
    * `ans` has at most `count` entries;
    * its ids are pairwise distinct;
    * every id is a key of `C05.spec c.index ops` (stored now, as the history says: added and not since deleted
      or cleared), is inside the filter, and carries `normalized_distance (specScore c qh qv v)` for the vector
      `v` the map holds for it — the true distance to the vector as (last) written;
    * `ans` is sorted nearest first by `(specScore, id)` under `OrderedFloat` (`scoreLe`);
    * the REPORTED distances are nearest first (`C03_reported_sorted`: NaNs last, `≤` before them, `≥` for the
      dot product) — for the two quantised metrics that divide by the dimension, when `0 < dims < 2^127`. -/
theorem C03_history_wellformed (ops : List C01.Op) (hops : ∀ op ∈ ops, op.wf)
    (c : Cfg) (o : BuildOpts) (fuel : Nat) (env st' : BState) (hwf : (C01.Op.build c o fuel env).wf)
    (h : Build.build c o fuel { env with store := C01.run ops } = .ok ((), st'))
    (m0 : Metric) (ht : C05.Typed c.index c.dims m0 ops) (hm : c.metric = C05.metricOf c.index m0 ops)
    (hw : C02.Written c.index c.host m0 ops) :
    ∃ roots,
      Reader.open c st'.store = .ok ⟨roots, c.dims, (C05.spec c.index ops).map (·.1)⟩ ∧
      ∀ (qh qv : List Nat) (q : QueryOpts), ∃ ans,
        nnsByLeaf c st'.store ⟨roots, c.dims, (C05.spec c.index ops).map (·.1)⟩ qh qv q = .ok ans ∧
        ans.length ≤ q.count ∧
        (ans.map (·.1)).Nodup ∧
        (∀ p ∈ ans, ∃ v, List.lookup p.1 (C05.spec c.index ops) = some v ∧ inCandidates q p.1 = true ∧
          p.2 = c.metric.normalizedDistance (C02.specScore c qh qv v) c.dims) ∧
        (ans.map fun p => (C02.scoreIn c (C05.spec c.index ops) qh qv p.1, p.1)).Pairwise
          (fun a b => scoreLe a b = true) ∧
        (((c.metric = .bqEuclidean ∨ c.metric = .bqManhattan) → 0 < c.dims ∧ c.dims < 2 ^ 127) →
          (ans.map (·.2)).Pairwise (fun r1 r2 =>
            (F32.isNaN r1 = true → F32.isNaN r2 = true) ∧
            (F32.isNaN r2 = false → nearer c.metric r1 r2 = true))) := by
  obtain ⟨hrep, hmade, _, roots, h1, h2⟩ := history_core_desc ops hops c o fuel env st' hwf h m0 ht hm hw
  refine ⟨roots, h1, fun qh qv q => ?_⟩
  obtain ⟨ans, ha, hmem⟩ := C03_total h2 qh qv q
  obtain ⟨w1, w2, w3, w4⟩ := C03_wellformed c st'.store _ qh qv q ans ha
  refine ⟨ans, ha, w1, w2, fun p hp => ?_, ?_, fun hd => C03_reported_sorted c st'.store _ qh qv q ans ha hd⟩
  · have hs := (C05.mem_map_fst_iff_lookup _ _).1 (hmem p hp)
    cases hl : List.lookup p.1 (C05.spec c.index ops) with
    | none => rw [hl] at hs; cases hs
    | some v =>
      refine ⟨v, rfl, (w3 p hp).2.1, ?_⟩
      rw [(w3 p hp).2.2, C02.scoreOf_spec hrep hmade hl]
  · have : (ans.map fun p => (C02.scoreIn c (C05.spec c.index ops) qh qv p.1, p.1)) =
        ans.map fun p => (scoreOf c st'.store qh qv p.1, p.1) := by
      apply List.map_congr_left
      intro p hp
      rw [scoreIn_eq_scoreOf hrep hmade qh qv (hmem p hp)]
    rw [this]
    exact w4

/-- **C03 over histories (filter + sufficient budget = exact search restricted to the filter)**: under `(H)`, with
    a sorted filter `f` and a budget of at least trees × items, the answer is `C02.specAnswer` of the
    specification map RESTRICTED to the ids in `f` — the entries of the restricted map scored by
    `built_distance` against the query, sorted by `(OrderedFloat score, id)`, truncated to `count`, reported
    through `normalized_distance`. -/
theorem C03_history_filter_exact_budget (ops : List C01.Op) (hops : ∀ op ∈ ops, op.wf)
    (c : Cfg) (o : BuildOpts) (fuel : Nat) (env st' : BState) (hwf : (C01.Op.build c o fuel env).wf)
    (h : Build.build c o fuel { env with store := C01.run ops } = .ok ((), st'))
    (m0 : Metric) (ht : C05.Typed c.index c.dims m0 ops) (hm : c.metric = C05.metricOf c.index m0 ops)
    (hw : C02.Written c.index c.host m0 ops) :
    ∃ roots,
      Reader.open c st'.store = .ok ⟨roots, c.dims, (C05.spec c.index ops).map (·.1)⟩ ∧
      ∀ (qh qv : List Nat) (q : QueryOpts) (f : List Nat), q.candidates = some f → IdSet.Sorted f →
        roots.length * (C05.spec c.index ops).length ≤ budget c.metric roots.length q →
        nnsByLeaf c st'.store ⟨roots, c.dims, (C05.spec c.index ops).map (·.1)⟩ qh qv q =
          .ok (C02.specAnswer c (restrict (C05.spec c.index ops) f) qh qv q.count) := by
  obtain ⟨hrep, hmade, hdesc, roots, h1, h2⟩ := history_core_desc ops hops c o fuel env st' hwf h m0 ht hm hw
  refine ⟨roots, h1, fun qh qv q f hq hf hb => ?_⟩
  rw [C03_filter_exact h2 hdesc qh qv q f hq hf (by simpa using hb)]
  exact congrArg Except.ok (exactOver_spec_restrict hrep hmade f qh qv q.count)

/-- **C03 over histories (filter + unlimited budget = exact search restricted to the filter)**: the same with
    `search_k = usize::MAX` (oversampling ≠ 0, trees × items ≤ `usize::MAX`) -/
theorem C03_history_filter_exact (ops : List C01.Op) (hops : ∀ op ∈ ops, op.wf)
    (c : Cfg) (o : BuildOpts) (fuel : Nat) (env st' : BState) (hwf : (C01.Op.build c o fuel env).wf)
    (h : Build.build c o fuel { env with store := C01.run ops } = .ok ((), st'))
    (m0 : Metric) (ht : C05.Typed c.index c.dims m0 ops) (hm : c.metric = C05.metricOf c.index m0 ops)
    (hw : C02.Written c.index c.host m0 ops) :
    ∃ roots,
      Reader.open c st'.store = .ok ⟨roots, c.dims, (C05.spec c.index ops).map (·.1)⟩ ∧
      ∀ (qh qv : List Nat) (q : QueryOpts) (f : List Nat), q.candidates = some f → IdSet.Sorted f →
        q.searchK = some usizeMax → q.oversampling ≠ some 0 →
        roots.length * (C05.spec c.index ops).length ≤ usizeMax →
        nnsByLeaf c st'.store ⟨roots, c.dims, (C05.spec c.index ops).map (·.1)⟩ qh qv q =
          .ok (C02.specAnswer c (restrict (C05.spec c.index ops) f) qh qv q.count) := by
  obtain ⟨roots, h1, h2⟩ := C03_history_filter_exact_budget ops hops c o fuel env st' hwf h m0 ht hm hw
  exact ⟨roots, h1, fun qh qv q f hq hf hk ho hsz =>
    h2 qh qv q f hq hf (by rw [budget_unlimited _ _ q hk ho]; exact hsz)⟩

/-- **what the filtered exact answer is, clause by clause**: under `(H)`, unlimited budget, sorted filter `f`:
    * `min count (number of entries of the map whose id is in f)` results;
    * each id once;
    * only ids of the map that are in `f`, each with the distance of the map's vector;
    * sorted nearest first;
    * no entry of the map inside the filter that is not returned is nearer than one that is;
    * every id of the map inside `f` is returned once `count` reaches their number. -/
theorem C03_history_filter_answer_spec (ops : List C01.Op) (hops : ∀ op ∈ ops, op.wf)
    (c : Cfg) (o : BuildOpts) (fuel : Nat) (env st' : BState) (hwf : (C01.Op.build c o fuel env).wf)
    (h : Build.build c o fuel { env with store := C01.run ops } = .ok ((), st'))
    (m0 : Metric) (ht : C05.Typed c.index c.dims m0 ops) (hm : c.metric = C05.metricOf c.index m0 ops)
    (hw : C02.Written c.index c.host m0 ops) :
    ∃ roots,
      Reader.open c st'.store = .ok ⟨roots, c.dims, (C05.spec c.index ops).map (·.1)⟩ ∧
      ∀ (qh qv : List Nat) (q : QueryOpts) (f : List Nat), q.candidates = some f → IdSet.Sorted f →
        q.searchK = some usizeMax → q.oversampling ≠ some 0 →
        roots.length * (C05.spec c.index ops).length ≤ usizeMax →
        ∃ ans, nnsByLeaf c st'.store ⟨roots, c.dims, (C05.spec c.index ops).map (·.1)⟩ qh qv q = .ok ans ∧
          ans.length = min q.count (restrict (C05.spec c.index ops) f).length ∧
          (ans.map (·.1)).Nodup ∧
          (∀ p ∈ ans, p.1 ∈ f ∧ ∃ v, List.lookup p.1 (C05.spec c.index ops) = some v ∧
            p.2 = c.metric.normalizedDistance (C02.specScore c qh qv v) c.dims) ∧
          (ans.map fun p => (C02.scoreIn c (C05.spec c.index ops) qh qv p.1, p.1)).Pairwise
            (fun a b => scoreLe a b = true) ∧
          (∀ p ∈ ans, ∀ y vy, List.lookup y (C05.spec c.index ops) = some vy → y ∈ f → y ∉ ans.map (·.1) →
            scoreLe (C02.scoreIn c (C05.spec c.index ops) qh qv p.1, p.1) (C02.specScore c qh qv vy, y) = true) ∧
          ((restrict (C05.spec c.index ops) f).length ≤ q.count →
            ∀ y, y ∈ ans.map (·.1) ↔ y ∈ f ∧ y ∈ (C05.spec c.index ops).map (·.1)) := by
  obtain ⟨roots, h1, h2⟩ := C03_history_filter_exact ops hops c o fuel env st' hwf h m0 ht hm hw
  have ha : C05.Asc (C05.spec c.index ops) := C05.asc_spec ops hops c hwf.1
  refine ⟨roots, h1, fun qh qv q f hq hf hk ho hsz => ⟨_, h2 qh qv q f hq hf hk ho hsz, ?_⟩⟩
  have har := asc_restrict ha f
  -- `scoreIn` of the restricted map = `scoreIn` of the map, on the ids of the answer
  have hin : ∀ p ∈ C02.specAnswer c (restrict (C05.spec c.index ops) f) qh qv q.count,
      p.1 ∈ f ∧ ∃ v, List.lookup p.1 (C05.spec c.index ops) = some v ∧
        p.2 = c.metric.normalizedDistance (C02.specScore c qh qv v) c.dims := by
    intro p hp
    obtain ⟨v, hv, hd⟩ := C02.specAnswer_mem c _ qh qv q.count p hp
    obtain ⟨hv1, hv2⟩ := mem_restrict.1 hv
    exact ⟨hv2, v, C02.lookup_of_mem_asc ha hv1, hd⟩
  have hsc : ∀ p ∈ C02.specAnswer c (restrict (C05.spec c.index ops) f) qh qv q.count,
      C02.scoreIn c (C05.spec c.index ops) qh qv p.1 =
        C02.scoreIn c (restrict (C05.spec c.index ops) f) qh qv p.1 := by
    intro p hp
    unfold C02.scoreIn
    rw [lookup_restrict ha, if_pos (hin p hp).1]
  refine ⟨C02.specAnswer_length _ _ _ _ _, C02.specAnswer_nodup c har _ _ _, hin, ?_, ?_, ?_⟩
  · have : ((C02.specAnswer c (restrict (C05.spec c.index ops) f) qh qv q.count).map
          fun p => (C02.scoreIn c (C05.spec c.index ops) qh qv p.1, p.1)) =
        (C02.specAnswer c (restrict (C05.spec c.index ops) f) qh qv q.count).map
          fun p => (C02.scoreIn c (restrict (C05.spec c.index ops) f) qh qv p.1, p.1) := by
      apply List.map_congr_left
      intro p hp
      rw [hsc p hp]
    rw [this]
    exact C02.specAnswer_sorted c har _ _ _
  · intro p hp y vy hy hyf hny
    rw [hsc p hp]
    exact C02.specAnswer_best c har qh qv q.count p hp y vy (mem_restrict.2 ⟨C02.mem_of_lookup hy, hyf⟩) hny
  · intro hc y
    rw [(C02.specAnswer_all c _ qh qv q.count hc).mem_iff, restrict_ids, List.mem_filter,
      List.contains_iff_mem]
    exact And.comm

/-- **C03 over histories (budget monotonicity)**: under `(H)`, two queries with the same query leaf, count and
    filter, the first with the smaller budget (`budget` = `search_k` — or `count × trees` — times the
    oversampling, saturating). Both succeed; the answer for the larger budget is no shorter; and at every rank
    `j` its item is at least as near as the first answer's — both items being entries of the specification
    map, compared on `(specScore of the map's vector, id)` under `OrderedFloat`. -/
theorem C03_history_monotone (ops : List C01.Op) (hops : ∀ op ∈ ops, op.wf)
    (c : Cfg) (o : BuildOpts) (fuel : Nat) (env st' : BState) (hwf : (C01.Op.build c o fuel env).wf)
    (h : Build.build c o fuel { env with store := C01.run ops } = .ok ((), st'))
    (m0 : Metric) (ht : C05.Typed c.index c.dims m0 ops) (hm : c.metric = C05.metricOf c.index m0 ops)
    (hw : C02.Written c.index c.host m0 ops) :
    ∃ roots,
      Reader.open c st'.store = .ok ⟨roots, c.dims, (C05.spec c.index ops).map (·.1)⟩ ∧
      ∀ (qh qv : List Nat) (q₁ q₂ : QueryOpts), q₁.count = q₂.count → q₁.candidates = q₂.candidates →
        budget c.metric roots.length q₁ ≤ budget c.metric roots.length q₂ →
        ∃ ans₁ ans₂,
          nnsByLeaf c st'.store ⟨roots, c.dims, (C05.spec c.index ops).map (·.1)⟩ qh qv q₁ = .ok ans₁ ∧
          nnsByLeaf c st'.store ⟨roots, c.dims, (C05.spec c.index ops).map (·.1)⟩ qh qv q₂ = .ok ans₂ ∧
          ans₁.length ≤ ans₂.length ∧
          ∀ (j : Nat) (a₁ a₂ : Nat × Nat), ans₁[j]? = some a₁ → ans₂[j]? = some a₂ →
            ∃ v₁ v₂, List.lookup a₁.1 (C05.spec c.index ops) = some v₁ ∧
              List.lookup a₂.1 (C05.spec c.index ops) = some v₂ ∧
              scoreLe (C02.specScore c qh qv v₂, a₂.1) (C02.specScore c qh qv v₁, a₁.1) = true := by
  obtain ⟨hrep, hmade, _, roots, h1, h2⟩ := history_core_desc ops hops c o fuel env st' hwf h m0 ht hm hw
  refine ⟨roots, h1, fun qh qv q₁ q₂ hc hcand hb => ?_⟩
  obtain ⟨ans₂, ha₂, hm₂⟩ := C03_total h2 qh qv q₂
  obtain ⟨ans₁', ha₁', hm₁⟩ := C03_total h2 qh qv q₁
  obtain ⟨ans₁, ha₁, hl, hr⟩ := C03_monotone c st'.store ⟨roots, c.dims, _⟩ qh qv q₁ q₂ hc hcand hb ans₂ ha₂
  have he : ans₁' = ans₁ := Except.ok.inj (ha₁'.symm.trans ha₁)
  subst he
  refine ⟨ans₁', ans₂, ha₁, ha₂, hl, fun j a₁ a₂ e₁ e₂ => ?_⟩
  have i₁ := hm₁ a₁ (List.mem_of_getElem? e₁)
  have i₂ := hm₂ a₂ (List.mem_of_getElem? e₂)
  have s₁ := (C05.mem_map_fst_iff_lookup _ _).1 i₁
  have s₂ := (C05.mem_map_fst_iff_lookup _ _).1 i₂
  cases l₁ : List.lookup a₁.1 (C05.spec c.index ops) with
  | none => rw [l₁] at s₁; cases s₁
  | some v₁ =>
    cases l₂ : List.lookup a₂.1 (C05.spec c.index ops) with
    | none => rw [l₂] at s₂; cases s₂
    | some v₂ =>
      refine ⟨v₁, v₂, rfl, rfl, ?_⟩
      rw [← C02.scoreOf_spec hrep hmade l₁, ← C02.scoreOf_spec hrep hmade l₂]
      exact hr j a₁ a₂ e₁ e₂

/-- **C03 over histories (budget monotonicity in `search_k`)**: the same query with `search_k` raised from `k₁` to
    `k₂ ≥ k₁`, everything else (count, oversampling, filter, query) unchanged -/
theorem C03_history_monotone_searchK (ops : List C01.Op) (hops : ∀ op ∈ ops, op.wf)
    (c : Cfg) (o : BuildOpts) (fuel : Nat) (env st' : BState) (hwf : (C01.Op.build c o fuel env).wf)
    (h : Build.build c o fuel { env with store := C01.run ops } = .ok ((), st'))
    (m0 : Metric) (ht : C05.Typed c.index c.dims m0 ops) (hm : c.metric = C05.metricOf c.index m0 ops)
    (hw : C02.Written c.index c.host m0 ops) :
    ∃ roots,
      Reader.open c st'.store = .ok ⟨roots, c.dims, (C05.spec c.index ops).map (·.1)⟩ ∧
      ∀ (qh qv : List Nat) (q : QueryOpts) (k₁ k₂ : Nat), k₁ ≤ k₂ →
        ∃ ans₁ ans₂,
          nnsByLeaf c st'.store ⟨roots, c.dims, (C05.spec c.index ops).map (·.1)⟩ qh qv
            { q with searchK := some k₁ } = .ok ans₁ ∧
          nnsByLeaf c st'.store ⟨roots, c.dims, (C05.spec c.index ops).map (·.1)⟩ qh qv
            { q with searchK := some k₂ } = .ok ans₂ ∧
          ans₁.length ≤ ans₂.length ∧
          ∀ (j : Nat) (a₁ a₂ : Nat × Nat), ans₁[j]? = some a₁ → ans₂[j]? = some a₂ →
            ∃ v₁ v₂, List.lookup a₁.1 (C05.spec c.index ops) = some v₁ ∧
              List.lookup a₂.1 (C05.spec c.index ops) = some v₂ ∧
              scoreLe (C02.specScore c qh qv v₂, a₂.1) (C02.specScore c qh qv v₁, a₁.1) = true := by
  obtain ⟨roots, h1, h2⟩ := C03_history_monotone ops hops c o fuel env st' hwf h m0 ht hm hw
  exact ⟨roots, h1, fun qh qv q k₁ k₂ hk =>
    h2 qh qv _ _ rfl rfl (budget_mono_searchK c.metric roots.length q k₁ k₂ hk)⟩

/-- **C03 over histories (`by_item`)**: under `(H)`, for EVERY option set `q` (any count, budget, oversampling,
    filter):
    * an id that is not in the specification map — never written, deleted, cleared, unknown alike — gives
      `Ok(None)`: no result rather than an error;
    * an id of the map, holding the vector `v` (the one last written, as read back): `v` has the declared
      dimension, `by_vector v` succeeds, and `by_item id` is `Some` of that same answer — the query leaf of
      `by_vector` being, as in the model and the crate, the words `from_slice v` under the header `new_header`
      of them (for the dot product, whose builds rewrite the stored headers, `built_distance` reads none). -/
theorem C03_history_by_item (ops : List C01.Op) (hops : ∀ op ∈ ops, op.wf)
    (c : Cfg) (o : BuildOpts) (fuel : Nat) (env st' : BState) (hwf : (C01.Op.build c o fuel env).wf)
    (h : Build.build c o fuel { env with store := C01.run ops } = .ok ((), st'))
    (m0 : Metric) (ht : C05.Typed c.index c.dims m0 ops) (hm : c.metric = C05.metricOf c.index m0 ops)
    (hw : C02.Written c.index c.host m0 ops) :
    ∃ roots,
      Reader.open c st'.store = .ok ⟨roots, c.dims, (C05.spec c.index ops).map (·.1)⟩ ∧
      ∀ (id : Nat) (q : QueryOpts),
        (List.lookup id (C05.spec c.index ops) = none →
          byItem c st'.store ⟨roots, c.dims, (C05.spec c.index ops).map (·.1)⟩ id q = .ok none) ∧
        (∀ v, List.lookup id (C05.spec c.index ops) = some v →
          v.length = c.dims ∧
          ∃ ans, byVector c st'.store ⟨roots, c.dims, (C05.spec c.index ops).map (·.1)⟩ v q = .ok ans ∧
            byItem c st'.store ⟨roots, c.dims, (C05.spec c.index ops).map (·.1)⟩ id q = .ok (some ans)) := by
  obtain ⟨hrep, hmade, _, roots, h1, h2⟩ := history_core_desc ops hops c o fuel env st' hwf h m0 ht hm hw
  refine ⟨roots, h1, fun id q => ?_⟩
  obtain ⟨hnone, hsome⟩ := C02.byItem_spec hrep hmade ⟨roots, c.dims, (C05.spec c.index ops).map (·.1)⟩ id q
  refine ⟨hnone, fun v hl => ?_⟩
  obtain ⟨_, _, _, hlen⟩ := C02.leaf_of_lookup hrep hmade hl
  obtain ⟨ans, ha, _⟩ := C03_total h2 (c.metric.newHeader c.host (c.metric.fromSlice v)) (c.metric.fromSlice v) q
  refine ⟨hlen, ans, ?_, by rw [hsome v hl, ha]; rfl⟩
  unfold byVector
  simp only [hlen, ne_eq, not_true_eq_false, if_false]
  exact ha

/-- **`by_item` of an item = `by_vector` of the vector LAST WRITTEN for it**: whatever the history did to `id`
    before, after an `add_item c id v` of the declared dimension and a successful build, for every option set
    `by_vector v` succeeds and `by_item id` is `Some` of the same answer (for a quantised metric the map holds the
    sign pattern of `v`, which packs to the same words) -/
theorem C03_history_by_item_last_written (ops : List C01.Op) (hops : ∀ op ∈ ops, op.wf)
    (c : Cfg) (o : BuildOpts) (fuel : Nat) (env st' : BState) (hwf : (C01.Op.build c o fuel env).wf)
    (id : Nat) (hid : id < 4294967296) (v : List Nat) (hv : v.length = c.dims)
    (h : Build.build c o fuel { env with store := C01.run (ops ++ [.add c id v]) } = .ok ((), st'))
    (m0 : Metric) (ht : C05.Typed c.index c.dims m0 ops) (hm : c.metric = C05.metricOf c.index m0 ops)
    (hw : C02.Written c.index c.host m0 ops) :
    ∃ roots,
      Reader.open c st'.store = .ok ⟨roots, c.dims, (C05.spec c.index (ops ++ [.add c id v])).map (·.1)⟩ ∧
      ∀ q : QueryOpts, ∃ ans,
        byVector c st'.store ⟨roots, c.dims, (C05.spec c.index (ops ++ [.add c id v])).map (·.1)⟩ v q = .ok ans ∧
        byItem c st'.store ⟨roots, c.dims, (C05.spec c.index (ops ++ [.add c id v])).map (·.1)⟩ id q =
          .ok (some ans) := by
  obtain ⟨hs, ht', hm'⟩ := C05.add_snoc ops c id v hv m0 ht hm
  have hops' := C01.forall_snoc hops (show (C01.Op.add c id v).wf from ⟨hwf.1, hid⟩)
  have hw' : C02.Written c.index c.host m0 (ops ++ [.add c id v]) :=
    (C02.written_append _ _ _ _ _).2 ⟨hw, fun _ _ _ => rfl⟩
  obtain ⟨roots, h1, h2⟩ := C03_history_by_item _ hops' c o fuel env st' hwf h m0 ht' hm' hw'
  have hl : List.lookup id (C05.spec c.index (ops ++ [.add c id v])) = some (C05.readback c.metric c.dims v) := by
    rw [hs, C05.lookup_mset, if_pos rfl]
  refine ⟨roots, h1, fun q => ?_⟩
  obtain ⟨hlen, ans, hbv, hbi⟩ := (h2 id q).2 _ hl
  refine ⟨ans, ?_, hbi⟩
  have e : c.metric.fromSlice (C05.readback c.metric c.dims v) = c.metric.fromSlice v := by
    rw [← hv]; exact C02.fromSlice_readback _ _
  rw [← hbv]
  unfold byVector
  simp only [hv, hlen, ne_eq, not_true_eq_false, if_false]
  rw [e]

/-! ## non-vacuity — on the concrete histories of `C02History.lean`

(B) the two-round history `C01.Ex.ops2` (five adds, a build, an add, a delete) followed by its second build: five
    stored vectors, one tree with three buckets — a budget of 1 does NOT reach every item, the answers below are
    not the exact ones;
(C) the Cosine history `C02.Ex.hC` with an overwrite and a delete;
(E) the dot-product history `C02.Ex.hP`, whose builds rewrite the stored headers.
Every closed fact is computed by the kernel (`decide +kernel`): the builds and the queries really run. -/
namespace Ex
open C01.Ex C05.Ex C02.Ex

/-- the map of (B) -/
def mB : C05.IMap := [(1, [fm1, 0]), (2, [f1, fm1]), (3, [f2, f1]), (4, [f3, f1]), (5, [f25, f2])]

/-- the state the second build of (B) leaves (`C01.Ex.s3`, keys and ids written out): the metadata, one tree (three
    splits, the buckets `{1}` and `{3, 4}`, the item children 2 and 5), the five leaves -/
def sB : Store :=
  [(⟨0, 0, 0⟩, .metadata [101, 117, 99, 108, 105, 100, 101, 97, 110] 2 [1, 2, 3, 4, 5] [0]),
   (⟨0, 2, 0⟩, .split ⟨2, 1⟩ ⟨2, 3⟩ [f1, 0]),
   (⟨0, 2, 1⟩, .desc [1]),
   (⟨0, 2, 2⟩, .split ⟨3, 5⟩ ⟨2, 4⟩ [f1, fm15]),
   (⟨0, 2, 3⟩, .split ⟨3, 2⟩ ⟨2, 2⟩ [0, f1]),
   (⟨0, 2, 4⟩, .desc [3, 4]),
   (⟨0, 3, 1⟩, .leaf [0] [fm1, 0]),
   (⟨0, 3, 2⟩, .leaf [0] [f1, fm1]),
   (⟨0, 3, 3⟩, .leaf [0] [f2, f1]),
   (⟨0, 3, 4⟩, .leaf [0] [f3, f1]),
   (⟨0, 3, 5⟩, .leaf [0] [f25, f2])]

theorem B_store : C01.run (ops2 ++ [.build cEx oEx 5 env2]) = sB := C01.Ex.run_ops3.trans (by decide)

/-- how the examples compute an any-budget answer (`List.mergeSort`, used by `IdSet.ofList` and by the final sort,
    does not reduce in the kernel): from the candidate list of the traversal, the sorted id set of its members
    and an explicitly given sorted arrangement of their scores -/
theorem nns_concrete (c : Cfg) (s : Store) (rd : ReaderState) (qh qv : List Nat) (q : QueryOpts)
    (nns ids : List Nat) (l r : List (Nat × Nat)) (hne : rd.items ≠ [])
    (ht : traverse c s qv q (budget c.metric rd.roots.length q) (2 * s.length + rd.roots.length + 2)
      (rd.roots.map fun r => (F32.inf, NodeId.mkTree r)) [] = .ok nns)
    (hids : ids.Pairwise (· < ·)) (h1 : ∀ x ∈ nns, x ∈ ids) (h2 : ∀ x ∈ ids, x ∈ nns)
    (hl : ∀ id ∈ ids, (Writer.itemLeaf c s id).isSome = true)
    (hp : l.Perm (scored c s qh qv ids)) (hs : l.Pairwise (fun a b => scoreLe a b = true))
    (hr : ((l.take q.count).map fun ((d, id) : Nat × Nat) => (id, c.metric.normalizedDistance d rd.dims)) = r) :
    nnsByLeaf c s rd qh qv q = .ok r := by
  have hof : IdSet.ofList nns = ids := IdSet.ofList_eq_of_mem hids (fun x => ⟨h1 x, h2 x⟩)
  have hleaf : ∀ id ∈ IdSet.ofList nns, IsLeaf c s id := by
    intro id hid
    rw [hof] at hid
    have := hl id hid
    unfold Writer.itemLeaf at this
    unfold IsLeaf
    cases hg : Store.get s (c.itemKey id) with
    | none => rw [hg] at this; cases this
    | some val =>
      rw [hg] at this
      cases val with
      | leaf hd v => exact ⟨hd, v, rfl⟩
      | _ => cases this
  rw [nnsByLeaf_of_traverse c s rd qh qv q nns hne ht hleaf, hof, ← hr]
  unfold exactOver
  rw [← sortedScored_unique c s qh qv ids l hp hs]

/-- what the model answers on the state the second build of (B) leaves, query (2.0, 1.0), `count = 3`:
    budget 1 → two results only (items 3, 4: one bucket), budget 3 → three; budget 1 and the UNSORTED filter
    `{5, 2, 9}` → item 5 only -/
theorem B_answers :
    nnsByLeaf cEx sB ⟨[0], 2, [1, 2, 3, 4, 5]⟩ [0] [f2, f1] { count := 3, searchK := some 1 } =
      .ok [(3, 0), (4, f1)] ∧
    nnsByLeaf cEx sB ⟨[0], 2, [1, 2, 3, 4, 5]⟩ [0] [f2, f1] { count := 3, searchK := some 3 } =
      .ok [(3, 0), (4, f1), (5, 1066343357)] ∧
    nnsByLeaf cEx sB ⟨[0], 2, [1, 2, 3, 4, 5]⟩ [0] [f2, f1]
      { count := 3, searchK := some 1, candidates := some [5, 2, 9] } = .ok [(5, 1066343357)] := by
  refine ⟨?_, ?_, ?_⟩
  · exact nns_concrete cEx sB _ _ _ _ [3, 4] [3, 4] [(0, 3), (1065353216, 4)] _ (by decide)
      (by decide +kernel) (by decide) (by decide) (by decide) (by decide +kernel) (by decide +kernel)
      (by decide +kernel) (by decide +kernel)
  · exact nns_concrete cEx sB _ _ _ _ [3, 4, 5] [3, 4, 5] [(0, 3), (1065353216, 4), (1067450368, 5)] _ (by decide)
      (by decide +kernel) (by decide) (by decide) (by decide) (by decide +kernel) (by decide +kernel)
      (by decide +kernel) (by decide +kernel)
  · exact nns_concrete cEx sB _ _ _ _ [5] [5] [(1067450368, 5)] _ (by decide)
      (by decide +kernel) (by decide) (by decide) (by decide) (by decide +kernel) (by decide +kernel)
      (by decide +kernel) (by decide +kernel)

/-- `C03_history_wellformed` on (B): every query on the built state succeeds, with a well-formed answer made of
    ids of the map `{1, …, 5}` — item 0, deleted after the first build, never — whatever the options -/
example : ∃ st', Build.build cEx oEx 5 { env2 with store := C01.run ops2 } = .ok ((), st') ∧
    Reader.open cEx st'.store = .ok ⟨[0], 2, [1, 2, 3, 4, 5]⟩ ∧
    ∀ (qh qv : List Nat) (q : QueryOpts), ∃ ans,
      nnsByLeaf cEx st'.store ⟨[0], 2, [1, 2, 3, 4, 5]⟩ qh qv q = .ok ans ∧
      ans.length ≤ q.count ∧ (ans.map (·.1)).Nodup ∧
      (∀ p ∈ ans, ∃ v, List.lookup p.1 mB = some v ∧ inCandidates q p.1 = true ∧
        p.2 = cEx.metric.normalizedDistance (C02.specScore cEx qh qv v) cEx.dims) ∧
      0 ∉ ans.map (·.1) ∧
      (ans.map fun p => (C02.scoreIn cEx mB qh qv p.1, p.1)).Pairwise (fun a b => scoreLe a b = true) ∧
      (ans.map (·.2)).Pairwise (fun r1 r2 =>
        (F32.isNaN r1 = true → F32.isNaN r2 = true) ∧ (F32.isNaN r2 = false → nearer cEx.metric r1 r2 = true)) := by
  obtain ⟨st', hb⟩ := build2_result
  obtain ⟨roots, h1, h2⟩ := C03_history_wellformed ops2 ops2_wf cEx oEx 5 env2 st' build2_wf hb .euclidean
    B_side.1 B_side.2.1 B_side.2.2.1
  rw [show C05.spec cEx.index ops2 = mB from B_side.2.2.2] at h1 h2
  cases (C01.run_build hb ▸ B_open).symm.trans h1
  refine ⟨st', hb, h1, fun qh qv q => ?_⟩
  obtain ⟨ans, ha, w1, w2, w3, w4, w5⟩ := h2 qh qv q
  refine ⟨ans, ha, w1, w2, w3, fun h0 => ?_, w4, w5 (by decide)⟩
  obtain ⟨p, hp, hp0⟩ := List.mem_map.1 h0
  obtain ⟨v, hv, _⟩ := w3 p hp
  rw [hp0] at hv
  have h0' : List.lookup 0 mB = none := by decide
  rw [h0'] at hv
  cases hv

/-- … and the theorem is about answers that are NOT exact: with a budget of 1 the query (2.0, 1.0), `count = 3`, is
    answered by two of the five items (exact search gives three: `C02History.lean` (B)); with the unsorted filter
    `{5, 2, 9}` by item 5 alone (exact search restricted to the filter gives 5 and 2: below) -/
example : ∃ st', Build.build cEx oEx 5 { env2 with store := C01.run ops2 } = .ok ((), st') ∧
    nnsByLeaf cEx st'.store ⟨[0], 2, [1, 2, 3, 4, 5]⟩ [0] [f2, f1] { count := 3, searchK := some 1 } =
      .ok [(3, 0), (4, f1)] ∧
    nnsByLeaf cEx st'.store ⟨[0], 2, [1, 2, 3, 4, 5]⟩ [0] [f2, f1]
      { count := 3, searchK := some 1, candidates := some [5, 2, 9] } = .ok [(5, 1066343357)] := by
  obtain ⟨st', hb⟩ := build2_result
  refine ⟨st', hb, ?_⟩
  rw [← C01.run_build hb, B_store]
  exact ⟨B_answers.1, B_answers.2.2⟩

theorem B_restrict : restrict mB [2, 5, 9] = [(2, [f1, fm1]), (5, [f25, f2])] ∧
    IdSet.Sorted [2, 5, 9] ∧ C05.Asc [(2, [f1, fm1]), (5, [f25, f2])] ∧
    ([(1067450368, 5), (1084227584, 2)] : List (Nat × Nat)).Perm
      (C02.specScored cEx [(2, [f1, fm1]), (5, [f25, f2])] [0] [f2, f1]) ∧
    ([(1067450368, 5), (1084227584, 2)] : List (Nat × Nat)).Pairwise (fun a b => scoreLe a b = true) ∧
    ([(1067450368, 5), (1084227584, 2)].map fun ((d, id) : Nat × Nat) =>
      (id, cEx.metric.normalizedDistance d cEx.dims)) = [(5, 1066343357), (2, 1074731965)] := by
  decide +kernel

/-- `C03_history_filter_exact` on (B): unlimited budget and the sorted filter `{2, 5, 9}` (9 is not stored): the
    answer to the query (2.0, 1.0) is item 5 at √1.25 then item 2 at √5, for every `count` — items 3 and 4,
    nearer but outside the filter, are not returned -/
example : ∃ st', Build.build cEx oEx 5 { env2 with store := C01.run ops2 } = .ok ((), st') ∧
    ∀ count, nnsByLeaf cEx st'.store ⟨[0], 2, [1, 2, 3, 4, 5]⟩ [0] [f2, f1]
        { count := count, searchK := some usizeMax, candidates := some [2, 5, 9] } =
      .ok (([(5, 1066343357), (2, 1074731965)] : List (Nat × Nat)).take count) := by
  obtain ⟨st', hb⟩ := build2_result
  obtain ⟨roots, h1, h2⟩ := C03_history_filter_exact ops2 ops2_wf cEx oEx 5 env2 st' build2_wf hb .euclidean
    B_side.1 B_side.2.1 B_side.2.2.1
  rw [show C05.spec cEx.index ops2 = mB from B_side.2.2.2] at h1 h2
  cases (C01.run_build hb ▸ B_open).symm.trans h1
  refine ⟨st', hb, fun count => ?_⟩
  refine (h2 [0] [f2, f1] { count := count, searchK := some usizeMax, candidates := some [2, 5, 9] } [2, 5, 9]
    rfl B_restrict.2.1 rfl (by simp) (by decide)).trans ?_
  rw [B_restrict.1]
  exact congrArg Except.ok (answer_of cEx B_restrict.2.2.1 _ _ _ _ _ B_restrict.2.2.2.1 B_restrict.2.2.2.2.1
    B_restrict.2.2.2.2.2)

/-- `C03_history_filter_answer_spec` on (B): whatever the query, filter `{2, 5, 9}`, `count = 4`: two results, the
    ids 2 and 5 -/
example : ∃ st', Build.build cEx oEx 5 { env2 with store := C01.run ops2 } = .ok ((), st') ∧
    ∀ qh qv, ∃ ans, nnsByLeaf cEx st'.store ⟨[0], 2, [1, 2, 3, 4, 5]⟩ qh qv
        { count := 4, searchK := some usizeMax, candidates := some [2, 5, 9] } = .ok ans ∧
      ans.length = 2 ∧ (ans.map (·.1)).Nodup ∧ ∀ y, y ∈ ans.map (·.1) ↔ y = 2 ∨ y = 5 := by
  obtain ⟨st', hb⟩ := build2_result
  obtain ⟨roots, h1, h2⟩ := C03_history_filter_answer_spec ops2 ops2_wf cEx oEx 5 env2 st' build2_wf hb .euclidean
    B_side.1 B_side.2.1 B_side.2.2.1
  rw [show C05.spec cEx.index ops2 = mB from B_side.2.2.2] at h1 h2
  cases (C01.run_build hb ▸ B_open).symm.trans h1
  refine ⟨st', hb, fun qh qv => ?_⟩
  obtain ⟨ans, ha, hl, hnd, _, _, _, hall⟩ := h2 qh qv
    { count := 4, searchK := some usizeMax, candidates := some [2, 5, 9] } [2, 5, 9] rfl B_restrict.2.1 rfl
    (by simp) (by decide)
  have hre : restrict mB [2, 5, 9] = [(2, [f1, fm1]), (5, [f25, f2])] := B_restrict.1
  rw [hre] at hl hall
  refine ⟨ans, ha, hl, hnd, fun y => ?_⟩
  have hm : y ∈ mB.map (·.1) ↔ y = 1 ∨ y = 2 ∨ y = 3 ∨ y = 4 ∨ y = 5 := by simp [mB]
  rw [hall (by decide) y, hm]
  simp only [List.mem_cons, List.not_mem_nil, or_false]
  omega

/-- `C03_history_monotone` / `C03_history_monotone_searchK` on (B): `search_k` 1 and 3, query (2.0, 1.0),
    `count = 3`: the second answer is STRICTLY longer (2 results, then 3), and rank-wise no worse -/
example : ∃ st', Build.build cEx oEx 5 { env2 with store := C01.run ops2 } = .ok ((), st') ∧
    ∃ ans₁ ans₂,
      nnsByLeaf cEx st'.store ⟨[0], 2, [1, 2, 3, 4, 5]⟩ [0] [f2, f1] { count := 3, searchK := some 1 } = .ok ans₁ ∧
      nnsByLeaf cEx st'.store ⟨[0], 2, [1, 2, 3, 4, 5]⟩ [0] [f2, f1] { count := 3, searchK := some 3 } = .ok ans₂ ∧
      ans₁.length = 2 ∧ ans₂.length = 3 ∧
      ∀ (j : Nat) (a₁ a₂ : Nat × Nat), ans₁[j]? = some a₁ → ans₂[j]? = some a₂ →
        ∃ v₁ v₂, List.lookup a₁.1 mB = some v₁ ∧ List.lookup a₂.1 mB = some v₂ ∧
          scoreLe (C02.specScore cEx [0] [f2, f1] v₂, a₂.1) (C02.specScore cEx [0] [f2, f1] v₁, a₁.1) = true := by
  obtain ⟨st', hb⟩ := build2_result
  obtain ⟨roots, h1, h2⟩ := C03_history_monotone_searchK ops2 ops2_wf cEx oEx 5 env2 st' build2_wf hb .euclidean
    B_side.1 B_side.2.1 B_side.2.2.1
  rw [show C05.spec cEx.index ops2 = mB from B_side.2.2.2] at h1 h2
  cases (C01.run_build hb ▸ B_open).symm.trans h1
  obtain ⟨ans₁, ans₂, ha₁, ha₂, _, hrank⟩ := h2 [0] [f2, f1] { count := 3 } 1 3 (by decide)
  have e₁ := B_answers.1
  have e₂ := B_answers.2.1
  rw [← B_store, C01.run_build hb] at e₁ e₂
  have l₁ : ans₁ = [(3, 0), (4, f1)] := Except.ok.inj (ha₁.symm.trans e₁)
  have l₂ : ans₂ = [(3, 0), (4, f1), (5, 1066343357)] := Except.ok.inj (ha₂.symm.trans e₂)
  exact ⟨st', hb, ans₁, ans₂, ha₁, ha₂, by rw [l₁]; rfl, by rw [l₂]; rfl, hrank⟩

/-- the budgets of the two queries above: 1 and 3 (`search_k` × the default oversampling 1 of an f32 metric) -/
example : budget cEx.metric 1 { count := 3, searchK := some 1 } = 1 ∧
    budget cEx.metric 1 { count := 3, searchK := some 3 } = 3 := by decide

/-- `C03_history_by_item` on (C) (Cosine, the metric that reads headers): a budget of 1, `count = 1`, the filter
    `{1}`: the deleted item 2 and the never-written item 77 give `None`; item 3, which reads (-1.0, 0.0), is
    answered as `by_vector (-1.0, 0.0)` -/
example : ∃ st', Build.build cC oLeaf 0 { e0 with store := C01.run (hC ++ [.add cC 1 [f1, f1]]) } = .ok ((), st') ∧
    byItem cC st'.store ⟨[0], 2, [1, 3]⟩ 2 { count := 1, searchK := some 1, candidates := some [1] } = .ok none ∧
    byItem cC st'.store ⟨[0], 2, [1, 3]⟩ 77 { count := 1, searchK := some 1, candidates := some [1] } = .ok none ∧
    ∃ ans, byVector cC st'.store ⟨[0], 2, [1, 3]⟩ [fm1, 0]
        { count := 1, searchK := some 1, candidates := some [1] } = .ok ans ∧
      byItem cC st'.store ⟨[0], 2, [1, 3]⟩ 3 { count := 1, searchK := some 1, candidates := some [1] } =
        .ok (some ans) := by
  obtain ⟨st', hb⟩ := C06.ok_of_okB C_side.2.2.2.2.1
  have hwf : ∀ op ∈ hC ++ [.add cC 1 [f1, f1]], op.wf := by decide
  have hside : C05.Typed cC.index cC.dims .cosine (hC ++ [.add cC 1 [f1, f1]]) ∧
      cC.metric = C05.metricOf cC.index .cosine (hC ++ [.add cC 1 [f1, f1]]) ∧
      C02.Written cC.index cC.host .cosine (hC ++ [.add cC 1 [f1, f1]]) := by decide +kernel
  obtain ⟨roots, h1, h2⟩ := C03_history_by_item _ hwf cC oLeaf 0 e0 st' (by decide) hb .cosine
    hside.1 hside.2.1 hside.2.2
  rw [C_side.2.2.2.1] at h1 h2
  cases (C01.run_build hb ▸ C_side.2.2.2.2.2).symm.trans h1
  refine ⟨st', hb, (h2 2 _).1 (by decide), (h2 77 _).1 (by decide), ?_⟩
  obtain ⟨_, ans, hv, hi⟩ := (h2 3 { count := 1, searchK := some 1, candidates := some [1] }).2 [fm1, 0] (by decide)
  exact ⟨ans, hv, hi⟩

/-- `C03_history_by_item_last_written` on (C): item 1, first written as (1.0, 0.0), then OVERWRITTEN with
    (1.0, 1.0): `by_item 1` is `by_vector (1.0, 1.0)`, for every option set -/
example : ∃ st', Build.build cC oLeaf 0 { e0 with store := C01.run (hC ++ [.add cC 1 [f1, f1]]) } = .ok ((), st') ∧
    ∀ q : QueryOpts, ∃ ans, byVector cC st'.store ⟨[0], 2, [1, 3]⟩ [f1, f1] q = .ok ans ∧
      byItem cC st'.store ⟨[0], 2, [1, 3]⟩ 1 q = .ok (some ans) := by
  obtain ⟨st', hb⟩ := C06.ok_of_okB C_side.2.2.2.2.1
  obtain ⟨roots, h1, h2⟩ := C03_history_by_item_last_written hC hC_wf cC oLeaf 0 e0 st' (by decide) 1 (by decide)
    [f1, f1] rfl hb .cosine C_side.1 C_side.2.1 C_side.2.2.1
  rw [C_side.2.2.2.1] at h1 h2
  cases (C01.run_build hb ▸ C_side.2.2.2.2.2).symm.trans h1
  exact ⟨st', hb, h2⟩

/-- `C03_history_by_item` on (E) (dot product): the stored header of item 1 was rewritten by the builds — it is
    not `new_header` of its words (`C02.Ex.E_side`) — and yet `by_item 1` is `by_vector (1.0, 2.0)`, for every
    option set -/
example : ∃ st', Build.build cP oLeaf 0 { e0 with store := C01.run hP } = .ok ((), st') ∧
    ∀ q : QueryOpts, ∃ ans, byVector cP st'.store ⟨[0], 2, [1, 2, 3]⟩ [f1, f2] q = .ok ans ∧
      byItem cP st'.store ⟨[0], 2, [1, 2, 3]⟩ 1 q = .ok (some ans) := by
  obtain ⟨hwf, ht, hm, hw, hs, hok, hopen, _⟩ := E_side
  obtain ⟨st', hb⟩ := C06.ok_of_okB hok
  obtain ⟨roots, h1, h2⟩ := C03_history_by_item hP hwf cP oLeaf 0 e0 st' (by decide) hb .dot ht hm hw
  rw [hs] at h1 h2
  cases (C01.run_build hb ▸ hopen).symm.trans h1
  refine ⟨st', hb, fun q => ?_⟩
  obtain ⟨_, ans, hv, hi⟩ := (h2 1 q).2 [f1, f2] (by decide)
  exact ⟨ans, hv, hi⟩

end Ex

end C03
end Arroy
