import ArroyProofs.Properties.C03
import ArroyProofs.F32Nonneg
/-! C03 (continued) — the distances REPORTED by a successful search are ordered nearest first, for every
metric. `C03_wellformed` orders the results by their true scores (`built_distance`); the reported value
is `normalized_distance(score)`, a monotone function of the score for each metric because binary32
rounding is monotone (`ArroyProofs/F32Mono*.lean`): `sqrt` (on the non-negative squared Euclidean
distances, `F32M.euclideanDistance_nn`), `max(·, 0)`, division by the dimension, the identity, and the
antitone `neg` for the dot product (larger inner product = nearer). -/
namespace Arroy.C03
open Arroy Reader

/-- `r1` reported before `r2` is consistent with "nearest first": `r1 ≤ r2` in the float order; for the
dot-product metric the reported value is the inner product and larger means nearer: `r2 ≤ r1` -/
def nearer (m : Metric) (r1 r2 : Nat) : Bool :=
  match m with
  | .dot => F32.le r2 r1
  | _ => F32.le r1 r2

/-- what the proof needs to know about a score: squared Euclidean distances are NaN or non-negative,
BQ-Manhattan scores are not NaN (`f32::max` would turn a NaN into `0.0`); both hold for every
`built_distance` (`built_ok`) -/
def okScore (m : Metric) (s : Nat) : Prop :=
  match m with
  | .euclidean => F32M.NN s
  | .bqManhattan => F32.isNaN s = false
  | _ => True

theorem built_ok (m : Metric) (host : Host) (qh qv h v : List Nat) :
    okScore m (m.builtDistance host qh qv h v) := by
  cases m <;> simp only [okScore, Metric.builtDistance]
  · exact F32M.euclideanDistance_nn _ _ _
  · exact F32L.ofNat_not_nan _

theorem zero_ok (m : Metric) : okScore m 0 := by
  cases m <;> simp only [okScore]
  · exact F32M.nn_zero
  · decide

theorem scoreOf_ok (c : Cfg) (s : Store) (qh qv : List Nat) (id : Nat) :
    okScore c.metric (scoreOf c s qh qv id) := by
  unfold scoreOf
  split
  · exact built_ok _ _ _ _ _ _
  · exact zero_ok _

/-- the dimension must be a positive (finite) number where the metric divides by it -/
def dimsOK (m : Metric) (dims : Nat) : Prop :=
  (m = .bqEuclidean ∨ m = .bqManhattan) → 0 < dims ∧ dims < 2 ^ 127

/-- `normalized_distance` is monotone in the score (antitone for the dot product) -/
theorem nd_mono (m : Metric) (s1 s2 dims : Nat) (ok1 : okScore m s1) (hd : dimsOK m dims)
    (h : F32.le s1 s2 = true) :
    nearer m (m.normalizedDistance s1 dims) (m.normalizedDistance s2 dims) = true := by
  obtain ⟨n1, n2, -⟩ := (F32M.le_iff_key s1 s2).1 h
  have e1 : F32.isNaN s1 = false := n1
  have e2 : F32.isNaN s2 = false := n2
  cases m <;> simp only [nearer, Metric.normalizedDistance]
  · -- euclidean
    have h0 : F32.le F32.zero s1 = true := by
      rcases ok1 with h | h
      · rw [e1] at h; cases h
      · exact h
    exact F32M.sqrt_mono h0 h
  · -- manhattan
    simp only [e1, e2, Bool.false_eq_true, if_false]
    exact F32M.max_zero_mono h
  · exact h
  · exact F32M.neg_antitone h
  · obtain ⟨d0, d1⟩ := hd (Or.inl rfl)
    exact F32M.div_ofNat_mono dims d0 d1 h
  · obtain ⟨d0, d1⟩ := hd (Or.inr rfl)
    exact F32M.div_ofNat_mono dims d0 d1 (F32M.max_zero_mono h)
  · exact h

theorem divV_nan (y : SF.V) : F32M.divV .nan y = SF.qnan SF.f32 := by cases y <;> rfl

/-- a NaN score is reported as NaN -/
theorem nd_nan (m : Metric) (s dims : Nat) (ok : okScore m s) (hn : F32.isNaN s = true) :
    F32.isNaN (m.normalizedDistance s dims) = true := by
  have hu := F32M.unpack_of_isNaN hn
  cases m <;> simp only [Metric.normalizedDistance]
  · unfold F32.sqrt SF.sqrt
    rw [show SF.unpack F32.fmt s = SF.unpack SF.f32 s from rfl, hu]
    decide
  · simp only [hn, if_true]
  · exact hn
  · unfold F32.isNaN SF.isNaN
    rw [show SF.unpack F32.fmt (F32.neg s) = SF.unpack SF.f32 (F32.neg s) from rfl, F32M.unpack_neg, hu]
    rfl
  · rw [F32M.div_eq, hu, divV_nan]; decide
  · simp only [okScore] at ok
    rw [hn] at ok; cases ok
  · exact hn

/-- a non-NaN score is reported as a non-NaN value -/
theorem nd_notNaN (m : Metric) (s dims : Nat) (ok : okScore m s) (hd : dimsOK m dims)
    (hn : F32.isNaN s = false) : F32.isNaN (m.normalizedDistance s dims) = false := by
  have := nd_mono m s s dims ok hd (F32M.le_refl hn)
  have key : F32.le (m.normalizedDistance s dims) (m.normalizedDistance s dims) = true := by
    cases m <;> exact this
  exact ((F32M.le_iff_key _ _).1 key).1

/-- what `scoreLe` says about the scores: NaN scores come last, the others are ordered by `F32.le` -/
theorem scoreLe_le (a b : Nat × Nat) (h : scoreLe a b = true) :
    (F32.isNaN a.1 = true → F32.isNaN b.1 = true) ∧
    (F32.isNaN b.1 = false → F32.le a.1 b.1 = true) := by
  -- on the keys of `OrdLemmas`: NaN is the greatest class (2), and `scoreLe` is `≤` of (class, magnitude, id)
  rw [scoreLe_iff] at h
  simp only [sle, skey, F32.key, SF.key] at h
  have cb := SF.cls_le_two (SF.unpack SF.f32 b.1)
  have h1 : F32.isNaN a.1 = true → F32.isNaN b.1 = true := by
    intro ha
    have ha' := (SF.isNaN_iff SF.f32 a.1).1 ha
    exact (SF.isNaN_iff SF.f32 b.1).2 (by omega)
  refine ⟨h1, fun hb => ?_⟩
  have ha : F32.isNaN a.1 = false := by
    cases e : F32.isNaN a.1
    · rfl
    · rw [h1 e] at hb; cases hb
  rw [F32M.le_iff_key]
  refine ⟨ha, hb, ?_⟩
  simp only [SF.klt, SF.key]
  omega

/-- **C03 (reported distances are sorted)**, every metric, no hypothesis on the store: in the answer of
a successful `nns_by_leaf` the reported distances are ordered nearest first — any NaN values come last,
and before them each value is `≤` every later one in the float order (`≥` for the dot product, whose
reported value is the inner product). For the two quantised metrics that divide by the dimension, the
dimension must be positive (`x/0` is `inf` or NaN) and below `2^127` (finite as an `f32`). -/
theorem C03_reported_sorted (c : Cfg) (s : Store) (rd : ReaderState) (qh qv : List Nat) (q : QueryOpts)
    (ans : List (Nat × Nat)) (h : nnsByLeaf c s rd qh qv q = .ok ans)
    (hd : (c.metric = .bqEuclidean ∨ c.metric = .bqManhattan) → 0 < rd.dims ∧ rd.dims < 2 ^ 127) :
    (ans.map (·.2)).Pairwise (fun r1 r2 =>
      (F32.isNaN r1 = true → F32.isNaN r2 = true) ∧
      (F32.isNaN r2 = false → nearer c.metric r1 r2 = true)) := by
  obtain ⟨-, -, h3, h4⟩ := C03_wellformed c s rd qh qv q ans h
  rw [List.pairwise_map] at h4 ⊢
  refine h4.imp_of_mem ?_
  intro a b ha hb hab
  obtain ⟨n1, n2⟩ := scoreLe_le _ _ hab
  simp only at n1 n2
  rw [(h3 a ha).2.2, (h3 b hb).2.2]
  have oka := scoreOf_ok c s qh qv a.1
  have okb := scoreOf_ok c s qh qv b.1
  constructor
  · intro hr
    apply nd_nan _ _ _ okb
    apply n1
    cases hs : F32.isNaN (scoreOf c s qh qv a.1)
    · rw [nd_notNaN _ _ _ oka hd hs] at hr; cases hr
    · rfl
  · intro hr
    have hs : F32.isNaN (scoreOf c s qh qv b.1) = false := by
      cases hs : F32.isNaN (scoreOf c s qh qv b.1)
      · rfl
      · rw [nd_nan _ _ _ okb hs] at hr; cases hr
    exact nd_mono _ _ _ _ oka hd (n2 hs)

/-- the same in terms of the scores: each reported value is `normalized_distance` of the true score, and
along the answer NaN scores come last and the reported values of the others are ordered -/
theorem C03_reported_sorted_scores (c : Cfg) (s : Store) (rd : ReaderState) (qh qv : List Nat)
    (q : QueryOpts) (ans : List (Nat × Nat)) (h : nnsByLeaf c s rd qh qv q = .ok ans)
    (hd : (c.metric = .bqEuclidean ∨ c.metric = .bqManhattan) → 0 < rd.dims ∧ rd.dims < 2 ^ 127) :
    ans.Pairwise (fun a b =>
      (F32.isNaN (scoreOf c s qh qv a.1) = true → F32.isNaN (scoreOf c s qh qv b.1) = true) ∧
      (F32.isNaN (scoreOf c s qh qv b.1) = false → nearer c.metric a.2 b.2 = true)) := by
  obtain ⟨-, -, h3, h4⟩ := C03_wellformed c s rd qh qv q ans h
  rw [List.pairwise_map] at h4
  refine h4.imp_of_mem ?_
  intro a b ha hb hab
  obtain ⟨n1, n2⟩ := scoreLe_le _ _ hab
  simp only at n1 n2
  rw [(h3 a ha).2.2, (h3 b hb).2.2]
  exact ⟨n1, fun hs => nd_mono _ _ _ _ (scoreOf_ok c s qh qv a.1) hd (n2 hs)⟩

section Examples
open ForestExample

-- a successful answer exists on the example index (Euclidean, dimension 2), and the hypothesis on the
-- dimension is vacuous there; for a quantised metric it is a plain bound on `rd.dims`
example : ∃ ans, nnsByLeaf ForestExample.c ForestExample.s ForestExample.rd [F32.zero] [F32.zero, F32.zero]
    { count := 2 } = .ok ans ∧
    (ans.map (·.2)).Pairwise (fun r1 r2 =>
      (F32.isNaN r1 = true → F32.isNaN r2 = true) ∧
      (F32.isNaN r2 = false → nearer ForestExample.c.metric r1 r2 = true)) := by
  obtain ⟨ans, h, _⟩ := C03_total forestOK [F32.zero] [F32.zero, F32.zero] { count := 2 }
  exact ⟨ans, h, C03_reported_sorted _ _ _ _ _ _ ans h (by decide)⟩

example : ∃ ans, nnsByLeaf ForestExample.c ForestExample.s ForestExample.rd [F32.zero] [F32.zero, F32.zero]
    { count := 2 } = .ok ans ∧
    ans.Pairwise (fun a b =>
      (F32.isNaN (scoreOf ForestExample.c ForestExample.s [F32.zero] [F32.zero, F32.zero] a.1) = true →
        F32.isNaN (scoreOf ForestExample.c ForestExample.s [F32.zero] [F32.zero, F32.zero] b.1) = true) ∧
      (F32.isNaN (scoreOf ForestExample.c ForestExample.s [F32.zero] [F32.zero, F32.zero] b.1) = false →
        nearer ForestExample.c.metric a.2 b.2 = true)) := by
  obtain ⟨ans, h, _⟩ := C03_total forestOK [F32.zero] [F32.zero, F32.zero] { count := 2 }
  exact ⟨ans, h, C03_reported_sorted_scores _ _ _ _ _ _ ans h (by decide)⟩

-- the monotone step for each kind of metric, on concrete scores (1.0 ≤ 4.0; dimension 3)
example : nearer .euclidean (Metric.normalizedDistance .euclidean 0x3f800000 3)
    (Metric.normalizedDistance .euclidean 0x40800000 3) = true :=
  nd_mono .euclidean _ _ 3 (Or.inr (by decide)) (by intro h; rcases h with h | h <;> cases h) (by decide)
example : nearer .bqManhattan (Metric.normalizedDistance .bqManhattan 0x3f800000 3)
    (Metric.normalizedDistance .bqManhattan 0x40800000 3) = true :=
  nd_mono .bqManhattan _ _ 3 (show F32.isNaN _ = false by decide) (fun _ => by decide) (by decide)
example : nearer .dot (Metric.normalizedDistance .dot 0x3f800000 3)
    (Metric.normalizedDistance .dot 0x40800000 3) = true :=
  nd_mono .dot _ _ 3 trivial (by intro h; rcases h with h | h <;> cases h) (by decide)
-- why the dimension must be positive: `0/0` is NaN, and it would come first
example : F32.isNaN (Metric.normalizedDistance .bqEuclidean (F32.ofNat 0) 0) = true
    ∧ Metric.normalizedDistance .bqEuclidean (F32.ofNat 4) 0 = F32.inf := by decide +kernel
-- why BQ-Manhattan scores must not be NaN (they never are): `NaN.max(0.0) = 0.0`
example : Metric.normalizedDistance .bqManhattan 0x7fc00000 3 = 0 := by decide +kernel

end Examples

end Arroy.C03
