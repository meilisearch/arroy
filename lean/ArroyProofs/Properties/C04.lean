import ArroyProofs.SelfLookup
import ArroyProofs.ForestExample
import ArroyProofs.Exact
/-! C04 — a stored vector is routed to itself by every tree (self-lookup works).

`RoutedT (Build.treeCtx c o s) t` (ArroyProofs/InsT.lean) is the builder-side routing invariant of a tree;
`Check.goodPath c s x t` says that `t` separates `x` by non-degenerate planes with decisive margins only. -/
namespace Arroy.C04
open Arroy Reader

/-- the side the builder computes for a stored item is the child the reader pops first for the item's vector -/
theorem C04_side_eq_readerFirst (c : Cfg) (s : Store) (n : List Nat) (hz : c.metric.isZero n = false)
    (y : Nat) (hy vy : List Nat) (hs : s.get (c.itemKey y) = some (.leaf hy vy))
    (hsymm : c.metric.margin c.host vy n = c.metric.margin c.host n vy) :
    Build.sideOf c s n y = some (readerFirst c vy n) := by
  rw [sideOf_stored c s n y hy vy hs, hsymm]
  unfold readerFirst
  by_cases h1 : F32.lt F32.zero (c.metric.margin c.host n vy) = true
  · rw [readerMargin_eq c vy n hz (b := true) h1]
  · by_cases h2 : F32.lt (c.metric.margin c.host n vy) F32.zero = true
    · rw [readerMargin_eq c vy n hz (b := false) h2]
    · have e1 : ¬ F32.lt F32.zero (readerMargin c vy n) = true := fun e =>
        h1 (by rw [← (readerMargin_decisive c vy n (b := true) e).2]; exact e)
      have e2 : ¬ F32.lt (readerMargin c vy n) F32.zero = true := fun e =>
        h2 (by rw [← (readerMargin_decisive c vy n (b := false) e).2]; exact e)
      simp [h1, h2, e1, e2]

/-- **C04, first sentence**: `RoutedT` says exactly that, below every non-degenerate plane, no stored item sits
in the subtree that the reader pops second when queried with the item's own vector (`readerFirst`, justified by
`C04_readerFirst_spec`). The margin only needs to be symmetric on (stored vector, normal of the tree) pairs. -/
theorem C04_routed_meaning (c : Cfg) (o : BuildOpts) (s : Store) (t : T)
    (hsymm : ∀ n ∈ t.normals, ∀ y hy vy, s.get (c.itemKey y) = some (.leaf hy vy) →
      c.metric.margin c.host vy n = c.metric.margin c.host n vy) :
    RoutedT (Build.treeCtx c o s) t ↔ ReaderRouted c s t := by
  induction t with
  | leaf i => simp [RoutedT, ReaderRouted]
  | bucket id ids => simp [RoutedT, ReaderRouted]
  | node id n l r ihl ihr =>
    have ihl := ihl (fun n' hn' => hsymm n' (by simp [T.normals, hn']))
    have ihr := ihr (fun n' hn' => hsymm n' (by simp [T.normals, hn']))
    have hsn := hsymm n (by simp [T.normals])
    have e1 : (Build.treeCtx c o s).isZero = c.metric.isZero := rfl
    have e2 : (Build.treeCtx c o s).side = Build.sideOf c s := rfl
    simp only [RoutedT, ReaderRouted, ihl, ihr, e1, e2]
    have side : ∀ (y : Nat) (b : Bool), c.metric.isZero n = false →
        (Build.sideOf c s n y ≠ some (some b) ↔
          ∀ hy vy, s.get (c.itemKey y) = some (.leaf hy vy) → readerFirst c vy n ≠ some b) := by
      intro y b hz
      constructor
      · intro hne hy vy hs e
        apply hne
        rw [C04_side_eq_readerFirst c s n hz y hy vy hs (hsn y hy vy hs), e]
      · intro hall e
        by_cases hl : ∃ hy vy, s.get (c.itemKey y) = some (.leaf hy vy)
        · obtain ⟨hy, vy, hs⟩ := hl
          rw [C04_side_eq_readerFirst c s n hz y hy vy hs (hsn y hy vy hs)] at e
          exact hall hy vy hs (by simpa using e)
        · rw [sideOf_not_leaf c s n y (fun hy vy hs => hl ⟨hy, vy, hs⟩)] at e
          cases e
    constructor
    · rintro ⟨h0, hl, hr⟩
      refine ⟨fun hz => ?_, hl, hr⟩
      obtain ⟨a, b⟩ := h0 hz
      exact ⟨fun y hy => (side y true hz).1 (a y hy), fun y hy => (side y false hz).1 (b y hy)⟩
    · rintro ⟨h0, hl, hr⟩
      refine ⟨fun hz => ?_, hl, hr⟩
      obtain ⟨a, b⟩ := h0 hz
      exact ⟨fun y hy => (side y true hz).2 (a y hy), fun y hy => (side y false hz).2 (b y hy)⟩

theorem C04_routed_meaning_symm (c : Cfg) (o : BuildOpts) (s : Store) (t : T)
    (hsymm : ∀ a b, c.metric.margin c.host a b = c.metric.margin c.host b a) :
    RoutedT (Build.treeCtx c o s) t ↔ ReaderRouted c s t :=
  C04_routed_meaning c o s t (fun n _ _ _ vy _ => hsymm vy n)

/-- what "sent first" means: below a popped node of positive priority `d`, the child named by `readerFirst` gets
a positive priority, its sibling a non-positive one, so it is strictly greater in the queue order -/
theorem C04_readerFirst_spec (c : Cfg) (qv normal : List Nat) (d : Nat) (hd : F32.lt F32.zero d = true) (b : Bool)
    (h : readerFirst c qv normal = some b) :
    F32.lt F32.zero (Metric.pqDistance d (readerMargin c qv normal) b) = true ∧
    F32.lt F32.zero (Metric.pqDistance d (readerMargin c qv normal) (!b)) = false ∧
    F32.ordLt (Metric.pqDistance d (readerMargin c qv normal) (!b))
      (Metric.pqDistance d (readerMargin c qv normal) b) = true := by
  have hdn := (F32.lt_notNaN hd).2
  have hMn := readerMargin_notNaN c qv normal
  have hb := (readerFirst_eq_some c qv normal b).1 h
  generalize readerMargin c qv normal = M at *
  have h1 := (pq_pos d M b hdn hMn).2 ⟨hb, hd⟩
  have h2 : F32.lt F32.zero (Metric.pqDistance d M (!b)) = false := by
    cases e : F32.lt F32.zero (Metric.pqDistance d M (!b))
    · rfl
    · exact absurd ((pq_pos d M (!b) hdn hMn).1 e).1 (by rw [onSide_not hb]; exact Bool.false_ne_true)
  refine ⟨h1, h2, ?_⟩
  -- a positive priority is above a non-positive one in the queue order
  have n1 := pq_notNaN d M b hdn hMn
  have n2 := pq_notNaN d M (!b) hdn hMn
  rw [F32.ordLt_eq_lt n2 n1, F32.lt_iff_key n2 n1]
  rw [F32.pos_iff_key n1] at h1
  have h2' : ¬ (F32.lt F32.zero (Metric.pqDistance d M (!b)) = true) := by simp [h2]
  rw [F32.pos_iff_key n2] at h2'
  unfold SF.klt; omega

/-- **C04, second sentence (self-lookup)**: on a valid forest whose trees are routed, if some tree separates
the stored item `x` by non-degenerate planes with decisive margins only, then `nns_by_leaf` on `x`'s own stored
leaf with any budget ≥ 1 (in particular the smallest, 1), no filter and `count ≥ #items` returns `x`.
The margin only needs to be symmetric between `x`'s vector and the normals of the forest. -/
theorem C04_selfLookup {c : Cfg} {s : Store} {rd : ReaderState} {ts : List T} (F : ForestWith c s rd ts)
    (o : BuildOpts) (hrouted : ∀ t ∈ ts, RoutedT (Build.treeCtx c o s) t)
    (x : Nat) (h v : List Nat) (hx : s.get (c.itemKey x) = some (.leaf h v))
    (hsymm : ∀ t ∈ ts, ∀ n ∈ t.normals, c.metric.margin c.host v n = c.metric.margin c.host n v)
    (t₀ : T) (ht₀ : t₀ ∈ ts) (hgood : Check.goodPath c s x t₀ = true)
    (q : QueryOpts) (hq : q.candidates = none) (hb : 1 ≤ budget c.metric rd.roots.length q)
    (hcount : rd.items.length ≤ q.count) :
    ∃ ans, nnsByLeaf c s rd h v q = .ok ans ∧ x ∈ ans.map (·.1) := by
  have hxi : x ∈ rd.items := (F.reach t₀ ht₀ x).1 (goodPath_mem c s x t₀ hgood)
  have hne : rd.items ≠ [] := List.ne_nil_of_mem hxi
  obtain ⟨nns, _, hn, _, _, hm, ha⟩ := nnsByLeaf_forest F hne h v q
  obtain ⟨out₁, h1, hpre⟩ := traverse_prefix c s v q 1 _ hb _ _ _ _ hn
  obtain ⟨out, ho, hrun⟩ := traverse_forest F v q 1
  rw [h1] at ho
  cases ho
  obtain ⟨out, ho, hxo⟩ := hrun.selfLookup c (Build.treeCtx c o s) s rfl rfl x h v hx q hq
    (List.forall_mem_map.2 fun t ht => ⟨hsymm t ht, hrouted t ht, F32.isNaN_inf, fun _ => (F.reach t ht x).2 hxi⟩)
    ⟨(F32.inf, t₀), List.mem_map.2 ⟨t₀, ht₀, rfl⟩, F32.lt_zero_inf, hgood⟩
  cases ho
  have hxn : x ∈ nns := hpre.subset hxo
  refine ⟨_, ha, ?_⟩
  rw [exactOver_ids]
  have hlen : (IdSet.ofList nns).length ≤ rd.items.length :=
    (IdSet.sorted_ofList nns).nodup.length_le_of_subset (fun y hy => (hm y (IdSet.mem_ofList.1 hy)).1)
  rw [List.take_of_length_le (by rw [List.length_map, sortedScored_length]; omega)]
  exact (sortedScored_ids_perm c s h v _).mem_iff.2 (IdSet.mem_ofList.2 hxn)

theorem C04_selfLookup_symm {c : Cfg} {s : Store} {rd : ReaderState} {ts : List T} (F : ForestWith c s rd ts)
    (o : BuildOpts) (hrouted : ∀ t ∈ ts, RoutedT (Build.treeCtx c o s) t)
    (hsymm : ∀ a b, c.metric.margin c.host a b = c.metric.margin c.host b a)
    (x : Nat) (h v : List Nat) (hx : s.get (c.itemKey x) = some (.leaf h v))
    (t₀ : T) (ht₀ : t₀ ∈ ts) (hgood : Check.goodPath c s x t₀ = true)
    (q : QueryOpts) (hq : q.candidates = none) (hb : 1 ≤ budget c.metric rd.roots.length q)
    (hcount : rd.items.length ≤ q.count) :
    ∃ ans, nnsByLeaf c s rd h v q = .ok ans ∧ x ∈ ans.map (·.1) :=
  C04_selfLookup F o hrouted x h v hx (fun _ _ n _ => hsymm v n) t₀ ht₀ hgood q hq hb hcount

/-- **self-lookup through `QueryBuilder::by_item`**, any budget ≥ 1 -/
theorem C04_selfLookup_by_item {c : Cfg} {s : Store} {rd : ReaderState} {ts : List T} (F : ForestWith c s rd ts)
    (o : BuildOpts) (hrouted : ∀ t ∈ ts, RoutedT (Build.treeCtx c o s) t)
    (x : Nat) (h v : List Nat) (hx : s.get (c.itemKey x) = some (.leaf h v))
    (hsymm : ∀ t ∈ ts, ∀ n ∈ t.normals, c.metric.margin c.host v n = c.metric.margin c.host n v)
    (t₀ : T) (ht₀ : t₀ ∈ ts) (hgood : Check.goodPath c s x t₀ = true)
    (q : QueryOpts) (hq : q.candidates = none) (hb : 1 ≤ budget c.metric rd.roots.length q)
    (hcount : rd.items.length ≤ q.count) :
    ∃ ans, byItem c s rd x q = .ok (some ans) ∧ x ∈ ans.map (·.1) := by
  obtain ⟨ans, ha, hm⟩ := C04_selfLookup F o hrouted x h v hx hsymm t₀ ht₀ hgood q hq hb hcount
  exact ⟨ans, by simp [byItem, Writer.itemLeaf, hx, ha], hm⟩

/-- the loop invariant behind self-lookup, for reference: budget 1, empty candidate list -/
theorem C04_traverse_invariant (c : Cfg) (o : BuildOpts) (s : Store)
    (x : Nat) (h v : List Nat) (hx : s.get (c.itemKey x) = some (.leaf h v))
    (q : QueryOpts) (hq : q.candidates = none) (fuel : Nat) (tq : List (Nat × T))
    (hsy : ∀ p ∈ tq, ∀ n ∈ p.2.normals, c.metric.margin c.host v n = c.metric.margin c.host n v)
    (hh : ∀ p ∈ tq, Holds c s p.2) (hr : ∀ p ∈ tq, RoutedT (Build.treeCtx c o s) p.2)
    (hn : ∀ p ∈ tq, F32.isNaN p.1 = false)
    (hc : ∀ p ∈ tq, F32.lt F32.zero p.1 = true → x ∈ p.2.items)
    (hg : ∃ p ∈ tq, F32.lt F32.zero p.1 = true ∧ Check.goodPath c s x p.2 = true)
    (hf : (tq.map (fun p => p.2.size)).sum < fuel) :
    ∃ out, traverse c s v q 1 fuel (qOf tq) [] = .ok out ∧ x ∈ out := by
  obtain ⟨r, hrun, ho⟩ := traverse_run c s v q 1 fuel tq [] hh hf
  obtain ⟨out, rfl, hxo⟩ := hrun.selfLookup c (Build.treeCtx c o s) s rfl rfl x h v hx q hq
    (fun p hp => ⟨hsy p hp, hr p hp, hn p hp, hc p hp⟩) hg
  exact ⟨out, ho out rfl, hxo⟩

/-! ### non-vacuity: the index of `ForestExample` (plane normal (0,1); item 2 = (0,2) has margin 2 > 0 and is
the right child; items 0 and 1 have margin 0 and share the left bucket) -/
section Examples
open ForestExample

example : RoutedT (Build.treeCtx ForestExample.c {} ForestExample.s) tree := by decide +kernel
example : Check.goodPath ForestExample.c ForestExample.s 2 tree = true := by decide +kernel
example : ForestExample.s.get (ForestExample.c.itemKey 2) = some (.leaf [F32.zero] [F32.zero, F32.two]) := by decide
example : ∀ n ∈ tree.normals, ForestExample.c.metric.margin ForestExample.c.host [F32.zero, F32.two] n =
    ForestExample.c.metric.margin ForestExample.c.host n [F32.zero, F32.two] := by decide +kernel
example : 1 ≤ budget ForestExample.c.metric ForestExample.rd.roots.length { count := 3, searchK := some 1 } := by
  decide

/-- the theorem applied: `by_item(2)` with `search_k = 1`, `count = 3` returns item 2 -/
example : ∃ ans, byItem ForestExample.c ForestExample.s ForestExample.rd 2 { count := 3, searchK := some 1 } =
    .ok (some ans) ∧ 2 ∈ ans.map (·.1) :=
  C04_selfLookup_by_item forestWith {} (by intro t ht; simp only [List.mem_singleton] at ht; subst ht; decide +kernel)
    2 [F32.zero] [F32.zero, F32.two] (by decide)
    (by intro t ht; simp only [List.mem_singleton] at ht; subst ht; decide +kernel)
    tree (by simp) (by decide +kernel) _ rfl (by decide) (by decide)

/-- items 0 and 1 have a zero margin against the only plane: no good path, the theorem does not apply to them -/
example : Check.goodPath ForestExample.c ForestExample.s 0 tree = false := by decide +kernel

end Examples

end Arroy.C04
