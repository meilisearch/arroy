import ArroyProofs.Properties.C01
import ArroyProofs.ForestUnique
/-! # C04 — the build keeps every item on the side of its margin

`RoutedT cx t` (ArroyProofs/InsT.lean): below every non-degenerate plane of `t`, no item of the left
subtree has a decisively positive margin and no item of the right subtree a decisively negative one
(`cx.side` is `Build.sideOf`, i.e. `D::side` on the stored vectors). A build preserves it, and even
re-establishes it for the items whose vector changed since the last build (they carry an updated
mark, are removed from every tree and routed again). -/
namespace Arroy.C04
open Arroy Generated Transp Build

/-- every tree of the index is routed w.r.t. the stored vectors -/
def Routed (c : Cfg) (o : BuildOpts) (s : Store) : Prop :=
  ∀ t ∈ Check.trees c s, RoutedT (treeCtx c o s) t

/-- every tree of the index is routed, except possibly for the items that carry an updated mark -/
def RoutedUnmarked (c : Cfg) (o : BuildOpts) (s : Store) : Prop :=
  ∀ t ∈ Check.trees c s,
    RoutedD (treeCtx c o s).isZero (maskSide (s.keysOf c.index modeUpdated) (sideD (treeCtx c o s))) t

theorem C04_unmarked_of_routed {c : Cfg} {o : BuildOpts} {s : Store} (h : Routed c o s) : RoutedUnmarked c o s :=
  fun t ht => ((routedT_iff_routedD _ t).1 (h t ht)).mask _

/-- an index without metadata has no tree: it is routed -/
theorem RoutedUnmarked_of_noMeta {c : Cfg} {o : BuildOpts} {s : Store} (h : Store.get s c.metaKey = none) :
    RoutedUnmarked c o s := by
  intro t ht
  rw [Check.trees_of_noMeta h] at ht
  cases ht

/-- a build never changes an item vector (only dot-product headers): the side function is stable -/
theorem C04_side_stable (c : Cfg) (o : BuildOpts) (fuel : Nat) (st st' : BState)
    (hi : c.index < 65536) (hcap : 1 ≤ cap c o) (hfresh : FreshSupply)
    (hinv : IndexInvW c st.store) (h : build c o fuel st = .ok ((), st')) :
    sideOf c st'.store = sideOf c st.store := by
  obtain ⟨roots0, items0, ts0, roots', ts', old, b⟩ := C01.C01_build_out_of_inv c o fuel st st' hi hcap hfresh hinv h
  exact sideOf_stable c b.vec

/-- **C04, one build**: if the old forest is routed for every item without an updated mark, the new
    forest is routed for every item -/
theorem C04_routed (c : Cfg) (o : BuildOpts) (fuel : Nat) (st st' : BState)
    (hi : c.index < 65536) (hcap : 1 ≤ cap c o) (hfresh : FreshSupply)
    (hinv : IndexInvW c st.store) (h : build c o fuel st = .ok ((), st'))
    (hold : RoutedUnmarked c o st.store) : Routed c o st'.store := by
  obtain ⟨roots0, items0, ts0, roots', ts', old, b⟩ := C01.C01_build_out_of_inv c o fuel st st' hi hcap hfresh hinv h
  unfold Routed
  rw [b.trees, treeCtx_stable c o b.vec]
  apply b.routed
  unfold RoutedUnmarked at hold
  rw [Check.trees_of_old old] at hold
  exact hold

theorem C04_routed_plain (c : Cfg) (o : BuildOpts) (fuel : Nat) (st st' : BState)
    (hi : c.index < 65536) (hcap : 1 ≤ cap c o) (hfresh : FreshSupply)
    (hinv : IndexInvW c st.store) (h : build c o fuel st = .ok ((), st'))
    (hold : Routed c o st.store) : Routed c o st'.store :=
  C04_routed c o fuel st st' hi hcap hfresh hinv h (C04_unmarked_of_routed hold)

/-- a first build (no metadata yet) yields a routed forest -/
theorem C04_routed_first (c : Cfg) (o : BuildOpts) (fuel : Nat) (st st' : BState)
    (hi : c.index < 65536) (hcap : 1 ≤ cap c o) (hfresh : FreshSupply)
    (hinv : IndexInvW c st.store) (hm : Store.get st.store c.metaKey = none)
    (h : build c o fuel st = .ok ((), st')) : Routed c o st'.store :=
  C04_routed c o fuel st st' hi hcap hfresh hinv h (RoutedUnmarked_of_noMeta hm)

theorem decisive_ne (c : Cfg) (s : Store) (n : List Nat) (x : Nat) (b : Bool) :
    Check.decisive c s n x ≠ some b ↔ sideOf c s n x ≠ some (some b) :=
  sideD_ne (treeCtx c {} s) n x b

theorem match_true_none {α : Type} (d : Option Bool) (v : α) :
    (match d with | some true => some v | _ => none) = none ↔ d ≠ some true := by
  cases d with
  | none => simp
  | some b => cases b <;> simp

theorem match_false_none {α : Type} (d : Option Bool) (v : α) :
    (match d with | some false => some v | _ => none) = none ↔ d ≠ some false := by
  cases d with
  | none => simp
  | some b => cases b <;> simp

theorem routedT_nil_iff (c : Cfg) (o : BuildOpts) (s : Store) (t : T) :
    Check.routedT c s t = [] ↔ RoutedT (treeCtx c o s) t := by
  induction t with
  | leaf i => simp [Check.routedT, RoutedT]
  | bucket id its => simp [Check.routedT, RoutedT]
  | node id n l r ihl ihr =>
    simp only [Check.routedT, RoutedT, List.append_eq_nil_iff, ihl, ihr]
    show ((if c.metric.isZero n = true then [] else _) = [] ∧ _) ∧ _ ↔
      (c.metric.isZero n = false → (∀ x ∈ l.items, sideOf c s n x ≠ some (some true)) ∧
        (∀ x ∈ r.items, sideOf c s n x ≠ some (some false))) ∧ _
    cases hz : c.metric.isZero n
    · simp only [Bool.false_eq_true, ↓reduceIte, List.append_eq_nil_iff, true_imp_iff, and_assoc,
        List.filterMap_eq_nil_iff]
      refine and_congr ?_ (and_congr ?_ Iff.rfl)
      · constructor
        · intro h x hx
          exact (decisive_ne c s n x true).1 ((match_true_none _ _).1 (h x hx))
        · intro h x hx
          exact (match_true_none _ _).2 ((decisive_ne c s n x true).2 (h x hx))
      · constructor
        · intro h x hx
          exact (decisive_ne c s n x false).1 ((match_false_none _ _).1 (h x hx))
        · intro h x hx
          exact (match_false_none _ _).2 ((decisive_ne c s n x false).2 (h x hx))
    · simp only [↓reduceIte, true_and, Bool.true_eq_false, false_imp_iff]

/-- `Check.routed` accepts exactly the routed forests -/
theorem C04_checker (c : Cfg) (o : BuildOpts) (s : Store) : Check.routed c s = [] ↔ Routed c o s := by
  unfold Check.routed Routed
  rw [List.flatMap_eq_nil_iff]
  constructor
  · intro h t ht; exact (routedT_nil_iff c o s t).1 (h t ht)
  · intro h t ht; exact (routedT_nil_iff c o s t).2 (h t ht)

theorem C04_routed_checker (c : Cfg) (o : BuildOpts) (fuel : Nat) (st st' : BState)
    (hi : c.index < 65536) (hcap : 1 ≤ cap c o) (hfresh : FreshSupply)
    (hinv : IndexInvW c st.store) (h : build c o fuel st = .ok ((), st'))
    (hold : Check.routed c st.store = []) : Check.routed c st'.store = [] :=
  (C04_checker c o _).2 (C04_routed_plain c o fuel st st' hi hcap hfresh hinv h ((C04_checker c o _).1 hold))

theorem RoutedT_congr {cx cx' : TreeCtx} (hs : cx.side = cx'.side) (hz : cx.isZero = cx'.isZero) (t : T) :
    RoutedT cx t ↔ RoutedT cx' t := by
  induction t with
  | leaf i => simp [RoutedT]
  | bucket id its => simp [RoutedT]
  | node id n l r ihl ihr => simp only [RoutedT, hs, hz, ihl, ihr]

/-- the build options do not matter for routing -/
theorem Routed_opts (c : Cfg) (o o' : BuildOpts) (s : Store) : Routed c o s → Routed c o' s :=
  fun h t ht => (RoutedT_congr (cx := treeCtx c o s) (cx' := treeCtx c o' s) rfl rfl t).1 (h t ht)

theorem RoutedD_mono_side {isZero : List Nat → Bool} {side side' : List Nat → Nat → Option Bool}
    (h : ∀ n x, side' n x = none ∨ side' n x = side n x) {t : T} (ht : RoutedD isZero side t) :
    RoutedD isZero side' t := by
  induction t with
  | leaf i => trivial
  | bucket id its => trivial
  | node id n l r ihl ihr =>
    obtain ⟨h1, h2, h3⟩ := ht
    refine ⟨fun hz => ⟨fun x hx => ?_, fun x hx => ?_⟩, ihl h2, ihr h3⟩
    · rcases h n x with e | e
      · rw [e]; simp
      · rw [e]; exact (h1 hz).1 x hx
    · rcases h n x with e | e
      · rw [e]; simp
      · rw [e]; exact (h1 hz).2 x hx

/-- the marked mutations keep "routed except for the marked items" -/
theorem C04_unmarked_mutate {c : Cfg} {o : BuildOpts} {s s' : Store} (hi : c.index < 65536)
    (hinv : IndexInv c s) (hinv' : IndexInv c s') (m : Mutates c s s') (h : RoutedUnmarked c o s) :
    RoutedUnmarked c o s' := by
  intro t ht
  rw [Check.trees_mutate hinv.1 hi m] at ht
  refine RoutedD_mono_side ?_ (h t ht)
  intro n x
  simp only [maskSide]
  by_cases hx : x ∈ s'.keysOf c.index modeUpdated
  · left; rw [if_pos hx]
  · right
    rw [if_neg hx]
    obtain ⟨h1, h2⟩ := m.marks x ((not_mem_keysOf_updated_iff hinv'.wf hi x).1 hx)
    have hx0 : x ∉ s.keysOf c.index modeUpdated := (not_mem_keysOf_updated_iff hinv.wf hi x).2 h1
    rw [if_neg hx0]
    simp only [sideD]
    have : (treeCtx c o s').side n x = (treeCtx c o s).side n x := by
      show sideOf c s' n x = sideOf c s n x
      rw [sideOf_eq_vecOf, sideOf_eq_vecOf, vecOf_congr h2]
    rw [this]

/-- every build of index `c` in the history is made with the configuration `c` (same metric) -/
def sameCfg (c : Cfg) : C01.Op → Prop
  | .build c' _ _ _ => c'.index = c.index → c' = c
  | _ => True

/-- **C04 over histories**: along a history started in a state satisfying the invariants, the forest stays routed
    w.r.t. the stored vectors, except possibly for items carrying an updated mark (added, overwritten or deleted
    since the last build); a clear or a metric change of the index empties the forest … -/
theorem C04_history_unmarked_from (hfresh : FreshSupply) (c : Cfg) (hi : c.index < 65536) (o : BuildOpts)
    (ops : List C01.Op) (hops : ∀ op ∈ ops, op.wf) (hQ : ∀ op ∈ ops, sameCfg c op)
    (s0 : Store) (hinv0 : ∀ c : Cfg, c.index < 65536 → IndexInv c s0) (h0 : RoutedUnmarked c o s0) :
    RoutedUnmarked c o (ops.foldl C01.step s0) := by
  apply C01.C01_history_induction_from hfresh c hi (RoutedUnmarked c o) (sameCfg c) _ _ _ _ ops hops hQ s0 hinv0 h0
  · intro s s' hinv hinv' m hP
    exact C04_unmarked_mutate hi hinv hinv' m hP
  · intro s c' _ he _
    exact RoutedUnmarked_of_noMeta (Writer.get_clear_same c' s _ he.symm)
  · intro s c' o' fuel env st' roots0 items0 ts0 roots' ts' hinv' he hwf hq old b hb hP
    have hc : c' = c := hq he
    subst hc
    have := C04_routed c' o' fuel { env with store := s } st' hwf.1 hwf.2.1 hfresh hinv'.1 hb
      (fun t ht => (RoutedD_mono_side (fun n x => Or.inr rfl) (hP t ht)))
    exact C04_unmarked_of_routed (Routed_opts c' o' o _ this)
  · intro s c' m' s' _ _ _ _ _ _ hu _
    exact RoutedUnmarked_of_noMeta hu.1

/-- … and right after a successful build it is routed for every item. The start state may be any state in which
    the forest of `c` is routed up to the marked items — e.g. right after a metric change, when the index has no
    tree: only the operations SINCE that state have to build the index with the configuration `c` -/
theorem C04_history_from (hfresh : FreshSupply) (c : Cfg) (ops : List C01.Op) (hops : ∀ op ∈ ops, op.wf)
    (hQ : ∀ op ∈ ops, sameCfg c op) (o : BuildOpts) (fuel : Nat) (env st' : BState)
    (hwf : (C01.Op.build c o fuel env).wf)
    (s0 : Store) (hinv0 : ∀ c : Cfg, c.index < 65536 → IndexInv c s0) (h0 : RoutedUnmarked c o s0)
    (h : build c o fuel { env with store := ops.foldl C01.step s0 } = .ok ((), st')) :
    Routed c o st'.store ∧ Check.routed c st'.store = [] := by
  have hr := C04_routed c o fuel { env with store := ops.foldl C01.step s0 } st' hwf.1 hwf.2.1 hfresh
    (C01.C01_inv_foldl hfresh ops hops s0 hinv0 c hwf.1).1 h
    (C04_history_unmarked_from hfresh c hwf.1 o ops hops hQ s0 hinv0 h0)
  exact ⟨hr, (C04_checker c o _).2 hr⟩

/-- from the empty database -/
theorem C04_history (hfresh : FreshSupply) (c : Cfg) (ops : List C01.Op) (hops : ∀ op ∈ ops, op.wf)
    (hQ : ∀ op ∈ ops, sameCfg c op) (o : BuildOpts) (fuel : Nat) (env st' : BState)
    (hwf : (C01.Op.build c o fuel env).wf)
    (h : build c o fuel { env with store := C01.run ops } = .ok ((), st')) :
    Routed c o st'.store ∧ Check.routed c st'.store = [] :=
  C04_history_from hfresh c ops hops hQ o fuel env st' hwf [] (fun c _ => C01.C01_inv_empty c)
    (RoutedUnmarked_of_noMeta rfl) h

end Arroy.C04
