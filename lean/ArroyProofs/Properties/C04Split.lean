import ArroyProofs.SplitLemmas2
import ArroyProofs.NormalLenBuild
import ArroyProofs.Properties.Reachable
/-! # C04 / C20 — the split search (`two_means`, `create_split`) and the length of the normals

`ArroyModel/Split.lean` models `D::create_split` as a pure function `Split.createSplit` of the leaves the
search drew; the build model takes the normals as an oracle (`BState.normals`). The normals of the trees of an
index are as long as the oracle's (`C04_normal_lengths_reachable`), so the hypothesis of
`C04_selfLookup_reachable_given_normal_lengths` on the normals of the final trees follows from "every oracle
normal is an output of `createSplit` on leaves of the index's dimension" (`C04_selfLookup_reachable_split`). -/
namespace Arroy

namespace C20
open Generated

/-- **C20 (split search, totality)**: with two or more drawn leaves `create_split` returns a normal, for
    every metric, host, header and vector bit pattern (NaN, infinite or zero norms, any lengths) -/
theorem C20_createSplit_total (m : Metric) (h : Host) (drawn : List (List Nat × List Nat))
    (h2 : 2 ≤ drawn.length) : (Split.createSplit m h drawn).isSome = true := by
  match drawn, h2 with
  | a :: b :: rest, _ => rw [Split.createSplit_cons2]; rfl

/-- **C20 (split search, bounded)**: the search reads the two leaves of `choose_two` and at most
    `twoMeansIterations = 200` more, whatever the data: an iteration whose drawn leaf has a zero, NaN or
    negative norm is skipped (`continue`), it does not extend the loop -/
theorem C20_createSplit_bounded (m : Metric) (h : Host) (drawn : List (List Nat × List Nat)) :
    Split.createSplit m h drawn = Split.createSplit m h (drawn.take (2 + twoMeansIterations)) := by
  match drawn with
  | [] => rfl
  | [a] => rfl
  | a :: b :: rest =>
    have : (a :: b :: rest).take (2 + twoMeansIterations) = a :: b :: rest.take twoMeansIterations := by
      simp [twoMeansIterations]
    rw [this, Split.createSplit_cons2, Split.createSplit_cons2, List.map_take, Split.twoMeans_take]

/-- bit patterns used in the examples: 1.0, NaN, +inf -/
def one : Nat := 1065353216
def nan : Nat := 2143289344
def inf : Nat := 2139095040

/-- the split of three 2-dimensional Euclidean leaves (1,0), (0,1), (1,1), evaluated -/
theorem createSplit_ex : Split.createSplit .euclidean {} [([], [one, 0]), ([], [0, one]), ([], [one, one])] =
    some [1060439283, 3207922931] := by decide +kernel

/-- non-vacuity, evaluated: three 2-dimensional Euclidean leaves (1,0), (0,1), (1,1) -/
example : 2 ≤ [(([] : List Nat), [one, 0]), ([], [0, one]), ([], [one, one])].length ∧
    Split.createSplit .euclidean {} [([], [one, 0]), ([], [0, one]), ([], [one, one])] =
      some [1060439283, 3207922931] := ⟨by decide, createSplit_ex⟩

/-- degenerate data: NaN, infinite and zero leaves still give a normal (`C20_createSplit_total` applies) -/
example : (Split.createSplit .cosine {} [([0], [nan, 0]), ([0], [inf, inf]), ([0], [0, 0]), ([nan], [one, nan])]).isSome = true :=
  C20_createSplit_total _ _ _ (by decide)

/-- `C20_createSplit_bounded` on a list longer than 202: the draws after the 202nd are not read -/
example (extra : List (List Nat × List Nat)) :
    Split.createSplit .euclidean {} (List.replicate 202 ([], [one, 0]) ++ extra) =
      Split.createSplit .euclidean {} (List.replicate 202 ([], [one, 0])) := by
  have hl : (List.replicate 202 (([] : List Nat), [one, 0])).length = 2 + twoMeansIterations :=
    List.length_replicate
  rw [C20_createSplit_bounded .euclidean {} (_ ++ extra), List.take_left' hl]

end C20

namespace C04
open C01 Generated

/-- **C04 (split, f32 metrics)**: if every drawn vector has `d` components, so has the normal. No
    assumption on the float values. -/
theorem C04_createSplit_length (m : Metric) (hm : m.isBq = false) (h : Host) (d : Nat)
    (drawn : List (List Nat × List Nat)) (hd : ∀ hv ∈ drawn, hv.2.length = d) (n : List Nat)
    (hn : Split.createSplit m h drawn = some n) : n.length = d := by
  obtain ⟨a, b, rest, rfl, rfl⟩ := Split.createSplit_eq_some hn
  obtain ⟨h1, h2⟩ := Split.twoMeans_stored_length (L := d) m h a b rest
    (fun hv hmem => by rw [Split.ofStored_vec_f32 _ _ _ _ hm]; exact hd hv hmem)
  exact Split.finish_length_f32 m h _ hm h1 h2

/-- **C04 (split, quantised metrics)**: if every drawn vector has `w` 64-bit words, so has the normal
    (for every `w`, also `w = 0`: the ±1 view has `64·w` components, the difference of the centroids too,
    and it is packed again into `w` words) -/
theorem C04_createSplit_length_bq (m : Metric) (hm : m.isBq = true) (h : Host) (w : Nat)
    (drawn : List (List Nat × List Nat)) (hd : ∀ hv ∈ drawn, hv.2.length = w) (n : List Nat)
    (hn : Split.createSplit m h drawn = some n) : n.length = w := by
  obtain ⟨a, b, rest, rfl, rfl⟩ := Split.createSplit_eq_some hn
  obtain ⟨h1, h2⟩ := Split.twoMeans_stored_length (L := quantizedWordBits * w) m h a b rest
    (fun hv hmem => by rw [Split.ofStored_vec_bq _ _ _ _ hm, Split.unpack_length, hd hv hmem])
  exact Split.finish_length_bq m h _ hm h1 h2

/-- non-vacuity of `C04_createSplit_length`: the hypotheses hold on three 2-dimensional leaves -/
example : ∃ n, Split.createSplit .euclidean {} [([], [C20.one, 0]), ([], [0, C20.one]), ([], [C20.one, C20.one])] = some n ∧
    n.length = 2 := by
  exact ⟨_, C20.createSplit_ex, C04_createSplit_length .euclidean rfl {} 2 _ (by decide) _ C20.createSplit_ex⟩

/-- non-vacuity of `C04_createSplit_length_bq`: three one-word leaves -/
example : ∃ n, Split.createSplit .bqEuclidean {} [([], [5]), ([], [2]), ([], [7])] = some n ∧ n.length = 1 := by
  obtain ⟨n, hn⟩ := Option.isSome_iff_exists.1
    (C20.C20_createSplit_total .bqEuclidean {} [([], [5]), ([], [2]), ([], [7])] (by decide))
  exact ⟨n, hn, C04_createSplit_length_bq .bqEuclidean rfl {} 1 _ (by decide) n hn⟩

/-- every build of index `c` in the history is run with an oracle all of whose normals have `c.dims` words -/
def normalsCfg (c : Cfg) : Op → Prop
  | .build c' _ _ env => c'.index = c.index → ∀ n ∈ env.normals, n.length = c.dims
  | _ => True

/-- the store-level invariant: every split node stored under a tree key of index `c` has a normal of
    `c.dims` words, in every reachable state -/
theorem splitLen_reachable (c : Cfg) (hi : c.index < 65536) (ops : List Op) (hops : ∀ op ∈ ops, op.wf)
    (hN : ∀ op ∈ ops, normalsCfg c op) : SplitLen c c.dims (run ops) := by
  apply C01_history_induction freshSupply c hi (SplitLen c c.dims) (normalsCfg c) _ _ _ _ _ ops hops hN
  · exact SplitLen.nil c c.dims
  · intro s s' _ _ m hP id v hg
    rw [m.tree] at hg
    exact hP id v hg
  · intro s c' _ he _ id v hg
    rw [Writer.get_clear_same c' s _ (show (c.treeKey id).index = c'.index from he.symm)] at hg
    cases hg
  · intro s c' o fuel env st' roots0 items0 ts0 roots' ts' _ he _ hq _ _ hb hP
    exact (SplitLen.congr_index he).1
      (Build.build_splitLen (c := c') (d := c.dims) o fuel { env with store := s } st' hb
        ((SplitLen.congr_index he).2 hP) (hq he))
  · intro s c' m' s' _ _ _ _ _ _ hu _ id v hg
    rw [hu.2 id] at hg
    cases hg

/-- **C04 (normal lengths over histories)**: after any history (item operations and builds on any indexes,
    any oracle streams, options, cancellation schedules) in which every build of index `c.index` is run
    with an oracle all of whose normals have `c.dims` words, every normal of every tree of index `c` has
    `c.dims` words: the normals of the trees are normals of the trees before, normals taken from the
    oracle, or `List.replicate n.length 0` of such a normal (random split). No hypothesis on the index
    number: for `c.index ≥ 65536` no well-formed operation touches the index and there is no tree. -/
theorem C04_normal_lengths_reachable (c : Cfg) (ops : List Op) (hops : ∀ op ∈ ops, op.wf)
    (hN : ∀ op ∈ ops, normalsCfg c op) :
    ∀ t ∈ Check.trees c (run ops), ∀ n ∈ t.normals, n.length = c.dims := by
  by_cases hi : c.index < 65536
  · exact trees_tlen (splitLen_reachable c hi ops hops hN)
  · intro t ht
    have hw : Store.WF (run ops) := (C01_invariant ops hops ⟨0, .euclidean, 0, {}⟩ (by decide)).wf
    have hk : ¬ c.metaKey.wf := fun h => hi h.1
    simp [Check.trees, Store.get_none_of_not_wf hw hk] at ht

/-- every normal of the oracle of every build of index `c` is an output of `create_split` (metric and
    host of `c`) on leaves of `c.dims` words -/
def splitCfg (c : Cfg) : Op → Prop
  | .build c' _ _ env => c'.index = c.index → ∀ n ∈ env.normals,
      ∃ drawn : List (List Nat × List Nat), (∀ hv ∈ drawn, hv.2.length = c.dims) ∧
        Split.createSplit c.metric c.host drawn = some n
  | _ => True

theorem normalsCfg_of_splitCfg {c : Cfg} (hm : c.metric.isBq = false) {op : Op} (h : splitCfg c op) :
    normalsCfg c op := by
  cases op with
  | build c' o fuel env =>
    intro he n hn
    obtain ⟨drawn, hd, hs⟩ := h he n hn
    exact C04_createSplit_length c.metric hm c.host c.dims drawn hd n hs
  | _ => trivial

/-- **C04, end to end, f32 metrics, from the split search**: as
    `C04_selfLookup_reachable_given_normal_lengths`, with the hypothesis on the normals of the final trees
    replaced by `hsplit` / `hsplitEnv`: every normal the oracle supplies to a build of the index — in the
    history and in the final build — is what `create_split` returns for SOME leaves of `c.dims` words
    (which leaves were drawn, and their values, are arbitrary). -/
theorem C04_selfLookup_reachable_split (ops : List Op) (hops : ∀ op ∈ ops, op.wf)
    (c : Cfg) (hm : c.metric.isBq = false)
    (hQ : ∀ op ∈ ops, sameCfg c op) (hq : ∀ op ∈ ops, itemsCfg c op)
    (hsplit : ∀ op ∈ ops, splitCfg c op)
    (o : BuildOpts) (fuel : Nat) (env st' : BState) (hwf : (Op.build c o fuel env).wf)
    (hsplitEnv : ∀ n ∈ env.normals, ∃ drawn : List (List Nat × List Nat),
      (∀ hv ∈ drawn, hv.2.length = c.dims) ∧ Split.createSplit c.metric c.host drawn = some n)
    (h : Build.build c o fuel { env with store := run ops } = .ok ((), st'))
    (x : Nat) (hx : (Store.get st'.store (c.itemKey x)).isSome = true)
    (hgood : Check.hasGoodTree c st'.store x = true) :
    ∃ roots,
      Reader.open c st'.store = .ok ⟨roots, c.dims, (run ops).keysOf c.index modeItem⟩ ∧
      ∀ q : QueryOpts, q.candidates = none → 1 ≤ Reader.budget c.metric roots.length q →
        ((run ops).keysOf c.index modeItem).length ≤ q.count →
        ∃ ans, Reader.byItem c st'.store ⟨roots, c.dims, (run ops).keysOf c.index modeItem⟩ x q = .ok (some ans) ∧
          x ∈ ans.map (·.1) := by
  apply C04_selfLookup_reachable_given_normal_lengths ops hops c hQ hq o fuel env st' hwf h x hx hgood
  rw [← (C01_forest ops hops c o fuel env st' hwf h).1]
  apply C04_normal_lengths_reachable c
  · intro op hop
    rcases List.mem_append.1 hop with hop | hop
    · exact hops op hop
    · rw [List.mem_singleton.1 hop]; exact hwf
  · intro op hop
    rcases List.mem_append.1 hop with hop | hop
    · exact normalsCfg_of_splitCfg hm (hsplit op hop)
    · rw [List.mem_singleton.1 hop]
      exact normalsCfg_of_splitCfg (op := .build c o fuel env) hm (fun _ => hsplitEnv)

namespace Ex
open C01.Ex

/-- the two-round history of `C01Examples.lean` (Euclidean, dimension 2): both oracles have 2-word normals -/
theorem ops3_normals : ∀ op ∈ ops2 ++ [.build cEx oEx 5 env2], normalsCfg cEx op := by
  intro op hop
  simp only [ops2, ops1, List.mem_append, List.mem_cons, List.not_mem_nil, or_false] at hop
  rcases hop with ((rfl | rfl | rfl | rfl | rfl | rfl) | (rfl | rfl)) | rfl <;>
    first | trivial | (intro _; decide)

theorem ops3_wf : ∀ op ∈ ops2 ++ [.build cEx oEx 5 env2], op.wf := by decide

/-- `C04_normal_lengths_reachable` applies to it, and the forest it speaks of has three split nodes -/
example : (∀ t ∈ Check.trees cEx (run (ops2 ++ [.build cEx oEx 5 env2])), ∀ n ∈ t.normals, n.length = 2) ∧
    ((Check.trees cEx (run (ops2 ++ [.build cEx oEx 5 env2]))).flatMap T.normals).length = 3 := by
  refine ⟨C04_normal_lengths_reachable cEx _ ops3_wf ops3_normals, ?_⟩
  rw [after2_ok]
  rfl

/-- the first round: five items, then a build whose oracle normals (1,0) and (0,1) are outputs of
    `create_split` on 2-dimensional leaves -/
def adds1 : List Op :=
  [.add cEx 0 [fm2, 0], .add cEx 1 [fm1, 0], .add cEx 2 [f1, fm1], .add cEx 3 [f2, f1], .add cEx 4 [f3, f1]]

theorem adds1_wf : ∀ op ∈ adds1, op.wf := by decide
theorem build1_wf : (Op.build cEx oEx 5 env1).wf := by decide

theorem adds1_cfg : ∀ op ∈ adds1, sameCfg cEx op ∧ itemsCfg cEx op ∧ splitCfg cEx op := by
  intro op hop
  simp only [adds1, List.mem_cons, List.not_mem_nil, or_false] at hop
  rcases hop with rfl | rfl | rfl | rfl | rfl <;> exact ⟨trivial, fun _ => ⟨rfl, rfl⟩, trivial⟩

theorem env1_split : ∀ n ∈ env1.normals, ∃ drawn : List (List Nat × List Nat),
    (∀ hv ∈ drawn, hv.2.length = cEx.dims) ∧ Split.createSplit cEx.metric cEx.host drawn = some n := by
  intro n hn
  simp only [env1, List.mem_cons, List.not_mem_nil, or_false] at hn
  rcases hn with rfl | rfl
  · exact ⟨[([], [f1, 0]), ([], [0, 0])], by decide, by decide +kernel⟩
  · exact ⟨[([], [0, f1]), ([], [0, 0])], by decide, by decide +kernel⟩

/-- the build of the first round, evaluated once: it succeeds, a tree of the result separates item 3, which
is still stored -/
theorem build1_eval : ∃ st', Build.build cEx oEx 5 { env1 with store := run adds1 } = .ok ((), st') ∧
    Check.hasGoodTree cEx st'.store 3 = true ∧ (Store.get st'.store (cEx.itemKey 3)).isSome = true := by
  have h : (match Build.build cEx oEx 5 { env1 with store := run adds1 } with
      | .ok (_, st') => Check.hasGoodTree cEx st'.store 3 && (Store.get st'.store (cEx.itemKey 3)).isSome
      | .error _ => false) = true := by decide +kernel
  cases hb : Build.build cEx oEx 5 { env1 with store := run adds1 } with
  | error e => rw [hb] at h; cases h
  | ok r => rw [hb, Bool.and_eq_true] at h; exact ⟨r.2, rfl, h⟩

theorem build1_ok : isOk (Build.build cEx oEx 5 { env1 with store := run adds1 }) = true := by
  obtain ⟨st', h, _⟩ := build1_eval
  rw [h]; rfl

theorem after1_good : Check.hasGoodTree cEx (run (adds1 ++ [.build cEx oEx 5 env1])) 3 = true ∧
    (Store.get (run (adds1 ++ [.build cEx oEx 5 env1])) (cEx.itemKey 3)).isSome = true ∧
    (run adds1).keysOf cEx.index modeItem = [0, 1, 2, 3, 4] := by
  obtain ⟨st', h, hg, hx⟩ := build1_eval
  rw [(C01_forest adds1 adds1_wf cEx oEx 5 env1 st' build1_wf h).1]
  exact ⟨hg, hx, by decide +kernel⟩

/-- `C04_selfLookup_reachable_split` applies: `by_item(3)` with `search_k = 1` finds item 3 -/
example : ∃ st' roots, Build.build cEx oEx 5 { env1 with store := run adds1 } = .ok ((), st') ∧
    Reader.open cEx st'.store = .ok ⟨roots, 2, [0, 1, 2, 3, 4]⟩ ∧
    ∃ ans, Reader.byItem cEx st'.store ⟨roots, 2, [0, 1, 2, 3, 4]⟩ 3 { count := 5, searchK := some 1 } = .ok (some ans) ∧
      3 ∈ ans.map (·.1) := by
  obtain ⟨st', hb, hg, hx⟩ := build1_eval
  obtain ⟨roots, h1, h2⟩ := C04_selfLookup_reachable_split adds1 adds1_wf cEx rfl
    (fun op hop => (adds1_cfg op hop).1) (fun op hop => (adds1_cfg op hop).2.1)
    (fun op hop => (adds1_cfg op hop).2.2) oEx 5 env1 st' build1_wf env1_split hb 3 hx hg
  rw [after1_good.2.2] at h1 h2
  refine ⟨st', roots, hb, h1, h2 _ rfl ?_ (by decide)⟩
  simp only [Reader.budget, Reader.satMul, Option.getD_some, Option.getD_none]
  decide

end Ex
end C04
end Arroy
