import ArroyProofs.WriterLaws
/-! # C05 — the item store returns exactly what was last written

Refinement of the item-level operations of `Writer` to the abstract specification
`index → ItemId → Option (stored words)`. (The parts of C05 that involve `Build.build` — metadata item
set, DotProduct header rewrite — are not in this file.) -/
namespace Arroy.C05
open Arroy Generated

/-- the abstraction: the vector words of the leaf stored under the item key -/
def absItems (c : Cfg) (s : Store) (id : Nat) : Option (List Nat) :=
  match Store.get s (c.itemKey id) with
  | some (.leaf _ v) => some v
  | _ => none

def isLeaf : Val → Bool
  | .leaf _ _ => true
  | _ => false

/-- invariant: every entry under an item key of the index holds a leaf -/
def ItemsAreLeaves (c : Cfg) (s : Store) : Prop :=
  ∀ kv ∈ s, kv.1.index = c.index → kv.1.mode = modeItem → isLeaf kv.2 = true

/-- what `item_vector` / `iter` show of stored words -/
def view (c : Cfg) (v : List Nat) : List Nat := (c.metric.toVec v).take c.dims

/-- sign of an `f32` bit pattern as `±1.0` (what a quantised vector keeps of a component) -/
def sign (x : Nat) : Nat := if F32.signPositive x then F32.one else F32.negOne

theorem absItems_of_get_leaf {c : Cfg} {s : Store} {id : Nat} {h v : List Nat}
    (hg : Store.get s (c.itemKey id) = some (.leaf h v)) : absItems c s id = some v := by
  unfold absItems; rw [hg]

theorem absItems_of_get_none {c : Cfg} {s : Store} {id : Nat}
    (hg : Store.get s (c.itemKey id) = none) : absItems c s id = none := by
  unfold absItems; rw [hg]

theorem absItems_congr {c : Cfg} {s s' : Store} {id : Nat}
    (hg : Store.get s' (c.itemKey id) = Store.get s (c.itemKey id)) : absItems c s' id = absItems c s id := by
  unfold absItems; rw [hg]

theorem isLeaf_iff (v : Val) : isLeaf v = true ↔ ∃ h w, v = .leaf h w := by
  cases v <;> simp [isLeaf]

theorem get_item_leaf {c : Cfg} {s : Store} (hl : ItemsAreLeaves c s) {id : Nat} {v : Val}
    (hg : Store.get s (c.itemKey id) = some v) : ∃ h w, v = .leaf h w :=
  (isLeaf_iff v).1 (hl _ (Store.mem_of_get hg) rfl rfl)

/-- under `ItemsAreLeaves` an item key holds nothing, or a leaf whose words are the abstraction -/
theorem item_cases {c : Cfg} {s : Store} (hl : ItemsAreLeaves c s) (id : Nat) :
    (Store.get s (c.itemKey id) = none ∧ absItems c s id = none) ∨
    ∃ h w, Store.get s (c.itemKey id) = some (.leaf h w) ∧ absItems c s id = some w := by
  cases hg : Store.get s (c.itemKey id) with
  | none => exact Or.inl ⟨rfl, absItems_of_get_none hg⟩
  | some v =>
    obtain ⟨h, w, rfl⟩ := get_item_leaf hl hg
    exact Or.inr ⟨h, w, rfl, absItems_of_get_leaf hg⟩

theorem absItems_isSome_iff {c : Cfg} {s : Store} (hl : ItemsAreLeaves c s) (id : Nat) :
    (absItems c s id).isSome = (Store.get s (c.itemKey id)).isSome := by
  rcases item_cases hl id with ⟨hg, ha⟩ | ⟨h, w, hg, ha⟩ <;> rw [hg, ha] <;> rfl

theorem itemsAreLeaves_nil (c : Cfg) : ItemsAreLeaves c [] := by intro kv h; cases h

/-! ## the operations against the specification -/

/-- `add_item`, all indexes at once -/
theorem C05_add_all (c c' : Cfg) (s s' : Store) (id : Nat) (vec : List Nat)
    (h : Writer.addItem c s id vec = .ok s') (id' : Nat) :
    absItems c' s' id' =
      if c'.index = c.index ∧ id' = id then some (c.metric.fromSlice vec) else absItems c' s id' := by
  unfold absItems
  rw [Writer.get_addItem h, if_neg (Cfg.itemKey_ne_updatedKey c c' id id')]
  by_cases hk : c'.index = c.index ∧ id' = id
  · rw [if_pos ((Cfg.itemKey_eq_iff c c' id id').2 hk), if_pos hk]; rfl
  · rw [if_neg (fun e => hk ((Cfg.itemKey_eq_iff c c' id id').1 e)), if_neg hk]

/-- **add**: the abstraction after `add_item` is the spec's update `id ↦ words`, the rest unchanged -/
theorem C05_add (c : Cfg) (s s' : Store) (id : Nat) (vec : List Nat)
    (h : Writer.addItem c s id vec = .ok s') (id' : Nat) :
    absItems c s' id' = if id' = id then some (c.metric.fromSlice vec) else absItems c s id' := by
  rw [C05_add_all c c s s' id vec h id']; simp

/-- `add_item` does not touch the items of another index -/
theorem C05_add_frame (c c' : Cfg) (s s' : Store) (id : Nat) (vec : List Nat)
    (h : Writer.addItem c s id vec = .ok s') (hne : c'.index ≠ c.index) (id' : Nat) :
    absItems c' s' id' = absItems c' s id' := by
  rw [C05_add_all c c' s s' id vec h id']; simp [hne]

/-- `add_item` succeeds exactly on vectors of the declared dimension -/
theorem C05_add_ok_iff (c : Cfg) (s : Store) (id : Nat) (vec : List Nat) :
    (∃ s', Writer.addItem c s id vec = .ok s') ↔ vec.length = c.dims := Writer.addItem_ok_iff c s id vec

/-- **append**, when it succeeds, is the same update -/
theorem C05_append (c : Cfg) (s s' : Store) (hs : Store.Sorted s) (id : Nat) (vec : List Nat)
    (h : Writer.appendItem c s id vec = .ok s') (id' : Nat) :
    absItems c s' id' = if id' = id then some (c.metric.fromSlice vec) else absItems c s id' :=
  C05_add c s s' id vec (Writer.appendItem_ok_eq_addItem hs h) id'

theorem C05_append_frame (c c' : Cfg) (s s' : Store) (hs : Store.Sorted s) (id : Nat) (vec : List Nat)
    (h : Writer.appendItem c s id vec = .ok s') (hne : c'.index ≠ c.index) (id' : Nat) :
    absItems c' s' id' = absItems c' s id' :=
  C05_add_frame c c' s s' id vec (Writer.appendItem_ok_eq_addItem hs h) hne id'

theorem C05_del_all (c c' : Cfg) (s : Store) (id id' : Nat) :
    absItems c' (Writer.delItem c s id).1 id' =
      if c'.index = c.index ∧ id' = id then none else absItems c' s id' := by
  unfold absItems
  rw [Writer.get_delItem, if_neg (fun h => Cfg.itemKey_ne_updatedKey c c' id id' h.1)]
  by_cases hk : c'.index = c.index ∧ id' = id
  · rw [if_pos ((Cfg.itemKey_eq_iff c c' id id').2 hk), if_pos hk]
  · rw [if_neg (fun e => hk ((Cfg.itemKey_eq_iff c c' id id').1 e)), if_neg hk]

/-- **del**: `id ↦ none`, the rest unchanged, and the returned flag says whether the item existed -/
theorem C05_del (c : Cfg) (s : Store) (hl : ItemsAreLeaves c s) (id : Nat) :
    (∀ id', absItems c (Writer.delItem c s id).1 id' = if id' = id then none else absItems c s id') ∧
    (Writer.delItem c s id).2 = (absItems c s id).isSome := by
  refine ⟨fun id' => ?_, ?_⟩
  · rw [C05_del_all]; simp
  · rw [Writer.delItem_snd, absItems_isSome_iff hl]

theorem C05_del_frame (c c' : Cfg) (s : Store) (id : Nat) (hne : c'.index ≠ c.index) (id' : Nat) :
    absItems c' (Writer.delItem c s id).1 id' = absItems c' s id' := by
  rw [C05_del_all]; simp [hne]

/-- **clear**: no item of that index is left -/
theorem C05_clear (c : Cfg) (s : Store) (id : Nat) : absItems c (Writer.clear c s) id = none :=
  absItems_of_get_none (Writer.get_clear_same c s _ rfl)

/-- `clear` leaves the items of the other indexes alone -/
theorem C05_clear_frame (c c' : Cfg) (s : Store) (hi : c.index < 65536) (hi' : c'.index < 65536)
    (hne : c'.index ≠ c.index) (id : Nat) (hid : id < 4294967296) :
    absItems c' (Writer.clear c s) id = absItems c' s id :=
  absItems_congr (Writer.get_clear_other c s _ (c'.itemKey_wf id hi' hid) hi hne)

/-! ## the invariant is preserved by every operation (of any index) -/

theorem C05_inv_add (c c' : Cfg) (s s' : Store) (id : Nat) (vec : List Nat)
    (h : Writer.addItem c s id vec = .ok s') (hl : ItemsAreLeaves c' s) : ItemsAreLeaves c' s' := by
  intro kv hkv hidx hmode
  rcases Writer.mem_addItem h hkv with e | e | hkv
  · subst e
    have : modeUpdated = modeItem := hmode
    exact absurd this (by decide)
  · subst e; rfl
  · exact hl kv hkv hidx hmode

theorem C05_inv_append (c c' : Cfg) (s s' : Store) (hs : Store.Sorted s) (id : Nat) (vec : List Nat)
    (h : Writer.appendItem c s id vec = .ok s') (hl : ItemsAreLeaves c' s) : ItemsAreLeaves c' s' :=
  C05_inv_add c c' s s' id vec (Writer.appendItem_ok_eq_addItem hs h) hl

theorem C05_inv_del (c c' : Cfg) (s : Store) (id : Nat) (hl : ItemsAreLeaves c' s) :
    ItemsAreLeaves c' (Writer.delItem c s id).1 := by
  intro kv hkv hidx hmode
  rcases Writer.mem_delItem hkv with e | hkv
  · subst e
    have : modeUpdated = modeItem := hmode
    exact absurd this (by decide)
  · exact hl kv hkv hidx hmode

theorem C05_inv_clear (c c' : Cfg) (s : Store) (hl : ItemsAreLeaves c' s) :
    ItemsAreLeaves c' (Writer.clear c s) :=
  fun kv hkv => hl kv (Writer.mem_clear hkv)

theorem C05_contains (c : Cfg) (s : Store) (hl : ItemsAreLeaves c s) (id : Nat) :
    Writer.containsItem c s id = (absItems c s id).isSome := by
  unfold Writer.containsItem Store.contains
  rw [absItems_isSome_iff hl]

/-- **item_vector**: the stored words, viewed as `f32`s and cut at the declared dimension -/
theorem C05_vector (c : Cfg) (s : Store) (id : Nat) :
    Writer.itemVector c s id = (absItems c s id).map (fun v => (c.metric.toVec v).take c.dims) := by
  unfold Writer.itemVector Writer.itemLeaf absItems
  cases hg : Store.get s (c.itemKey id) with
  | none => rfl
  | some v => cases v <;> rfl

/-- for the `f32` metrics, the vector read after `add_item` is the written one, bit for bit -/
theorem C05_readback_f32 (c : Cfg) (s s' : Store) (id : Nat) (vec : List Nat)
    (hm : c.metric.isBq = false) (h : Writer.addItem c s id vec = .ok s') :
    Writer.itemVector c s' id = some vec := by
  have hlen : vec.length = c.dims := (Writer.addItem_ok h).1
  rw [C05_vector, C05_add c s s' id vec h id, if_pos rfl]
  simp [Metric.fromSlice, Metric.toVec, hm, ← hlen]

/-- the same through `append_item` -/
theorem C05_readback_f32_append (c : Cfg) (s s' : Store) (hs : Store.Sorted s) (id : Nat) (vec : List Nat)
    (hm : c.metric.isBq = false) (h : Writer.appendItem c s id vec = .ok s') :
    Writer.itemVector c s' id = some vec :=
  C05_readback_f32 c s s' id vec hm (Writer.appendItem_ok_eq_addItem hs h)

/-- for the quantised metrics: the sign pattern of what was written, at the declared dimension
    (given the pack/unpack round trip proved elsewhere) -/
theorem C05_bq_readback_given_roundtrip
    (hrt : ∀ xs : List Nat, (BQ.unpack (BQ.pack xs)).take xs.length = xs.map sign)
    (c : Cfg) (s s' : Store) (id : Nat) (vec : List Nat)
    (hm : c.metric.isBq = true) (h : Writer.addItem c s id vec = .ok s') :
    Writer.itemVector c s' id = some (vec.map sign) := by
  have hlen : vec.length = c.dims := (Writer.addItem_ok h).1
  rw [C05_vector, C05_add c s s' id vec h id, if_pos rfl]
  simp only [Metric.fromSlice, Metric.toVec, hm, if_true, Option.map_some, ← hlen, hrt]

/-- reading an item other than the one just written gives what it gave before -/
theorem C05_read_other (c : Cfg) (s s' : Store) (id id' : Nat) (vec : List Nat)
    (h : Writer.addItem c s id vec = .ok s') (hne : id' ≠ id) :
    Writer.itemVector c s' id' = Writer.itemVector c s id' ∧
    Writer.containsItem c s' id' = Writer.containsItem c s id' := by
  have hg : Store.get s' (c.itemKey id') = Store.get s (c.itemKey id') := by
    rw [Writer.get_addItem h, if_neg (Cfg.itemKey_ne_updatedKey c c id id'),
      if_neg (fun e => hne ((Cfg.itemKey_eq_iff c c id id').1 e).2)]
  constructor
  · rw [C05_vector, C05_vector, absItems_congr hg]
  · unfold Writer.containsItem Store.contains; rw [hg]

/-- what `iter` shows of one entry -/
def entryView (c : Cfg) (kv : Key × Val) : Nat × List Nat :=
  (kv.1.item, match kv.2 with | .leaf _ v => view c v | _ => [])

theorem iterFrom_of_leaves (c : Cfg) (l : Store) (h : ∀ kv ∈ l, isLeaf kv.2 = true) :
    Writer.iterFrom c l = l.map (entryView c) := by
  induction l with
  | nil => rfl
  | cons kv rest ih =>
    obtain ⟨k, v⟩ := kv
    obtain ⟨hd, w, rfl⟩ := (isLeaf_iff v).1 (h (k, v) (List.mem_cons_self ..))
    simp only [Writer.iterFrom, List.map_cons, entryView, view]
    rw [ih (fun kv hkv => h kv (List.mem_cons_of_mem _ hkv))]

theorem iter_eq_map (c : Cfg) (s : Store) (hw : Store.WF s) (hl : ItemsAreLeaves c s) (hi : c.index < 65536) :
    Writer.iter c s = (s.prefixIter c.index (some modeItem)).map (entryView c) := by
  unfold Writer.iter
  apply iterFrom_of_leaves
  intro kv hkv
  have ⟨h1, h2, h3⟩ := (Store.mem_prefixIter_iff hw c.index modeItem hi (by decide) kv).1 hkv
  exact hl kv h1 h2 h3

/-- the ids `iter` yields are the item keys of the index, in store order -/
theorem C05_iter_ids (c : Cfg) (s : Store) (hw : Store.WF s) (hl : ItemsAreLeaves c s) (hi : c.index < 65536) :
    (Writer.iter c s).map (·.1) = Store.keysOf s c.index modeItem := by
  rw [iter_eq_map c s hw hl hi, List.map_map]
  rfl

theorem itemVector_of_mem (c : Cfg) (s : Store) (hs : Store.Sorted s) (hw : Store.WF s)
    (hl : ItemsAreLeaves c s) (hi : c.index < 65536) (kv : Key × Val)
    (hkv : kv ∈ s.prefixIter c.index (some modeItem)) :
    Writer.itemVector c s kv.1.item = some (entryView c kv).2 := by
  have ⟨h1, h2, h3⟩ := (Store.mem_prefixIter_iff hw c.index modeItem hi (by decide) kv).1 hkv
  obtain ⟨k, v⟩ := kv
  obtain ⟨hd, w, rfl⟩ := (isLeaf_iff v).1 (hl _ h1 h2 h3)
  have hk : k = c.itemKey k.item := Key.eq_of_fields h2 h3 rfl
  have hg : Store.get s (c.itemKey k.item) = some (.leaf hd w) := by
    rw [← hk]; exact (Store.get_eq_some_iff hs k _).2 h1
  rw [C05_vector, absItems_of_get_leaf hg]
  rfl

/-- **iter** yields exactly the stored items: strictly ascending ids (so each once), and `(id, v)` is
    yielded iff `item_vector id = v` -/
theorem C05_iter (c : Cfg) (s : Store) (hs : Store.Sorted s) (hw : Store.WF s) (hl : ItemsAreLeaves c s)
    (hi : c.index < 65536) :
    IdSet.Sorted ((Writer.iter c s).map (·.1)) ∧
    (∀ id v, (id, v) ∈ Writer.iter c s ↔ Writer.itemVector c s id = some v) := by
  refine ⟨?_, fun id v => ?_⟩
  · rw [C05_iter_ids c s hw hl hi]
    exact Store.keysOf_sorted hs hw c.index modeItem hi (by decide)
  · rw [iter_eq_map c s hw hl hi, List.mem_map]
    constructor
    · rintro ⟨kv, hkv, he⟩
      obtain ⟨rfl, rfl⟩ := Prod.mk.inj he
      exact itemVector_of_mem c s hs hw hl hi kv hkv
    · intro h
      rw [C05_vector] at h
      rcases item_cases hl id with ⟨_, ha⟩ | ⟨hd, w, hg, ha⟩
      · rw [ha] at h; cases h
      · rw [ha] at h
        cases h
        refine ⟨(c.itemKey id, .leaf hd w), ?_, rfl⟩
        -- as a `have`: passed directly, the entry `kv` of the lemma is found by unification only after a costly
        -- unfolding of `entryView` and the prefix cursor
        have := Store.mem_prefixIter_of_mem (Store.mem_of_get hg)
        exact this

theorem map_eq_filterMap_of {α β} {l : List α} {f : α → β} {g : α → Option β}
    (h : ∀ x ∈ l, g x = some (f x)) : l.map f = l.filterMap g := by
  induction l with
  | nil => rfl
  | cons a r ih =>
    rw [List.map_cons, List.filterMap_cons, h a (List.mem_cons_self ..),
      ih (fun x hx => h x (List.mem_cons_of_mem _ hx))]

/-- `iter` as a list, exactly: the item ids of the index in ascending order, each with `item_vector`'s value -/
theorem C05_iter_list (c : Cfg) (s : Store) (hs : Store.Sorted s) (hw : Store.WF s) (hl : ItemsAreLeaves c s)
    (hi : c.index < 65536) :
    Writer.iter c s =
      (Store.keysOf s c.index modeItem).filterMap (fun id => (Writer.itemVector c s id).map (fun v => (id, v))) := by
  rw [iter_eq_map c s hw hl hi]
  unfold Store.keysOf
  rw [List.filterMap_map]
  apply map_eq_filterMap_of
  intro kv hkv
  simp only [Function.comp_apply, itemVector_of_mem c s hs hw hl hi kv hkv, Option.map_some]
  rfl

/-- **is_empty** iff the index holds no item -/
theorem C05_isEmpty (c : Cfg) (s : Store) (hw : Store.WF s) (hl : ItemsAreLeaves c s) (hi : c.index < 65536) :
    Writer.isEmpty c s = true ↔ ∀ id, absItems c s id = none := by
  unfold Writer.isEmpty
  rw [iter_eq_map c s hw hl hi, List.isEmpty_iff, List.map_eq_nil_iff,
    Store.prefixIter_eq_nil_iff hw c.index modeItem hi (by decide)]
  constructor
  · intro h id; exact absItems_of_get_none (h id)
  · intro h id
    rcases item_cases hl id with ⟨hg, _⟩ | ⟨_, _, _, ha⟩
    · exact hg
    · rw [h id] at ha; cases ha

/-! ## history level: any sequence of item operations, over several indexes -/

/-- an item-level call -/
inductive Op where
  | add (c : Cfg) (id : Nat) (vec : List Nat)
  | append (c : Cfg) (id : Nat) (vec : List Nat)
  | del (c : Cfg) (id : Nat)
  | clear (c : Cfg)

/-- index and id fit their on-disk widths -/
def Op.wf : Op → Prop
  | .add c id _ => c.index < 65536 ∧ id < 4294967296
  | .append c id _ => c.index < 65536 ∧ id < 4294967296
  | .del c id => c.index < 65536 ∧ id < 4294967296
  | .clear c => c.index < 65536

/-- the model: the store after the call (a rejected call leaves it as it was) and the observable outcome
    (accepted? / was the item present?) -/
def step (s : Store) : Op → Store × Bool
  | .add c id vec => match Writer.addItem c s id vec with
    | .ok s' => (s', true)
    | .error _ => (s, false)
  | .append c id vec => match Writer.appendItem c s id vec with
    | .ok s' => (s', true)
    | .error _ => (s, false)
  | .del c id => Writer.delItem c s id
  | .clear c => (Writer.clear c s, true)

/-- the specification state: per index, per id, the stored words -/
abbrev Spec := Nat → Nat → Option (List Nat)

def Spec.set (m : Spec) (i id : Nat) (v : Option (List Nat)) : Spec :=
  fun i' id' => if i' = i ∧ id' = id then v else m i' id'

/-- the specification: a plain map update, and the outcome it predicts. Whether LMDB accepts an append
    depends on every key of the database (C19), so that one bit (`appendFits`) is an input here. -/
def specStep (m : Spec) (op : Op) (appendFits : Bool) : Spec × Bool :=
  match op with
  | .add c id vec =>
    if vec.length = c.dims then (m.set c.index id (some (c.metric.fromSlice vec)), true) else (m, false)
  | .append c id vec =>
    if vec.length = c.dims ∧ appendFits = true then (m.set c.index id (some (c.metric.fromSlice vec)), true)
    else (m, false)
  | .del c id => (m.set c.index id none, (m c.index id).isSome)
  | .clear c => (fun i id => if i = c.index then none else m i id, true)

/-- the refinement relation (with the invariants it needs) -/
structure Refines (s : Store) (m : Spec) : Prop where
  sorted : Store.Sorted s
  wf : Store.WF s
  leaves : ∀ c, ItemsAreLeaves c s
  abs : ∀ c id, c.index < 65536 → id < 4294967296 → absItems c s id = m c.index id

theorem refines_empty : Refines [] (fun _ _ => none) :=
  ⟨Store.sorted_nil, Store.wf_nil, fun c => itemsAreLeaves_nil c, fun _ _ _ _ => rfl⟩

theorem Refines.add {s s' : Store} {m : Spec} (r : Refines s m) {c : Cfg} {id : Nat} {vec : List Nat}
    (h : Writer.addItem c s id vec = .ok s') (hi : c.index < 65536) (hid : id < 4294967296) :
    Refines s' (m.set c.index id (some (c.metric.fromSlice vec))) := by
  refine ⟨Writer.addItem_sorted h r.sorted, Writer.addItem_wf h r.wf hi hid,
    fun c' => C05_inv_add c c' s _ id vec h (r.leaves c'), fun c' id' hi' hid' => ?_⟩
  rw [C05_add_all c c' s _ id vec h id', r.abs c' id' hi' hid']
  rfl

theorem step_add_refines {s : Store} {m : Spec} (r : Refines s m) (c : Cfg) (id : Nat) (vec : List Nat)
    (hi : c.index < 65536) (hid : id < 4294967296) (b : Bool) :
    Refines (step s (.add c id vec)).1 (specStep m (.add c id vec) b).1 ∧
    (specStep m (.add c id vec) b).2 = (step s (.add c id vec)).2 := by
  by_cases hl : vec.length = c.dims
  · have h := Writer.addItem_of_len s id hl
    simp only [step, specStep, h, hl, if_true]
    exact ⟨r.add h hi hid, trivial⟩
  · simp only [step, specStep, Writer.addItem_err s id hl, hl, if_false]
    exact ⟨r, trivial⟩

theorem step_append_refines {s : Store} {m : Spec} (r : Refines s m) (c : Cfg) (id : Nat) (vec : List Nat)
    (hi : c.index < 65536) (hid : id < 4294967296) :
    Refines (step s (.append c id vec)).1 (specStep m (.append c id vec) (step s (.append c id vec)).2).1 ∧
    (specStep m (.append c id vec) (step s (.append c id vec)).2).2 = (step s (.append c id vec)).2 := by
  cases hap : Writer.appendItem c s id vec with
  | error e =>
    simp only [step, specStep, hap]
    simp only [Bool.false_eq_true, and_false, if_false]
    exact ⟨r, trivial⟩
  | ok s' =>
    have h := Writer.appendItem_ok_eq_addItem r.sorted hap
    have hl := (Writer.addItem_ok h).1
    simp only [step, specStep, hap, hl, and_self, if_true]
    exact ⟨r.add h hi hid, trivial⟩

theorem step_del_refines {s : Store} {m : Spec} (r : Refines s m) (c : Cfg) (id : Nat)
    (hi : c.index < 65536) (hid : id < 4294967296) (b : Bool) :
    Refines (step s (.del c id)).1 (specStep m (.del c id) b).1 ∧
    (specStep m (.del c id) b).2 = (step s (.del c id)).2 := by
  simp only [step, specStep]
  refine ⟨⟨Writer.delItem_sorted id r.sorted, Writer.delItem_wf id r.wf hi hid,
    fun c' => C05_inv_del c c' s id (r.leaves c'), ?_⟩, ?_⟩
  · intro c' id' hi' hid'
    rw [C05_del_all, r.abs c' id' hi' hid']
    rfl
  · rw [(C05_del c s (r.leaves c) id).2, r.abs c id hi hid]

theorem step_clear_refines {s : Store} {m : Spec} (r : Refines s m) (c : Cfg) (hi : c.index < 65536) (b : Bool) :
    Refines (step s (.clear c)).1 (specStep m (.clear c) b).1 ∧
    (specStep m (.clear c) b).2 = (step s (.clear c)).2 := by
  simp only [step, specStep]
  refine ⟨⟨Writer.clear_sorted r.sorted, Writer.clear_wf r.wf,
    fun c' => C05_inv_clear c c' s (r.leaves c'), ?_⟩, trivial⟩
  intro c' id' hi' hid'
  by_cases he : c'.index = c.index
  · rw [if_pos he]
    exact absItems_of_get_none (Writer.get_clear_same c s _ he)
  · rw [if_neg he, C05_clear_frame c c' s hi hi' he id' hid', r.abs c' id' hi' hid']

/-- one step: the refinement relation is kept and the model's observable outcome is the one the spec predicts -/
theorem C05_step_refines {s : Store} {m : Spec} (r : Refines s m) (op : Op) (hop : op.wf) :
    Refines (step s op).1 (specStep m op (step s op).2).1 ∧ (specStep m op (step s op).2).2 = (step s op).2 := by
  cases op with
  | add c id vec => exact step_add_refines r c id vec hop.1 hop.2 _
  | append c id vec => exact step_append_refines r c id vec hop.1 hop.2
  | del c id => exact step_del_refines r c id hop.1 hop.2 _
  | clear c => exact step_clear_refines r c hop _

/-- model and specification run side by side -/
def runStep (st : Store × Spec) (op : Op) : Store × Spec :=
  ((step st.1 op).1, (specStep st.2 op (step st.1 op).2).1)

def run (ops : List Op) : Store × Spec := ops.foldl runStep ([], fun _ _ => none)

theorem foldl_refines (ops : List Op) (hops : ∀ op ∈ ops, op.wf) (st : Store × Spec) (r : Refines st.1 st.2) :
    Refines (ops.foldl runStep st).1 (ops.foldl runStep st).2 := by
  induction ops generalizing st with
  | nil => exact r
  | cons op rest ih =>
    simp only [List.foldl_cons]
    apply ih (fun o ho => hops o (List.mem_cons_of_mem _ ho))
    exact (C05_step_refines r op (hops op (List.mem_cons_self ..))).1

/-- what a client reads from a store that refines a specification state -/
theorem C05_reads {s : Store} {m : Spec} (r : Refines s m) (c : Cfg) (hi : c.index < 65536) :
    (∀ id, id < 4294967296 → Writer.containsItem c s id = (m c.index id).isSome) ∧
    (∀ id, id < 4294967296 → Writer.itemVector c s id = (m c.index id).map (view c)) ∧
    IdSet.Sorted ((Writer.iter c s).map (·.1)) ∧
    (∀ id v, id < 4294967296 → ((id, v) ∈ Writer.iter c s ↔ (m c.index id).map (view c) = some v)) ∧
    (∀ p ∈ Writer.iter c s, p.1 < 4294967296) ∧
    (Writer.isEmpty c s = true ↔ ∀ id, id < 4294967296 → m c.index id = none) := by
  have hit := C05_iter c s r.sorted r.wf (r.leaves c) hi
  have hbound : ∀ p ∈ Writer.iter c s, p.1 < 4294967296 := by
    intro p hp
    rw [iter_eq_map c s r.wf (r.leaves c) hi, List.mem_map] at hp
    obtain ⟨kv, hkv, rfl⟩ := hp
    exact (r.wf kv (List.mem_filter.1 hkv).1).2.2
  refine ⟨fun id hid => ?_, fun id hid => ?_, hit.1, fun id v hid => ?_, hbound, ?_⟩
  · rw [C05_contains c s (r.leaves c), r.abs c id hi hid]
  · rw [C05_vector, r.abs c id hi hid]; rfl
  · rw [hit.2 id v, C05_vector, r.abs c id hi hid]; rfl
  · rw [C05_isEmpty c s r.wf (r.leaves c) hi]
    constructor
    · intro h id hid; rw [← r.abs c id hi hid]; exact h id
    · intro h id
      by_cases hid : id < 4294967296
      · rw [r.abs c id hi hid]; exact h id hid
      · cases hg : Store.get s (c.itemKey id) with
        | none => exact absItems_of_get_none hg
        | some v => exact absurd (r.wf _ (Store.mem_of_get hg)).2.2 hid

/-- **refinement**: after any history of item operations (several indexes, rejected calls included) started
    from the empty database, the store refines the specification map obtained by folding the same
    operations; hence every read (`contains_item`, `item_vector`, `iter`, `is_empty`) is the one the
    specification gives. -/
theorem C05_refines (ops : List Op) (hops : ∀ op ∈ ops, op.wf) :
    Refines (run ops).1 (run ops).2 :=
  foldl_refines ops hops _ refines_empty

theorem C05_refines_reads (ops : List Op) (hops : ∀ op ∈ ops, op.wf) (c : Cfg) (hi : c.index < 65536) :
    (∀ id, id < 4294967296 → Writer.containsItem c (run ops).1 id = ((run ops).2 c.index id).isSome) ∧
    (∀ id, id < 4294967296 → Writer.itemVector c (run ops).1 id = ((run ops).2 c.index id).map (view c)) ∧
    IdSet.Sorted ((Writer.iter c (run ops).1).map (·.1)) ∧
    (∀ id v, id < 4294967296 →
      ((id, v) ∈ Writer.iter c (run ops).1 ↔ ((run ops).2 c.index id).map (view c) = some v)) ∧
    (∀ p ∈ Writer.iter c (run ops).1, p.1 < 4294967296) ∧
    (Writer.isEmpty c (run ops).1 = true ↔ ∀ id, id < 4294967296 → (run ops).2 c.index id = none) :=
  C05_reads (C05_refines ops hops) c hi

/-- the outcome of every call of a history (accepted? / was present?) is the one the specification predicts -/
theorem C05_refines_outcome (ops : List Op) (op : Op) (hops : ∀ o ∈ ops, o.wf) (hop : op.wf) :
    (specStep (run ops).2 op (step (run ops).1 op).2).2 = (step (run ops).1 op).2 :=
  (C05_step_refines (C05_refines ops hops) op hop).2

/-! ## non-vacuity -/

def c0 : Cfg := { index := 7, metric := .euclidean, dims := 2 }
def c1 : Cfg := { index := 9, metric := .bqCosine, dims := 3 }
def ops0 : List Op :=
  [.add c0 5 [1, 2], .add c1 4 [3, 4, 5], .add c0 1 [9, 9], .append c0 6 [7, 7], .del c0 5, .add c0 3 [1],
   .append c1 4294967295 [0, 0, 0], .del c1 8, .clear c1]

theorem ops0_wf : ∀ op ∈ ops0, op.wf := by
  intro op h
  simp only [ops0, List.mem_cons, List.not_mem_nil, or_false] at h
  rcases h with h | h | h | h | h | h | h | h | h <;> subst h <;> simp [Op.wf, c0, c1]

example : ∀ op ∈ ops0, op.wf := ops0_wf

/-- a non-trivial state satisfying all the hypotheses used above (`Sorted`, `WF`, `ItemsAreLeaves`) -/
example : Refines (run ops0).1 (run ops0).2 ∧ (run ops0).1 ≠ [] ∧ Writer.containsItem c0 (run ops0).1 1 = true :=
  ⟨C05_refines ops0 ops0_wf, by decide, by decide⟩

example : ∃ s', Writer.addItem c0 [] 5 [1, 2] = .ok s' ∧ c0.metric.isBq = false := ⟨_, rfl, rfl⟩
example : ∃ s', Writer.addItem c1 [] 5 [1, 2, 3] = .ok s' ∧ c1.metric.isBq = true := ⟨_, rfl, rfl⟩

end Arroy.C05
