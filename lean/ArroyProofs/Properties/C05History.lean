import ArroyProofs.Properties.Reachable
import ArroyProofs.Properties.C06History
import ArroyProofs.Properties.C18
/-! # C05 over histories — the item store as a function of what happened

`C05.lean` refines each item operation to a map update, `C05Build.lean` shows that a build changes no item
vector, `C18.lean` characterises the metric change. Here they are composed over the full history grammar
(`C01.Op`: add / append / del / clear / build / prepare, each with its own `Cfg`; `C01.run`):
`spec i ops` is the abstract item map of index `i` after the history `ops` — ascending ids, each with the
vector `item_vector` must return, as f32 bit patterns — computed by recursion over the history from the
operations that were EFFECTIVE on index `i` (`C06.effective`: an accepted `add` / `append`, a `del` of a
present id, a `clear`, a `prepare` towards another metric than the one of its `Cfg`, a successful build).

Side condition (`Typed i d m0 ops`, decidable, syntactic): the index is written at one dimension `d` and under
the metric it has at that point — `m0` until the first `prepare` of the index, afterwards the target of the
last `prepare` (`metricOf`). It constrains only the `Cfg`s of the `add`s / `append`s of the right length and of
the `prepare`s of index `i`; deletes, clears and builds of the index may carry any metric and dimension, and
the other indexes are unconstrained. The vectors are READ with the metric the index has at the end and the
dimension `d`. -/
namespace Arroy.C05
open Arroy Generated

/-! ## sorted association lists -/

/-- the abstract item map of one index: ascending ids, each with its vector as `item_vector` returns it -/
abbrev IMap := List (Nat × List Nat)

/-- `id ↦ v` (insert or overwrite), keeping the ids ascending -/
def mset (id : Nat) (v : List Nat) : IMap → IMap
  | [] => [(id, v)]
  | (j, w) :: r =>
    if id < j then (id, v) :: (j, w) :: r
    else if id = j then (id, v) :: r
    else (j, w) :: mset id v r

def mdel (id : Nat) (m : IMap) : IMap := m.filter (fun p => p.1 != id)

def mmap (f : List Nat → List Nat) (m : IMap) : IMap := m.map (fun p => (p.1, f p.2))

def Asc (m : IMap) : Prop := (m.map (·.1)).Pairwise (· < ·)

theorem lk_cons (id j : Nat) (w : List Nat) (r : IMap) :
    List.lookup id ((j, w) :: r) = if id = j then some w else List.lookup id r := by
  rw [List.lookup_cons]
  by_cases h : id = j
  · simp [h]
  · have : (id == j) = false := by simp [h]
    rw [this, if_neg h]

theorem lookup_mset (id id' : Nat) (v : List Nat) (m : IMap) :
    List.lookup id' (mset id v m) = if id' = id then some v else List.lookup id' m := by
  induction m with
  | nil => simp only [mset, lk_cons]
  | cons p r ih =>
    obtain ⟨j, w⟩ := p
    unfold mset
    split
    · simp only [lk_cons]
    · split
      · next h => subst h; simp only [lk_cons]; split <;> rfl
      · next h1 h2 =>
        simp only [lk_cons, ih]
        split
        · next h => rw [if_neg (fun e : id' = id => h2 (e.symm.trans h))]
        · rfl

theorem lookup_mdel (id id' : Nat) (m : IMap) :
    List.lookup id' (mdel id m) = if id' = id then none else List.lookup id' m := by
  induction m with
  | nil => simp [mdel]
  | cons p r ih =>
    obtain ⟨j, w⟩ := p
    unfold mdel at ih ⊢
    rw [List.filter_cons]
    split
    · next hj =>
      have hj : j ≠ id := by simpa using hj
      simp only [lk_cons, ih]
      split
      · next h => rw [if_neg (fun e => hj (h ▸ e))]
      · rfl
    · next hj =>
      have hj : j = id := by simpa using hj
      subst hj
      rw [ih, lk_cons]
      split <;> rfl

theorem lookup_mmap (f : List Nat → List Nat) (id : Nat) (m : IMap) :
    List.lookup id (mmap f m) = (List.lookup id m).map f := by
  induction m with
  | nil => rfl
  | cons p r ih =>
    obtain ⟨j, w⟩ := p
    unfold mmap at ih ⊢
    rw [List.map_cons, List.lookup_cons, List.lookup_cons, ih]
    cases id == j <;> rfl

theorem mem_map_fst_mset (id : Nat) (v : List Nat) (m : IMap) (x : Nat) :
    x ∈ (mset id v m).map (·.1) → x = id ∨ x ∈ m.map (·.1) := by
  induction m with
  | nil => intro h; simp [mset] at h; exact Or.inl h
  | cons p r ih =>
    obtain ⟨j, w⟩ := p
    unfold mset
    split
    · simp only [List.map_cons, List.mem_cons]; exact fun h => h
    · split
      · simp only [List.map_cons, List.mem_cons]
        exact Or.imp_right Or.inr
      · simp only [List.map_cons, List.mem_cons]
        rintro (h | h)
        · exact Or.inr (Or.inl h)
        · exact (ih h).imp_right Or.inr

theorem asc_nil : Asc [] := List.Pairwise.nil

theorem asc_mset (id : Nat) (v : List Nat) {m : IMap} (h : Asc m) : Asc (mset id v m) := by
  induction m with
  | nil => simp [mset, Asc]
  | cons p r ih =>
    obtain ⟨j, w⟩ := p
    unfold Asc at h ih ⊢
    rw [List.map_cons, List.pairwise_cons] at h
    unfold mset
    split
    · next h1 =>
      rw [List.map_cons, List.pairwise_cons]
      refine ⟨fun x hx => ?_, by rw [List.map_cons, List.pairwise_cons]; exact h⟩
      rw [List.map_cons, List.mem_cons] at hx
      rcases hx with hx | hx
      · rw [hx]; exact h1
      · exact Nat.lt_trans h1 (h.1 x hx)
    · split
      · next h2 =>
        rw [List.map_cons, List.pairwise_cons]
        subst h2
        exact h
      · next h1 h2 =>
        rw [List.map_cons, List.pairwise_cons]
        refine ⟨fun x hx => ?_, ih h.2⟩
        rcases mem_map_fst_mset id v r x hx with hx | hx
        · rw [hx]; show j < id; omega
        · exact h.1 x hx

theorem asc_mdel (id : Nat) {m : IMap} (h : Asc m) : Asc (mdel id m) := by
  unfold Asc mdel at *
  exact h.sublist (List.Sublist.map _ List.filter_sublist)

theorem asc_mmap (f : List Nat → List Nat) {m : IMap} (h : Asc m) : Asc (mmap f m) := by
  unfold Asc mmap; rw [List.map_map]; exact h

theorem mem_map_fst_iff_lookup (m : IMap) (id : Nat) :
    id ∈ m.map (·.1) ↔ (List.lookup id m).isSome = true := by
  induction m with
  | nil => simp
  | cons p r ih =>
    obtain ⟨j, w⟩ := p
    rw [List.map_cons, List.mem_cons, lk_cons, ih]
    by_cases h : id = j
    · simp [h]
    · rw [if_neg h]; simp [h]

theorem filterMap_congr' {α β} {f g : α → Option β} {l : List α} (h : ∀ x ∈ l, f x = g x) :
    l.filterMap f = l.filterMap g := by
  induction l with
  | nil => rfl
  | cons a r ih =>
    rw [List.filterMap_cons, List.filterMap_cons, h a (List.mem_cons_self ..),
      ih (fun x hx => h x (List.mem_cons_of_mem _ hx))]

/-- an ascending map is the list of its ids, each with its looked-up value -/
theorem asc_eq_filterMap {m : IMap} (h : Asc m) :
    m = (m.map (·.1)).filterMap (fun id => (List.lookup id m).map (fun v => (id, v))) := by
  induction m with
  | nil => rfl
  | cons p r ih =>
    obtain ⟨j, w⟩ := p
    unfold Asc at h ih
    rw [List.map_cons, List.pairwise_cons] at h
    rw [List.map_cons, List.filterMap_cons]
    have : List.lookup j ((j, w) :: r) = some w := by simp [List.lookup]
    rw [this]
    simp only [Option.map_some]
    congr 1
    conv => lhs; rw [ih h.2]
    apply filterMap_congr'
    intro x hx
    have hne : ¬ x = j := by
      have := h.1 x hx
      omega
    rw [lk_cons, if_neg hne]

/-! ## the specification: the item map of an index as a function of the history -/

/-- what `item_vector` returns of a vector `v` written under metric `m` at the declared dimension `d`:
    `v` itself for the f32 metrics, the `±1.0` sign pattern of `v` for the quantised ones
    (`readback_f32`, `readback_bq`) -/
def readback (m : Metric) (d : Nat) (v : List Nat) : List Nat := (m.toVec (m.fromSlice v)).take d

theorem readback_f32 (m : Metric) (hm : m.isBq = false) (v : List Nat) : readback m v.length v = v := by
  simp [readback, Metric.toVec, Metric.fromSlice, hm]

theorem readback_bq (m : Metric) (hm : m.isBq = true) (v : List Nat) : readback m v.length v = v.map sign := by
  simp only [readback, Metric.toVec, Metric.fromSlice, hm, if_true]
  exact C12.C12_roundtrip v

/-- the item map after an operation that is effective on the index -/
def specAfter (m : IMap) : C01.Op → IMap
  | .add c id v => mset id (readback c.metric c.dims v) m
  | .append c id v => mset id (readback c.metric c.dims v) m
  | .del _ id => mdel id m
  | .clear _ => []
  | .build _ _ _ _ => m
  | .prepare c m' => mmap (readback m' c.dims) m

/-- one step: only the operations that are effective on index `i` in store `s` (`C06.effective`: an accepted
    `add` / `append`, a `del` of a present id, a `clear`, a `prepare` towards another metric, a successful
    build — of index `i`) change the item map of index `i` -/
def specOp (i : Nat) (s : Store) (m : IMap) (op : C01.Op) : IMap :=
  if C06.effective i s op then specAfter m op else m

def specFrom (i : Nat) : Store → IMap → List C01.Op → IMap
  | _, m, [] => m
  | s, m, op :: ops => specFrom i (C01.step s op) (specOp i s m op) ops

/-- **the abstract item map of index `i` after the history `ops`** (from the empty store): ascending ids, each
    with the vector `item_vector` must return -/
def spec (i : Nat) (ops : List C01.Op) : IMap := specFrom i [] [] ops

theorem specFrom_append (i : Nat) (ops : List C01.Op) (op : C01.Op) : ∀ (s : Store) (m : IMap),
    specFrom i s m (ops ++ [op]) = specOp i (ops.foldl C01.step s) (specFrom i s m ops) op := by
  induction ops with
  | nil => intro s m; rfl
  | cons a ops ih => intro s m; exact ih _ _

theorem spec_snoc (i : Nat) (ops : List C01.Op) (op : C01.Op) :
    spec i (ops ++ [op]) = specOp i (C01.run ops) (spec i ops) op :=
  specFrom_append i ops op [] []

theorem spec_snoc_eff {i : Nat} {ops : List C01.Op} {op : C01.Op} (h : C06.effective i (C01.run ops) op = true) :
    spec i (ops ++ [op]) = specAfter (spec i ops) op := by
  rw [spec_snoc, specOp, if_pos h]

theorem spec_snoc_not {i : Nat} {ops : List C01.Op} {op : C01.Op} (h : C06.effective i (C01.run ops) op = false) :
    spec i (ops ++ [op]) = spec i ops := by
  rw [spec_snoc, specOp, if_neg (by simp [h])]

theorem spec_snoc_build (i : Nat) (ops : List C01.Op) (c : Cfg) (o : BuildOpts) (fuel : Nat) (env : BState) :
    spec i (ops ++ [.build c o fuel env]) = spec i ops := by
  cases h : C06.effective i (C01.run ops) (.build c o fuel env) with
  | true => exact spec_snoc_eff h
  | false => exact spec_snoc_not h

/-! ## the side condition: one dimension, and the metric the index has at that point -/

/-- the metric of index `i` after an operation: a `prepare` of the index sets it -/
def metricStep (i : Nat) (mt : Metric) : C01.Op → Metric
  | .prepare c m' => if c.index = i then m' else mt
  | _ => mt

/-- **the metric index `i` has after the history `ops`**, `m0` being the one it started with -/
def metricOf (i : Nat) (m0 : Metric) (ops : List C01.Op) : Metric := ops.foldl (metricStep i) m0

/-- the `Cfg` of a write of index `i` (an `add` / `append` of the right length, a `prepare`) carries the
    current metric `mt` of the index and the dimension `d`; nothing is asked of the other operations -/
def opTyped (i d : Nat) (mt : Metric) : C01.Op → Prop
  | .add c _ v => c.index = i → v.length = c.dims → c.metric = mt ∧ c.dims = d
  | .append c _ v => c.index = i → v.length = c.dims → c.metric = mt ∧ c.dims = d
  | .prepare c _ => c.index = i → c.metric = mt ∧ c.dims = d
  | _ => True

instance (i d : Nat) (mt : Metric) (op : C01.Op) : Decidable (opTyped i d mt op) := by
  cases op <;> unfold opTyped <;> infer_instance

/-- **the side condition of `C05_history`**: index `i` is written at dimension `d` and under the metric it
    currently has (`m0` at the start, then the target of its last `prepare`) -/
def Typed (i d : Nat) : Metric → List C01.Op → Prop
  | _, [] => True
  | mt, op :: ops => opTyped i d mt op ∧ Typed i d (metricStep i mt op) ops

instance decTyped (i d : Nat) : (mt : Metric) → (ops : List C01.Op) → Decidable (Typed i d mt ops)
  | _, [] => isTrue trivial
  | mt, op :: ops =>
    have := decTyped i d (metricStep i mt op) ops
    by unfold Typed; infer_instance

theorem typed_append (i d : Nat) (ops : List C01.Op) (op : C01.Op) : ∀ mt,
    Typed i d mt (ops ++ [op]) ↔ Typed i d mt ops ∧ opTyped i d (metricOf i mt ops) op := by
  induction ops with
  | nil => intro mt; simp [Typed, metricOf]
  | cons a ops ih =>
    intro mt
    simp only [List.cons_append, Typed, ih, metricOf, List.foldl_cons, and_assoc]

theorem metricOf_snoc (i : Nat) (m0 : Metric) (ops : List C01.Op) (op : C01.Op) :
    metricOf i m0 (ops ++ [op]) = metricStep i (metricOf i m0 ops) op := by
  simp [metricOf, List.foldl_append]

/-! ## the representation invariant and its preservation -/

/-- the `Cfg` the index is read with -/
def rcfg (i : Nat) (mt : Metric) (d : Nat) : Cfg := { index := i, metric := mt, dims := d }

/-- the store represents the item map: `item_vector` is the lookup, and the map is ascending -/
def Rep (K : Cfg) (s : Store) (m : IMap) : Prop :=
  (∀ id, Writer.itemVector K s id = List.lookup id m) ∧ Asc m

theorem itemVector_cfg (c : Cfg) (s : Store) (id : Nat) :
    Writer.itemVector c s id = Writer.itemVector (rcfg c.index c.metric c.dims) s id := rfl

theorem itemVector_congr_get {K : Cfg} {s s' : Store} {id : Nat}
    (h : Store.get s' (K.itemKey id) = Store.get s (K.itemKey id)) :
    Writer.itemVector K s' id = Writer.itemVector K s id := by
  unfold Writer.itemVector Writer.itemLeaf; rw [h]

theorem itemVector_of_sameUpToHeader {K : Cfg} {s s' : Store} {id : Nat}
    (h : SameUpToHeader (Store.get s (K.itemKey id)) (Store.get s' (K.itemKey id))) :
    Writer.itemVector K s' id = Writer.itemVector K s id := by
  unfold Writer.itemVector Writer.itemLeaf
  rcases h with e | ⟨h1, h2, v, e1, e2⟩
  · rw [e]
  · rw [e1, e2]; rfl

/-- a build — of any index, successful or not — changes no `item_vector` answer of any index, whatever the
    metric and the dimension it is read with -/
theorem itemVector_step_build (s : Store) (c : Cfg) (o : BuildOpts) (fuel : Nat) (env : BState)
    (hop : (C01.Op.build c o fuel env).wf) (hinv : ∀ c : Cfg, c.index < 65536 → IndexInv c s)
    (K : Cfg) (hK : K.index < 65536) (id : Nat) :
    Writer.itemVector K (C01.step s (.build c o fuel env)) id = Writer.itemVector K s id := by
  have hnext := C01.C01_inv_step freshSupply s (.build c o fuel env) hop hinv _ hK
  simp only [C01.step] at hnext ⊢
  cases h : Build.build c o fuel { env with store := s } with
  | error e => rfl
  | ok r =>
    obtain ⟨u, st'⟩ := r
    rw [h] at hnext
    by_cases hk : (K.itemKey id).wf
    · exact itemVector_of_sameUpToHeader
        (C05_build_item_keys c hop.1 o fuel { env with store := s } st' (hinv _ hK).sorted h _ hk rfl)
    · apply itemVector_congr_get
      rw [Store.get_none_of_not_wf hnext.wf hk, Store.get_none_of_not_wf (hinv _ hK).wf hk]

theorem rep_add {i d : Nat} {mt : Metric} {s s' : Store} {m : IMap} {c : Cfg} {id : Nat} {vec : List Nat}
    (hr : Rep (rcfg i mt d) s m) (hidx : c.index = i) (ht : c.metric = mt ∧ c.dims = d)
    (h : Writer.addItem c s id vec = .ok s') :
    Rep (rcfg i mt d) s' (mset id (readback c.metric c.dims vec) m) := by
  obtain ⟨hv, ha⟩ := hr
  refine ⟨fun id' => ?_, asc_mset _ _ ha⟩
  rw [lookup_mset, ← hv id', C05_vector, C05_vector, C05_add_all c (rcfg i mt d) s s' id vec h id']
  by_cases hid : id' = id
  · rw [if_pos ⟨hidx.symm, hid⟩, if_pos hid]
    obtain ⟨hm, hd⟩ := ht
    subst hm hd
    rfl
  · rw [if_neg (fun e => hid e.2), if_neg hid]

/-- an operation that is not effective on a typed index leaves its metric as it is: a metric change that is not
    effective goes to the metric the index has -/
theorem metricStep_not_effective {i d : Nat} {mt : Metric} {s : Store} {op : C01.Op} (hop : op.wf)
    (hinv : ∀ c : Cfg, c.index < 65536 → IndexInv c s) (ht : opTyped i d mt op)
    (he : C06.effective i s op = false) : metricStep i mt op = mt := by
  cases op with
  | prepare c m' =>
    show (if c.index = i then m' else mt) = mt
    split
    · next hidx =>
      have hna := ((C06.effective_false_iff i s _).1 he).resolve_left (not_not.2 hidx)
      rw [C06.accepted_prepare (hinv c hop) hop] at hna
      rw [← (ht hidx).1]
      simpa using hna
    · rfl
  | _ => rfl

theorem rep_step {i d : Nat} (hi : i < 65536) {mt : Metric} (s : Store) (op : C01.Op) (hop : op.wf)
    (hinv : ∀ c : Cfg, c.index < 65536 → IndexInv c s) {m : IMap}
    (hr : Rep (rcfg i mt d) s m) (ht : opTyped i d mt op) :
    Rep (rcfg i (metricStep i mt op) d) (C01.step s op) (specOp i s m op) := by
  have hKi : (rcfg i mt d).index < 65536 := hi
  unfold specOp
  cases he : C06.effective i s op with
  | false =>
    rw [if_neg (by simp)]
    have hk := C06.step_not_effective s op hop hinv (rcfg i mt d) he
    rw [metricStep_not_effective hop hinv ht he]
    exact ⟨fun id => (itemVector_congr_get (hk _ rfl)).trans (hr.1 id), hr.2⟩
  | true =>
    rw [if_pos rfl]
    obtain ⟨hidx, hacc⟩ := (C06.effective_iff i s op).1 he
    have hd := C06.accepted_step (hinv _ hKi).sorted hacc
    generalize C01.step s op = s' at hd
    cases hd with
    | add h => exact rep_add hr hidx (ht hidx (Writer.addItem_ok h).1) h
    | append h => exact rep_add hr hidx (ht hidx (Writer.addItem_ok h).1) h
    | @del c id h =>
      refine ⟨fun id' => ?_, asc_mdel _ hr.2⟩
      simp only [specAfter, metricStep]
      rw [lookup_mdel, ← hr.1 id', C05_vector, C05_vector, C05_del_all c (rcfg i mt d) s id id']
      by_cases hid : id' = id
      · rw [if_pos ⟨Eq.symm hidx, hid⟩, if_pos hid]; rfl
      · rw [if_neg (fun e => hid e.2), if_neg hid]
    | @clear c =>
      refine ⟨fun id' => ?_, asc_nil⟩
      simp only [specAfter, metricStep]
      rw [C05_vector, absItems_of_get_none (c := rcfg i mt d) (Writer.get_clear_same c s _ (Eq.symm hidx))]
      rfl
    | @build c o fuel env st' h =>
      have hs := itemVector_step_build s c o fuel env hop hinv _ hKi
      simp only [C01.step, h] at hs
      exact ⟨fun id => (hs id).trans (hr.1 id), hr.2⟩
    | @prepare c m' _ hne h =>
      have hidx : c.index = i := hidx
      obtain ⟨hm, hd⟩ := ht hidx
      have hinv' := hinv c hop
      obtain ⟨s'', h', _, hsome, hleaf, _⟩ :=
        C18.C18_change c m' s hne hinv'.wf hinv'.sorted hop hinv'.leaves
      rw [h] at h'
      cases h'
      simp only [specAfter, metricStep, if_pos hidx]
      refine ⟨fun id => ?_, asc_mmap _ hr.2⟩
      rw [lookup_mmap, ← hr.1 id]
      have hkey : ∀ mt', (rcfg i mt' d).itemKey id = c.itemKey id := fun mt' =>
        Cfg.itemKey_congr (c' := rcfg i mt' d) hidx.symm id
      unfold Writer.itemVector Writer.itemLeaf
      rw [hkey, hkey]
      cases hg : Store.get s (c.itemKey id) with
      | none =>
        have h1 : Store.get s' (c.itemKey id) = none := by simpa [hg] using hsome id
        rw [h1]
        rfl
      | some val =>
        obtain ⟨hd0, w, rfl⟩ := get_item_leaf hinv'.leaves hg
        rw [hleaf id hd0 w hg]
        subst hm hd
        rfl

theorem rep_empty (K : Cfg) : Rep K [] [] := ⟨fun _ => rfl, asc_nil⟩

/-! ## presence needs no side condition

Which ids are stored does not depend on the metrics and dimensions of the `Cfg`s: the ids of `spec` are the
stored ids after EVERY well-formed history. -/

theorem itemVector_isSome (c : Cfg) (s : Store) (hl : ItemsAreLeaves c s) (id : Nat) :
    (Writer.itemVector c s id).isSome = (Store.get s (c.itemKey id)).isSome := by
  rw [C05_vector, Option.isSome_map, absItems_isSome_iff hl]

def RepIds (K : Cfg) (s : Store) (m : IMap) : Prop :=
  (∀ id, Writer.containsItem K s id = (List.lookup id m).isSome) ∧ Asc m

theorem containsItem_congr_get {K : Cfg} {s s' : Store} {id : Nat}
    (h : Store.get s' (K.itemKey id) = Store.get s (K.itemKey id)) :
    Writer.containsItem K s' id = Writer.containsItem K s id := by
  unfold Writer.containsItem Store.contains; rw [h]

theorem repIds_add {K : Cfg} {s s' : Store} {m : IMap} {c : Cfg} {id : Nat} {vec : List Nat} (x : List Nat)
    (hr : RepIds K s m) (hidx : c.index = K.index) (h : Writer.addItem c s id vec = .ok s') :
    RepIds K s' (mset id x m) := by
  obtain ⟨hv, ha⟩ := hr
  refine ⟨fun id' => ?_, asc_mset _ _ ha⟩
  rw [lookup_mset]
  unfold Writer.containsItem Store.contains
  rw [Writer.get_addItem h, if_neg (Cfg.itemKey_ne_updatedKey c K id id')]
  by_cases hid : id' = id
  · rw [if_pos ((Cfg.itemKey_eq_iff c K id id').2 ⟨hidx.symm, hid⟩), if_pos hid]; rfl
  · rw [if_neg (fun e => hid ((Cfg.itemKey_eq_iff c K id id').1 e).2), if_neg hid]
    exact hv id'

theorem repIds_step {K : Cfg} (hi : K.index < 65536) (s : Store) (op : C01.Op) (hop : op.wf)
    (hinv : ∀ c : Cfg, c.index < 65536 → IndexInv c s) {m : IMap} (hr : RepIds K s m) :
    RepIds K (C01.step s op) (specOp K.index s m op) := by
  have hs : Store.Sorted s := (hinv _ hi).sorted
  have hw : Store.WF s := (hinv _ hi).wf
  unfold specOp
  cases he : C06.effective K.index s op with
  | false =>
    rw [if_neg (by simp)]
    have hk := C06.step_not_effective s op hop hinv K he
    exact ⟨fun id => (containsItem_congr_get (hk _ rfl)).trans (hr.1 id), hr.2⟩
  | true =>
    rw [if_pos rfl]
    obtain ⟨hidx, hacc⟩ := (C06.effective_iff K.index s op).1 he
    have hnext := C01.C01_inv_step freshSupply s op hop hinv _ hi
    have hd := C06.accepted_step hs hacc
    generalize C01.step s op = s' at hd hnext
    cases hd with
    | add h => exact repIds_add _ hr hidx h
    | append h => exact repIds_add _ hr hidx h
    | @del c id h =>
      refine ⟨fun id' => ?_, asc_mdel _ hr.2⟩
      simp only [specAfter]
      rw [lookup_mdel]
      unfold Writer.containsItem Store.contains
      rw [Writer.get_delItem, if_neg (fun h => Cfg.itemKey_ne_updatedKey c K id id' h.1)]
      by_cases hid : id' = id
      · rw [if_pos ((Cfg.itemKey_eq_iff c K id id').2 ⟨Eq.symm hidx, hid⟩), if_pos hid]; rfl
      · rw [if_neg (fun e => hid ((Cfg.itemKey_eq_iff c K id id').1 e).2), if_neg hid]
        exact hr.1 id'
    | @clear c =>
      refine ⟨fun id' => ?_, asc_nil⟩
      have hidx : c.index = K.index := hidx
      unfold Writer.containsItem Store.contains
      rw [Writer.get_clear_same c s _ hidx.symm]
      rfl
    | @build c o fuel env st' h =>
      refine ⟨fun id => ?_, hr.2⟩
      simp only [specAfter]
      rw [← hr.1 id]
      by_cases hk : (K.itemKey id).wf
      · unfold Writer.containsItem Store.contains
        exact (C05_build_item_keys c hop.1 o fuel { env with store := s } st' hs h _ hk rfl).isSome_eq.symm
      · apply containsItem_congr_get
        rw [Store.get_none_of_not_wf hnext.wf hk, Store.get_none_of_not_wf hw hk]
    | @prepare c m' _ hne h =>
      have hinv' := hinv c hop
      obtain ⟨s'', h', _, hsome, _⟩ :=
        C18.C18_change c m' s hne hinv'.wf hinv'.sorted hop hinv'.leaves
      rw [h] at h'
      cases h'
      refine ⟨fun id => ?_, asc_mmap _ hr.2⟩
      simp only [specAfter]
      rw [lookup_mmap, Option.isSome_map, ← hr.1 id]
      have hidx : c.index = K.index := hidx
      have hkey : K.itemKey id = c.itemKey id := Cfg.itemKey_congr hidx.symm id
      unfold Writer.containsItem Store.contains
      rw [hkey]; exact hsome id

theorem repIds_history (ops : List C01.Op) (hops : ∀ op ∈ ops, op.wf) (c : Cfg) (hi : c.index < 65536) :
    RepIds c (C01.run ops) (spec c.index ops) := by
  refine C01.history_induction (P := fun ops => RepIds c (C01.run ops) (spec c.index ops))
    ⟨fun _ => rfl, asc_nil⟩ ?_ ops hops
  intro ops op hops hop ih
  simp only [C01.run_snoc, spec_snoc]
  exact repIds_step hi _ op hop (C01.C01_invariant ops hops) ih

theorem presence_of_repIds {c : Cfg} {s : Store} {m : IMap} (hi : c.index < 65536) (hinv : IndexInv c s)
    (hr : RepIds c s m) :
    (∀ id, Writer.containsItem c s id = (List.lookup id m).isSome) ∧
    (∀ id, (Writer.itemVector c s id).isSome = (List.lookup id m).isSome) ∧
    (Writer.iter c s).map (·.1) = m.map (·.1) ∧
    Writer.isEmpty c s = m.isEmpty ∧
    (∀ id, (Writer.delItem c s id).2 = (List.lookup id m).isSome) ∧
    Store.keysOf s c.index modeItem = m.map (·.1) := by
  obtain ⟨hc, ha⟩ := hr
  have hs : Store.Sorted s := hinv.sorted
  have hw : Store.WF s := hinv.wf
  have hl : ItemsAreLeaves c s := hinv.leaves
  have hkeys : Store.keysOf s c.index modeItem = m.map (·.1) := by
    apply IdSet.sorted_ext (Store.keysOf_sorted hs hw _ _ hi (by decide))
      ((IdSet.sorted_iff_pairwise).2 ha)
    intro id
    rw [Store.mem_keysOf_iff hw _ _ _ hi (by decide), mem_map_fst_iff_lookup, ← hc id]
    rfl
  have hids : (Writer.iter c s).map (·.1) = m.map (·.1) := by rw [C05_iter_ids c s hw hl hi, hkeys]
  refine ⟨hc, fun id => ?_, hids, ?_, fun id => ?_, hkeys⟩
  · rw [itemVector_isSome c s hl, ← hc id]; rfl
  · unfold Writer.isEmpty
    have := congrArg List.isEmpty hids
    simpa using this
  · rw [Writer.delItem_snd, ← hc id]; rfl

/-! ## the reads, from the representation invariant -/

theorem reads_of_rep {c : Cfg} {s : Store} {m : IMap} (hi : c.index < 65536) (hinv : IndexInv c s)
    (hr : Rep c s m) :
    (∀ id, Writer.itemVector c s id = List.lookup id m) ∧
    (∀ id, Writer.containsItem c s id = (List.lookup id m).isSome) ∧
    Writer.iter c s = m ∧
    Writer.isEmpty c s = m.isEmpty ∧
    (∀ id, (Writer.delItem c s id).2 = (List.lookup id m).isSome) ∧
    Store.keysOf s c.index modeItem = m.map (·.1) := by
  obtain ⟨hv, ha⟩ := hr
  have hs : Store.Sorted s := hinv.sorted
  have hw : Store.WF s := hinv.wf
  have hl : ItemsAreLeaves c s := hinv.leaves
  have hc : ∀ id, Writer.containsItem c s id = (List.lookup id m).isSome := by
    intro id
    unfold Writer.containsItem Store.contains
    rw [← itemVector_isSome c s hl, hv]
  obtain ⟨_, _, _, _, hdel, hkeys⟩ := presence_of_repIds hi hinv ⟨hc, ha⟩
  have hiter : Writer.iter c s = m := by
    rw [C05_iter_list c s hs hw hl hi, hkeys]
    conv => rhs; rw [asc_eq_filterMap ha]
    apply filterMap_congr'
    intro id _
    rw [hv]
  refine ⟨hv, hc, hiter, ?_, hdel, hkeys⟩
  unfold Writer.isEmpty; rw [hiter]

/-! ## C05 over histories -/

/-- the representation invariant along a typed continuation `post` of any history `pre` after which it holds -/
theorem rep_typed {i d : Nat} (hi : i < 65536) {pre : List C01.Op} (hpre : ∀ op ∈ pre, op.wf) {m0 : Metric}
    (h0 : Rep (rcfg i m0 d) (C01.run pre) (spec i pre)) (post : List C01.Op) (hpost : ∀ op ∈ post, op.wf)
    (ht : Typed i d m0 post) :
    Rep (rcfg i (metricOf i m0 post) d) (C01.run (pre ++ post)) (spec i (pre ++ post)) := by
  revert ht
  refine C01.history_induction (P := fun post => Typed i d m0 post →
    Rep (rcfg i (metricOf i m0 post) d) (C01.run (pre ++ post)) (spec i (pre ++ post))) ?_ ?_ post hpost
  · intro _
    rw [List.append_nil]
    exact h0
  · intro post op hpost hop ih ht
    obtain ⟨ht, hto⟩ := (typed_append _ _ _ _ _).1 ht
    rw [← List.append_assoc, C01.run_snoc, spec_snoc, metricOf_snoc]
    exact rep_step hi _ op hop (C01.C01_invariant _ (List.forall_mem_append.2 ⟨hpre, hpost⟩)) (ih ht) hto

theorem rep_history (ops : List C01.Op) (hops : ∀ op ∈ ops, op.wf) (c : Cfg) (hi : c.index < 65536)
    (m0 : Metric) (ht : Typed c.index c.dims m0 ops) (hm : c.metric = metricOf c.index m0 ops) :
    Rep c (C01.run ops) (spec c.index ops) := by
  have h := rep_typed hi (pre := []) (fun _ h => nomatch h) (rep_empty _) ops hops ht
  rw [← hm] at h
  exact h

/-- **C05 over histories**: for every well-formed history `ops` (any mix of add / append / del / clear /
    build / prepare over any indexes, rejected calls and failed builds included) and every `c` with a `u16`
    index, provided index `c.index` was written at the dimension `c.dims` and under the metric it had at that
    point (`Typed`), and `c.metric` is the metric the index has now (`metricOf`):
    * `item_vector` returns what the specification map holds: the vector last written and not since deleted or
      cleared, as read back through every metric change since;
    * `contains_item` is presence in the map;
    * `iter` IS the map: every stored item once, in ascending id order, with that same vector;
    * `is_empty` says whether the map is empty;
    * `del_item` would report whether the id is in the map;
    * the stored item ids are the ids of the map. -/
theorem C05_history (ops : List C01.Op) (hops : ∀ op ∈ ops, op.wf) (c : Cfg) (hi : c.index < 65536)
    (m0 : Metric) (ht : Typed c.index c.dims m0 ops) (hm : c.metric = metricOf c.index m0 ops) :
    (∀ id, Writer.itemVector c (C01.run ops) id = List.lookup id (spec c.index ops)) ∧
    (∀ id, Writer.containsItem c (C01.run ops) id = (List.lookup id (spec c.index ops)).isSome) ∧
    Writer.iter c (C01.run ops) = spec c.index ops ∧
    Writer.isEmpty c (C01.run ops) = (spec c.index ops).isEmpty ∧
    (∀ id, (Writer.delItem c (C01.run ops) id).2 = (List.lookup id (spec c.index ops)).isSome) ∧
    Store.keysOf (C01.run ops) c.index modeItem = (spec c.index ops).map (·.1) ∧
    Asc (spec c.index ops) :=
  have hr := rep_history ops hops c hi m0 ht hm
  have h := reads_of_rep hi (C01.C01_invariant ops hops c hi) hr
  ⟨h.1, h.2.1, h.2.2.1, h.2.2.2.1, h.2.2.2.2.1, h.2.2.2.2.2, hr.2⟩

/-- **C05 over histories, presence — no side condition**: after EVERY well-formed history, whatever the
    metrics and dimensions of its `Cfg`s and of the reading `c`, an item is reported present iff it is in the
    specification map (added and not since deleted or cleared): `contains_item`, `item_vector` being `Some`,
    the ids `iter` yields (ascending, each once), `is_empty`, what `del_item` would report, the stored ids. -/
theorem C05_history_presence (ops : List C01.Op) (hops : ∀ op ∈ ops, op.wf) (c : Cfg) (hi : c.index < 65536) :
    (∀ id, Writer.containsItem c (C01.run ops) id = (List.lookup id (spec c.index ops)).isSome) ∧
    (∀ id, (Writer.itemVector c (C01.run ops) id).isSome = (List.lookup id (spec c.index ops)).isSome) ∧
    (Writer.iter c (C01.run ops)).map (·.1) = (spec c.index ops).map (·.1) ∧
    Writer.isEmpty c (C01.run ops) = (spec c.index ops).isEmpty ∧
    (∀ id, (Writer.delItem c (C01.run ops) id).2 = (List.lookup id (spec c.index ops)).isSome) ∧
    Store.keysOf (C01.run ops) c.index modeItem = (spec c.index ops).map (·.1) ∧
    Asc (spec c.index ops) :=
  have hr := repIds_history ops hops c hi
  have h := presence_of_repIds hi (C01.C01_invariant ops hops c hi) hr
  ⟨h.1, h.2.1, h.2.2.1, h.2.2.2.1, h.2.2.2.2.1, h.2.2.2.2.2, hr.2⟩

theorem keysOf_run (ops : List C01.Op) (hops : ∀ op ∈ ops, op.wf) (c : Cfg) (hi : c.index < 65536) :
    Store.keysOf (C01.run ops) c.index modeItem = (spec c.index ops).map (·.1) :=
  (C05_history_presence ops hops c hi).2.2.2.2.2.1

theorem asc_spec (ops : List C01.Op) (hops : ∀ op ∈ ops, op.wf) (c : Cfg) (hi : c.index < 65536) :
    Asc (spec c.index ops) :=
  (C05_history_presence ops hops c hi).2.2.2.2.2.2

theorem build_snoc (ops : List C01.Op) (c : Cfg) (o : BuildOpts) (fuel : Nat) (env : BState) :
    (∀ i, spec i (ops ++ [.build c o fuel env]) = spec i ops) ∧
    (∀ i m0, metricOf i m0 (ops ++ [.build c o fuel env]) = metricOf i m0 ops) ∧
    (∀ i d m0, Typed i d m0 ops → Typed i d m0 (ops ++ [.build c o fuel env])) :=
  ⟨fun i => spec_snoc_build i ops c o fuel env, fun i m0 => by rw [metricOf_snoc]; rfl,
    fun i d m0 ht => (typed_append _ _ _ _ _).2 ⟨ht, trivial⟩⟩

/-- **C05 over histories, reader side, presence — no side condition**: if the last operation of the history
    is a successful build under `c`, `Reader::open c` succeeds with the declared dimension and exactly the
    ids of the specification map, in ascending order -/
theorem C05_history_reader_ids (ops : List C01.Op) (hops : ∀ op ∈ ops, op.wf)
    (c : Cfg) (o : BuildOpts) (fuel : Nat) (env st' : BState) (hwf : (C01.Op.build c o fuel env).wf)
    (h : Build.build c o fuel { env with store := C01.run ops } = .ok ((), st')) :
    C01.run (ops ++ [.build c o fuel env]) = st'.store ∧
    spec c.index (ops ++ [.build c o fuel env]) = spec c.index ops ∧
    (∃ roots, Reader.open c st'.store = .ok ⟨roots, c.dims, (spec c.index ops).map (·.1)⟩) ∧
    (∀ id, Writer.containsItem c st'.store id = (List.lookup id (spec c.index ops)).isSome) ∧
    (Writer.iter c st'.store).map (·.1) = (spec c.index ops).map (·.1) ∧
    Writer.isEmpty c st'.store = (spec c.index ops).isEmpty := by
  have hrun : C01.run (ops ++ [.build c o fuel env]) = st'.store := C01.run_build h
  have hspec := spec_snoc_build c.index ops c o fuel env
  have hall := C05_history_presence _ (C01.forall_snoc hops hwf) c hwf.1
  rw [hrun, hspec] at hall
  obtain ⟨roots, hopen, _⟩ := C01.C01_reader_reachable ops hops c o fuel env st' hwf h
  rw [keysOf_run ops hops c hwf.1] at hopen
  exact ⟨hrun, hspec, ⟨roots, hopen⟩, hall.1, hall.2.2.1, hall.2.2.2.1⟩

/-- **C05 over histories, reader side**: if the last operation of the history is a successful build under
    `c` (typed as in `C05_history`), the build changed nothing of the specification map, `Reader::open`
    succeeds with the declared dimension and exactly the ids of the map, in ascending order, and the
    reader-side `item_vector` / `iter` / `contains_item` / `is_empty` (the same functions, on the state the
    build left) answer from the map. -/
theorem C05_history_reader (ops : List C01.Op) (hops : ∀ op ∈ ops, op.wf)
    (c : Cfg) (o : BuildOpts) (fuel : Nat) (env st' : BState) (hwf : (C01.Op.build c o fuel env).wf)
    (h : Build.build c o fuel { env with store := C01.run ops } = .ok ((), st'))
    (m0 : Metric) (ht : Typed c.index c.dims m0 ops) (hm : c.metric = metricOf c.index m0 ops) :
    C01.run (ops ++ [.build c o fuel env]) = st'.store ∧
    spec c.index (ops ++ [.build c o fuel env]) = spec c.index ops ∧
    (∃ roots, Reader.open c st'.store = .ok ⟨roots, c.dims, (spec c.index ops).map (·.1)⟩) ∧
    (∀ id, Writer.itemVector c st'.store id = List.lookup id (spec c.index ops)) ∧
    (∀ id, Writer.containsItem c st'.store id = (List.lookup id (spec c.index ops)).isSome) ∧
    Writer.iter c st'.store = spec c.index ops ∧
    Writer.isEmpty c st'.store = (spec c.index ops).isEmpty := by
  obtain ⟨hrun, hspec, hopen, _⟩ := C05_history_reader_ids ops hops c o fuel env st' hwf h
  obtain ⟨_, hmet, hty⟩ := build_snoc ops c o fuel env
  have hall := C05_history _ (C01.forall_snoc hops hwf) c hwf.1 m0 (hty _ _ _ ht) (by rw [hmet]; exact hm)
  rw [hrun, hspec] at hall
  exact ⟨hrun, hspec, hopen, hall.1, hall.2.1, hall.2.2.1, hall.2.2.2.1⟩


/-- every read of an index is determined by its `item_vector` answers -/
theorem reads_congr {c : Cfg} {s s' : Store} (hi : c.index < 65536) (hinv : IndexInv c s)
    (hinv' : IndexInv c s') (hv : ∀ id, Writer.itemVector c s' id = Writer.itemVector c s id) :
    (∀ id, Writer.containsItem c s' id = Writer.containsItem c s id) ∧
    Writer.iter c s' = Writer.iter c s ∧
    Writer.isEmpty c s' = Writer.isEmpty c s ∧
    (∀ id, (Writer.delItem c s' id).2 = (Writer.delItem c s id).2) ∧
    Store.keysOf s' c.index modeItem = Store.keysOf s c.index modeItem := by
  have hc : ∀ id, Writer.containsItem c s' id = Writer.containsItem c s id := by
    intro id
    unfold Writer.containsItem Store.contains
    rw [← itemVector_isSome c s' hinv'.leaves, ← itemVector_isSome c s hinv.leaves, hv]
  have hkeys : Store.keysOf s' c.index modeItem = Store.keysOf s c.index modeItem := by
    apply IdSet.sorted_ext (Store.keysOf_sorted hinv'.sorted hinv'.wf _ _ hi (by decide))
      (Store.keysOf_sorted hinv.sorted hinv.wf _ _ hi (by decide))
    intro id
    rw [Store.mem_keysOf_iff hinv'.wf _ _ _ hi (by decide), Store.mem_keysOf_iff hinv.wf _ _ _ hi (by decide)]
    exact Eq.congr (hc id) rfl
  have hiter : Writer.iter c s' = Writer.iter c s := by
    rw [C05_iter_list c s' hinv'.sorted hinv'.wf hinv'.leaves hi,
      C05_iter_list c s hinv.sorted hinv.wf hinv.leaves hi, hkeys]
    apply filterMap_congr'
    intro id _
    rw [hv]
  refine ⟨hc, hiter, ?_, fun id => ?_, hkeys⟩
  · unfold Writer.isEmpty; rw [hiter]
  · rw [Writer.delItem_snd, Writer.delItem_snd]; exact hc id

/-- **building never changes any of this**: appending ANY build (of any index, under any `Cfg`, options,
    oracle streams, fuel and cancellation schedule; successful or not) to a well-formed history changes
    neither the specification map of any index nor any read answer of any index — `item_vector`,
    `contains_item`, `iter`, `is_empty`, what `del_item` would report, the stored ids — whatever the metric and
    the dimension the index is read with. No side condition. -/
theorem C05_build_never_changes_spec (ops : List C01.Op) (hops : ∀ op ∈ ops, op.wf)
    (c' : Cfg) (o : BuildOpts) (fuel : Nat) (env : BState) (hwf : (C01.Op.build c' o fuel env).wf) :
    (∀ i, spec i (ops ++ [.build c' o fuel env]) = spec i ops) ∧
    ∀ c : Cfg, c.index < 65536 →
      (∀ id, Writer.itemVector c (C01.run (ops ++ [.build c' o fuel env])) id =
        Writer.itemVector c (C01.run ops) id) ∧
      (∀ id, Writer.containsItem c (C01.run (ops ++ [.build c' o fuel env])) id =
        Writer.containsItem c (C01.run ops) id) ∧
      Writer.iter c (C01.run (ops ++ [.build c' o fuel env])) = Writer.iter c (C01.run ops) ∧
      Writer.isEmpty c (C01.run (ops ++ [.build c' o fuel env])) = Writer.isEmpty c (C01.run ops) ∧
      (∀ id, (Writer.delItem c (C01.run (ops ++ [.build c' o fuel env])) id).2 =
        (Writer.delItem c (C01.run ops) id).2) ∧
      Store.keysOf (C01.run (ops ++ [.build c' o fuel env])) c.index modeItem =
        Store.keysOf (C01.run ops) c.index modeItem := by
  refine ⟨fun i => spec_snoc_build i ops c' o fuel env, fun c hi => ?_⟩
  have hinv := C01.C01_invariant ops hops
  have hv : ∀ id, Writer.itemVector c (C01.run (ops ++ [.build c' o fuel env])) id =
      Writer.itemVector c (C01.run ops) id := by
    intro id
    rw [C01.run_snoc]
    exact itemVector_step_build (C01.run ops) c' o fuel env hwf hinv c hi id
  have h := reads_congr hi (hinv c hi) (C01.C01_invariant _ (C01.forall_snoc hops hwf) c hi) hv
  exact ⟨hv, h⟩

theorem add_snoc (ops : List C01.Op) (c : Cfg) (id : Nat) (v : List Nat) (hv : v.length = c.dims)
    (m0 : Metric) (ht : Typed c.index c.dims m0 ops) (hm : c.metric = metricOf c.index m0 ops) :
    spec c.index (ops ++ [.add c id v]) = mset id (readback c.metric c.dims v) (spec c.index ops) ∧
    Typed c.index c.dims m0 (ops ++ [.add c id v]) ∧
    c.metric = metricOf c.index m0 (ops ++ [.add c id v]) := by
  refine ⟨spec_snoc_eff ?_, (typed_append _ _ _ _ _).2 ⟨ht, fun _ _ => ⟨hm, rfl⟩⟩, by rw [metricOf_snoc]; exact hm⟩
  simp [C06.effective, C06.accepted, C01.Op.cfg, Writer.addItem_of_len _ id hv, C06.okB]

/-- **the last write wins**: after any well-formed typed history — whatever it did to `id` before — an `add`
    of `id` of the declared dimension makes `item_vector id` return exactly the read-back of THAT vector:
    the vector itself, bit for bit, under an f32 metric; its `±1.0` sign pattern at the declared dimension
    under a quantised one. The other ids read as before; and a second `add` of the same id overrides the first. -/
theorem C05_overwrite_last_wins (ops : List C01.Op) (hops : ∀ op ∈ ops, op.wf) (c : Cfg) (hi : c.index < 65536)
    (id : Nat) (hid : id < 4294967296) (v : List Nat) (hv : v.length = c.dims)
    (m0 : Metric) (ht : Typed c.index c.dims m0 ops) (hm : c.metric = metricOf c.index m0 ops) :
    spec c.index (ops ++ [.add c id v]) = mset id (readback c.metric c.dims v) (spec c.index ops) ∧
    Writer.itemVector c (C01.run (ops ++ [.add c id v])) id = some (readback c.metric c.dims v) ∧
    (c.metric.isBq = false → Writer.itemVector c (C01.run (ops ++ [.add c id v])) id = some v) ∧
    (c.metric.isBq = true → Writer.itemVector c (C01.run (ops ++ [.add c id v])) id = some (v.map sign)) ∧
    (∀ id', id' ≠ id → Writer.itemVector c (C01.run (ops ++ [.add c id v])) id' =
      Writer.itemVector c (C01.run ops) id') ∧
    (∀ v' : List Nat, v'.length = c.dims →
      Writer.itemVector c (C01.run (ops ++ [.add c id v] ++ [.add c id v'])) id =
        some (readback c.metric c.dims v')) := by
  have key : ∀ (ops : List C01.Op), (∀ op ∈ ops, op.wf) → Typed c.index c.dims m0 ops →
      c.metric = metricOf c.index m0 ops → ∀ v : List Nat, v.length = c.dims → ∀ id',
      Writer.itemVector c (C01.run (ops ++ [.add c id v])) id' =
        if id' = id then some (readback c.metric c.dims v) else Writer.itemVector c (C01.run ops) id' := by
    intro ops hops ht hm v hv id'
    obtain ⟨hs, ht', hm'⟩ := add_snoc ops c id v hv m0 ht hm
    rw [(C05_history _ (C01.forall_snoc hops (show (C01.Op.add c id v).wf from ⟨hi, hid⟩)) c hi m0 ht' hm').1 id', hs, lookup_mset,
      (C05_history ops hops c hi m0 ht hm).1 id']
  obtain ⟨hs, ht', hm'⟩ := add_snoc ops c id v hv m0 ht hm
  have h1 := key ops hops ht hm v hv id
  rw [if_pos rfl] at h1
  refine ⟨hs, h1, fun hb => ?_, fun hb => ?_, fun id' hne => ?_, fun v' hv' => ?_⟩
  · rw [h1, ← hv, readback_f32 _ hb]
  · rw [h1, ← hv, readback_bq _ hb]
  · rw [key ops hops ht hm v hv id', if_neg hne]
  · rw [key _ (C01.forall_snoc hops (show (C01.Op.add c id v).wf from ⟨hi, hid⟩)) ht' hm' v' hv' id, if_pos rfl]

theorem mdel_absent {id : Nat} {m : IMap} (h : List.lookup id m = none) : mdel id m = m := by
  unfold mdel
  rw [List.filter_eq_self]
  intro p hp
  have : ¬ p.1 ∈ m.map (·.1) ∨ p.1 ≠ id := by
    by_cases e : p.1 = id
    · left
      rw [mem_map_fst_iff_lookup, e, h]; simp
    · exact Or.inr e
  rcases this with h' | h'
  · exact absurd (List.mem_map.2 ⟨p, hp, rfl⟩) h'
  · simp [h']

theorem spec_snoc_del (ops : List C01.Op) (hops : ∀ op ∈ ops, op.wf) (c : Cfg) (hi : c.index < 65536) (id : Nat) :
    spec c.index (ops ++ [.del c id]) = mdel id (spec c.index ops) := by
  cases he : C06.effective c.index (C01.run ops) (.del c id) with
  | true => exact spec_snoc_eff he
  | false =>
    have h : (Writer.delItem c (C01.run ops) id).2 = false := by
      simpa [C06.effective, C06.accepted, C01.Op.cfg] using he
    rw [(C05_history_presence ops hops c hi).2.2.2.2.1 id] at h
    rw [spec_snoc_not he, mdel_absent (by simpa using h)]

/-- **deletion reports whether the item existed** — no side condition: after every well-formed history,
    `del_item c id` answers `true` iff `id` is in the specification map of the index (added and not since
    deleted or cleared); afterwards the map is the old one without `id` (the other ids keep their vectors),
    `contains_item id` is false and a second `del_item` of the same id answers `false`. -/
theorem C05_delete_reports_presence (ops : List C01.Op) (hops : ∀ op ∈ ops, op.wf) (c : Cfg)
    (hi : c.index < 65536) (id : Nat) (hid : id < 4294967296) :
    (Writer.delItem c (C01.run ops) id).2 = (List.lookup id (spec c.index ops)).isSome ∧
    ((Writer.delItem c (C01.run ops) id).2 = true ↔ id ∈ (spec c.index ops).map (·.1)) ∧
    spec c.index (ops ++ [.del c id]) = mdel id (spec c.index ops) ∧
    Writer.containsItem c (C01.run (ops ++ [.del c id])) id = false ∧
    (Writer.delItem c (C01.run (ops ++ [.del c id])) id).2 = false := by
  have h0 := (C05_history_presence ops hops c hi).2.2.2.2.1 id
  have hs := spec_snoc_del ops hops c hi id
  have h1 := C05_history_presence _ (C01.forall_snoc hops (show (C01.Op.del c id).wf from ⟨hi, hid⟩)) c hi
  refine ⟨h0, ?_, hs, ?_, ?_⟩
  · rw [h0, mem_map_fst_iff_lookup]
  · rw [h1.1 id, hs, lookup_mdel, if_pos rfl]; rfl
  · rw [h1.2.2.2.2.1 id, hs, lookup_mdel, if_pos rfl]; rfl

/-- **the last write wins, through `append_item`**: when LMDB accepts the append (C19: the key is greater than
    every key of the database), it is the same update as `add_item` -/
theorem C05_overwrite_last_wins_append (ops : List C01.Op) (hops : ∀ op ∈ ops, op.wf) (c : Cfg)
    (hi : c.index < 65536) (id : Nat) (hid : id < 4294967296) (v : List Nat)
    (hacc : C06.accepted (C01.run ops) (.append c id v) = true)
    (m0 : Metric) (ht : Typed c.index c.dims m0 ops) (hm : c.metric = metricOf c.index m0 ops) :
    v.length = c.dims ∧
    spec c.index (ops ++ [.append c id v]) = mset id (readback c.metric c.dims v) (spec c.index ops) ∧
    Writer.itemVector c (C01.run (ops ++ [.append c id v])) id = some (readback c.metric c.dims v) ∧
    (c.metric.isBq = false → Writer.itemVector c (C01.run (ops ++ [.append c id v])) id = some v) ∧
    (c.metric.isBq = true → Writer.itemVector c (C01.run (ops ++ [.append c id v])) id = some (v.map sign)) ∧
    (∀ id', id' ≠ id → Writer.itemVector c (C01.run (ops ++ [.append c id v])) id' =
      Writer.itemVector c (C01.run ops) id') := by
  have hv : v.length = c.dims := by
    cases h : Writer.appendItem c (C01.run ops) id v with
    | error e => simp [C06.accepted, h, C06.okB] at hacc
    | ok s' =>
      exact (Writer.addItem_ok (Writer.appendItem_ok_eq_addItem (C01.C01_invariant ops hops c hi).sorted h)).1
  have hrun : C01.run (ops ++ [.append c id v]) = C01.run (ops ++ [.add c id v]) := by
    rw [C01.run_snoc, C01.run_snoc, C06.step_append_of_accepted (C01.C01_invariant ops hops c hi).sorted hacc]
  obtain ⟨_, h1, h2, h3, h4, _⟩ := C05_overwrite_last_wins ops hops c hi id hid v hv m0 ht hm
  rw [hrun]
  exact ⟨hv, spec_snoc_eff (by simp [C06.effective, C01.Op.cfg, hacc]), h1, h2, h3, h4⟩

/-! ## the equations of the specification, seen from the end of the history -/

/-- **what each operation does to the specification map** (the recursion of `spec`, operation by operation):
    an operation of another index, and an operation the model does not accept (a rejected `add` / `append`, a
    `del` of an absent id, a failed build, a `prepare` to the metric of its `Cfg`), change the map of no index
    concerned; an `add` of the declared length sets `id ↦ readback`, of another length nothing; an accepted
    `append` likewise; a `del` removes the id; a `clear` empties the map; a build changes nothing; a `prepare`
    towards another metric maps every vector through the read-back of the new metric. -/
theorem C05_spec_equations (ops : List C01.Op) (hops : ∀ op ∈ ops, op.wf) :
    (∀ op i, op.cfg.index ≠ i → spec i (ops ++ [op]) = spec i ops) ∧
    (∀ op, C06.accepted (C01.run ops) op = false → ∀ i, spec i (ops ++ [op]) = spec i ops) ∧
    (∀ c id v, spec c.index (ops ++ [.add c id v]) =
      if v.length = c.dims then mset id (readback c.metric c.dims v) (spec c.index ops) else spec c.index ops) ∧
    (∀ c id v, spec c.index (ops ++ [.append c id v]) =
      if C06.accepted (C01.run ops) (.append c id v) = true then mset id (readback c.metric c.dims v) (spec c.index ops)
      else spec c.index ops) ∧
    (∀ c id, c.index < 65536 → spec c.index (ops ++ [.del c id]) = mdel id (spec c.index ops)) ∧
    (∀ c, spec c.index (ops ++ [.clear c]) = []) ∧
    (∀ c o fuel env i, spec i (ops ++ [.build c o fuel env]) = spec i ops) ∧
    (∀ c m', c.index < 65536 → spec c.index (ops ++ [.prepare c m']) =
      if m' = c.metric then spec c.index ops else mmap (readback m' c.dims) (spec c.index ops)) := by
  refine ⟨fun op i hne => spec_snoc_not ((C06.effective_false_iff i _ op).2 (Or.inl hne)),
    fun op hna i => spec_snoc_not ((C06.effective_false_iff i _ op).2 (Or.inr hna)), fun c id v => ?_, fun c id v => ?_,
    fun c id hi => spec_snoc_del ops hops c hi id, fun c => ?_, fun c o fuel env i => spec_snoc_build i ops c o fuel env,
    fun c m' hi => ?_⟩
  · by_cases hv : v.length = c.dims
    · rw [if_pos hv]
      exact spec_snoc_eff (by simp [C06.effective, C06.accepted, C01.Op.cfg, Writer.addItem_of_len _ id hv, C06.okB])
    · rw [if_neg hv]
      exact spec_snoc_not (by simp [C06.effective, C06.accepted, C01.Op.cfg, Writer.addItem_err _ id hv, C06.okB])
  · by_cases ha : C06.accepted (C01.run ops) (.append c id v) = true
    · rw [if_pos ha]
      exact spec_snoc_eff (by simp [C06.effective, C01.Op.cfg, ha])
    · rw [if_neg ha]
      exact spec_snoc_not (by simp [C06.effective, C01.Op.cfg, ha])
  · exact spec_snoc_eff (by simp [C06.effective, C06.accepted, C01.Op.cfg])
  · have hacc := C06.C06_prepare_accepted ops hops c hi m'
    by_cases hm : m' = c.metric
    · rw [if_pos hm]
      exact spec_snoc_not ((C06.effective_false_iff _ _ _).2 (Or.inr (by rw [hacc]; simp [hm])))
    · rw [if_neg hm]
      exact spec_snoc_eff (by simp [C06.effective, C01.Op.cfg, hacc, hm])

/-! ## a `clear` resets the side condition

After a `clear` the index is empty, so it may be written again under any metric and dimension: the side
condition of `C05_history` is only needed for the part of the history after the last `clear` of the index. -/

/-- **C05 over histories, after a clear**: as `C05_history`, the side condition being asked only of the
    operations `post` that follow a `clear` of the index (`pre`, the operations before it, are arbitrary:
    any metrics, any dimensions) -/
theorem C05_history_after_clear (pre post : List C01.Op) (c0 : Cfg) (hpre : ∀ op ∈ pre, op.wf)
    (hc0 : c0.index < 65536) (hpost : ∀ op ∈ post, op.wf) (c : Cfg) (hi : c.index < 65536)
    (he : c0.index = c.index) (m0 : Metric) (ht : Typed c.index c.dims m0 post)
    (hm : c.metric = metricOf c.index m0 post) :
    (∀ id, Writer.itemVector c (C01.run (pre ++ C01.Op.clear c0 :: post)) id =
      List.lookup id (spec c.index (pre ++ C01.Op.clear c0 :: post))) ∧
    (∀ id, Writer.containsItem c (C01.run (pre ++ C01.Op.clear c0 :: post)) id =
      (List.lookup id (spec c.index (pre ++ C01.Op.clear c0 :: post))).isSome) ∧
    Writer.iter c (C01.run (pre ++ C01.Op.clear c0 :: post)) = spec c.index (pre ++ C01.Op.clear c0 :: post) ∧
    Writer.isEmpty c (C01.run (pre ++ C01.Op.clear c0 :: post)) =
      (spec c.index (pre ++ C01.Op.clear c0 :: post)).isEmpty ∧
    (∀ id, (Writer.delItem c (C01.run (pre ++ C01.Op.clear c0 :: post)) id).2 =
      (List.lookup id (spec c.index (pre ++ C01.Op.clear c0 :: post))).isSome) ∧
    Asc (spec c.index (pre ++ C01.Op.clear c0 :: post)) := by
  have hwf1 : ∀ op ∈ pre ++ [C01.Op.clear c0], op.wf := C01.forall_snoc hpre hc0
  have hsplit : pre ++ C01.Op.clear c0 :: post = (pre ++ [C01.Op.clear c0]) ++ post := by simp
  rw [hsplit]
  have hrep0 : Rep (rcfg c.index m0 c.dims) (C01.run (pre ++ [C01.Op.clear c0])) (spec c.index (pre ++ [C01.Op.clear c0])) := by
    have heff : C06.effective c.index (C01.run pre) (.clear c0) = true := by
      simp [C06.effective, C06.accepted, C01.Op.cfg, he]
    rw [C01.run_snoc, spec_snoc_eff heff]
    refine ⟨fun id => ?_, asc_nil⟩
    simp only [C01.step]
    rw [C05_vector, absItems_of_get_none (c := rcfg c.index m0 c.dims) (Writer.get_clear_same c0 _ _ he.symm)]
    rfl
  have hr := rep_typed hi hwf1 hrep0 post hpost ht
  rw [← hm] at hr
  have hreads := reads_of_rep (c := c) hi (C01.C01_invariant _ (List.forall_mem_append.2 ⟨hwf1, hpost⟩) c hi) hr
  exact ⟨hreads.1, hreads.2.1, hreads.2.2.1, hreads.2.2.2.1, hreads.2.2.2.2.1, hr.2⟩

/-! ## in the writing transaction and after commit

The environment model (`ArroyModel/Env.lean`, `Reachable.lean`): a schedule of committed, aborted and crashed
write transactions, readers and crashes. The committed version is `C01.run` of the committed operations
(aborted and crashed transactions leave no trace); inside a further write transaction that has executed the
operations `tx`, the writer's private store is `C01.run (committed operations ++ tx)`. So `C05_history` and
`C05_history_presence` speak about both. -/

theorem tx_writer (sched : List C08.Item) (hwf : ∀ it ∈ sched, ∀ op ∈ it.ops, op.wf) (tx : List C01.Op) :
    ((({} : Env).run (C08.events sched)).run (.beginW :: tx.map C08.wr)).writer =
      some (C01.run (C08.committedOps sched ++ tx)) := by
  obtain ⟨hw, hc, _⟩ := C08.C08_versions_reachable sched hwf
  generalize ({} : Env).run (C08.events sched) = e at hw hc
  have hb : (e.step .beginW).writer = some e.committed := by simp [Env.step, hw]
  have h := C08.run_writes tx (e.step .beginW) e.committed hb
  have : e.run (.beginW :: tx.map C08.wr) = (e.step .beginW).run (tx.map C08.wr) := by
    simp only [Env.run, List.foldl_cons]
  rw [this, h, hc, C01.run_append]

/-- **C05 in the writing transaction and after commit**: whatever the schedule of committed / aborted / crashed
    transactions, readers and crashes so far, (i) the committed version answers every read of index `c.index`
    from `spec c.index (committed operations)`; (ii) inside a new write transaction that has executed `tx`, the
    writer reads from `spec c.index (committed operations ++ tx)` — its own uncommitted writes included.
    Side condition as in `C05_history`, on the respective history. -/
theorem C05_history_transactions (sched : List C08.Item) (hwf : ∀ it ∈ sched, ∀ op ∈ it.ops, op.wf)
    (tx : List C01.Op) (htx : ∀ op ∈ tx, op.wf) (c : Cfg) (hi : c.index < 65536) (m0 : Metric) :
    (Typed c.index c.dims m0 (C08.committedOps sched) → c.metric = metricOf c.index m0 (C08.committedOps sched) →
      (∀ id, Writer.itemVector c (({} : Env).run (C08.events sched)).committed id =
        List.lookup id (spec c.index (C08.committedOps sched))) ∧
      Writer.iter c (({} : Env).run (C08.events sched)).committed = spec c.index (C08.committedOps sched)) ∧
    (Typed c.index c.dims m0 (C08.committedOps sched ++ tx) →
      c.metric = metricOf c.index m0 (C08.committedOps sched ++ tx) →
      ∃ s, ((({} : Env).run (C08.events sched)).run (.beginW :: tx.map C08.wr)).writer = some s ∧
        (∀ id, Writer.itemVector c s id = List.lookup id (spec c.index (C08.committedOps sched ++ tx))) ∧
        (∀ id, Writer.containsItem c s id = (List.lookup id (spec c.index (C08.committedOps sched ++ tx))).isSome) ∧
        Writer.iter c s = spec c.index (C08.committedOps sched ++ tx) ∧
        Writer.isEmpty c s = (spec c.index (C08.committedOps sched ++ tx)).isEmpty ∧
        (∀ id, (Writer.delItem c s id).2 = (List.lookup id (spec c.index (C08.committedOps sched ++ tx))).isSome)) := by
  obtain ⟨_, hc, hcw, _⟩ := C08.C08_versions_reachable sched hwf
  constructor
  · intro ht hm
    rw [hc]
    have h := C05_history _ hcw c hi m0 ht hm
    exact ⟨h.1, h.2.2.1⟩
  · intro ht hm
    have h := C05_history _ (List.forall_mem_append.2 ⟨hcw, htx⟩) c hi m0 ht hm
    exact ⟨_, tx_writer sched hwf tx, h.1, h.2.1, h.2.2.1, h.2.2.2.1, h.2.2.2.2.1⟩

/-! ## non-vacuity: a concrete history over two indexes

Index 0 (`C01.Ex.cEx`: Euclidean, dimension 2): two items added, item 3 OVERWRITTEN, item 1 DELETED, an absent
id deleted, an `add` rejected for its length; index 1 written and CLEARED in between; a BUILD; the metric of
index 0 changed to binary-quantised Euclidean (f32 → quantised), an item added under it, the metric changed BACK
(quantised → f32), a second build. Every map below is computed by the kernel from the definitions
(`decide +kernel`): the builds and the re-encodings really run. -/
namespace Ex
open C01.Ex

def cBq : Cfg := { cEx with metric := .bqEuclidean }
def c1 : Cfg := { index := 1, metric := .cosine, dims := 3 }
def e0 : BState := { store := [] }

def hAdds : List C01.Op := [.add cEx 3 [f2, fm1], .add cEx 1 [f1, f1], .add c1 7 [f1, f2, f3]]
/-- … item 3 overwritten -/
def hOver : List C01.Op := hAdds ++ [.add cEx 3 [fm2, f3]]
/-- … item 1 deleted, an absent id deleted, an `add` of the wrong length -/
def hDel : List C01.Op := hOver ++ [.del cEx 1, .del cEx 9, .add cEx 5 [f1]]
/-- … index 1 cleared -/
def hClear : List C01.Op := hDel ++ [.clear c1]
/-- … index 0 built -/
def hBuilt : List C01.Op := hClear ++ [.build cEx oLeaf 0 e0]
/-- … its metric changed to the quantised one -/
def hBq : List C01.Op := hBuilt ++ [.prepare cEx .bqEuclidean]
/-- … an item added under the quantised metric: (-1.0, 2.5) is kept as (-1.0, 1.0) -/
def hBqAdd : List C01.Op := hBq ++ [.add cBq 4 [fm1, f25]]
/-- … the metric changed back -/
def hBack : List C01.Op := hBqAdd ++ [.prepare cBq .euclidean]
/-- … and a second build -/
def hist : List C01.Op := hBack ++ [.build cEx oLeaf 0 e0]

theorem hist_wf : ∀ op ∈ hist, op.wf := by decide
theorem hBack_wf : ∀ op ∈ hBack, op.wf := fun op h => hist_wf op (by
  simp only [hist, List.mem_append] at h ⊢; exact Or.inl h)
theorem hOver_wf : ∀ op ∈ hOver, op.wf := by decide

/-- the side condition holds: index 0 is written at dimension 2 under the metric it has at that point -/
theorem hist_typed : Typed 0 2 .euclidean hist ∧ metricOf 0 .euclidean hist = .euclidean ∧
    Typed 0 2 .euclidean hBqAdd ∧ metricOf 0 .euclidean hBqAdd = .bqEuclidean ∧
    Typed 1 3 .cosine hist ∧ metricOf 1 .cosine hist = .cosine := by decide +kernel

/-- … and it is a real condition: reading index 0 as quantised from the start is not typed -/
example : ¬ Typed 0 2 .bqEuclidean hist := by decide +kernel

/-- the specification maps along the history (`f1` = 1.0, `fm1` = -1.0, `f2` = 2.0, `fm2` = -2.0, `f3` = 3.0):
    the overwrite wins; the delete removes item 1, the absent delete and the rejected add change nothing; the
    clear empties index 1 only; the build changes nothing; the change to the quantised metric keeps the sign
    pattern (-2.0, 3.0) ↦ (-1.0, 1.0); the change back keeps the ±1.0 values; the last build changes nothing -/
theorem specs :
    spec 0 hAdds = [(1, [f1, f1]), (3, [f2, fm1])] ∧ spec 1 hAdds = [(7, [f1, f2, f3])] ∧
    spec 0 hOver = [(1, [f1, f1]), (3, [fm2, f3])] ∧
    spec 0 hDel = [(3, [fm2, f3])] ∧ spec 1 hDel = [(7, [f1, f2, f3])] ∧
    spec 0 hClear = [(3, [fm2, f3])] ∧ spec 1 hClear = [] ∧
    spec 0 hBuilt = [(3, [fm2, f3])] ∧
    spec 0 hBq = [(3, [fm1, f1])] ∧
    spec 0 hBqAdd = [(3, [fm1, f1]), (4, [fm1, f1])] ∧
    spec 0 hBack = [(3, [fm1, f1]), (4, [fm1, f1])] ∧
    spec 0 hist = [(3, [fm1, f1]), (4, [fm1, f1])] ∧ spec 1 hist = [] := by decide +kernel

/-- which operations were effective on index 0 -/
example :
    C06.effective 0 (C01.run hOver) (.del cEx 1) = true ∧ C06.effective 0 (C01.run hOver) (.del cEx 9) = false ∧
    C06.effective 0 (C01.run hOver) (.add cEx 5 [f1]) = false ∧ C06.effective 0 (C01.run hDel) (.clear c1) = false ∧
    C06.effective 1 (C01.run hDel) (.clear c1) = true ∧
    C06.effective 0 (C01.run hClear) (.build cEx oLeaf 0 e0) = true ∧
    C06.effective 0 (C01.run hBuilt) (.prepare cEx .bqEuclidean) = true ∧
    C06.effective 0 (C01.run hBqAdd) (.prepare cBq .euclidean) = true := by decide +kernel

theorem last_build_ok : C06.okB (Build.build cEx oLeaf 0 { e0 with store := C01.run hBack }) = true := by
  decide +kernel

attribute [local irreducible] C01.run spec

/-- `C05_history` on the whole history, read as Euclidean at dimension 2 -/
example :
    Writer.iter cEx (C01.run hist) = [(3, [fm1, f1]), (4, [fm1, f1])] ∧
    Writer.itemVector cEx (C01.run hist) 3 = some [fm1, f1] ∧ Writer.itemVector cEx (C01.run hist) 1 = none ∧
    Writer.containsItem cEx (C01.run hist) 4 = true ∧ Writer.isEmpty cEx (C01.run hist) = false ∧
    (Writer.delItem cEx (C01.run hist) 1).2 = false ∧ (Writer.delItem cEx (C01.run hist) 3).2 = true := by
  have h := C05_history hist hist_wf cEx (by decide) .euclidean hist_typed.1 hist_typed.2.1.symm
  have hs : spec cEx.index hist = [(3, [fm1, f1]), (4, [fm1, f1])] := specs.2.2.2.2.2.2.2.2.2.2.2.1
  rw [hs] at h
  exact ⟨h.2.2.1, h.1 3, h.1 1, h.2.1 4, h.2.2.2.1, h.2.2.2.2.1 1, h.2.2.2.2.1 3⟩

/-- … in the middle of it, read as quantised: the sign patterns -/
example : Writer.iter cBq (C01.run hBqAdd) = [(3, [fm1, f1]), (4, [fm1, f1])] := by
  have h := C05_history hBqAdd (fun op hop => hist_wf op (by
    simp only [hist, hBack, List.mem_append] at hop ⊢; exact Or.inl (Or.inl hop))) cBq (by decide) .euclidean
    hist_typed.2.2.1 hist_typed.2.2.2.1.symm
  rw [show spec cBq.index hBqAdd = _ from specs.2.2.2.2.2.2.2.2.2.1] at h
  exact h.2.2.1

/-- … and the other index, after its clear: empty (`C05_history_presence` has no side condition) -/
example : Writer.isEmpty c1 (C01.run hist) = true ∧ Writer.containsItem c1 (C01.run hist) 7 = false := by
  have h := C05_history_presence hist hist_wf c1 (by decide)
  rw [show spec c1.index hist = [] from specs.2.2.2.2.2.2.2.2.2.2.2.2] at h
  exact ⟨h.2.2.2.1, h.1 7⟩

/-- `C05_history_reader`: the last build succeeds, the reader opens with exactly the ids of the map -/
example : ∃ roots st', Build.build cEx oLeaf 0 { e0 with store := C01.run hBack } = .ok ((), st') ∧
    Reader.open cEx st'.store = .ok ⟨roots, 2, [3, 4]⟩ ∧
    Writer.iter cEx st'.store = [(3, [fm1, f1]), (4, [fm1, f1])] := by
  obtain ⟨st', hb⟩ := C06.ok_of_okB last_build_ok
  have ht : Typed cEx.index cEx.dims .euclidean hBack ∧ cEx.metric = metricOf cEx.index .euclidean hBack := by
    decide +kernel
  obtain ⟨_, _, ⟨roots, hopen⟩, _, _, hiter, _⟩ :=
    C05_history_reader hBack hBack_wf cEx oLeaf 0 e0 st' (by decide) hb .euclidean ht.1 ht.2
  rw [show spec cEx.index hBack = [(3, [fm1, f1]), (4, [fm1, f1])] from specs.2.2.2.2.2.2.2.2.2.2.1] at hopen hiter
  exact ⟨roots, st', hb, hopen, hiter⟩

/-- `C05_overwrite_last_wins` / `C05_delete_reports_presence` / `C05_build_never_changes_spec`: their
    hypotheses hold on this history -/
example : Writer.itemVector cEx (C01.run (hAdds ++ [.add cEx 3 [fm2, f3]])) 3 = some [fm2, f3] :=
  (C05_overwrite_last_wins hAdds (by decide) cEx (by decide) 3 (by decide) [fm2, f3] rfl .euclidean
    (by decide +kernel) (by decide +kernel)).2.2.1 rfl
example : (Writer.delItem cEx (C01.run hOver) 1).2 = true ∧ (Writer.delItem cEx (C01.run hOver) 9).2 = false := by
  have h1 := (C05_delete_reports_presence hOver hOver_wf cEx (by decide) 1 (by decide)).1
  have h9 := (C05_delete_reports_presence hOver hOver_wf cEx (by decide) 9 (by decide)).1
  rw [show spec cEx.index hOver = _ from specs.2.2.1] at h1 h9
  exact ⟨h1, h9⟩
example : Writer.iter cEx (C01.run (hClear ++ [.build cEx oLeaf 0 e0])) = Writer.iter cEx (C01.run hClear) :=
  ((C05_build_never_changes_spec hClear (by decide) cEx oLeaf 0 e0 (by decide)).2 cEx (by decide)).2.2.1

/-- the side condition cannot be dropped: an item written under the quantised metric (no `prepare`) and read
    as Euclidean, or written at dimension 3 and read at dimension 2, is not read as the map says -/
example :
    Writer.itemVector cEx (C01.run [.add cBq 1 [fm1, f25]]) 1 ≠ List.lookup 1 (spec 0 [.add cBq 1 [fm1, f25]]) ∧
    Writer.itemVector cEx (C01.run [.add { cEx with dims := 3 } 1 [f1, f2, f3]]) 1 ≠
      List.lookup 1 (spec 0 [.add { cEx with dims := 3 } 1 [f1, f2, f3]]) := by decide +kernel

/-- `C05_history_after_clear`: index 1 was written under Cosine at dimension 3, cleared, and is written again
    under Manhattan at dimension 1 — not `Typed` as a whole, typed after the clear -/
def c1' : Cfg := { index := 1, metric := .manhattan, dims := 1 }
example : Writer.iter c1' (C01.run (hDel ++ C01.Op.clear c1 :: [.add c1' 2 [f3]])) =
    spec 1 (hDel ++ C01.Op.clear c1 :: [.add c1' 2 [f3]]) ∧
    (∀ m0, ¬ Typed 1 1 m0 (hDel ++ C01.Op.clear c1 :: [.add c1' 2 [f3]])) := by
  refine ⟨(C05_history_after_clear hDel [.add c1' 2 [f3]] c1 (by decide) (by decide) (by decide) c1' (by decide) rfl
    .manhattan (by decide +kernel) rfl).2.2.1, fun m0 => ?_⟩
  cases m0 <;> decide +kernel
example : spec 1 (hDel ++ C01.Op.clear c1 :: [.add c1' 2 [f3]]) = [(2, [f3])] := by decide +kernel

/-- `C05_history_transactions`: a committed transaction, an aborted one (which cleared the index), a reader;
    then a transaction that has added item 9 and not yet committed -/
def sched : List C08.Item := [.commitTx hBuilt, .abortTx [.clear cEx], .openR 1]
example : (∀ it ∈ sched, ∀ op ∈ it.ops, op.wf) ∧ C08.committedOps sched = hBuilt ∧
    Typed 0 2 .euclidean (C08.committedOps sched ++ [.add cEx 9 [f1, f1]]) ∧
    spec 0 (C08.committedOps sched ++ [.add cEx 9 [f1, f1]]) = [(3, [fm2, f3]), (9, [f1, f1])] := by
  refine ⟨by decide, rfl, by decide +kernel, by decide +kernel⟩

end Ex

end Arroy.C05
