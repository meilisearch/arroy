import ArroyProofs.WriterLaws
import ArroyProofs.Properties.C19
/-! # C06 — a stale or never-built index is never silently served

The parts that do not involve `Build.build`: the open-time checks and their order, the need-build
predicate, the updated mark written by every effective mutation, no-ops, `clear`, metric names. -/
namespace Arroy.C06
open Arroy Generated

/-- an updated mark of the index exists -/
def HasMark (c : Cfg) (s : Store) : Prop := ∃ id, (Store.get s (c.updatedKey id)).isSome = true

theorem marks_nonempty_iff {c : Cfg} {s : Store} (hw : Store.WF s) (hi : c.index < 65536) :
    (!(s.prefixIter c.index (some modeUpdated)).isEmpty) = true ↔ HasMark c s := by
  have h := Writer.marks_isEmpty_iff (c := c) hw hi
  unfold HasMark
  constructor
  · intro hne
    apply Classical.byContradiction
    intro hno
    have : ∀ id, Store.get s (c.updatedKey id) = none := by
      intro id
      cases hg : Store.get s (c.updatedKey id) with
      | none => rfl
      | some v => exact absurd ⟨id, by simp [hg]⟩ hno
    rw [h.2 this] at hne; cases hne
  · intro ⟨id, hid⟩
    cases he : (s.prefixIter c.index (some modeUpdated)).isEmpty with
    | false => rfl
    | true => rw [h.1 he id] at hid; cases hid

/-- **`Reader::open`, the three checks in their order**: missing metadata first; then the metric name;
    then the updated marks; otherwise the reader opens with what the metadata says. -/
theorem C06_open_char (c : Cfg) (s : Store) (hw : Store.WF s) (hi : c.index < 65536) :
    (Reader.open c s = .error (.missingMetadata c.index) ↔ Store.get s c.metaKey = none) ∧
    (∀ name dims items roots, Store.get s c.metaKey = some (.metadata name dims items roots) →
      (Reader.open c s = .error (.unmatchingDistance name c.metric.nameBytes) ↔ name ≠ c.metric.nameBytes) ∧
      (name = c.metric.nameBytes →
        (Reader.open c s = .error (.needBuild c.index) ↔ HasMark c s) ∧
        (¬ HasMark c s → Reader.open c s = .ok ⟨roots, dims, items⟩) ∧
        (∀ r, Reader.open c s = .ok r → ¬ HasMark c s ∧ r = ⟨roots, dims, items⟩))) := by
  constructor
  · refine ⟨fun h => ?_, Reader.open_of_noMeta⟩
    rcases Reader.open_cases c s with ⟨hg, _⟩ | ⟨name, dims, items, roots, hg⟩ | ⟨_, e⟩
    · exact hg
    · rw [Reader.open_of_meta hg] at h
      split at h
      · cases h
      · split at h <;> cases h
    · rw [e] at h; cases h
  · intro name dims items roots hg
    have hm := marks_nonempty_iff (c := c) hw hi
    rw [Reader.open_of_meta hg]
    by_cases hn : c.metric.nameBytes = name
    · subst hn
      rw [if_neg (fun h => h rfl)]
      refine ⟨⟨fun h => (by split at h <;> cases h), fun h => (h rfl).elim⟩, fun _ => ?_⟩
      by_cases hk : HasMark c s
      · rw [if_pos (hm.2 hk)]
        exact ⟨⟨fun _ => hk, fun _ => rfl⟩, fun h => absurd hk h, fun r h => by cases h⟩
      · rw [if_neg (fun h => hk (hm.1 h))]
        refine ⟨⟨fun h => (by cases h), fun h => absurd h hk⟩, fun _ => rfl, fun r h => ⟨hk, ?_⟩⟩
        cases h; rfl
    · rw [if_pos hn]
      exact ⟨⟨fun _ e => hn e.symm, fun _ => rfl⟩, fun e => absurd e.symm hn⟩

/-- on a metadata record `Reader::open` ends in one of three ways: the distance error, `NeedBuild`, or success -/
theorem C06_open_total (c : Cfg) (s : Store) (name : Bytes) (dims : Nat) (items roots : List Nat)
    (hg : Store.get s c.metaKey = some (.metadata name dims items roots)) :
    Reader.open c s = .error (.unmatchingDistance name c.metric.nameBytes) ∨
    Reader.open c s = .error (.needBuild c.index) ∨ Reader.open c s = .ok ⟨roots, dims, items⟩ := by
  rw [Reader.open_of_meta hg]
  split
  · exact Or.inl rfl
  · split
    · exact Or.inr (Or.inl rfl)
    · exact Or.inr (Or.inr rfl)

/-- **`Writer::need_build`** answers true exactly when a mark exists or the metadata is missing -/
theorem C06_needBuild_char (c : Cfg) (s : Store) (hw : Store.WF s) (hi : c.index < 65536) :
    Writer.needBuild c s = true ↔ HasMark c s ∨ Store.get s c.metaKey = none := by
  unfold Writer.needBuild
  rw [Bool.or_eq_true, marks_nonempty_iff hw hi, Option.isNone_iff_eq_none]

/-- `need_build` is false exactly in the states where `open` can succeed (given the right metric name) -/
theorem C06_needBuild_vs_open (c : Cfg) (s : Store) (hw : Store.WF s) (hi : c.index < 65536)
    (dims : Nat) (items roots : List Nat)
    (hg : Store.get s c.metaKey = some (.metadata c.metric.nameBytes dims items roots)) :
    Writer.needBuild c s = false ↔ Reader.open c s = .ok ⟨roots, dims, items⟩ := by
  have h1 := C06_needBuild_char c s hw hi
  have h2 := ((C06_open_char c s hw hi).2 _ dims items roots hg).2 rfl
  constructor
  · intro hnb
    apply h2.2.1
    intro hk
    rw [h1.2 (Or.inl hk)] at hnb; cases hnb
  · intro hop
    cases hnb : Writer.needBuild c s with
    | false => rfl
    | true =>
      rcases h1.1 hnb with hk | hn
      · exact absurd hk (h2.2.2 _ hop).1
      · rw [hg] at hn; cases hn

/-- a mark makes the index stale, whatever else the store holds (no well-formedness needed) -/
theorem stale_of_mark {c : Cfg} {s : Store} (hk : HasMark c s) :
    Writer.needBuild c s = true ∧ (∀ r, Reader.open c s ≠ .ok r) ∧
    (Store.get s c.metaKey = none → Reader.open c s = .error (.missingMetadata c.index)) ∧
    (∀ dims items roots, Store.get s c.metaKey = some (.metadata c.metric.nameBytes dims items roots) →
      Reader.open c s = .error (.needBuild c.index)) := by
  have hm : (!(s.prefixIter c.index (some modeUpdated)).isEmpty) = true := by
    obtain ⟨id, hid⟩ := hk
    rw [Writer.marks_isEmpty_of_mark hid]; rfl
  refine ⟨?_, ?_, ?_, ?_⟩
  · unfold Writer.needBuild; rw [hm]; rfl
  · intro r h
    rcases Reader.open_cases c s with ⟨_, e⟩ | ⟨name, dims, items, roots, hg⟩ | ⟨_, e⟩
    · rw [e] at h; cases h
    · rw [Reader.open_of_meta hg, hm] at h
      split at h <;> cases h
    · rw [e] at h; cases h
  · exact Reader.open_of_noMeta
  · intro dims items roots hg
    rw [Reader.open_of_meta hg, if_neg (fun h => h rfl), if_pos hm]

theorem hasMark_add {c : Cfg} {s s' : Store} {id : Nat} {vec : List Nat}
    (h : Writer.addItem c s id vec = .ok s') : HasMark c s' :=
  ⟨id, by rw [Writer.get_addItem h, if_pos rfl]; rfl⟩

/-- The index `c` is stale in `s'`, a store whose metadata entry for `c` is still that of `s`:
    `need_build` is true and `open` fails — with `NeedBuild` if the metadata carries this metric's name,
    with `MissingMetadata` if there is none. -/
def StaleAfter (c : Cfg) (s s' : Store) : Prop :=
  Writer.needBuild c s' = true ∧ (∀ r, Reader.open c s' ≠ .ok r) ∧
  Store.get s' c.metaKey = Store.get s c.metaKey ∧
  (Store.get s c.metaKey = none → Reader.open c s' = .error (.missingMetadata c.index)) ∧
  (∀ dims items roots, Store.get s c.metaKey = some (.metadata c.metric.nameBytes dims items roots) →
    Reader.open c s' = .error (.needBuild c.index))

theorem staleAfter_of_mark {c : Cfg} {s s' : Store} (hk : HasMark c s')
    (hm : Store.get s' c.metaKey = Store.get s c.metaKey) : StaleAfter c s s' :=
  have hs := stale_of_mark hk
  ⟨hs.1, hs.2.1, hm, fun hg => hs.2.2.1 (hm.trans hg), fun d i r hg => hs.2.2.2 d i r (hm.trans hg)⟩

/-- the metadata entry is absent (never built / cleared) or carries this metric's name -/
def MetaFits (c : Cfg) (s : Store) : Prop :=
  Store.get s c.metaKey = none ∨
  ∃ dims items roots, Store.get s c.metaKey = some (.metadata c.metric.nameBytes dims items roots)

theorem StaleAfter.open_error {c : Cfg} {s s' : Store} (m : StaleAfter c s s') (hf : MetaFits c s) :
    Writer.needBuild c s' = true ∧
    (Reader.open c s' = .error (.needBuild c.index) ∨ Reader.open c s' = .error (.missingMetadata c.index)) := by
  refine ⟨m.1, ?_⟩
  rcases hf with hn | ⟨d, i, r, hg⟩
  · exact Or.inr (m.2.2.2.1 hn)
  · exact Or.inl (m.2.2.2.2 d i r hg)

/-- **every effective mutation marks the index**: a successful `add_item` (which does not touch the
    metadata) leaves the index stale -/
theorem C06_marks_add (c : Cfg) (s s' : Store) (id : Nat) (vec : List Nat)
    (h : Writer.addItem c s id vec = .ok s') : StaleAfter c s s' :=
  staleAfter_of_mark (hasMark_add h) (Writer.meta_addItem h)

/-- the same for a successful `append_item` -/
theorem C06_marks_append (c : Cfg) (s s' : Store) (hs : Store.Sorted s) (id : Nat) (vec : List Nat)
    (h : Writer.appendItem c s id vec = .ok s') : StaleAfter c s s' :=
  C06_marks_add c s s' id vec (Writer.appendItem_ok_eq_addItem hs h)

theorem hasMark_del {c : Cfg} {s : Store} {id : Nat} (h : (Writer.delItem c s id).2 = true) :
    HasMark c (Writer.delItem c s id).1 := by
  rw [Writer.delItem_snd] at h
  exact ⟨id, by rw [Writer.get_delItem, if_pos ⟨rfl, h⟩]; rfl⟩

/-- the same for a `del_item` that deleted something -/
theorem C06_marks_del (c : Cfg) (s : Store) (id : Nat) (h : (Writer.delItem c s id).2 = true) :
    StaleAfter c s (Writer.delItem c s id).1 :=
  staleAfter_of_mark (hasMark_del h) (Writer.meta_delItem c c s id)

/-- **summary**: every effective mutation (`add_item` ok, `append_item` ok, `del_item` returning true) leaves
    `need_build = true` and makes `open` fail with `NeedBuild` or `MissingMetadata` -/
theorem C06_marks (c : Cfg) (s : Store) (hs : Store.Sorted s) (hf : MetaFits c s) (id : Nat) (vec : List Nat) :
    (∀ s', Writer.addItem c s id vec = .ok s' → Writer.needBuild c s' = true ∧
      (Reader.open c s' = .error (.needBuild c.index) ∨ Reader.open c s' = .error (.missingMetadata c.index))) ∧
    (∀ s', Writer.appendItem c s id vec = .ok s' → Writer.needBuild c s' = true ∧
      (Reader.open c s' = .error (.needBuild c.index) ∨ Reader.open c s' = .error (.missingMetadata c.index))) ∧
    ((Writer.delItem c s id).2 = true → Writer.needBuild c (Writer.delItem c s id).1 = true ∧
      (Reader.open c (Writer.delItem c s id).1 = .error (.needBuild c.index) ∨
       Reader.open c (Writer.delItem c s id).1 = .error (.missingMetadata c.index))) :=
  ⟨fun s' h => (C06_marks_add c s s' id vec h).open_error hf,
   fun s' h => (C06_marks_append c s s' hs id vec h).open_error hf,
   fun h => (C06_marks_del c s id h).open_error hf⟩

/-- **operations that change nothing do not make the index stale**: an absent delete and the rejected
    calls leave `need_build` and the result of `open` (for every index) as they were (the store is the same one:
    `C19_del_absent`, and by construction of `C19.after`) -/
theorem C06_noop (c c' : Cfg) (s : Store) (id : Nat) (vec : List Nat) :
    ((Writer.delItem c s id).2 = false →
      Writer.needBuild c' (Writer.delItem c s id).1 = Writer.needBuild c' s ∧
      Reader.open c' (Writer.delItem c s id).1 = Reader.open c' s) ∧
    (∀ e, Writer.addItem c s id vec = .error e →
      Writer.needBuild c' (C19.after s (Writer.addItem c s id vec)) = Writer.needBuild c' s ∧
      Reader.open c' (C19.after s (Writer.addItem c s id vec)) = Reader.open c' s) ∧
    (∀ e, Writer.appendItem c s id vec = .error e →
      Writer.needBuild c' (C19.after s (Writer.appendItem c s id vec)) = Writer.needBuild c' s ∧
      Reader.open c' (C19.after s (Writer.appendItem c s id vec)) = Reader.open c' s) := by
  refine ⟨fun h => ?_, fun e h => ?_, fun e h => ?_⟩
  · rw [(C19.C19_del_absent c s id ((C19.C19_del_false_iff c s id).1 h)).1]; exact ⟨rfl, rfl⟩
  · rw [h]; exact ⟨rfl, rfl⟩
  · rw [h]; exact ⟨rfl, rfl⟩

/-- **`clear`** removes the metadata: the index must be built again before it can be opened -/
theorem C06_clear (c : Cfg) (s : Store) :
    Store.get (Writer.clear c s) c.metaKey = none ∧
    Reader.open c (Writer.clear c s) = .error (.missingMetadata c.index) ∧
    Writer.needBuild c (Writer.clear c s) = true := by
  have hg : Store.get (Writer.clear c s) c.metaKey = none := Writer.get_clear_same c s _ rfl
  exact ⟨hg, Reader.open_of_noMeta hg, Writer.needBuild_of_noMeta hg⟩

/-- mutations of one index never make *another* index stale, nor fresh -/
theorem C06_frame (c c' : Cfg) (s : Store) (hw : Store.WF s) (hi : c.index < 65536) (hi' : c'.index < 65536)
    (hne : c.index ≠ c'.index) (id : Nat) (hid : id < 4294967296) (vec : List Nat) :
    (∀ s', Writer.addItem c s id vec = .ok s' →
      Writer.needBuild c' s' = Writer.needBuild c' s ∧ Reader.open c' s' = Reader.open c' s) ∧
    (Store.Sorted s → ∀ s', Writer.appendItem c s id vec = .ok s' →
      Writer.needBuild c' s' = Writer.needBuild c' s ∧ Reader.open c' s' = Reader.open c' s) ∧
    (Writer.needBuild c' (Writer.delItem c s id).1 = Writer.needBuild c' s ∧
      Reader.open c' (Writer.delItem c s id).1 = Reader.open c' s) ∧
    (Writer.needBuild c' (Writer.clear c s) = Writer.needBuild c' s ∧
      Reader.open c' (Writer.clear c s) = Reader.open c' s) := by
  refine ⟨fun s' h => ?_, fun hs s' h => ?_, ?_, ?_⟩
  · have f := Writer.frame_addItem h hi hid hi' hne
    exact ⟨Writer.needBuild_congr f.1 f.2, Writer.open_congr f.1 f.2⟩
  · have f := Writer.frame_addItem (Writer.appendItem_ok_eq_addItem hs h) hi hid hi' hne
    exact ⟨Writer.needBuild_congr f.1 f.2, Writer.open_congr f.1 f.2⟩
  · have f := Writer.frame_delItem (c := c) (c' := c') s id hi hid hi' hne
    exact ⟨Writer.needBuild_congr f.1 f.2, Writer.open_congr f.1 f.2⟩
  · have f := Writer.frame_clear (c := c) (c' := c') hw hi hi' hne
    exact ⟨Writer.needBuild_congr f.1 f.2, Writer.open_congr f.1 f.2⟩

theorem C06_names_distinct : ∀ m1 ∈ Metric.all, ∀ m2 ∈ Metric.all, m1.nameBytes = m2.nameBytes → m1 = m2 := by
  decide +kernel

theorem C06_names_inj (m1 m2 : Metric) (h : m1.nameBytes = m2.nameBytes) : m1 = m2 := by
  have h1 : m1 ∈ Metric.all := by cases m1 <;> decide
  have h2 : m2 ∈ Metric.all := by cases m2 <;> decide
  exact C06_names_distinct m1 h1 m2 h2 h

/-- **opening under another metric than the stored one** fails with the distance error, before anything else -/
theorem C06_wrong_metric (c : Cfg) (s : Store) (built : Metric) (dims : Nat) (items roots : List Nat)
    (hg : Store.get s c.metaKey = some (.metadata built.nameBytes dims items roots)) (hne : c.metric ≠ built) :
    Reader.open c s = .error (.unmatchingDistance built.nameBytes c.metric.nameBytes) := by
  rw [Reader.open_of_meta hg, if_pos (fun e => hne (C06_names_inj _ _ e))]

/-! ## non-vacuity -/

def c0 : Cfg := { index := 7, metric := .euclidean, dims := 2 }
def cCos : Cfg := { index := 7, metric := .cosine, dims := 2 }
/-- a built index 7 holding one item -/
def s0 : Store :=
  [(⟨7, 0, 0⟩, .metadata Metric.euclidean.nameBytes 2 [4] [0]), (⟨7, 2, 0⟩, .desc [4]), (⟨7, 3, 4⟩, .leaf [0] [1, 2])]

example : Store.WF s0 := by
  intro kv h
  simp only [s0, List.mem_cons, List.not_mem_nil, or_false] at h
  rcases h with h | h | h <;> subst h <;> decide
example : Store.Sorted s0 := by simp [s0, Store.Sorted, Key.lt]
example : Store.get s0 c0.metaKey = some (.metadata c0.metric.nameBytes 2 [4] [0]) := rfl
example : MetaFits c0 s0 := Or.inr ⟨2, [4], [0], rfl⟩
example : Reader.open c0 s0 = .ok ⟨[0], 2, [4]⟩ ∧ Writer.needBuild c0 s0 = false := ⟨rfl, rfl⟩
example : ∃ s', Writer.addItem c0 s0 5 [1, 2] = .ok s' ∧ Reader.open c0 s' = .error (.needBuild 7) := ⟨_, rfl, rfl⟩
example : (Writer.delItem c0 s0 4).2 = true ∧ (Writer.delItem c0 s0 9).2 = false := ⟨rfl, rfl⟩
example : cCos.metric ≠ Metric.euclidean ∧
    Reader.open cCos s0 = .error (.unmatchingDistance Metric.euclidean.nameBytes Metric.cosine.nameBytes) :=
  ⟨by decide, rfl⟩

end Arroy.C06
