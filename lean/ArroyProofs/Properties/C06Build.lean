import ArroyProofs.BuildPost
import ArroyProofs.BuildMeta
import ArroyModel.Reader
/-! # C06 (build part) — immediately after a successful build the reader opens

A successful `build` consumes every updated mark of its index, nothing it does afterwards writes one,
and it ends by writing the metadata record of its metric: `Reader::open` succeeds and `need_build`
answers `false`. -/
namespace Arroy.C06
open Arroy Generated

/-- Any options, any oracle streams, any poll budget: if `build` returns `.ok`, then no key under the
    `(index, Updated)` prefix remains, the metadata record of the writer's metric and dimension is in
    place, `Reader::open` succeeds and `need_build` is `false`.

    Hypotheses: the index is a `u16`; the keys of the store are well-formed (only those under the
    `(index, Updated)` prefix matter, see `Build.build_noUpdated`). Sortedness is **not** needed. -/
theorem C06_build_clears_marks (c : Cfg) (hi : c.index < 65536) (o : BuildOpts) (fuel : Nat) (st st' : BState)
    (hwf : ∀ kv ∈ st.store, kv.1.wf) (h : Build.build c o fuel st = .ok ((), st')) :
    Store.prefixIter st'.store c.index (some modeUpdated) = [] ∧
    (∀ id, Store.get st'.store (c.updatedKey id) = none) ∧
    (∃ items roots,
      Store.get st'.store c.metaKey = some (.metadata c.metric.nameBytes c.dims items roots) ∧
      Reader.open c st'.store = .ok ⟨roots, c.dims, items⟩) ∧
    Writer.needBuild c st'.store = false := by
  have hwf' : ∀ k ∈ Frame.keys st.store,
      isPrefixOf (encodePrefix c.index (some modeUpdated)) (encodeKey k) = true → k.wf := by
    intro k hk _
    simp only [Frame.keys, List.mem_map] at hk
    obtain ⟨kv, hkv, rfl⟩ := hk
    exact hwf kv hkv
  have hno := Build.build_noUpdated c hi o fuel st st' hwf' h
  have hnil := hno.prefixIter_nil
  obtain ⟨items, roots, hmeta⟩ := Build.build_metaNamed h
  refine ⟨hnil, ?_, ⟨items, roots, hmeta, ?_⟩, ?_⟩
  · intro id
    apply Frame.get_eq_none_of_not_mem
    intro hk
    have := hno _ hk
    rw [(isPrefixOf_kind_all c.index modeUpdated (c.updatedKey id)).2 ⟨rfl, rfl⟩] at this
    cases this
  · rw [Reader.open_of_meta hmeta]
    simp [hnil]
  · unfold Writer.needBuild
    rw [hnil, hmeta]
    rfl

/-! non-vacuity: index 0 has a pending update (so `need_build` is true before), index 65535 is built -/
def exStore : Store :=
  [(⟨0, modeUpdated, 7⟩, .unit),
   (⟨0, modeItem, 7⟩, .leaf [0] [1065353216, 0]),
   (⟨65535, modeMetadata, 0⟩, .metadata Metric.euclidean.nameBytes 2 [4294967295] [0]),
   (⟨65535, modeTree, 0⟩, .desc [4294967295]),
   (⟨65535, modeItem, 4294967295⟩, .leaf [0] [0, 0])]
def exCfg : Cfg := ⟨0, .euclidean, 2, {}⟩
def exSt : BState := { store := exStore, cancelAt := some 100 }

example : exCfg.index < 65536 ∧ (∀ kv ∈ exStore, kv.1.wf) ∧ Writer.needBuild exCfg exStore = true := by
  refine ⟨by decide, ?_, rfl⟩
  intro kv hkv
  simp only [exStore, List.mem_cons, List.not_mem_nil, or_false] at hkv
  rcases hkv with rfl | rfl | rfl | rfl | rfl <;> decide
example : ∃ st', Build.build exCfg {} 0 exSt = .ok ((), st') := ⟨_, rfl⟩

end Arroy.C06
