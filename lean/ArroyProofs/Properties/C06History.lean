import ArroyProofs.Properties.C06
import ArroyProofs.Properties.C06Build
import ArroyProofs.Properties.Unconditional
import ArroyProofs.Properties.C01Examples
import ArroyProofs.ForestBridge
/-! # C06 over histories — staleness as a function of what happened

`C06.lean` / `C06Build.lean` characterise `Reader.open` and `Writer.needBuild` by the STORE. Here they
are characterised by the HISTORY (`C01.Op`, `C01.run`): `status i ops` is the abstract staleness state of
index `i` after the history `ops`, computed by recursion over the history from the operations that were
EFFECTIVE on index `i` (`effective`): an accepted `add` / `append`, a `del` of a present id, a `clear`,
an accepted `prepare` towards another metric than the one of its `Cfg`, a successful `build`.
Rejected calls, absent deletes, failed builds, `prepare` to the same metric and every operation of
another index are not effective: they leave the status as it is.

No side condition on the `Cfg`s of the history is needed: builds and writes
of one index may carry different metrics and dimensions; what counts is whether the model accepts
the call, and the status records the metric and the dimension of the last successful build. -/
namespace Arroy.C06
open Arroy Generated C01

/-- the abstract staleness state of one index -/
inductive Status where
  /-- no metadata: never built, cleared, or re-encoded for another metric since the last build -/
  | neverBuilt
  /-- last successful build: under metric `m`, dimension `dims`, over the items `items`;
      `dirty`: an effective item operation happened since -/
  | built (m : Metric) (dims : Nat) (items : List Nat) (dirty : Bool)
  deriving DecidableEq, Repr

/-- an effective item operation: a built index becomes dirty, a never-built one stays never-built -/
def Status.touch : Status → Status
  | .neverBuilt => .neverBuilt
  | .built m d items _ => .built m d items true

def okB {α : Type} : Except Err α → Bool
  | .ok _ => true
  | .error _ => false

def _root_.Arroy.C01.Op.cfg : Op → Cfg
  | .add c _ _ => c
  | .append c _ _ => c
  | .del c _ => c
  | .clear c => c
  | .build c _ _ _ => c
  | .prepare c _ => c

/-- the model accepts the operation in store `s` and it is not one of the calls that change nothing -/
def accepted (s : Store) : Op → Bool
  | .add c id vec => okB (Writer.addItem c s id vec)
  | .append c id vec => okB (Writer.appendItem c s id vec)
  | .del c id => (Writer.delItem c s id).2
  | .clear _ => true
  | .build c o fuel env => okB (Build.build c o fuel { env with store := s })
  | .prepare c m' => m' != c.metric && okB (Writer.prepareChangingDistance c m' s)

/-- `op`, executed in store `s`, is effective on index `i` -/
def effective (i : Nat) (s : Store) (op : Op) : Bool := op.cfg.index == i && accepted s op

/-- the status of the index after an operation that is effective on it -/
def Status.after (s : Store) (st : Status) : Op → Status
  | .add _ _ _ => st.touch
  | .append _ _ _ => st.touch
  | .del _ _ => st.touch
  | .clear _ => .neverBuilt
  | .build c _ _ _ => .built c.metric c.dims (s.keysOf c.index modeItem) false
  | .prepare _ _ => .neverBuilt

def statusStep (i : Nat) (s : Store) (st : Status) (op : Op) : Status :=
  if effective i s op then st.after s op else st

/-- the status after the history `ops` started in store `s` with status `st` -/
def statusFrom (i : Nat) : Store → Status → List Op → Status
  | _, st, [] => st
  | s, st, op :: ops => statusFrom i (step s op) (statusStep i s st op) ops

/-- **the staleness state of index `i` after the history `ops`** (from the empty store) -/
def status (i : Nat) (ops : List Op) : Status := statusFrom i [] .neverBuilt ops

theorem statusFrom_append (i : Nat) (ops : List Op) (op : Op) : ∀ (s : Store) (st : Status),
    statusFrom i s st (ops ++ [op]) = statusStep i (ops.foldl step s) (statusFrom i s st ops) op := by
  induction ops with
  | nil => intro s st; rfl
  | cons a ops ih => intro s st; exact ih _ _

theorem status_snoc (i : Nat) (ops : List Op) (op : Op) :
    status i (ops ++ [op]) = statusStep i (run ops) (status i ops) op :=
  statusFrom_append i ops op [] .neverBuilt

theorem status_snoc_eff {i : Nat} {ops : List Op} {op : Op} (h : effective i (run ops) op = true) :
    status i (ops ++ [op]) = (status i ops).after (run ops) op := by
  rw [status_snoc, statusStep, if_pos h]

theorem status_snoc_not {i : Nat} {ops : List Op} {op : Op} (h : effective i (run ops) op = false) :
    status i (ops ++ [op]) = status i ops := by
  rw [status_snoc, statusStep, if_neg (by simp [h])]

theorem ok_of_okB {r : Except Err (Unit × BState)} (h : okB r = true) : ∃ st', r = .ok ((), st') := by
  cases r with
  | ok r => exact ⟨r.2, rfl⟩
  | error e => cases h

/-! ## what the status says about the store -/

/-- the store fits the status: the metadata record is the one of the last successful build (or absent),
    and an updated mark exists iff the status is dirty -/
def Agrees (c : Cfg) (s : Store) : Status → Prop
  | .neverBuilt => Store.get s c.metaKey = none
  | .built m d items dirty =>
    (∃ roots, Store.get s c.metaKey = some (.metadata m.nameBytes d items roots)) ∧ (dirty = true ↔ HasMark c s)

theorem Agrees.congr {c : Cfg} {s s' : Store} {st : Status} (h : Agrees c s st)
    (hk : ∀ k : Key, k.index = c.index → Store.get s' k = Store.get s k) : Agrees c s' st := by
  have hm : HasMark c s' ↔ HasMark c s := by
    constructor
    · intro ⟨id, h⟩; exact ⟨id, by rw [← hk _ rfl]; exact h⟩
    · intro ⟨id, h⟩; exact ⟨id, by rw [hk _ rfl]; exact h⟩
  cases st with
  | neverBuilt => show Store.get s' c.metaKey = none; rw [hk _ rfl]; exact h
  | built m d items dirty =>
    obtain ⟨⟨roots, hg⟩, hd⟩ := h
    exact ⟨⟨roots, by rw [hk _ rfl]; exact hg⟩, hd.trans hm.symm⟩

/-- an effective item operation: same metadata, a mark -/
theorem Agrees.touch {c : Cfg} {s s' : Store} {st : Status} (h : Agrees c s st)
    (hmeta : Store.get s' c.metaKey = Store.get s c.metaKey) (hmark : HasMark c s') : Agrees c s' st.touch := by
  cases st with
  | neverBuilt => show Store.get s' c.metaKey = none; rw [hmeta]; exact h
  | built m d items dirty =>
    obtain ⟨⟨roots, hg⟩, _⟩ := h
    exact ⟨⟨roots, by rw [hmeta]; exact hg⟩, ⟨fun _ => hmark, fun _ => rfl⟩⟩

theorem hasMark_index {c c' : Cfg} {s : Store} (he : c'.index = c.index) (h : HasMark c' s) : HasMark c s := by
  obtain ⟨id, hid⟩ := h
  exact ⟨id, Cfg.updatedKey_congr he id ▸ hid⟩


theorem step_not_accepted (s : Store) (op : Op) (h : accepted s op = false) : step s op = s := by
  have hto := stepTo s op
  generalize step s op = s' at hto
  cases hto with
  | noop => rfl
  | add h' => simp [accepted, h', okB] at h
  | append h' => simp [accepted, h', okB] at h
  | del c id => exact congrArg Prod.fst (C19.C19_del_absent c s id ((C19.C19_del_false_iff c s id).1 h)).1
  | clear => cases h
  | build h' => simp [accepted, h', okB] at h
  | prepare hne h' => simp [accepted, h', okB, hne] at h

/-- `Accepted s op s'`: the model accepts `op` in store `s` and the step leaves `s'`. An accepted `append` is
    recorded as the `add_item` it amounts to (`Writer.appendItem_ok_eq_addItem`). -/
inductive Accepted (s : Store) : Op → Store → Prop
  | add {c id vec s'} (h : Writer.addItem c s id vec = .ok s') : Accepted s (.add c id vec) s'
  | append {c id vec s'} (h : Writer.addItem c s id vec = .ok s') : Accepted s (.append c id vec) s'
  | del {c id} (h : (Writer.delItem c s id).2 = true) : Accepted s (.del c id) (Writer.delItem c s id).1
  | clear {c} : Accepted s (.clear c) (Writer.clear c s)
  | build {c o fuel env st'} (h : Build.build c o fuel { env with store := s } = .ok ((), st')) :
      Accepted s (.build c o fuel env) st'.store
  | prepare {c m' s'} (hne : m' ≠ c.metric) (h : Writer.prepareChangingDistance c m' s = .ok s') :
      Accepted s (.prepare c m') s'

theorem accepted_step {s : Store} (hs : Store.Sorted s) {op : Op} (h : accepted s op = true) :
    Accepted s op (step s op) := by
  cases op with
  | add c id vec =>
    simp only [step]
    cases h' : Writer.addItem c s id vec with
    | ok s' => exact .add h'
    | error e => simp [accepted, h', okB] at h
  | append c id vec =>
    simp only [step]
    cases h' : Writer.appendItem c s id vec with
    | ok s' => exact .append (Writer.appendItem_ok_eq_addItem hs h')
    | error e => simp [accepted, h', okB] at h
  | del c id => exact .del h
  | clear c => exact .clear
  | build c o fuel env =>
    simp only [step]
    cases h' : Build.build c o fuel { env with store := s } with
    | ok r => exact .build h'
    | error e => simp [accepted, h', okB] at h
  | prepare c m' =>
    simp only [step]
    cases h' : Writer.prepareChangingDistance c m' s with
    | ok s' => exact .prepare (fun e => by simp [accepted, e] at h) h'
    | error e => simp [accepted, h', okB] at h

/-- an accepted `append` is the step of the `add` -/
theorem step_append_of_accepted {s : Store} (hs : Store.Sorted s) {c : Cfg} {id : Nat} {v : List Nat}
    (h : accepted s (.append c id v) = true) : step s (.append c id v) = step s (.add c id v) := by
  have hd := accepted_step hs h
  generalize step s (.append c id v) = s' at hd ⊢
  cases hd with
  | append h => simp only [step, h]

/-- on a store satisfying the invariant a metric change is never rejected: it is accepted exactly when it goes
    to another metric than the one of its `Cfg` -/
theorem accepted_prepare {c : Cfg} {s : Store} (hinv : IndexInv c s) (hi : c.index < 65536) (m' : Metric) :
    accepted s (.prepare c m') = (m' != c.metric) := by
  by_cases hm : m' = c.metric
  · simp [accepted, hm]
  · obtain ⟨s', h, _⟩ := C18.C18_change c m' s hm hinv.wf hinv.sorted hi hinv.leaves
    simp [accepted, h, okB]

theorem _root_.Arroy.C01.Op.wf.index {op : Op} (hop : op.wf) : op.cfg.index < 65536 := by
  cases op <;> first | exact hop.1 | exact hop

theorem step_other (s : Store) (op : Op) (hop : op.wf)
    (hinv : ∀ c : Cfg, c.index < 65536 → IndexInv c s) (c : Cfg) (hne : op.cfg.index ≠ c.index) :
    ∀ k : Key, k.index = c.index → Store.get (step s op) k = Store.get s k := by
  intro k hk
  have hki : ∀ c' : Cfg, c'.index ≠ c.index → ∀ id, k ≠ c'.itemKey id ∧ k ≠ c'.updatedKey id := by
    intro c' hc' id
    constructor
    · intro e; rw [e] at hk; exact hc' hk
    · intro e; rw [e] at hk; exact hc' hk
  have hinv' := hinv op.cfg hop.index
  have hto := stepTo s op
  generalize step s op = s' at hto
  cases hto with
  | noop => rfl
  | @add c' id _ _ h => rw [Writer.get_addItem h, if_neg (hki c' hne id).2, if_neg (hki c' hne id).1]
  | @append c' id _ _ h =>
    rw [Writer.get_addItem (Writer.appendItem_ok_eq_addItem hinv'.sorted h), if_neg (hki c' hne id).2,
      if_neg (hki c' hne id).1]
  | del c' id => rw [Writer.get_delItem, if_neg (fun e => (hki c' hne id).2 e.1), if_neg (hki c' hne id).1]
  | clear c' => exact get_clear_other' c' s hinv'.wf hop k (by rw [hk]; exact Ne.symm hne)
  | @build c' o fuel env st' h =>
    obtain ⟨_, _, _, _, _, _, b⟩ :=
      C01_build_out_of_inv c' o fuel { env with store := s } st' hop.1 hop.2.1 freshSupply hinv'.1 h
    exact b.other k (by rw [hk]; exact Ne.symm hne)
  | @prepare c' _ _ _ h =>
    exact prepare_other (c' := c') hinv'.wf hinv'.sorted hop hinv'.leaves h k (by rw [hk]; exact Ne.symm hne)

theorem effective_false_iff (i : Nat) (s : Store) (op : Op) :
    effective i s op = false ↔ op.cfg.index ≠ i ∨ accepted s op = false := by
  unfold effective
  cases accepted s op <;> simp

theorem effective_iff (i : Nat) (s : Store) (op : Op) :
    effective i s op = true ↔ op.cfg.index = i ∧ accepted s op = true := by
  simp [effective]

theorem step_not_effective (s : Store) (op : Op) (hop : op.wf)
    (hinv : ∀ c : Cfg, c.index < 65536 → IndexInv c s) (c : Cfg) (h : effective c.index s op = false) :
    ∀ k : Key, k.index = c.index → Store.get (step s op) k = Store.get s k := by
  rcases (effective_false_iff _ _ _).1 h with hne | hna
  · exact step_other s op hop hinv c hne
  · intro k _; rw [step_not_accepted s op hna]

theorem agrees_step (s : Store) (op : Op) (hop : op.wf)
    (hinv : ∀ c : Cfg, c.index < 65536 → IndexInv c s) (c : Cfg) (st : Status)
    (ha : Agrees c s st) : Agrees c (step s op) (statusStep c.index s st op) := by
  unfold statusStep
  cases he : effective c.index s op with
  | false =>
    rw [if_neg (by simp)]
    exact ha.congr (step_not_effective s op hop hinv c he)
  | true =>
    rw [if_pos rfl]
    obtain ⟨hidx, hacc⟩ := (effective_iff _ _ _).1 he
    have hinv' := hinv op.cfg hop.index
    have hd := accepted_step hinv'.sorted hacc
    generalize step s op = s' at hd
    cases hd with
    | add h => exact ha.touch (Writer.meta_addItem h) (hasMark_index hidx (hasMark_add h))
    | append h => exact ha.touch (Writer.meta_addItem h) (hasMark_index hidx (hasMark_add h))
    | @del c' id h =>
      have m := C06_marks_del c' s id h
      rw [Writer.delItem_snd] at h
      refine ha.touch ?_ (hasMark_index hidx ⟨id, by rw [Writer.get_delItem, if_pos ⟨rfl, h⟩]; rfl⟩)
      rw [← Cfg.metaKey_congr hidx]; exact m.2.2.1
    | clear => exact Writer.get_clear_same _ s _ (Eq.symm hidx)
    | @build c' o fuel env st' h =>
      obtain ⟨_, _, _, roots', _, _, b⟩ :=
        C01_build_out_of_inv c' o fuel { env with store := s } st' hop.1 hop.2.1 freshSupply hinv'.1 h
      refine ⟨⟨roots', ?_⟩, ⟨fun h => Bool.noConfusion h, fun ⟨id, hid⟩ => ?_⟩⟩
      · show Store.get st'.store c.metaKey = _
        rw [← Cfg.metaKey_congr hidx]; exact b.metadata
      · rw [← Cfg.updatedKey_congr (c' := c') hidx id, b.no_marks id] at hid
        cases hid
    | prepare hne h =>
      exact (prepare_unbuilt (c := c) hne hinv'.wf hinv'.sorted hop hinv'.leaves (Eq.symm hidx) h).1.1

/-- **the status describes the store**: after every well-formed history the metadata record of the
    index is the one written by the last successful build (absent if the status is never-built), and an
    updated mark exists iff the status is dirty -/
theorem C06_status_agrees (ops : List Op) (hops : ∀ op ∈ ops, op.wf) (c : Cfg) :
    Agrees c (run ops) (status c.index ops) := by
  refine history_induction (P := fun ops => Agrees c (run ops) (status c.index ops)) rfl ?_ ops hops
  intro ops op hops hop ih
  simp only [run_snoc, status_snoc]
  exact agrees_step _ op hop (C01_invariant ops hops) c _ ih

/-! ## `Reader.open` and `Writer.needBuild` as functions of the history -/

/-- what `Reader.open c` must answer in a given status (the roots of an opened reader are not part of
    the status) -/
def OpenIs (c : Cfg) (r : Except Err ReaderState) : Status → Prop
  | .neverBuilt => r = .error (.missingMetadata c.index)
  | .built m d items dirty =>
    if m ≠ c.metric then r = .error (.unmatchingDistance m.nameBytes c.metric.nameBytes)
    else if dirty = true then r = .error (.needBuild c.index)
    else ∃ roots, r = .ok ⟨roots, d, items⟩

/-- what `Writer.needBuild` must answer in a given status -/
def Status.stale : Status → Bool
  | .neverBuilt => true
  | .built _ _ _ dirty => dirty

/-- **C06 over histories, functional form**: the result of `Reader.open c` and of `Writer.needBuild c`
    after a well-formed history is determined by the status of the index: never built → `MissingMetadata`;
    built under another metric → `UnmatchingDistance` (whether dirty or not); built under `c.metric` and
    dirty → `NeedBuild`; built under `c.metric` and clean → the reader opens, with the dimension and the
    item list of that build. `need_build` is true iff never built or dirty (whatever the metric). -/
theorem C06_history_open (ops : List Op) (hops : ∀ op ∈ ops, op.wf) (c : Cfg) (hi : c.index < 65536) :
    OpenIs c (Reader.open c (run ops)) (status c.index ops) ∧
    Writer.needBuild c (run ops) = (status c.index ops).stale := by
  have ha := C06_status_agrees ops hops c
  have hw : Store.WF (run ops) := (C01.C01_invariant ops hops c hi).wf
  have hoc := C06_open_char c (run ops) hw hi
  have hnb := C06_needBuild_char c (run ops) hw hi
  cases hst : status c.index ops with
  | neverBuilt =>
    rw [hst] at ha
    have ha' : Store.get (run ops) c.metaKey = none := ha
    refine ⟨hoc.1.2 ha', ?_⟩
    exact hnb.2 (Or.inr ha')
  | built m d items dirty =>
    rw [hst] at ha
    obtain ⟨⟨roots, hg⟩, hd⟩ := ha
    have h2 := hoc.2 _ _ _ _ hg
    constructor
    · show (if m ≠ c.metric then _ else if dirty = true then _ else _)
      by_cases hm : m = c.metric
      · subst hm
        rw [if_neg (by simp)]
        cases dirty with
        | true => rw [if_pos rfl]; exact (h2.2 rfl).1.2 (hd.1 rfl)
        | false =>
          rw [if_neg (by simp)]
          exact ⟨roots, (h2.2 rfl).2.1 (fun hk => by cases hd.2 hk)⟩
      · rw [if_pos hm]
        exact h2.1.2 (fun e => hm (C06_names_inj _ _ e))
    · show Writer.needBuild c (run ops) = dirty
      cases dirty with
      | true => exact hnb.2 (Or.inl (hd.1 rfl))
      | false =>
        cases hb : Writer.needBuild c (run ops) with
        | false => rfl
        | true =>
          rcases hnb.1 hb with hk | hn
          · cases hd.2 hk
          · rw [hg] at hn; cases hn

/-- **C06 over histories**: for every well-formed history `ops` and every `c` (a `u16` index),
    `Reader.open c (run ops)` fails with
    * `MissingMetadata` iff the index was never built (or cleared / re-encoded for another metric since);
    * `UnmatchingDistance stored c.metric` iff it was last built under a metric `m ≠ c.metric`
      (and then `stored` is the name of `m`; dirty or not);
    * `NeedBuild` iff it was last built under `c.metric` and an effective item operation happened since;
    and succeeds iff it was last built under `c.metric` and is clean — then with the dimension and the
    item list of that build. `Writer.needBuild c (run ops)` is true iff never built or dirty. -/
theorem C06_history (ops : List Op) (hops : ∀ op ∈ ops, op.wf) (c : Cfg) (hi : c.index < 65536) :
    (Reader.open c (run ops) = .error (.missingMetadata c.index) ↔ status c.index ops = .neverBuilt) ∧
    (∀ name, Reader.open c (run ops) = .error (.unmatchingDistance name c.metric.nameBytes) ↔
      ∃ m d items dirty, status c.index ops = .built m d items dirty ∧ m ≠ c.metric ∧ name = m.nameBytes) ∧
    (Reader.open c (run ops) = .error (.needBuild c.index) ↔
      ∃ d items, status c.index ops = .built c.metric d items true) ∧
    (∀ d items, (∃ roots, Reader.open c (run ops) = .ok ⟨roots, d, items⟩) ↔
      status c.index ops = .built c.metric d items false) ∧
    (∀ e, Reader.open c (run ops) = .error e →
      e = .missingMetadata c.index ∨ (∃ name, e = .unmatchingDistance name c.metric.nameBytes) ∨
      e = .needBuild c.index) ∧
    (Writer.needBuild c (run ops) = true ↔
      status c.index ops = .neverBuilt ∨ ∃ m d items, status c.index ops = .built m d items true) := by
  obtain ⟨ho, hn⟩ := C06_history_open ops hops c hi
  rw [hn]
  generalize Reader.open c (run ops) = r at ho ⊢
  generalize status c.index ops = st at ho ⊢
  cases st with
  | neverBuilt =>
    obtain rfl : r = .error (.missingMetadata c.index) := ho
    simp [Status.stale]
  | built m d items dirty =>
    by_cases hm : m = c.metric
    · subst hm
      cases dirty with
      | true =>
        obtain rfl : r = .error (.needBuild c.index) := by simpa [OpenIs] using ho
        simp [Status.stale]
      | false =>
        obtain ⟨roots, rfl⟩ : ∃ roots, r = .ok ⟨roots, d, items⟩ := by simpa [OpenIs] using ho
        simp [Status.stale]
    · obtain rfl : r = .error (.unmatchingDistance m.nameBytes c.metric.nameBytes) := by simpa [OpenIs, hm] using ho
      simp [Status.stale, hm, eq_comm]


/-- `Reader.open` and `Writer.needBuild` only look at the keys of their index (both stores well-formed) -/
theorem open_congr_get {c : Cfg} {s s' : Store} (hw : Store.WF s) (hw' : Store.WF s') (hi : c.index < 65536)
    (hk : ∀ k : Key, k.index = c.index → Store.get s' k = Store.get s k) :
    Reader.open c s' = Reader.open c s ∧ Writer.needBuild c s' = Writer.needBuild c s := by
  have he : (s'.prefixIter c.index (some modeUpdated)).isEmpty = (s.prefixIter c.index (some modeUpdated)).isEmpty := by
    rw [Bool.eq_iff_iff, Writer.marks_isEmpty_iff hw' hi, Writer.marks_isEmpty_iff hw hi]
    constructor
    · intro h id; rw [← hk _ rfl]; exact h id
    · intro h id; rw [hk _ rfl]; exact h id
  have hm : Store.get s' c.metaKey = Store.get s c.metaKey := hk _ rfl
  constructor
  · unfold Reader.open; rw [hm, he]
  · unfold Writer.needBuild; rw [hm, he]

/-- **immediately after a successful build the reader opens**: if the last operation of a well-formed
    history is a successful build under `c`, the index is clean, `Reader.open c` succeeds with the dimension
    of `c` and exactly the items stored when the build started, and `need_build` answers false
    (also for an index built while empty: `items = []`) -/
theorem C06_opens_right_after_build (ops : List Op) (hops : ∀ op ∈ ops, op.wf)
    (c : Cfg) (o : BuildOpts) (fuel : Nat) (env st' : BState) (hwf : (Op.build c o fuel env).wf)
    (h : Build.build c o fuel { env with store := run ops } = .ok ((), st')) :
    status c.index (ops ++ [.build c o fuel env]) =
      .built c.metric c.dims ((run ops).keysOf c.index modeItem) false ∧
    (∃ roots, Reader.open c (run (ops ++ [.build c o fuel env])) =
      .ok ⟨roots, c.dims, (run ops).keysOf c.index modeItem⟩) ∧
    Writer.needBuild c (run (ops ++ [.build c o fuel env])) = false := by
  have hst : status c.index (ops ++ [.build c o fuel env]) =
      .built c.metric c.dims ((run ops).keysOf c.index modeItem) false :=
    status_snoc_eff (by simp [effective, accepted, Op.cfg, h, okB])
  obtain ⟨ho, hn⟩ := C06_history_open _ (forall_snoc hops hwf) c hwf.1
  rw [hst] at ho hn
  refine ⟨hst, ?_, hn⟩
  simpa [OpenIs] using ho

/-- **operations that change nothing do not make an index stale (nor fresh)**: appending to a well-formed
    history an operation that is not effective on index `c.index` — a rejected `add` / `append`, a `del` of an
    absent id, a failed build, a `prepare` to the metric of its `Cfg`, or ANY operation of another index —
    changes neither the status of the index, nor the result of `Reader.open c`, nor `Writer.needBuild c` -/
theorem C06_noop_history (ops : List Op) (hops : ∀ op ∈ ops, op.wf) (op : Op) (hop : op.wf)
    (c : Cfg) (hi : c.index < 65536) (hne : effective c.index (run ops) op = false) :
    status c.index (ops ++ [op]) = status c.index ops ∧
    Reader.open c (run (ops ++ [op])) = Reader.open c (run ops) ∧
    Writer.needBuild c (run (ops ++ [op])) = Writer.needBuild c (run ops) := by
  have hinv : ∀ c : Cfg, c.index < 65536 → IndexInv c (run ops) := C01.C01_invariant ops hops
  have hw : Store.WF (run ops) := (hinv c hi).wf
  have hw' : Store.WF (run (ops ++ [op])) := (C01.C01_invariant _ (forall_snoc hops hop) c hi).wf
  have hk := step_not_effective (run ops) op hop hinv c hne
  rw [← run_snoc] at hk
  exact ⟨status_snoc_not hne, open_congr_get hw hw' hi hk⟩

/-- an operation that the model does not accept (or that is a `prepare` to the same metric) leaves the whole
    store, hence every index, as it was -/
theorem C06_noop_history_all (ops : List Op) (op : Op) (h : accepted (run ops) op = false) :
    run (ops ++ [op]) = run ops ∧ ∀ i, status i (ops ++ [op]) = status i ops := by
  exact ⟨by rw [run_snoc, step_not_accepted _ _ h],
    fun i => status_snoc_not ((effective_false_iff i (run ops) op).2 (Or.inr h))⟩

/-- after a well-formed history `prepare_changing_distance` is never rejected: it is effective exactly when
    it goes to another metric than the one of its `Cfg` -/
theorem C06_prepare_accepted (ops : List Op) (hops : ∀ op ∈ ops, op.wf) (c : Cfg) (hi : c.index < 65536)
    (m' : Metric) : accepted (run ops) (.prepare c m') = (m' != c.metric) :=
  accepted_prepare (C01.C01_invariant ops hops c hi) hi m'

/-- the effective item operations make a built index dirty and keep the build's metric, dimension and item
    list; a never-built index stays never-built -/
theorem C06_dirty_after_write (ops : List Op) (op : Op) (c : Cfg) (he : effective c.index (run ops) op = true)
    (hitem : (∃ id vec, op = .add c id vec) ∨ (∃ id vec, op = .append c id vec) ∨ ∃ id, op = .del c id) :
    status c.index (ops ++ [op]) = (status c.index ops).touch := by
  rw [status_snoc_eff he]
  rcases hitem with ⟨id, vec, rfl⟩ | ⟨id, vec, rfl⟩ | ⟨id, rfl⟩ <;> rfl

/-- `clear`, and `prepare` towards another metric, leave the index never-built -/
theorem C06_neverBuilt_after (ops : List Op) (hops : ∀ op ∈ ops, op.wf) (c : Cfg) (hi : c.index < 65536) :
    status c.index (ops ++ [.clear c]) = .neverBuilt ∧
    ∀ m', m' ≠ c.metric → status c.index (ops ++ [.prepare c m']) = .neverBuilt := by
  refine ⟨status_snoc_eff (by simp [effective, accepted, Op.cfg]), fun m' hm => status_snoc_eff ?_⟩
  rw [effective, C06_prepare_accepted ops hops c hi m']
  simp [Op.cfg, hm]

/-- a clean index serves exactly what is stored: if the status is clean, the item list of the last build
    (the one an opened reader gets) is the list of the item ids stored now -/
theorem C06_clean_items (ops : List Op) (hops : ∀ op ∈ ops, op.wf) (c : Cfg) (hi : c.index < 65536)
    (m : Metric) (d : Nat) (items : List Nat) (hst : status c.index ops = .built m d items false) :
    (run ops).keysOf c.index modeItem = items := by
  have ha := C06_status_agrees ops hops c
  rw [hst] at ha
  obtain ⟨⟨roots, hg⟩, hd⟩ := ha
  refine items_eq_keysOf_of_inv (C01.C01_invariant ops hops c hi) hi hg (fun id => ?_)
  cases hx : Store.get (run ops) (c.updatedKey id) with
  | none => rfl
  | some v => exact Bool.noConfusion (hd.2 ⟨id, by rw [hx]; rfl⟩)

/-! ## non-vacuity: a concrete history (index 0 of `C01Examples`, Euclidean, dimension 2; index 1 beside it)

Every status below is computed by the kernel from the definition (`decide +kernel`): the builds really run. -/
namespace Ex
open C01.Ex

def e0 : BState := { store := [] }
def cCosine : Cfg := { cEx with metric := .cosine }
def c3 : Cfg := { cEx with dims := 3 }
def c1 : Cfg := { index := 1, metric := .euclidean, dims := 2 }

/-- five items added, then built -/
def hBuilt : List Op := ops1
/-- … then a delete of an absent id and an `add` rejected for its length -/
def hNoop : List Op := hBuilt ++ [.del cEx 9, .add cEx 7 [f1]]
/-- … then item 1 overwritten -/
def hOver : List Op := hNoop ++ [.add cEx 1 [f1, f1]]
/-- … then a build that is cancelled at its first poll -/
def hFailed : List Op := hOver ++ [.build cEx oLeaf 0 { store := [], cancelAt := some 1 }]
/-- … then a build that succeeds -/
def hRebuilt : List Op := hFailed ++ [.build cEx oLeaf 0 e0]
/-- … then an item of index 1 is written, after which an `append` to index 0 is rejected (its key is not
    the greatest of the store any more) -/
def hOther : List Op := hRebuilt ++ [.add c1 0 [f1, f1], .append cEx 7 [f1, f1]]
/-- … then the metric of index 0 is changed -/
def hChanged : List Op := hOther ++ [.prepare cEx .cosine]
/-- a present item deleted and added again with the very same vector -/
def hDelAdd : List Op := hBuilt ++ [.del cEx 2, .add cEx 2 [f1, fm1]]
/-- an index built while empty -/
def hEmpty : List Op := [.build cEx oLeaf 0 e0]
/-- builds under a `Cfg` whose metric / dimension differ from the one of the writes: the model accepts them -/
def hCosBuild : List Op := hBuilt ++ [.build cCosine oLeaf 0 e0]
def hDimBuild : List Op := hBuilt ++ [.build c3 oLeaf 0 e0]

theorem hChanged_wf : ∀ op ∈ hChanged, op.wf := by decide
theorem hOver_wf : ∀ op ∈ hOver, op.wf := fun op h => hChanged_wf op (by
  simp only [hChanged, hOther, hRebuilt, hFailed, List.mem_append] at h ⊢; exact Or.inl (Or.inl (Or.inl (Or.inl h))))
theorem hRebuilt_wf : ∀ op ∈ hRebuilt, op.wf := fun op h => hChanged_wf op (by
  simp only [hChanged, hOther, List.mem_append] at h ⊢; exact Or.inl (Or.inl h))

/-- the statuses along the history: clean after the build; still clean after the absent delete and the
    rejected add; dirty after the overwrite; still dirty after the failed build; clean after the rebuild
    (item list of that build); unchanged by the write to index 1 and the rejected append; never-built after
    the metric change -/
theorem statuses :
    status 0 hBuilt = .built .euclidean 2 [0, 1, 2, 3, 4] false ∧
    status 0 hNoop = .built .euclidean 2 [0, 1, 2, 3, 4] false ∧
    status 0 hOver = .built .euclidean 2 [0, 1, 2, 3, 4] true ∧
    status 0 hFailed = .built .euclidean 2 [0, 1, 2, 3, 4] true ∧
    status 0 hRebuilt = .built .euclidean 2 [0, 1, 2, 3, 4] false ∧
    status 0 hOther = .built .euclidean 2 [0, 1, 2, 3, 4] false ∧
    status 1 hOther = .neverBuilt ∧
    status 0 hChanged = .neverBuilt := by decide +kernel

/-- the corner cases: delete + add of the same id and vector is dirty; an index built while empty is clean
    with no items; a build under another metric / dimension than the writes is recorded as such -/
theorem statuses_corner :
    status 0 hDelAdd = .built .euclidean 2 [0, 1, 2, 3, 4] true ∧
    status 0 hEmpty = .built .euclidean 2 [] false ∧
    status 0 hCosBuild = .built .cosine 2 [0, 1, 2, 3, 4] false ∧
    status 0 hDimBuild = .built .euclidean 3 [0, 1, 2, 3, 4] false := by decide +kernel

/-- which operations were (not) effective -/
theorem effects :
    effective 0 (run hBuilt) (.del cEx 9) = false ∧ effective 0 (run hBuilt) (.del cEx 2) = true ∧
    accepted (run hBuilt) (.add cEx 7 [f1]) = false ∧
    accepted (run hOver) (.build cEx oLeaf 0 { store := [], cancelAt := some 1 }) = false ∧
    accepted (run hFailed) (.build cEx oLeaf 0 e0) = true ∧
    accepted (run (hRebuilt ++ [.add c1 0 [f1, f1]])) (.append cEx 7 [f1, f1]) = false ∧
    accepted (run hRebuilt) (.append cEx 7 [f1, f1]) = true ∧
    effective 0 (run hRebuilt) (.add c1 0 [f1, f1]) = false ∧
    effective 1 (run hRebuilt) (.add c1 0 [f1, f1]) = true ∧
    accepted (run hOther) (.prepare cEx .euclidean) = false ∧
    accepted (run hOther) (.prepare cEx .cosine) = true := by decide +kernel

theorem del9_rejected : accepted (run hBuilt) (.del cEx 9) = false :=
  ((effective_false_iff _ _ _).1 effects.1).resolve_left (fun h => h rfl)

example :
    effective 0 (run hBuilt) (.del cEx 9) = false ∧ effective 0 (run hBuilt) (.del cEx 2) = true ∧
    accepted (run hBuilt) (.add cEx 7 [f1]) = false ∧
    accepted (run hOver) (.build cEx oLeaf 0 { store := [], cancelAt := some 1 }) = false ∧
    accepted (run hFailed) (.build cEx oLeaf 0 e0) = true ∧
    accepted (run (hRebuilt ++ [.add c1 0 [f1, f1]])) (.append cEx 7 [f1, f1]) = false ∧
    accepted (run hRebuilt) (.append cEx 7 [f1, f1]) = true ∧
    effective 0 (run hRebuilt) (.add c1 0 [f1, f1]) = false ∧
    effective 1 (run hRebuilt) (.add c1 0 [f1, f1]) = true ∧
    accepted (run hOther) (.prepare cEx .euclidean) = false ∧
    accepted (run hOther) (.prepare cEx .cosine) = true := effects

attribute [local irreducible] run status

/-- `C06_history` on these histories: dirty → `NeedBuild`, and `need_build` is true -/
example : Reader.open cEx (run hOver) = .error (.needBuild 0) ∧ Writer.needBuild cEx (run hOver) = true := by
  have h := C06_history hOver hOver_wf cEx (by decide)
  exact ⟨h.2.2.1.2 ⟨_, _, statuses.2.2.1⟩, h.2.2.2.2.2.2 (Or.inr ⟨_, _, _, statuses.2.2.1⟩)⟩

/-- rebuilt → the reader opens with the items of the rebuild, which are the stored ones; `need_build` false -/
example : (∃ roots, Reader.open cEx (run hRebuilt) = .ok ⟨roots, 2, [0, 1, 2, 3, 4]⟩) ∧
    Writer.needBuild cEx (run hRebuilt) = false ∧ (run hRebuilt).keysOf 0 modeItem = [0, 1, 2, 3, 4] := by
  have h := C06_history_open hRebuilt hRebuilt_wf cEx (by decide)
  have hs : status cEx.index hRebuilt = .built .euclidean 2 [0, 1, 2, 3, 4] false := statuses.2.2.2.2.1
  refine ⟨((C06_history hRebuilt hRebuilt_wf cEx (by decide)).2.2.2.1 2 [0, 1, 2, 3, 4]).2 hs, ?_,
    C06_clean_items hRebuilt hRebuilt_wf cEx (by decide) _ _ _ hs⟩
  rw [h.2, hs]; rfl

/-- opened under the wrong metric: `UnmatchingDistance`, although the index is clean -/
example : Reader.open cCosine (run hRebuilt) =
    .error (.unmatchingDistance Metric.euclidean.nameBytes Metric.cosine.nameBytes) :=
  ((C06_history hRebuilt hRebuilt_wf cCosine (by decide)).2.1 _).2
    ⟨_, _, _, _, statuses.2.2.2.2.1, by decide, rfl⟩

/-- after the metric change: `MissingMetadata`, for the old and for the new metric -/
example : Reader.open cEx (run hChanged) = .error (.missingMetadata 0) ∧
    Reader.open cCosine (run hChanged) = .error (.missingMetadata 0) ∧ Writer.needBuild cCosine (run hChanged) = true :=
  ⟨(C06_history hChanged hChanged_wf cEx (by decide)).1.2 statuses.2.2.2.2.2.2.2,
   (C06_history hChanged hChanged_wf cCosine (by decide)).1.2 statuses.2.2.2.2.2.2.2,
   (C06_history hChanged hChanged_wf cCosine (by decide)).2.2.2.2.2.2 (Or.inl statuses.2.2.2.2.2.2.2)⟩

/-- `C06_noop_history`: the absent delete after the build changes nothing -/
example : Reader.open cEx (run (hBuilt ++ [.del cEx 9])) = Reader.open cEx (run hBuilt) :=
  (C06_noop_history hBuilt (fun op h => hOver_wf op (by
      simp only [hOver, hNoop, List.mem_append] at h ⊢; exact Or.inl (Or.inl h))) (.del cEx 9) (by decide) cEx
    (by decide) effects.1).2.1

theorem rebuild_ok : okB (Build.build cEx oLeaf 0 { e0 with store := run hFailed }) = true := effects.2.2.2.2.1

/-- `C06_opens_right_after_build`: its hypotheses hold for the rebuild (after a dirty state and a failed build) -/
example : ∃ roots, Reader.open cEx (run (hFailed ++ [.build cEx oLeaf 0 e0])) =
    .ok ⟨roots, 2, (run hFailed).keysOf 0 modeItem⟩ := by
  obtain ⟨st', hb⟩ := ok_of_okB rebuild_ok
  exact (C06_opens_right_after_build hFailed (fun op h => hRebuilt_wf op (by
    simp only [hRebuilt, List.mem_append] at h ⊢; exact Or.inl h)) cEx oLeaf 0 e0 st' (by decide) hb).2.1

end Ex

end Arroy.C06
