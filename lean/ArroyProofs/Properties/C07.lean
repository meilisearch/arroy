import ArroyProofs.BuildTouch
import ArroyModel.Reader
/-! # C07 — indexes sharing one database never affect each other

Prefix / range bounds for **all** keys, the frame theorems for every `Writer` operation and for
`build` (any options, any oracle streams, any cancellation point), in two forms:

* `get` form (`Untouched`): every well-formed key of another index keeps its value;
* dump form (`OtherSame`): the sub-list of the entries of the other indexes is the **same list**
  (no assumption on the store: neither sortedness nor well-formed keys),

and the corollary that everything another index answers from its own keys is unchanged. -/
namespace Arroy.C07
open Arroy Generated

/-! ## prefixes and the tree range -/

/-- the index prefix selects exactly the keys of that index (all u16 indexes, 65535 included) -/
theorem C07_prefix_index (i : Nat) (k : Key) (hk : k.wf) (hi : i < 65536) :
    isPrefixOf (encodePrefix i none) (encodeKey k) = true ↔ k.index = i :=
  isPrefixOf_index i k hk hi

/-- the index + kind prefix selects exactly the keys of that index and kind -/
theorem C07_prefix_kind (i m : Nat) (k : Key) (hk : k.wf) (hi : i < 65536) (hm : m < 256) :
    isPrefixOf (encodePrefix i (some m)) (encodeKey k) = true ↔ k.index = i ∧ k.mode = m :=
  isPrefixOf_kind i m k hk hi hm

/-- `delete_range(Key::tree(i, 0) ..= Key::tree(i, u32::MAX))` keeps a key iff it is not a tree key of
    index `i` (ids 0 and u32::MAX and index 65535 included) -/
theorem C07_range (i : Nat) (k : Key) (hk : k.wf) (hi : i < 65536) :
    (lexLt (encodeKey k) (encodeKey (Key.mkTree i 0)) ||
      lexLt (encodeKey (Key.mkTree i 4294967295)) (encodeKey k)) = true ↔
    ¬ (k.index = i ∧ k.mode = modeTree) :=
  treeRange_keeps i k hk hi

/-- the same three facts for keys that are not well-formed: the encoder truncates each field -/
theorem C07_prefix_all (i : Nat) (k : Key) :
    (isPrefixOf (encodePrefix i none) (encodeKey k) = true ↔ k.index % 65536 = i % 65536) ∧
    (∀ m, isPrefixOf (encodePrefix i (some m)) (encodeKey k) = true ↔
      k.index % 65536 = i % 65536 ∧ k.mode % 256 = m % 256) ∧
    (i < 65536 → ((lexLt (encodeKey k) (encodeKey (Key.mkTree i 0)) ||
      lexLt (encodeKey (Key.mkTree i 4294967295)) (encodeKey k)) = true ↔
      ¬ (k.index % 65536 = i ∧ k.mode % 256 = modeTree))) :=
  ⟨isPrefixOf_index_all i k, fun m => isPrefixOf_kind_all i m k, treeRange_keeps_all i k⟩

example : (⟨65535, modeTree, 4294967295⟩ : Key).wf ∧ (65535 : Nat) < 65536 ∧ modeTree < 256 := by decide

/-! ## dump form for the `Writer` operations -/

private theorem notOther (c : Cfg) (hi : c.index < 65536) (m id : Nat) :
    ((fun k : Key => k.index % 65536 != c.index) ⟨c.index, m, id⟩) = false := by
  simp [Nat.mod_eq_of_lt hi]

private theorem put_other (c : Cfg) (hi : c.index < 65536) (s : Store) (k : Key) (v : Val)
    (hk : k.index = c.index) : OtherSame c.index s (Store.put s k v) :=
  Store.filter_put_of_false s (fun k => k.index % 65536 != c.index) k v (by simp [hk, Nat.mod_eq_of_lt hi])

private theorem erase_other (c : Cfg) (hi : c.index < 65536) (s : Store) (k : Key)
    (hk : k.index = c.index) : OtherSame c.index s (Store.erase s k) :=
  Frame.filter_erase (fun k => k.index % 65536 != c.index) s k (by simp [hk, Nat.mod_eq_of_lt hi])

theorem C07_dump_add (c : Cfg) (hi : c.index < 65536) (s s' : Store) (id : Nat) (vec : List Nat)
    (h : Writer.addItem c s id vec = .ok s') : OtherSame c.index s s' := by
  unfold Writer.addItem at h
  split at h
  · cases h
  · simp only [Except.ok.injEq] at h; subst h
    exact (OtherSame.storeRel _).trans (put_other c hi _ _ _ rfl) (put_other c hi _ _ _ rfl)

theorem C07_dump_append (c : Cfg) (hi : c.index < 65536) (s s' : Store) (id : Nat) (vec : List Nat)
    (h : Writer.appendItem c s id vec = .ok s') : OtherSame c.index s s' := by
  unfold Writer.appendItem at h
  split at h
  · cases h
  · split at h
    · cases h
    · rename_i s1 hs1
      simp only [Except.ok.injEq] at h; subst h
      refine (OtherSame.storeRel _).trans ?_ (put_other c hi _ _ _ rfl)
      unfold OtherSame
      unfold Store.putAppend at hs1
      have hq := notOther c hi modeItem id
      split at hs1
      · simp only [Option.some.injEq] at hs1; subst hs1
        rename_i hmax
        have : s = [] := by
          cases s with
          | nil => rfl
          | cons a r => simp [Store.maxKey?] at hmax
        subst this
        simp only [List.filter]
        simp only [Cfg.itemKey, Key.mkItem]
        simp only at hq
        rw [hq]
      · split at hs1
        · simp only [Option.some.injEq] at hs1; subst hs1
          rw [List.filter_append]
          simp only [List.filter, Cfg.itemKey, Key.mkItem]
          simp only at hq
          rw [hq]; simp
        · cases hs1

theorem C07_dump_del (c : Cfg) (hi : c.index < 65536) (s : Store) (id : Nat) :
    OtherSame c.index s (Writer.delItem c s id).1 := by
  unfold Writer.delItem Store.delete
  dsimp only
  split
  · exact (OtherSame.storeRel _).trans (erase_other c hi _ _ rfl) (put_other c hi _ _ _ rfl)
  · exact erase_other c hi _ _ rfl

private theorem deletePrefix_other (c : Cfg) (hi : c.index < 65536) (s : Store) (m : Option Nat) :
    OtherSame c.index s (Store.deletePrefix s c.index m) := by
  unfold OtherSame Store.deletePrefix
  apply Frame.filter_filter_of_imp (fun k => k.index % 65536 != c.index)
  intro kv hq
  cases hp : isPrefixOf (encodePrefix c.index m) (encodeKey kv.1)
  · rfl
  · have : kv.1.index % 65536 = c.index % 65536 := by
      cases m with
      | none => exact (isPrefixOf_index_all c.index kv.1).1 hp
      | some m => exact ((isPrefixOf_kind_all c.index m kv.1).1 hp).1
    rw [Nat.mod_eq_of_lt hi] at this
    simp [this] at hq

theorem C07_dump_clear (c : Cfg) (hi : c.index < 65536) (s : Store) : OtherSame c.index s (Writer.clear c s) :=
  deletePrefix_other c hi s none

private theorem reencode_other (c : Cfg) (hi : c.index < 65536) (m' : Metric) :
    ∀ (s s' : Store), Writer.reencode c m' s = .ok s' → OtherSame c.index s s' := by
  intro s
  induction s with
  | nil => intro s' h; simp only [Writer.reencode, Except.ok.injEq] at h; subst h; rfl
  | cons kv rest ih =>
    obtain ⟨k, v⟩ := kv
    intro s' h
    unfold Writer.reencode at h
    split at h
    · rename_i hp
      have hk : ((fun k : Key => k.index % 65536 != c.index) k) = false := by
        have := ((isPrefixOf_kind_all c.index modeItem k).1 hp).1
        rw [Nat.mod_eq_of_lt hi] at this
        simp [this]
      split at h
      · split at h
        · rename_i rest' hr
          simp only [Except.ok.injEq] at h; subst h
          unfold OtherSame
          simp only [List.filter]
          simp only at hk
          rw [hk]
          exact ih _ hr
        · cases h
      · cases h
    · split at h
      · rename_i rest' hr
        simp only [Except.ok.injEq] at h; subst h
        unfold OtherSame
        simp only [List.filter]
        have := ih _ hr
        unfold OtherSame at this
        rw [this]
      · cases h

/-- changing the metric of an index -/
theorem C07_dump_prepare (c : Cfg) (hi : c.index < 65536) (m' : Metric) (s s' : Store)
    (h : Writer.prepareChangingDistance c m' s = .ok s') : OtherSame c.index s s' := by
  unfold Writer.prepareChangingDistance at h
  split at h
  · simp only [Except.ok.injEq] at h; subst h; rfl
  · refine (OtherSame.storeRel _).trans ?_ (reencode_other c hi m' _ _ h)
    unfold Writer.clearTreeNodes
    refine (OtherSame.storeRel _).trans ?_ (deletePrefix_other c hi _ _)
    exact erase_other c hi _ _ rfl

/-- `build`, any options, any oracle streams, any cancellation point -/
theorem C07_dump_build (c : Cfg) (hi : c.index < 65536) (o : BuildOpts) (fuel : Nat) (st st' : BState)
    (h : Build.build c o fuel st = .ok ((), st')) : OtherSame c.index st.store st'.store :=
  Build.build_otherSame c hi o fuel st () st' h

/-! ## `get` form -/

theorem C07_frame_add (c : Cfg) (s s' : Store) (id : Nat) (vec : List Nat)
    (h : Writer.addItem c s id vec = .ok s') (k : Key) (_hk : k.wf) (hne : k.index ≠ c.index) :
    Store.get s' k = Store.get s k := by
  unfold Writer.addItem at h
  split at h
  · cases h
  · simp only [Except.ok.injEq] at h; subst h
    rw [Store.get_put_other _ _ _ _ (by intro e; subst e; exact hne rfl),
      Store.get_put_other _ _ _ _ (by intro e; subst e; exact hne rfl)]

/-- `append_item` when it succeeds (when it fails nothing is written) -/
theorem C07_frame_append (c : Cfg) (s s' : Store) (id : Nat) (vec : List Nat)
    (h : Writer.appendItem c s id vec = .ok s') (k : Key) (_hk : k.wf) (hne : k.index ≠ c.index) :
    Store.get s' k = Store.get s k := by
  unfold Writer.appendItem at h
  split at h
  · cases h
  · split at h
    · cases h
    · rename_i s1 hs1
      simp only [Except.ok.injEq] at h; subst h
      have hk1 : k ≠ c.itemKey id := by intro e; subst e; exact hne rfl
      rw [Store.get_put_other _ _ _ _ (by intro e; subst e; exact hne rfl)]
      unfold Store.putAppend at hs1
      split at hs1
      · simp only [Option.some.injEq] at hs1; subst hs1
        rename_i hmax
        have : s = [] := by
          cases s with
          | nil => rfl
          | cons a r => simp [Store.maxKey?] at hmax
        subst this
        simp [Store.get, Ne.symm hk1]
      · split at hs1
        · simp only [Option.some.injEq] at hs1; subst hs1
          exact Frame.get_append_other _ _ _ _ hk1
        · cases hs1

theorem C07_frame_del (c : Cfg) (s : Store) (id : Nat) (k : Key) (_hk : k.wf) (hne : k.index ≠ c.index) :
    Store.get (Writer.delItem c s id).1 k = Store.get s k := by
  unfold Writer.delItem Store.delete
  dsimp only
  split
  · dsimp only
    rw [Store.get_put_other _ _ _ _ (by intro e; subst e; exact hne rfl),
      Store.get_erase_other _ _ _ (by intro e; subst e; exact hne rfl)]
  · dsimp only
    rw [Store.get_erase_other _ _ _ (by intro e; subst e; exact hne rfl)]

theorem C07_frame_clear (c : Cfg) (hi : c.index < 65536) (s : Store) (k : Key) (hk : k.wf) (hne : k.index ≠ c.index) :
    Store.get (Writer.clear c s) k = Store.get s k :=
  (C07_dump_clear c hi s).untouched k hk hne

theorem C07_frame_prepare (c : Cfg) (hi : c.index < 65536) (m' : Metric) (s s' : Store)
    (h : Writer.prepareChangingDistance c m' s = .ok s') (k : Key) (hk : k.wf) (hne : k.index ≠ c.index) :
    Store.get s' k = Store.get s k :=
  (C07_dump_prepare c hi m' s s' h).untouched k hk hne

/-- `build`, any options, any oracle streams (they are fields of `st`), any cancellation point
    (`st.cancelAt`): if it returns `.ok`, no key of another index has changed -/
theorem C07_frame_build (c : Cfg) (hi : c.index < 65536) (o : BuildOpts) (fuel : Nat) (st st' : BState)
    (h : Build.build c o fuel st = .ok ((), st')) (k : Key) (hk : k.wf) (hne : k.index ≠ c.index) :
    Store.get st'.store k = Store.get st.store k :=
  Build.build_untouched c hi o fuel st () st' h k hk hne

/-! ## what the other index answers -/

/-- under the dump form, **every** key of another index (well-formed or not) reads the same -/
theorem C07_get_other {i : Nat} {s s' : Store} (h : OtherSame i s s') (k : Key) (hk : k.index % 65536 ≠ i) :
    Store.get s' k = Store.get s k :=
  h.get_eq k hk

/-- Whatever happened to index `i` (any `s'` with the same dump outside `i`: one operation or build on
    `i`, or any sequence of them, `OtherSame` being transitive), another index `c'` answers the same:
    its items and vectors, its iteration, its need-build query, and `Reader::open`. -/
theorem C07_answers {i : Nat} {s s' : Store} (h : OtherSame i s s') (c' : Cfg) (hi' : c'.index < 65536)
    (hne : c'.index ≠ i) :
    (∀ id, Writer.itemLeaf c' s' id = Writer.itemLeaf c' s id) ∧
    (∀ id, Writer.itemVector c' s' id = Writer.itemVector c' s id) ∧
    (∀ id, Writer.containsItem c' s' id = Writer.containsItem c' s id) ∧
    Writer.iter c' s' = Writer.iter c' s ∧
    Writer.needBuild c' s' = Writer.needBuild c' s ∧
    Reader.open c' s' = Reader.open c' s := by
  have hmod : c'.index % 65536 ≠ i := by rw [Nat.mod_eq_of_lt hi']; exact hne
  have hget : ∀ m id, Store.get s' ⟨c'.index, m, id⟩ = Store.get s ⟨c'.index, m, id⟩ :=
    fun m id => C07_get_other h _ hmod
  have hpre : ∀ m, Store.prefixIter s' c'.index m = Store.prefixIter s c'.index m :=
    fun m => h.prefixIter_eq c'.index m hmod
  have hleaf : ∀ id, Writer.itemLeaf c' s' id = Writer.itemLeaf c' s id := by
    intro id; unfold Writer.itemLeaf Cfg.itemKey Key.mkItem; rw [hget]
  refine ⟨hleaf, ?_, ?_, ?_, ?_, ?_⟩
  · intro id; unfold Writer.itemVector; rw [hleaf]
  · intro id; unfold Writer.containsItem Store.contains Cfg.itemKey Key.mkItem; rw [hget]
  · unfold Writer.iter; rw [hpre]
  · unfold Writer.needBuild Cfg.metaKey Key.mkMetadata; rw [hpre, hget]
  · unfold Reader.open Cfg.metaKey Key.mkMetadata; rw [hpre, hget]

/-- the corollary for a build of `c`: any other index of the same database answers as before -/
theorem C07_answers_build (c c' : Cfg) (hi : c.index < 65536) (hi' : c'.index < 65536) (hne : c'.index ≠ c.index)
    (o : BuildOpts) (fuel : Nat) (st st' : BState) (h : Build.build c o fuel st = .ok ((), st')) :
    (∀ id, Writer.itemVector c' st'.store id = Writer.itemVector c' st.store id) ∧
    Writer.needBuild c' st'.store = Writer.needBuild c' st.store ∧
    Reader.open c' st'.store = Reader.open c' st.store := by
  obtain ⟨_, h2, _, _, h5, h6⟩ := C07_answers (C07_dump_build c hi o fuel st st' h) c' hi' hne
  exact ⟨h2, h5, h6⟩

/-! ## non-vacuity: a database with the two extreme indexes, an item at id `u32::MAX`, a pending
update on index 0; every hypothesis above is met by it -/

def exStore : Store :=
  [(⟨0, modeUpdated, 7⟩, .unit),
   (⟨0, modeItem, 7⟩, .leaf [0] [1065353216, 0]),
   (⟨65535, modeMetadata, 0⟩, .metadata Metric.euclidean.nameBytes 2 [4294967295] [0]),
   (⟨65535, modeTree, 0⟩, .desc [4294967295]),
   (⟨65535, modeItem, 4294967295⟩, .leaf [0] [0, 0])]
def exCfg : Cfg := ⟨0, .euclidean, 2, {}⟩
def exCfg' : Cfg := ⟨65535, .euclidean, 2, {}⟩
def exSt : BState := { store := exStore, cancelAt := some 100 }
def exKey : Key := ⟨65535, modeItem, 4294967295⟩

example : exCfg.index < 65536 ∧ exCfg'.index < 65536 ∧ exCfg'.index ≠ exCfg.index ∧ exKey.wf ∧
    exKey.index ≠ exCfg.index := by decide
example : ∃ s', Writer.addItem exCfg exStore 9 [0, 0] = .ok s' := ⟨_, rfl⟩
example : ∃ s', Writer.appendItem exCfg' exStore 4294967295 [0, 0] = .error .invalidAppend ∧
    Writer.appendItem exCfg' (Writer.clear exCfg' exStore) 3 [0, 0] = .ok s' := ⟨_, rfl, rfl⟩
example : (Writer.delItem exCfg exStore 7).2 = true := rfl
example : ∃ s', Writer.prepareChangingDistance exCfg .cosine exStore = .ok s' := ⟨_, rfl⟩
example : ∃ st', Build.build exCfg {} 0 exSt = .ok ((), st') := ⟨_, rfl⟩
/-- and the other index does answer something -/
example : Writer.itemVector exCfg' exStore 4294967295 = some [0, 0] ∧ Writer.needBuild exCfg' exStore = false ∧
    Reader.open exCfg' exStore = .ok ⟨[0], 2, [4294967295]⟩ := ⟨rfl, rfl, rfl⟩

end Arroy.C07
