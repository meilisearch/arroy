import ArroyProofs.Properties.C07History
import ArroyProofs.FuelBounds
/-! # C07 — read-locality of `Build.build`: `BuildLocal`, and the history projection with builds

The frame of the build (`C07_dump_build`) says that a build of index `j` WRITES no key of another index; this
file proves that it READS none, which is the hypothesis `BuildLocal` of `C07History.lean`.

Two-run (relational) form.  `SRel j s s'`: both stores sorted with u16 indexes, same content of index `j`.
`Rel j st st'`: `SRel` of the stores, every other field of the build state equal.  `Loc j V m m'`: from
`Rel`-related states the computations `m` and `m'` both fail, or both succeed with `V`-related results and
`Rel`-related states (`Both`; the two errors need not be equal: a failed build is followed by an abort).

* `Loc` is closed under the combinators of `BuildM` (`Loc.bind/pure/fail/ite/forEach/poll/pollN/nextBatch/
  getStore/modifyStore/...`), the store primitives respect `SRel` (`C07_readlocal_get`, `_prefixIter`, `_keysOf`
  for reads, `SRel.put/.erase/.deleteRange/.filter/.foldl_put` for writes), so each helper of `Build.build` is
  `Loc` by walking through its definition (`C07_readlocal_*`), up to `Build.build` (`C07_readlocal_build_full`).
* The two helpers that take their fuel from the length of the WHOLE store need a fuel-irrelevance argument that
  holds on every store (`ArroyProofs/FuelBounds.lean`).  `reify` (`reify_fuel_irrel`, `C07_readlocal_reify_len`): a
  tree held by a store is no deeper than the number of entries of its index plus one (`holds_depth_le_restrict`).
  `delete_tree` commutes with the projection on its index (`dt_restrict`), and on the projection the fuel does not
  matter (`dt_fuel_irrel`): `C07_readlocal_deleteTree`.
* `C07_buildLocal` (`BuildLocal c.index (.build c o fuel env)` under `c.index < 65536` only) and
  `C07_history_projection(_general)`: the projection theorem of `C07History.lean` with the build hypothesis
  discharged. -/
namespace Arroy.C07
open Arroy Generated C01 BuildM Build

def IdxOk (s : Store) : Prop := ∀ kv ∈ s, kv.1.index < 65536
def SOk (s : Store) : Prop := Store.Sorted s ∧ IdxOk s

theorem SOk.of_reach {s : Store} (h : Reach s) : SOk s :=
  ⟨h.sorted, fun kv hkv => (h.wf kv hkv).1⟩

/-- both stores sorted with u16 indexes, same content of index `j` -/
def SRel (j : Nat) (s s' : Store) : Prop := SOk s ∧ SOk s' ∧ restrictTo j s = restrictTo j s'

def Rel (j : Nat) (st st' : BState) : Prop :=
  SRel j st.store st'.store ∧ st.polls = st'.polls ∧ st.cancelAt = st'.cancelAt ∧
  st.normals = st'.normals ∧ st.rands = st'.rands ∧ st.batches = st'.batches

theorem Rel.of_stores {j : Nat} {s s' : Store} (h : SRel j s s') (env : BState) :
    Rel j { env with store := s } { env with store := s' } :=
  ⟨h, rfl, rfl, rfl, rfl, rfl⟩

def RelRes {α : Type} (j : Nat) (V : α → α → Prop) :
    Except Err (α × BState) → Except Err (α × BState) → Prop
  | .ok r, .ok r' => V r.1 r'.1 ∧ Rel j r.2 r'.2
  | .error _, .error _ => True
  | _, _ => False

def Loc {α : Type} (j : Nat) (V : α → α → Prop) (m m' : BuildM α) : Prop :=
  ∀ st st', Rel j st st' → RelRes j V (m st) (m' st')

/-- two results fail together, or succeed together with `R`-related values (`RelRes`, and the results of
    `delete_tree`, are of this form) -/
def Both {α : Type} (R : α → α → Prop) : Except Err α → Except Err α → Prop
  | .ok a, .ok a' => R a a'
  | .error _, .error _ => True
  | _, _ => False

theorem Both.cases {α : Type} {R : α → α → Prop} {x y : Except Err α} (h : Both R x y) :
    (∃ e e', x = .error e ∧ y = .error e') ∨ ∃ a a', x = .ok a ∧ y = .ok a' ∧ R a a' :=
  match x, y, h with
  | .error e, .error e', _ => Or.inl ⟨e, e', rfl, rfl⟩
  | .ok a, .ok a', h => Or.inr ⟨a, a', rfl, rfl, h⟩
  | .ok _, .error _, h => h.elim
  | .error _, .ok _, h => h.elim

theorem RelRes.both {α : Type} {j : Nat} {V : α → α → Prop} {x y : Except Err (α × BState)}
    (h : RelRes j V x y) : Both (fun r r' => V r.1 r'.1 ∧ Rel j r.2 r'.2) x y :=
  match x, y, h with
  | .error _, .error _, _ => trivial
  | .ok _, .ok _, h => h
  | .ok _, .error _, h => h.elim
  | .error _, .ok _, h => h.elim

section generic
variable {α β : Type} {j : Nat}

theorem Loc.bind' {V : α → α → Prop} {W : β → β → Prop} {m m' : BuildM α} {f f' : α → BuildM β}
    (hm : Loc j V m m') (hf : ∀ a a', V a a' → Loc j W (f a) (f' a')) :
    Loc j W (BuildM.bind' m f) (BuildM.bind' m' f') := by
  intro st st' h
  unfold BuildM.bind'
  rcases (hm st st' h).both.cases with ⟨e, e', h1, h2⟩ | ⟨⟨a, st1⟩, ⟨a', st1'⟩, h1, h2, hv, hr⟩
  · rw [h1, h2]; trivial
  · rw [h1, h2]; exact hf a a' hv st1 st1' hr

theorem Loc.bind {V : α → α → Prop} {W : β → β → Prop} {m m' : BuildM α} {f f' : α → BuildM β}
    (hm : Loc j V m m') (hf : ∀ a a', V a a' → Loc j W (f a) (f' a')) :
    Loc j W (m >>= f) (m' >>= f') := Loc.bind' hm hf

theorem Loc.bindEq {W : β → β → Prop} {m m' : BuildM α} {f f' : α → BuildM β}
    (hm : Loc j Eq m m') (hf : ∀ a, Loc j W (f a) (f' a)) :
    Loc j W (m >>= f) (m' >>= f') := Loc.bind' hm (fun a _ e => e ▸ hf a)

theorem Loc.pure {V : α → α → Prop} {a a' : α} (h : V a a') : Loc j V (pure a : BuildM α) (pure a') :=
  fun _ _ hr => ⟨h, hr⟩

theorem Loc.pure' {V : α → α → Prop} {a a' : α} (h : V a a') : Loc j V (BuildM.pure' a) (BuildM.pure' a') :=
  fun _ _ hr => ⟨h, hr⟩

theorem Loc.fail {V : α → α → Prop} (e e' : Err) : Loc j V (BuildM.fail e : BuildM α) (BuildM.fail e') :=
  fun _ _ _ => trivial

theorem Loc.weaken {V W : α → α → Prop} {m m' : BuildM α} (h : Loc j V m m') (hw : ∀ a a', V a a' → W a a') :
    Loc j W m m' := by
  intro st st' hr
  rcases (h st st' hr).both.cases with ⟨e, e', h1, h2⟩ | ⟨r, r', h1, h2, hv, hr'⟩
  · rw [h1, h2]; trivial
  · rw [h1, h2]; exact ⟨hw _ _ hv, hr'⟩

theorem Loc.ite {V : α → α → Prop} {p : Prop} [Decidable p] {a a' b b' : BuildM α}
    (ha : Loc j V a a') (hb : Loc j V b b') : Loc j V (if p then a else b) (if p then a' else b') := by
  split
  · exact ha
  · exact hb

/-- `Loc j Eq m m` unfolded: the hypothesis is the definition of the conclusion (the identity); the rule for
    computations that do not look at the store is `Loc.blind` -/
theorem Loc.of_nostore {m : BuildM α}
    (h : ∀ st st', Rel j st st' → RelRes j Eq (m st) (m st')) : Loc j Eq m m := h

/-- the rule for computations that neither read nor write the store: they commute with replacing it -/
theorem Loc.blind {m : BuildM α}
    (h : ∀ (st : BState) (s' : Store),
      m { st with store := s' } = (m st).map (fun r => (r.1, { r.2 with store := s' }))) :
    Loc j Eq m m := by
  intro st st' hr
  obtain ⟨s, p, ca, n, r, b⟩ := st
  obtain ⟨s', p', ca', n', r', b'⟩ := st'
  obtain ⟨hs, hp, hc, hn, hr, hb⟩ := hr
  simp only at hs hp hc hn hr hb
  subst hp hc hn hr hb
  have h0 := h ⟨s, p, ca, n, r, b⟩ s
  have h1 := h ⟨s, p, ca, n, r, b⟩ s'
  simp only at h0 h1
  rw [h1]
  cases e : m ⟨s, p, ca, n, r, b⟩ with
  | error _ => trivial
  | ok x =>
    -- `h0`: the store of the result is `s`
    rw [e] at h0
    obtain ⟨a, ⟨s1, p1, c1, n1, r1, b1⟩⟩ := x
    simp only [Except.map, Except.ok.injEq, Prod.mk.injEq, BState.mk.injEq, true_and, and_true] at h0
    subst h0
    exact ⟨rfl, hs, rfl, rfl, rfl, rfl, rfl⟩

theorem Loc.poll : Loc j Eq BuildM.poll BuildM.poll :=
  Loc.blind (fun st s' => by
    unfold BuildM.poll
    cases st.cancelAt with
    | none => rfl
    | some k => dsimp only; split <;> rfl)

theorem Loc.pollN : ∀ k : Nat, Loc j Eq (BuildM.pollN k) (BuildM.pollN k)
  | 0 => Loc.pure rfl
  | k+1 => Loc.bind' Loc.poll (fun _ _ _ => Loc.pollN k)

theorem Loc.nextBatch : Loc j Eq BuildM.nextBatch BuildM.nextBatch :=
  Loc.blind (fun st s' => by unfold BuildM.nextBatch; cases st.batches <;> rfl)

theorem Loc.liftExcept (x : Except Err α) : Loc j Eq (BuildM.liftExcept x) (BuildM.liftExcept x) :=
  Loc.blind (fun st s' => by unfold BuildM.liftExcept; cases x <;> rfl)

theorem Loc.getStore : Loc j (SRel j) BuildM.getStore BuildM.getStore :=
  fun _ _ h => ⟨h.1, h⟩

theorem Loc.peek : Loc j (Rel j) (fun s => .ok (s, s) : BuildM BState) (fun s => .ok (s, s)) :=
  fun _ _ h => ⟨h, h⟩

theorem Loc.modifyStore {f f' : Store → Store} (h : ∀ s s', SRel j s s' → SRel j (f s) (f' s')) :
    Loc j Eq (BuildM.modifyStore f) (BuildM.modifyStore f') := by
  intro st st' hr
  obtain ⟨hs, hp, hc, hn, hr, hb⟩ := hr
  exact ⟨rfl, h _ _ hs, hp, hc, hn, hr, hb⟩

theorem Loc.setStore {s s' : Store} (h : SRel j s s') :
    Loc j Eq (BuildM.setStore s) (BuildM.setStore s') := by
  intro st st' hr
  obtain ⟨_, hp, hc, hn, hr, hb⟩ := hr
  exact ⟨rfl, h, hp, hc, hn, hr, hb⟩

theorem Loc.setRands (r : List Bool) :
    Loc j Eq (fun s => .ok ((), { s with rands := r }) : BuildM Unit) (fun s => .ok ((), { s with rands := r })) :=
  Loc.blind (fun _ _ => rfl)

theorem Loc.setNormalsRands (ns : List (List Nat)) (r : List Bool) :
    Loc j Eq (fun s => .ok ((), { s with normals := ns, rands := r }) : BuildM Unit)
      (fun s => .ok ((), { s with normals := ns, rands := r })) :=
  Loc.blind (fun _ _ => rfl)

theorem Loc.forEach {γ : Type} {f f' : γ → BuildM Unit} (h : ∀ x, Loc j Eq (f x) (f' x)) :
    ∀ l : List γ, Loc j Eq (BuildM.forEach l f) (BuildM.forEach l f')
  | [] => Loc.pure rfl
  | x :: xs => Loc.bind' (h x) (fun _ _ _ => Loc.forEach h xs)

end generic

theorem SOk.filter {s : Store} (h : SOk s) (p : Key × Val → Bool) : SOk (s.filter p) :=
  ⟨Store.filter_sorted h.1 p, fun kv hkv => h.2 kv (List.mem_filter.1 hkv).1⟩

theorem SOk.put {s : Store} (h : SOk s) (k : Key) (v : Val) (hk : k.index < 65536) : SOk (Store.put s k v) := by
  refine ⟨Store.put_sorted h.1 k v, ?_⟩
  intro kv hkv
  rcases Store.mem_put hkv with rfl | hm
  · exact hk
  · exact h.2 kv hm

theorem SRel.filter {j : Nat} {s s' : Store} (h : SRel j s s') (p : Key × Val → Bool) :
    SRel j (s.filter p) (s'.filter p) :=
  ⟨h.1.filter p, h.2.1.filter p, by rw [restrictTo_filter, restrictTo_filter, h.2.2]⟩

theorem SRel.erase {j : Nat} {s s' : Store} (h : SRel j s s') (k : Key) :
    SRel j (Store.erase s k) (Store.erase s' k) := h.filter _

theorem SRel.deleteRange {j : Nat} {s s' : Store} (h : SRel j s s') (lo hi : Key) :
    SRel j (Store.deleteRange s lo hi) (Store.deleteRange s' lo hi) := h.filter _

theorem SRel.put {j : Nat} (hj : j < 65536) {s s' : Store} (h : SRel j s s') (k : Key) (v : Val)
    (hk : k.index = j) : SRel j (Store.put s k v) (Store.put s' k v) :=
  ⟨h.1.put k v (hk ▸ hj), h.2.1.put k v (hk ▸ hj),
    by rw [restrictTo_put h.1.1 k v hk, restrictTo_put h.2.1.1 k v hk, h.2.2]⟩

theorem C07_readlocal_get {j : Nat} {s s' : Store} (h : SRel j s s') (k : Key) (hk : k.index = j) :
    Store.get s k = Store.get s' k := get_of_restrictTo_eq h.2.2 k hk

theorem C07_readlocal_prefixIter {j : Nat} (hj : j < 65536) {s s' : Store} (h : SRel j s s') (m : Option Nat) :
    Store.prefixIter s j m = Store.prefixIter s' j m := by
  rw [← prefixIter_restrictTo hj h.1.2 m, ← prefixIter_restrictTo hj h.2.1.2 m, h.2.2]

theorem C07_readlocal_keysOf {j : Nat} (hj : j < 65536) {s s' : Store} (h : SRel j s s') (m : Nat) :
    Store.keysOf s j m = Store.keysOf s' j m := by
  unfold Store.keysOf
  rw [C07_readlocal_prefixIter hj h]

theorem mem_prefixIter_index {j : Nat} (hj : j < 65536) {s : Store} (hw : IdxOk s) (m : Option Nat)
    {kv : Key × Val} (h : kv ∈ Store.prefixIter s j m) : kv.1.index = j := by
  obtain ⟨hkv, hp⟩ := List.mem_filter.1 h
  exact index_of_isPrefixOf hj (hw kv hkv) m hp

theorem SRel.foldl_put {j : Nat} (hj : j < 65536) {γ : Type} (key : γ → Key) (val : γ → Val) :
    ∀ (l : List γ) (s s' : Store), (∀ x ∈ l, (key x).index = j) → SRel j s s' →
      SRel j (l.foldl (fun st x => Store.put st (key x) (val x)) s)
        (l.foldl (fun st x => Store.put st (key x) (val x)) s')
  | [], _, _, _, h => h
  | x :: xs, s, s', hk, h => by
    simp only [List.foldl_cons]
    exact SRel.foldl_put hj key val xs _ _ (fun y hy => hk y (List.mem_cons_of_mem _ hy))
      (h.put hj _ _ (hk x (List.mem_cons_self ..)))

theorem dotLeaves_local (c : Cfg) (hi : c.index < 65536) {s s' : Store} (h : SRel c.index s s') :
    dotLeaves c s = dotLeaves c s' := by
  unfold dotLeaves
  rw [C07_readlocal_prefixIter hi h]

theorem dotLeaves_index (c : Cfg) (hi : c.index < 65536) {s : Store} (hw : IdxOk s) :
    ∀ x ∈ dotLeaves c s, x.1.index = c.index := by
  intro x hx
  unfold dotLeaves at hx
  obtain ⟨kv, hkv, he⟩ := List.mem_filterMap.1 hx
  have := mem_prefixIter_index hi hw _ hkv
  split at he
  · cases he; exact this
  · cases he

theorem C07_readlocal_preprocessDot (c : Cfg) (hi : c.index < 65536) {s s' : Store} (h : SRel c.index s s') :
    SRel c.index (preprocessDot c s) (preprocessDot c s') := by
  rw [preprocessDot_eq, preprocessDot_eq]
  have hv : dotVal c s = dotVal c s' := by
    funext kv
    unfold dotVal
    rw [dotLeaves_local c hi h]
  rw [← dotLeaves_local c hi h, ← hv]
  exact SRel.foldl_put hi (fun kv => kv.1) (dotVal c s) _ _ _ (dotLeaves_index c hi h.1.2) h

section helpers
variable (c : Cfg) (hi : c.index < 65536)
include hi

theorem C07_readlocal_preProcessItems : Loc c.index Eq (preProcessItems c) (preProcessItems c) := by
  unfold preProcessItems
  apply Loc.bindEq Loc.poll; intro _
  apply Loc.ite
  · exact Loc.modifyStore (fun _ _ h => C07_readlocal_preprocessDot c hi h)
  · exact Loc.pure rfl

theorem C07_readlocal_itemIndices : Loc c.index Eq (itemIndices c) (itemIndices c) := by
  unfold itemIndices
  apply Loc.bind Loc.getStore; intro s s' hs
  rw [C07_readlocal_keysOf hi hs]
  apply Loc.bindEq (Loc.pollN _); intro _
  exact Loc.pure rfl

theorem C07_readlocal_resetUpdated : Loc c.index Eq (resetUpdated c) (resetUpdated c) := by
  unfold resetUpdated
  apply Loc.bind Loc.getStore; intro s s' hs
  rw [C07_readlocal_keysOf hi hs]
  apply Loc.bindEq
  · apply Loc.forEach; intro id
    apply Loc.bindEq Loc.poll; intro _
    exact Loc.modifyStore (fun s s' h => h.erase _)
  · intro _; exact Loc.pure rfl

theorem C07_readlocal_writeMetadata (items roots : List Nat) :
    Loc c.index Eq (writeMetadata c items roots) (writeMetadata c items roots) :=
  Loc.modifyStore (fun _ _ h => h.put hi _ _ rfl)

theorem C07_readlocal_singleLeaf (items : List Nat) :
    Loc c.index Eq (singleLeaf c items) (singleLeaf c items) := by
  rw [singleLeaf_eq]
  apply Loc.bindEq (Loc.modifyStore (fun s s' h => h.deleteRange _ _)); intro _
  apply Loc.bindEq (Loc.ite (Loc.modifyStore (fun s s' h => h.put hi _ _ rfl)) (Loc.pure rfl)); intro _
  apply Loc.bindEq Loc.poll; intro _
  apply Loc.bindEq (C07_readlocal_writeMetadata c hi _ _); intro _
  exact Loc.modifyStore (fun _ _ h => h.put hi _ _ rfl)

theorem C07_readlocal_usedTreeNode : Loc c.index Eq (usedTreeNode c) (usedTreeNode c) := by
  intro st st' h
  obtain ⟨s, p, ca, n, r, b⟩ := st
  obtain ⟨s', p', ca', n', r', b'⟩ := st'
  obtain ⟨hs, hp, hc, hn, hr, hb⟩ := h
  simp only at hs hp hc hn hr hb
  subst hp hc hn hr hb
  unfold usedTreeNode
  simp only
  rw [C07_readlocal_keysOf hi hs]
  cases ca with
  | none => exact ⟨rfl, hs, rfl, rfl, rfl, rfl, rfl⟩
  | some k =>
    simp only
    split
    · exact ⟨rfl, hs, rfl, rfl, rfl, rfl, rfl⟩
    · exact ⟨rfl, hs, rfl, rfl, rfl, rfl, rfl⟩

theorem C07_readlocal_writeBack (removed : List Nat) (puts : List (Nat × Val)) (remap : Nat → Nat) :
    Loc c.index Eq (writeBack c removed puts remap) (writeBack c removed puts remap) := by
  unfold writeBack
  apply Loc.bindEq
  · apply Loc.forEach; intro id
    apply Loc.bindEq Loc.poll; intro _
    exact Loc.modifyStore (fun s s' h => h.erase _)
  · intro _
    apply Loc.forEach; intro p
    apply Loc.bindEq Loc.poll; intro _
    exact Loc.modifyStore (fun s s' h => h.put hi _ _ rfl)

theorem C07_readlocal_newTrees (items : List Nat) : ∀ (k : Nat) (roots large : List Nat) (g : IdGen),
    Loc c.index Eq (newTrees c items k roots large g) (newTrees c items k roots large g)
  | 0, roots, large, g => by unfold newTrees; exact Loc.pure rfl
  | k+1, roots, large, g => by
    unfold newTrees
    apply Loc.bindEq (Loc.liftExcept _); intro x
    obtain ⟨id, g'⟩ := x
    apply Loc.bindEq (Loc.modifyStore (fun s s' h => h.put hi _ _ rfl)); intro _
    exact C07_readlocal_newTrees items k _ _ _

omit hi in
theorem C07_readlocal_treeCtx (o : BuildOpts) {s s' : Store} (h : SRel c.index s s') :
    treeCtx c o s = treeCtx c o s' := by
  unfold treeCtx
  congr 1
  funext normal x
  unfold sideOf Writer.itemLeaf
  rw [C07_readlocal_get h (c.itemKey x) rfl]

omit hi in
theorem C07_readlocal_reify {s s' : Store} (h : SRel c.index s s') :
    ∀ (fuel : Nat) (ref : NodeId), reify c s fuel ref = reify c s' fuel ref
  | 0, _ => rfl
  | fuel+1, ref => by
    unfold reify
    have ih := fun r => C07_readlocal_reify h fuel r
    rw [C07_readlocal_get h (c.treeKey ref.item) rfl]
    simp only [ih]

end helpers

/-- a tree held by the store is no deeper than the number of entries of its index (plus one) -/
theorem holds_depth_le_restrict {c : Cfg} {s : Store} (t : T) (h : Holds c s t) :
    t.depth ≤ (restrictTo c.index s).length + 1 := by
  have := holds_depth_le t ((restrictTo c.index s).map (·.1.item)) h (by
    intro id hid
    rw [← cells_ids] at hid
    obtain ⟨cell, hc, rfl⟩ := List.mem_map.1 hid
    have hm := Store.mem_of_get (h cell hc)
    exact List.mem_map.2 ⟨_, mem_restrictTo.2 ⟨hm, rfl⟩, rfl⟩)
  simpa using this

theorem reify_fuel_irrel (c : Cfg) (s : Store) (ref : NodeId) (F : Nat)
    (hF : (restrictTo c.index s).length + 1 ≤ F) :
    reify c s F ref = reify c s ((restrictTo c.index s).length + 1) ref := by
  cases e : reify c s F ref with
  | some t =>
    obtain ⟨hh, hr⟩ := holds_of_reify c s F ref t e
    rw [← hr]
    exact (reify_of_holds c s t hh _ (holds_depth_le_restrict t hh)).symm
  | none =>
    cases e' : reify c s ((restrictTo c.index s).length + 1) ref with
    | none => rfl
    | some t =>
      obtain ⟨hh, hr⟩ := holds_of_reify c s _ ref t e'
      have := reify_of_holds c s t hh F (Nat.le_trans (holds_depth_le_restrict t hh) hF)
      rw [hr, e] at this
      cases this

/-- **`reify` with the fuel of the build (`s.length + 1`) reads index `c.index` only** -/
theorem C07_readlocal_reify_len (c : Cfg) {s s' : Store} (h : SRel c.index s s')
    (ref : NodeId) : reify c s (s.length + 1) ref = reify c s' (s'.length + 1) ref := by
  have h1 : (restrictTo c.index s).length ≤ s.length := List.length_filter_le _ _
  have h2 : (restrictTo c.index s').length ≤ s'.length := List.length_filter_le _ _
  rw [reify_fuel_irrel c s ref (s.length + 1) (by omega),
    reify_fuel_irrel c s' ref (s'.length + 1) (by omega), h.2.2]
  exact C07_readlocal_reify c h _ ref

theorem Loc.liftExceptRel {j : Nat} {x x' : Except Err Store} (h : Both (SRel j) x x') :
    Loc j (SRel j) (BuildM.liftExcept x) (BuildM.liftExcept x') := by
  intro st st' hr
  unfold BuildM.liftExcept
  rcases h.cases with ⟨e, e', rfl, rfl⟩ | ⟨a, a', rfl, rfl, ha⟩
  · trivial
  · exact ⟨ha, hr⟩

/-- `delete_tree` commutes with the projection on its index: it reads and erases keys of that index only -/
theorem dt_restrict (c : Cfg) : ∀ (f : Nat) (x : NodeId) (s : Store),
    deleteTree c f x (restrictTo c.index s) = (deleteTree c f x s).map (restrictTo c.index)
  | 0, x, s => by rw [dt_zero, dt_zero]; rfl
  | f+1, x, s => by
    by_cases hx : x.isItem = true
    · rw [dt_item c f hx, dt_item c f hx]; rfl
    · have hx : x.isItem = false := by simpa using hx
      have hgg := get_restrictTo c.index s (dkey c x) rfl
      cases hg : Store.get s (dkey c x) with
      | none => rw [dt_none c f hx hg, dt_none c f hx (hgg.trans hg)]; rfl
      | some v =>
        have hg' := hgg.trans hg
        rcases val_cases v with ⟨l, r, n, rfl⟩ | ⟨ids, rfl⟩ | ⟨hns, hnd⟩
        · rw [dt_split c f hx hg, dt_split c f hx hg', dt_restrict c f l s]
          cases deleteTree c f l s with
          | error e => rfl
          | ok sa =>
            simp only [Except.map]
            rw [dt_restrict c f r sa]
            cases deleteTree c f r sa with
            | error e => rfl
            | ok s2 => simp only [Except.map]; rw [restrictTo_erase]
        · rw [dt_desc c f hx hg, dt_desc c f hx hg']; simp only [Except.map]; rw [restrictTo_erase]
        · rw [dt_other c f hx hg hns hnd, dt_other c f hx hg' hns hnd]; rfl

theorem Both.of_map_iff {α β : Type} {g : α → β} {A B : Except Err α}
    (h : ∀ r, A.map g = .ok r ↔ B.map g = .ok r) : Both (fun a b => g a = g b) A B := by
  cases A with
  | ok a =>
    cases B with
    | ok b => exact Except.ok.inj ((h (g a)).1 rfl).symm
    | error e => cases (h (g a)).1 rfl
  | error e =>
    cases B with
    | ok b => cases (h (g b)).2 rfl
    | error e' => trivial
/-- **`delete_tree` with the fuel of the build (`s.length + 1`) reads and writes index `c.index` only**: both
    runs, projected, are the run on the projection, whose fuel does not matter above its length -/
theorem C07_readlocal_deleteTree (c : Cfg) {s s' : Store} (h : SRel c.index s s') (x : NodeId) :
    Both (SRel c.index) (deleteTree c (s.length + 1) x s) (deleteTree c (s'.length + 1) x s') := by
  have key : ∀ t : Store, restrictTo c.index t = restrictTo c.index s → ∀ r1,
      (deleteTree c (t.length + 1) x t).map (restrictTo c.index) = .ok r1 ↔
      deleteTree c ((restrictTo c.index s).length + 1) x (restrictTo c.index s) = .ok r1 := by
    intro t e r1
    rw [← dt_restrict, e]
    have hlen : (restrictTo c.index s).length + 1 ≤ t.length + 1 := by
      rw [← e]; exact Nat.succ_le_succ (List.length_filter_le _ _)
    exact dt_fuel_irrel c x _ (h.1.filter _).1 _ hlen r1
  rcases (Both.of_map_iff (fun r1 => (key s rfl r1).trans (key s' h.2.2.symm r1).symm)).cases with
    ⟨e, e', h1, h2⟩ | ⟨a, b, h1, h2, hab⟩
  · rw [h1, h2]; trivial
  · obtain ⟨q, rfl⟩ := dt_filter c _ x s a h1
    obtain ⟨q', rfl⟩ := dt_filter c _ x s' b h2
    rw [h1, h2]
    exact ⟨h.1.filter q, h.2.1.filter q', hab⟩

section treehelpers
variable (c : Cfg) (hi : c.index < 65536)
include hi

omit hi in
theorem C07_readlocal_reifyRoot {s s' : Store} (h : SRel c.index s s') (root : Nat) :
    Loc c.index Eq (reifyRoot c s root) (reifyRoot c s' root) := by
  unfold reifyRoot
  rw [C07_readlocal_reify_len c h]
  cases reify c s' (s'.length + 1) (NodeId.mkTree root) with
  | none => exact Loc.fail _ _
  | some t => exact Loc.pure rfl

omit hi in
theorem C07_readlocal_deleteLoop (o : BuildOpts) (D : List Nat) {s s' : Store} (h : SRel c.index s s') :
    ∀ roots : List Nat, Loc c.index Eq (deleteLoop c o D s roots) (deleteLoop c o D s' roots)
  | [] => by unfold deleteLoop; exact Loc.pure rfl
  | root :: rest => by
    unfold deleteLoop
    apply Loc.bindEq Loc.poll; intro _
    apply Loc.bindEq (C07_readlocal_reifyRoot c h root); intro t
    apply Loc.bindEq (Loc.pollN _); intro _
    apply Loc.bindEq (C07_readlocal_deleteLoop o D h rest); intro x
    obtain ⟨a, b, e⟩ := x
    exact Loc.pure rfl

theorem C07_readlocal_deleteItemsFromTrees (o : BuildOpts) (roots D : List Nat) :
    Loc c.index Eq (deleteItemsFromTrees c o roots D) (deleteItemsFromTrees c o roots D) := by
  unfold deleteItemsFromTrees
  apply Loc.bind Loc.getStore; intro s s' hs
  apply Loc.bindEq (C07_readlocal_deleteLoop c o D hs roots); intro x
  obtain ⟨a, b, e⟩ := x
  apply Loc.bindEq (C07_readlocal_writeBack c hi _ _ _); intro _
  exact Loc.pure rfl

omit hi in
theorem C07_readlocal_insertRoots (o : BuildOpts) {s s' : Store} (h : SRel c.index s s') (batch : List Nat) :
    ∀ (roots : List Nat) (g : IdGen),
      Loc c.index Eq (insertRoots c o s batch roots g) (insertRoots c o s' batch roots g)
  | [], g => by unfold insertRoots; exact Loc.pure rfl
  | root :: rest, g => by
    unfold insertRoots
    apply Loc.bindEq Loc.poll; intro _
    apply Loc.bindEq (C07_readlocal_reifyRoot c h root); intro t
    apply Loc.bind Loc.peek; intro st st' hst
    rw [← C07_readlocal_treeCtx c o h, ← hst.2.2.2.2.1]
    apply Loc.bindEq (Loc.liftExcept _); intro r
    apply Loc.bindEq (Loc.setRands _); intro _
    apply Loc.bindEq (Loc.pollN _); intro _
    apply Loc.bindEq (C07_readlocal_insertRoots o h batch rest _); intro x
    obtain ⟨a, b, e⟩ := x
    exact Loc.pure rfl

theorem C07_readlocal_insertItemsInCurrentTrees (o : BuildOpts) (roots : List Nat) :
    ∀ (fuel : Nat) (toInsert : List Nat) (g : IdGen),
      Loc c.index Eq (insertItemsInCurrentTrees c o roots fuel toInsert g)
        (insertItemsInCurrentTrees c o roots fuel toInsert g)
  | 0, _, _ => by unfold insertItemsInCurrentTrees; exact Loc.fail _ _
  | fuel+1, toInsert, g => by
    unfold insertItemsInCurrentTrees
    apply Loc.ite (Loc.pure rfl)
    apply Loc.bindEq Loc.poll; intro _
    apply Loc.bind Loc.getStore; intro s s' hs
    apply Loc.bindEq Loc.nextBatch; intro k
    refine Loc.ite (Loc.fail _ _) ?_
    apply Loc.bindEq (C07_readlocal_insertRoots c o hs _ _ _); intro x
    obtain ⟨putss, large, g'⟩ := x
    apply Loc.bindEq
    · apply Loc.forEach; intro puts; exact C07_readlocal_writeBack c hi _ _ _
    intro _
    apply Loc.bindEq (C07_readlocal_insertItemsInCurrentTrees o roots fuel _ _); intro y
    obtain ⟨large', g''⟩ := y
    exact Loc.pure rfl

theorem C07_readlocal_incrementalIndexLargeDescendants (o : BuildOpts) :
    ∀ (fuel : Nat) (large : List Nat) (g : IdGen),
      Loc c.index Eq (incrementalIndexLargeDescendants c o fuel large g)
        (incrementalIndexLargeDescendants c o fuel large g)
  | 0, large, g => by
    unfold incrementalIndexLargeDescendants
    exact Loc.ite (Loc.pure rfl) (Loc.fail _ _)
  | fuel+1, large, g => by
    unfold incrementalIndexLargeDescendants
    split
    · exact Loc.pure rfl
    · rename_i b large'
      apply Loc.bindEq Loc.poll; intro _
      apply Loc.bind Loc.getStore; intro s s' hs
      rw [C07_readlocal_get hs (c.treeKey b) rfl, C07_readlocal_treeCtx c o hs]
      split
      · rename_i ids hget
        apply Loc.bindEq Loc.nextBatch; intro k
        refine Loc.ite (Loc.fail _ _) ?_
        apply Loc.bind Loc.peek; intro st st' hst
        rw [← hst.2.2.2.2.1, ← hst.2.2.2.1]
        apply Loc.bindEq (Loc.liftExcept _); intro r
        apply Loc.bindEq (Loc.setNormalsRands _ _); intro _
        apply Loc.bindEq (Loc.pollN _); intro _
        apply Loc.bindEq (C07_readlocal_writeBack c hi _ _ _); intro _
        apply Loc.bindEq (C07_readlocal_insertItemsInCurrentTrees c hi o _ _ _ _); intro x
        obtain ⟨large'', g'⟩ := x
        exact C07_readlocal_incrementalIndexLargeDescendants o fuel _ _
      · exact Loc.fail _ _

omit hi in
theorem C07_readlocal_deleteExtraTrees : ∀ (k : Nat) (roots : List Nat),
    Loc c.index Eq (deleteExtraTrees c k roots) (deleteExtraTrees c k roots)
  | 0, roots => by unfold deleteExtraTrees; exact Loc.pure rfl
  | k+1, roots => by
    unfold deleteExtraTrees
    apply Loc.bindEq Loc.poll; intro _
    split
    · exact Loc.pure rfl
    · rename_i root rest
      apply Loc.bind Loc.getStore; intro s s' hs
      apply Loc.bind (Loc.liftExceptRel (C07_readlocal_deleteTree c hs _)); intro s1 s1' hs1
      apply Loc.bindEq (Loc.setStore hs1); intro _
      exact C07_readlocal_deleteExtraTrees k _

/-- **read-locality of `Writer::build`**: from two build states that agree on everything but the store, whose
    stores are sorted with u16 indexes and have the same content of index `c.index`, the build fails in both or
    succeeds in both, with the same content of index `c.index` and the same oracle/poll state afterwards -/
theorem C07_readlocal_build_full (o : BuildOpts) (fuel : Nat) :
    Loc c.index Eq (Build.build c o fuel) (Build.build c o fuel) := by
  unfold build
  apply Loc.bindEq (C07_readlocal_preProcessItems c hi); intro _
  apply Loc.bindEq (C07_readlocal_itemIndices c hi); intro items
  apply Loc.bindEq (C07_readlocal_resetUpdated c hi); intro updated
  apply Loc.ite (C07_readlocal_singleLeaf c hi _)
  dsimp only
  apply Loc.bind Loc.getStore; intro s s' hs
  rw [C07_readlocal_get hs c.metaKey rfl]
  apply Loc.bindEq (C07_readlocal_usedTreeNode c hi); intro used
  apply Loc.bindEq (C07_readlocal_deleteExtraTrees c _ _); intro roots
  apply Loc.bindEq (C07_readlocal_deleteItemsFromTrees c hi o _ _); intro roots'
  apply Loc.bindEq (C07_readlocal_insertItemsInCurrentTrees c hi o _ _ _ _); intro x
  obtain ⟨large, g⟩ := x
  apply Loc.bindEq (C07_readlocal_newTrees c hi _ _ _ _ _); intro y
  obtain ⟨roots'', large', g'⟩ := y
  apply Loc.bindEq (C07_readlocal_incrementalIndexLargeDescendants c hi o _ _ _); intro _
  exact C07_readlocal_writeMetadata c hi _ _

end treehelpers

/-- **`BuildLocal`**: a build of index `c.index` depends on a reachable store only through the content of
    index `c.index`.  The only hypothesis is the u16 range of the index (part of `Op.wf`). -/
theorem C07_buildLocal (c : Cfg) (hi : c.index < 65536) (o : BuildOpts) (fuel : Nat) (env : BState) :
    BuildLocal c.index (.build c o fuel env) := by
  intro s s' hs hs' h
  have h0 := C07_readlocal_build_full c hi o fuel _ _
    (Rel.of_stores ⟨SOk.of_reach hs, SOk.of_reach hs', h⟩ env)
  show restrictTo c.index (match Build.build c o fuel { env with store := s } with
      | .ok (_, st') => st'.store
      | .error _ => s) =
    restrictTo c.index (match Build.build c o fuel { env with store := s' } with
      | .ok (_, st') => st'.store
      | .error _ => s')
  rcases h0.both.cases with ⟨e, e', h1, h2⟩ | ⟨r, r', h1, h2, _, hr⟩
  · rw [h1, h2]; exact h
  · rw [h1, h2]; exact hr.1.2.2

/-- every well-formed history passes the build checks of `C07_history_projection_general_partial` -/
theorem buildsLocalFrom_of_wf (j : Nat) (ops pre : List Op) (hpre : ∀ op ∈ pre, op.wf) (hops : ∀ op ∈ ops, op.wf) :
    BuildsLocalFrom j pre ops := by
  refine buildsLocalFrom_of_buildLocal j ops pre hpre hops (fun op hop hidx hb => ?_)
  cases op with
  | build c o fuel env =>
    have hc : c.index = j := hidx
    subst hc
    exact C07_buildLocal c (hops _ hop).1 o fuel env
  | _ => cases hb

/-- **the history-level projection theorem**, builds included: for a well-formed history in which each append
    on index `j` is accepted in the interleaved history iff it is accepted in `j`'s own history, the content of
    index `j` is the result of `j`'s own history -/
theorem C07_history_projection_general (j : Nat) (hj : j < 65536) (ops : List Op)
    (hops : ∀ op ∈ ops, op.wf) (happ : AppendsAgreeFrom j [] ops) :
    restrictTo j (run ops) = restrictTo j (run (opsOf j ops)) ∧
    restrictTo j (run ops) = run (opsOf j ops) :=
  C07_history_projection_general_partial j hj ops hops happ (buildsLocalFrom_of_wf j ops [] (by simp) hops)

/-- in particular when index `j` is never the target of an `append` -/
theorem C07_history_projection (j : Nat) (hj : j < 65536) (ops : List Op)
    (hops : ∀ op ∈ ops, op.wf) (happ : ∀ op ∈ ops, opIndex op = j → isAppend op = false) :
    restrictTo j (run ops) = restrictTo j (run (opsOf j ops)) ∧
    restrictTo j (run ops) = run (opsOf j ops) :=
  C07_history_projection_general j hj ops hops (appendsAgreeFrom_of_noappend j ops [] happ)

namespace ExH
open C01.Ex C17.Ex

theorem opsC2_builds0 : BuildsLocalFrom 0 [] (opsC ++ [.build cC oEx 5 env2]) :=
  buildsLocalFrom_of_wf 0 _ [] (by simp) opsC2_wf
theorem opsC2_builds3 : BuildsLocalFrom 3 [] (opsC ++ [.build cC oEx 5 env2]) :=
  buildsLocalFrom_of_wf 3 _ [] (by simp) opsC2_wf

example : restrictTo 0 (run (opsC ++ [.build cC oEx 5 env2])) = run (opsOf 0 (opsC ++ [.build cC oEx 5 env2])) :=
  (C07_history_projection_partial 0 (by decide) _ opsC2_wf (by decide) opsC2_builds0).2
example : restrictTo 3 (run (opsC ++ [.build cC oEx 5 env2])) = run (opsOf 3 (opsC ++ [.build cC oEx 5 env2])) :=
  (C07_history_projection_partial 3 (by decide) _ opsC2_wf (by decide) opsC2_builds3).2

/-- the answers: index 0 of `opsC` followed by its second build — the reader opens (in both) -/
example : Reader.open cC (run (opsC ++ [.build cC oEx 5 env2])) =
      Reader.open cC (run (opsOf 0 (opsC ++ [.build cC oEx 5 env2]))) ∧
    C06.okB (Reader.open cC (run (opsC ++ [.build cC oEx 5 env2]))) = true := by
  refine ⟨(C07_history_answers_partial 0 (by decide) _ opsC2_wf (by decide) opsC2_builds0 cC rfl).1, ?_⟩
  show C06.okB (Reader.open cC sC) = true
  rw [sC_eq]; decide +kernel

end ExH

namespace ExBL
open C01.Ex C17.Ex ExH

/-- non-vacuity: the history `opsC ++ [build]` of `C07History` (index 0 built twice, the second time on the
    incremental path under a cancellation schedule; index 3 built once) satisfies the hypotheses -/
example : restrictTo 0 (run (opsC ++ [.build cC oEx 5 env2])) = run (opsOf 0 (opsC ++ [.build cC oEx 5 env2])) :=
  (C07_history_projection 0 (by decide) _ opsC2_wf (by decide)).2
example : restrictTo 3 (run (opsC ++ [.build cC oEx 5 env2])) = run (opsOf 3 (opsC ++ [.build cC oEx 5 env2])) :=
  (C07_history_projection 3 (by decide) _ opsC2_wf (by decide)).2
example : BuildLocal cC.index (.build cC oEx 5 env2) := C07_buildLocal cC (by decide) oEx 5 env2
/-- the relation `Rel` is inhabited by states with different stores -/
example : Rel 0 { store := run hA } { store := run (opsOf 0 hA) } :=
  Rel.of_stores ⟨SOk.of_reach (Reach.run hA_wf), SOk.of_reach (Reach.run (opsOf_wf hA_wf)),
    (C07_history_projection 0 (by decide) hA hA_wf hA_noappend).1⟩ { store := [] }
end ExBL

end Arroy.C07
