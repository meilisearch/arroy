import ArroyProofs.Properties.C07Nns
import ArroyProofs.Properties.C19History
import ArroyProofs.Properties.C17Reachable
/-! # C07 over interleaved histories — the content of an index is a function of its own history

`restrictTo j s` is the sub-list of the entries of index `j`; `opsOf j ops` the sub-history of the
operations whose target is index `j` (`opIndex`).

* `C07_local_add / _del / _clear / _prepare`, `C07_commute_step`, `C07_local_step` : each add, delete, clear and
  metric change of index `j` commutes with `restrictTo j` on a reachable (sorted, well-formed) store, hence
  depends on the store only through `restrictTo j`; `C07_frame_step` : an operation of another index leaves
  `restrictTo j` as it is (from `C07_dump_step`).
* `C07_history_projection_general_partial` : for a well-formed history,
  `restrictTo j (run ops) = restrictTo j (run (opsOf j ops)) = run (opsOf j ops)` under two decidable
  hypotheses (checked by `decide +kernel` on the example histories).  `AppendsAgreeFrom j [] ops`: each append
  on `j` is accepted in both histories or refused in both; otherwise the equation fails
  (`C07_projection_fails_example`).  `BuildsLocalFrom j [] ops`: each build of index `j`, executed in the two
  stores it meets (the interleaved one and the one of `j`'s own history, which have the same content of index
  `j`), leaves the same content of index `j`; this follows from `BuildLocal j op`, the read-locality of
  `Build.build` proved in `C07BuildLocal.lean`.
* `C07_history_projection_partial` : index `j` is never the target of an `append` (appends on other indexes
  are allowed); `C07_history_projection_nobuild` : moreover no build of index `j` (the other indexes may do
  anything, builds included), no hypothesis left.
* `C07_history_append_partial` : an append on `j` after the interleaved history is accepted iff it is accepted
  after `j`'s own history and every key of the other indexes present at that moment is smaller; an accepted
  one writes the same content into `j`.
* `C07_history_answers_partial / _nobuild` : `Reader.open`, `need_build`, the item reads and every query of
  index `j` are the same after the interleaved history and after `j`'s own history. -/
namespace Arroy.C07
open Arroy Generated C01

/-- the entries of index `j`, in the order of the store -/
def restrictTo (j : Nat) (s : Store) : Store := s.filter (fun kv => decide (kv.1.index = j))

/-- the operations of a history whose target is index `j` -/
def opsOf (j : Nat) (ops : List Op) : List Op := ops.filter (fun op => decide (opIndex op = j))

def isAppend : Op → Bool
  | .append _ _ _ => true
  | _ => false

def isBuild : Op → Bool
  | .build _ _ _ _ => true
  | _ => false

theorem restrictTo_cons_pos {j : Nat} {k : Key} (v : Val) (rest : Store) (h : k.index = j) :
    restrictTo j ((k, v) :: rest) = (k, v) :: restrictTo j rest := by
  simp [restrictTo, h]

theorem restrictTo_cons_neg {j : Nat} {k : Key} (v : Val) (rest : Store) (h : k.index ≠ j) :
    restrictTo j ((k, v) :: rest) = restrictTo j rest := by
  simp [restrictTo, h]

theorem mem_restrictTo {j : Nat} {s : Store} {kv : Key × Val} :
    kv ∈ restrictTo j s ↔ kv ∈ s ∧ kv.1.index = j := by
  simp [restrictTo]

theorem get_restrictTo (j : Nat) (s : Store) (k : Key) (hk : k.index = j) :
    Store.get (restrictTo j s) k = Store.get s k :=
  Store.get_filter s _ k (fun _ => by simp [hk])

theorem filter_comm {α : Type} (l : List α) (p q : α → Bool) : (l.filter p).filter q = (l.filter q).filter p := by
  rw [List.filter_filter, List.filter_filter]
  exact List.filter_congr (fun _ _ => Bool.and_comm _ _)

/-- the projection commutes with every filter, in particular with `erase`, `deletePrefix`, `deleteRange` -/
theorem restrictTo_filter (j : Nat) (s : Store) (p : Key × Val → Bool) :
    restrictTo j (s.filter p) = (restrictTo j s).filter p := filter_comm s p _

theorem restrictTo_erase (j : Nat) (s : Store) (k : Key) :
    restrictTo j (Store.erase s k) = Store.erase (restrictTo j s) k := restrictTo_filter j s _

theorem restrictTo_deletePrefix (j : Nat) (s : Store) (i : Nat) (m : Option Nat) :
    restrictTo j (Store.deletePrefix s i m) = Store.deletePrefix (restrictTo j s) i m := restrictTo_filter j s _

theorem get_of_restrictTo_eq {j : Nat} {s s' : Store} (h : restrictTo j s = restrictTo j s') (k : Key)
    (hk : k.index = j) : Store.get s k = Store.get s' k := by
  rw [← get_restrictTo j s k hk, ← get_restrictTo j s' k hk, h]

/-- on a sorted store, writing a key of index `j` commutes with the projection on index `j`: two sorted stores
    with the same lookups -/
theorem restrictTo_put {j : Nat} {s : Store} (hs : Store.Sorted s) (k : Key) (v : Val) (hk : k.index = j) :
    restrictTo j (Store.put s k v) = Store.put (restrictTo j s) k v := by
  apply Store.ext_of_sorted (Store.filter_sorted (Store.put_sorted hs k v) _)
    (Store.put_sorted (Store.filter_sorted hs _) k v)
  intro k'
  show Store.get (restrictTo j (Store.put s k v)) k' = Store.get (Store.put (restrictTo j s) k v) k'
  have hf : ∀ t : Store, Store.get (restrictTo j t) k' = if decide (k'.index = j) = true then Store.get t k' else none :=
    fun t => Store.get_filter_key t (fun q => decide (q.index = j)) k'
  rw [hf, Store.get_put, Store.get_put, hf]
  by_cases h : k' = k
  · subst h; simp [hk]
  · rw [if_neg h, if_neg h]

theorem restrictTo_of_otherSame {i j : Nat} {s s' : Store} (h : OtherSame i s s') (hj : j < 65536)
    (hne : i ≠ j) : restrictTo j s' = restrictTo j s := by
  have e : ∀ t : Store, restrictTo j t =
      restrictTo j (t.filter (fun kv => (fun k : Key => k.index % 65536 != i) kv.1)) := by
    intro t
    unfold restrictTo
    rw [List.filter_filter]
    apply List.filter_congr
    intro kv _
    by_cases hk : kv.1.index = j
    · have : kv.1.index % 65536 ≠ i := by rw [hk, Nat.mod_eq_of_lt hj]; exact fun e => hne e.symm
      simp [hk, Nat.mod_eq_of_lt hj, Ne.symm hne]
    · simp [hk]
  rw [e s', e s]
  exact congrArg (restrictTo j) h

theorem C07_local_add (c : Cfg) {s : Store} (hs : Store.Sorted s) (id : Nat) (vec : List Nat) :
    restrictTo c.index (step s (.add c id vec)) = step (restrictTo c.index s) (.add c id vec) := by
  by_cases hl : vec.length = c.dims
  · simp only [step, Writer.addItem_of_len _ id hl]
    rw [restrictTo_put (j := c.index) (Store.put_sorted hs _ _) (c.updatedKey id) .unit rfl,
      restrictTo_put (j := c.index) hs (c.itemKey id) _ rfl]
  · simp only [step, Writer.addItem_err _ id hl]

theorem delItem_fst (c : Cfg) (s : Store) (id : Nat) :
    (Writer.delItem c s id).1 =
      if Store.contains s (c.itemKey id) = true then
        Store.put (Store.erase s (c.itemKey id)) (c.updatedKey id) .unit
      else Store.erase s (c.itemKey id) := by
  unfold Writer.delItem Store.delete
  dsimp only
  by_cases h : Store.contains s (c.itemKey id) = true
  · rw [if_pos h, if_pos h]
  · rw [if_neg h, if_neg h]

theorem C07_local_del (c : Cfg) {s : Store} (hs : Store.Sorted s) (id : Nat) :
    restrictTo c.index (step s (.del c id)) = step (restrictTo c.index s) (.del c id) := by
  have hc : Store.contains (restrictTo c.index s) (c.itemKey id) = Store.contains s (c.itemKey id) := by
    unfold Store.contains; rw [get_restrictTo c.index s (c.itemKey id) rfl]
  show restrictTo c.index (Writer.delItem c s id).1 = (Writer.delItem c (restrictTo c.index s) id).1
  rw [delItem_fst, delItem_fst, hc]
  by_cases hcs : Store.contains s (c.itemKey id) = true
  · rw [if_pos hcs, if_pos hcs]
    rw [restrictTo_put (j := c.index) (Store.erase_sorted hs _) (c.updatedKey id) .unit rfl, restrictTo_erase]
  · rw [if_neg hcs, if_neg hcs]
    exact restrictTo_erase _ _ _

theorem C07_local_clear (c : Cfg) (s : Store) :
    restrictTo c.index (step s (.clear c)) = step (restrictTo c.index s) (.clear c) :=
  restrictTo_deletePrefix _ _ _ _

theorem restrictTo_map (j : Nat) (s : Store) (f : Key → Val → Val) :
    restrictTo j (s.map (fun kv => (kv.1, f kv.1 kv.2))) = (restrictTo j s).map (fun kv => (kv.1, f kv.1 kv.2)) := by
  unfold restrictTo
  rw [List.filter_map]
  rfl

/-- a metric change of index `c.index` (on a store whose item keys hold leaves, so that it succeeds: it deletes
    by prefix, erases a key and maps over the values) commutes with the projection -/
theorem C07_local_prepare (c : Cfg) (hi : c.index < 65536) {s : Store} (hw : Store.WF s)
    (hl : C05.ItemsAreLeaves c s) (m' : Metric) :
    restrictTo c.index (step s (.prepare c m')) = step (restrictTo c.index s) (.prepare c m') := by
  by_cases hm : m' = c.metric
  · subst hm
    simp only [step, Writer.prepare_same]
  · have hl' : C05.ItemsAreLeaves c (restrictTo c.index s) := fun kv h => hl kv (mem_restrictTo.1 h).1
    simp only [step, Writer.prepare_ok c m' s hm hw hi hl,
      Writer.prepare_ok c m' (restrictTo c.index s) hm (Store.filter_wf hw _) hi hl']
    unfold Writer.changed Writer.clearTreeNodes
    rw [restrictTo_map, restrictTo_deletePrefix, restrictTo_erase]

/-- the stores a well-formed history reaches -/
def Reach (s : Store) : Prop := ∃ pre : List Op, (∀ o ∈ pre, o.wf) ∧ s = run pre

theorem Reach.nil : Reach [] := ⟨[], by simp, rfl⟩

theorem Reach.run {ops : List Op} (hops : ∀ o ∈ ops, o.wf) : Reach (run ops) := ⟨ops, hops, rfl⟩

theorem Reach.sorted {s : Store} (h : Reach s) : Store.Sorted s :=
  let ⟨pre, hp, e⟩ := h
  e ▸ C19.run_sorted pre hp

theorem Reach.inv {s : Store} (h : Reach s) (c : Cfg) (hi : c.index < 65536) : IndexInv c s := by
  obtain ⟨pre, hp, rfl⟩ := h
  exact C01_invariant pre hp c hi

theorem Reach.wf {s : Store} (h : Reach s) : Store.WF s :=
  let ⟨pre, hp, e⟩ := h
  e ▸ C19.run_wf pre hp

theorem Reach.step {s : Store} (h : Reach s) {op : Op} (hop : op.wf) : Reach (step s op) := by
  obtain ⟨pre, hp, rfl⟩ := h
  exact ⟨pre ++ [op], forall_snoc hp hop, (run_snoc pre op).symm⟩

/-- **locality of `build`** — the hypothesis of the `_partial` theorems: in two reachable stores with the
    same content of index `j`, the operation `op` (a `build` of index `j`) leaves the same content of index
    `j` (in particular it succeeds in both or fails in both, unless the content of `j` is unchanged by it).
    It is a statement about `Build.build` alone: next to the FRAME of the build (`C07_dump_build`: the build
    writes no key of another index), that the build READS no key of another index (`C07_buildLocal`). -/
def BuildLocal (j : Nat) (op : Op) : Prop :=
  ∀ s s' : Store, Reach s → Reach s' → restrictTo j s = restrictTo j s' →
    restrictTo j (step s op) = restrictTo j (step s' op)

/-- an add, delete, clear or metric change of index `j` commutes with the projection on index `j`
    (on a reachable store: sorted, well-formed keys) -/
theorem C07_commute_step {j : Nat} {s : Store} (hs : Reach s) (op : Op) (hop : op.wf) (hj : opIndex op = j)
    (ha : isAppend op = false) (hb : isBuild op = false) :
    restrictTo j (step s op) = step (restrictTo j s) op := by
  subst hj
  cases op with
  | add c id vec => exact C07_local_add c hs.sorted id vec
  | append c id vec => cases ha
  | del c id => exact C07_local_del c hs.sorted id
  | clear c => exact C07_local_clear c s
  | build c o fuel env => cases hb
  | prepare c m' => exact C07_local_prepare c hop hs.wf (hs.inv c hop).leaves m'

/-- **locality**: an add, delete, clear or metric change of index `j` depends on the store only through
    the content of index `j` -/
theorem C07_local_step {j : Nat} {s s' : Store} (hs : Reach s) (hs' : Reach s') (op : Op) (hop : op.wf)
    (hj : opIndex op = j) (ha : isAppend op = false) (hb : isBuild op = false)
    (h : restrictTo j s = restrictTo j s') :
    restrictTo j (step s op) = restrictTo j (step s' op) := by
  rw [C07_commute_step hs op hop hj ha hb, C07_commute_step hs' op hop hj ha hb, h]

/-- an operation of another index leaves the content of index `j` as it is (the frame, `C07_dump_step`) -/
theorem C07_frame_step {j : Nat} (hj : j < 65536) (s : Store) (op : Op) (hop : op.wf) (hne : opIndex op ≠ j) :
    restrictTo j (step s op) = restrictTo j s :=
  restrictTo_of_otherSame (C07_dump_step s op hop) hj hne

theorem opsOf_snoc_same (j : Nat) (ops : List Op) (op : Op) (h : opIndex op = j) :
    opsOf j (ops ++ [op]) = opsOf j ops ++ [op] := by
  simp [opsOf, List.filter_append, h]

theorem opsOf_snoc_other (j : Nat) (ops : List Op) (op : Op) (h : opIndex op ≠ j) :
    opsOf j (ops ++ [op]) = opsOf j ops := by
  simp [opsOf, List.filter_append, h]

theorem opsOf_wf {j : Nat} {ops : List Op} (hops : ∀ op ∈ ops, op.wf) : ∀ op ∈ opsOf j ops, op.wf :=
  fun op h => hops op (List.mem_filter.1 h).1

/-- the build `op` of index `j`, executed after the history `pre`, keeps the projection equation: if the
    content of index `j` after `pre` is the content after `j`'s own part of `pre`, the same holds after the
    build.  An equation between two concrete stores: decidable, and checked by the kernel on concrete
    histories (see the examples).  It follows from `BuildLocal j op`. -/
def BuildLocalAt (j : Nat) (pre : List Op) (op : Op) : Prop :=
  restrictTo j (run pre) = restrictTo j (run (opsOf j pre)) →
    restrictTo j (step (run pre) op) = restrictTo j (step (run (opsOf j pre)) op)

/-- every `build` of index `j` in `ops` (executed after `pre` and the operations before it) satisfies
    `BuildLocalAt` -/
def BuildsLocalFrom (j : Nat) : List Op → List Op → Prop
  | _, [] => True
  | pre, op :: rest =>
    (opIndex op = j → isBuild op = true → BuildLocalAt j pre op) ∧ BuildsLocalFrom j (pre ++ [op]) rest

instance (j : Nat) (pre : List Op) (op : Op) : Decidable (BuildLocalAt j pre op) := by
  unfold BuildLocalAt; infer_instance

instance instDecidableBuildsLocalFrom (j : Nat) : ∀ (pre ops : List Op), Decidable (BuildsLocalFrom j pre ops)
  | _, [] => isTrue trivial
  | pre, op :: rest =>
    have := instDecidableBuildsLocalFrom j (pre ++ [op]) rest
    by unfold BuildsLocalFrom; infer_instance

theorem buildsLocalFrom_of_buildLocal (j : Nat) : ∀ (ops pre : List Op),
    (∀ op ∈ pre, op.wf) → (∀ op ∈ ops, op.wf) →
    (∀ op ∈ ops, opIndex op = j → isBuild op = true → BuildLocal j op) → BuildsLocalFrom j pre ops := by
  intro ops
  induction ops with
  | nil => intro _ _ _ _; trivial
  | cons op ops ih =>
    intro pre hpre hops h
    have hpre' : ∀ o ∈ pre ++ [op], o.wf :=
      forall_snoc hpre (hops op (by simp))
    refine ⟨fun hi hb hR => ?_, ih _ hpre' (fun o ho => hops o (List.mem_cons_of_mem _ ho))
      (fun o ho => h o (List.mem_cons_of_mem _ ho))⟩
    exact h op (by simp) hi hb _ _ (Reach.run hpre) (Reach.run (opsOf_wf hpre)) hR

theorem buildsLocalFrom_of_nobuild (j : Nat) (ops : List Op) (hops : ∀ op ∈ ops, op.wf)
    (hnb : ∀ op ∈ ops, opIndex op = j → isBuild op = false) : BuildsLocalFrom j [] ops :=
  buildsLocalFrom_of_buildLocal j ops [] (by simp) hops
    (fun op hop hi hb => absurd hb (by rw [hnb op hop hi]; decide))

/-- the `append` `op` of index `j`, executed after the history `pre`, is accepted in the interleaved history
    iff it is accepted in `j`'s own history (`C07_history_append_partial` says when: iff no key of another
    index is in the way).  Decidable. -/
def AppendAgreesAt (j : Nat) (pre : List Op) (op : Op) : Prop :=
  C06.accepted (run pre) op = C06.accepted (run (opsOf j pre)) op

/-- every `append` of index `j` in `ops` satisfies `AppendAgreesAt` -/
def AppendsAgreeFrom (j : Nat) : List Op → List Op → Prop
  | _, [] => True
  | pre, op :: rest =>
    (opIndex op = j → isAppend op = true → AppendAgreesAt j pre op) ∧ AppendsAgreeFrom j (pre ++ [op]) rest

instance (j : Nat) (pre : List Op) (op : Op) : Decidable (AppendAgreesAt j pre op) := by
  unfold AppendAgreesAt; infer_instance

instance instDecidableAppendsAgreeFrom (j : Nat) : ∀ (pre ops : List Op), Decidable (AppendsAgreeFrom j pre ops)
  | _, [] => isTrue trivial
  | pre, op :: rest =>
    have := instDecidableAppendsAgreeFrom j (pre ++ [op]) rest
    by unfold AppendsAgreeFrom; infer_instance

theorem appendsAgreeFrom_of_noappend (j : Nat) : ∀ (ops pre : List Op),
    (∀ op ∈ ops, opIndex op = j → isAppend op = false) → AppendsAgreeFrom j pre ops := by
  intro ops
  induction ops with
  | nil => intro _ _; trivial
  | cons op ops ih =>
    intro pre h
    refine ⟨fun hi hb => ?_, ih _ (fun o ho => h o (List.mem_cons_of_mem _ ho))⟩
    rw [h op (by simp) hi] at hb; cases hb

theorem projection_aux (j : Nat) (hj : j < 65536) : ∀ (ops pre : List Op),
    (∀ op ∈ pre, op.wf) → (∀ op ∈ ops, op.wf) →
    AppendsAgreeFrom j pre ops →
    BuildsLocalFrom j pre ops →
    restrictTo j (run pre) = restrictTo j (run (opsOf j pre)) →
    restrictTo j (run (pre ++ ops)) = restrictTo j (run (opsOf j (pre ++ ops))) := by
  intro ops
  induction ops with
  | nil => intro pre _ _ _ _ h; rw [List.append_nil]; exact h
  | cons op ops ih =>
    intro pre hpre hops happ hbuild h
    have hop : op.wf := hops op (by simp)
    have hpre' : ∀ o ∈ pre ++ [op], o.wf := forall_snoc hpre hop
    have e : pre ++ op :: ops = (pre ++ [op]) ++ ops := by simp
    rw [e]
    refine ih (pre ++ [op]) hpre' (fun o ho => hops o (List.mem_cons_of_mem _ ho)) happ.2 hbuild.2 ?_
    by_cases hi : opIndex op = j
    · rw [opsOf_snoc_same j pre op hi, run_snoc, run_snoc]
      cases hb : isBuild op with
      | true => exact hbuild.1 hi hb h
      | false =>
        cases ha : isAppend op with
        | false => exact C07_local_step (Reach.run hpre) (Reach.run (opsOf_wf hpre)) op hop hi ha hb h
        | true =>
          have hag : C06.accepted (run pre) op = C06.accepted (run (opsOf j pre)) op := happ.1 hi ha
          cases op with
          | append c id v =>
            cases hacc : C06.accepted (run pre) (.append c id v) with
            | true =>
              rw [hacc] at hag
              rw [((C19.C19_append_accepted_iff pre hpre c id v).2 hacc).1,
                ((C19.C19_append_accepted_iff (opsOf j pre) (opsOf_wf hpre) c id v).2 hag.symm).1]
              exact C07_local_step (Reach.run hpre) (Reach.run (opsOf_wf hpre)) (.add c id v) hop hi rfl rfl h
            | false =>
              rw [hacc] at hag
              rw [C06.step_not_accepted _ _ hacc, C06.step_not_accepted _ _ hag.symm]
              exact h
          | _ => cases ha
    · rw [opsOf_snoc_other j pre op hi, run_snoc]
      exact (C07_frame_step hj _ op hop hi).trans h

theorem otherSame_foldl (j : Nat) : ∀ (l : List Op) (s : Store), (∀ op ∈ l, op.wf) → (∀ op ∈ l, opIndex op = j) →
    OtherSame j s (l.foldl step s)
  | [], s, _, _ => (OtherSame.storeRel j).refl s
  | op :: l, s, h1, h2 => by
    have := C07_dump_step s op (h1 op (by simp))
    rw [h2 op (by simp)] at this
    exact (OtherSame.storeRel j).trans this
      (otherSame_foldl j l _ (fun o ho => h1 o (List.mem_cons_of_mem _ ho)) (fun o ho => h2 o (List.mem_cons_of_mem _ ho)))

theorem run_opsOf_index (j : Nat) (ops : List Op) (hops : ∀ op ∈ ops, op.wf) :
    ∀ kv ∈ run (opsOf j ops), kv.1.index = j := by
  intro kv hkv
  -- nothing of another index in the dump, as in the empty store
  have h : (run (opsOf j ops)).filter (fun kv => kv.1.index % 65536 != j) = [] :=
    otherSame_foldl j (opsOf j ops) [] (opsOf_wf hops) (fun op h => by simpa using (List.mem_filter.1 h).2)
  have hlt : kv.1.index < 65536 := ((Reach.run (opsOf_wf hops)).wf kv hkv).1
  simpa [Nat.mod_eq_of_lt hlt] using List.filter_eq_nil_iff.1 h kv hkv

theorem restrictTo_run_opsOf (j : Nat) (ops : List Op) (hops : ∀ op ∈ ops, op.wf) :
    restrictTo j (run (opsOf j ops)) = run (opsOf j ops) :=
  List.filter_eq_self.2 (fun kv hkv => by simp [run_opsOf_index j ops hops kv hkv])

/-- **C07 over interleaved histories (projection).**  `ops` any well-formed history on any number of
indexes, `j` a u16 index number.  The content of index `j` after the interleaved history is the content after
the operations of `j` alone (`opsOf j ops`) — which is the whole database that history produces — when

* each append on `j` is accepted in the interleaved history iff it is accepted in `j`'s own history at that
  point (`AppendsAgreeFrom`, decidable; by `C07_history_append_partial` an interleaving can only turn an
  accepted append into a refused one, which happens iff a key of another index is not smaller than the new
  key — and there the content of `j` does differ: `C07_projection_fails_example`);
* each build of `j` leaves the same content of `j` in the two stores it meets (`BuildsLocalFrom`, decidable;
  it follows from `BuildLocal`, which `C07_buildLocal` proves for every build). -/
theorem C07_history_projection_general_partial (j : Nat) (hj : j < 65536) (ops : List Op)
    (hops : ∀ op ∈ ops, op.wf) (happ : AppendsAgreeFrom j [] ops) (hbuild : BuildsLocalFrom j [] ops) :
    restrictTo j (run ops) = restrictTo j (run (opsOf j ops)) ∧
    restrictTo j (run ops) = run (opsOf j ops) := by
  have h := projection_aux j hj ops [] (by simp) hops happ hbuild rfl
  rw [List.nil_append] at h
  exact ⟨h, h.trans (restrictTo_run_opsOf j ops hops)⟩

/-- the case where index `j` is never the target of an `append` (appends on the OTHER indexes are allowed:
whether they are accepted may depend on the keys of `j`, but that does not concern the content of `j`) -/
theorem C07_history_projection_partial (j : Nat) (hj : j < 65536) (ops : List Op) (hops : ∀ op ∈ ops, op.wf)
    (happ : ∀ op ∈ ops, opIndex op = j → isAppend op = false)
    (hbuild : BuildsLocalFrom j [] ops) :
    restrictTo j (run ops) = restrictTo j (run (opsOf j ops)) ∧
    restrictTo j (run ops) = run (opsOf j ops) :=
  C07_history_projection_general_partial j hj ops hops (appendsAgreeFrom_of_noappend j ops [] happ) hbuild

/-- **C07 over interleaved histories (projection), no hypothesis on the build.**  The operations of index
`j` are adds, deletes, clears and metric changes; the other indexes do anything (adds, appends, deletes,
clears, metric changes, builds with any options, failed or cancelled builds), interleaved in any way. -/
theorem C07_history_projection_nobuild (j : Nat) (hj : j < 65536) (ops : List Op) (hops : ∀ op ∈ ops, op.wf)
    (happ : ∀ op ∈ ops, opIndex op = j → isAppend op = false)
    (hnb : ∀ op ∈ ops, opIndex op = j → isBuild op = false) :
    restrictTo j (run ops) = restrictTo j (run (opsOf j ops)) ∧
    restrictTo j (run ops) = run (opsOf j ops) :=
  C07_history_projection_partial j hj ops hops happ (buildsLocalFrom_of_nobuild j ops hops hnb)

/-- **C07 over interleaved histories (appends).**  Under the hypotheses of the projection theorem, an
`append` on index `j` after the interleaved history `ops` is accepted **iff** it is accepted after `j`'s
own history AND every key of the OTHER indexes present at that moment sorts before the new item key: an
interleaving can turn an accepted append into a refused one (which writes nothing), never the converse;
and an accepted one writes into index `j` exactly what it writes in `j`'s own history (the projection
equation extends to `ops ++ [append]`). `hbuild` holds of every well-formed history
(`buildsLocalFrom_of_wf`, `C07BuildLocal.lean`). -/
theorem C07_history_append_partial (j : Nat) (hj : j < 65536) (ops : List Op) (hops : ∀ op ∈ ops, op.wf)
    (happ : ∀ op ∈ ops, opIndex op = j → isAppend op = false)
    (hbuild : BuildsLocalFrom j [] ops)
    (c : Cfg) (hc : c.index = j) (id : Nat) (v : List Nat) (hwf : (Op.append c id v).wf) :
    (C06.accepted (run ops) (.append c id v) = true ↔
      C06.accepted (run (opsOf j ops)) (.append c id v) = true ∧
      ∀ kv ∈ run ops, kv.1.index ≠ j → kv.1.lt (c.itemKey id) = true) ∧
    (C06.accepted (run ops) (.append c id v) = true →
      restrictTo j (run (ops ++ [.append c id v])) = run (opsOf j (ops ++ [.append c id v])) ∧
      restrictTo j (run (ops ++ [.append c id v])) = restrictTo j (run (opsOf j (ops ++ [.append c id v])))) := by
  have hw' : ∀ op ∈ opsOf j ops, op.wf := opsOf_wf hops
  have hR := (C07_history_projection_partial j hj ops hops happ hbuild).2
  have hs := (Reach.run hops).sorted
  have hs' := (Reach.run hw').sorted
  have hiff : C06.accepted (run ops) (.append c id v) = true ↔
      C06.accepted (run (opsOf j ops)) (.append c id v) = true ∧
      ∀ kv ∈ run ops, kv.1.index ≠ j → kv.1.lt (c.itemKey id) = true := by
    rw [C19.accepted_append_iff hs, C19.accepted_append_iff hs']
    constructor
    · rintro ⟨hl, hall⟩
      refine ⟨⟨hl, fun kv hkv => ?_⟩, fun kv hkv _ => hall kv hkv⟩
      rw [← hR] at hkv
      exact hall kv (mem_restrictTo.1 hkv).1
    · rintro ⟨⟨hl, hall⟩, hother⟩
      refine ⟨hl, fun kv hkv => ?_⟩
      by_cases hk : kv.1.index = j
      · apply hall
        rw [← hR]
        exact mem_restrictTo.2 ⟨hkv, hk⟩
      · exact hother kv hkv hk
  refine ⟨hiff, fun hacc => ?_⟩
  have hacc' := (hiff.1 hacc).1
  have e1 := ((C19.C19_append_accepted_iff ops hops c id v).2 hacc).1
  have e2 := ((C19.C19_append_accepted_iff (opsOf j ops) hw' c id v).2 hacc').1
  have key : restrictTo j (run (ops ++ [.append c id v])) = run (opsOf j (ops ++ [.append c id v])) := by
    rw [opsOf_snoc_same j ops (.append c id v) hc, run_snoc, run_snoc, e1, e2, ← hR]
    subst hc
    exact C07_local_add c hs id v
  refine ⟨key, ?_⟩
  rw [key]
  exact (restrictTo_run_opsOf j _ (forall_snoc hops hwf)).symm

theorem index_of_isPrefixOf {j : Nat} (hj : j < 65536) {k : Key} (hk : k.index < 65536) (m : Option Nat)
    (hp : isPrefixOf (encodePrefix j m) (encodeKey k) = true) : k.index = j := by
  have : k.index % 65536 = j % 65536 := by
    cases m with
    | none => exact (isPrefixOf_index_all j k).1 hp
    | some m => exact ((isPrefixOf_kind_all j m k).1 hp).1
  rwa [Nat.mod_eq_of_lt hk, Nat.mod_eq_of_lt hj] at this

theorem prefixIter_restrictTo {j : Nat} (hj : j < 65536) {s : Store} (hw : ∀ kv ∈ s, kv.1.index < 65536)
    (m : Option Nat) : Store.prefixIter (restrictTo j s) j m = Store.prefixIter s j m := by
  unfold Store.prefixIter restrictTo
  rw [List.filter_filter]
  apply List.filter_congr
  intro kv hkv
  cases hp : isPrefixOf (encodePrefix j m) (encodeKey kv.1) with
  | false => simp
  | true => simp [index_of_isPrefixOf hj (hw kv hkv) m hp]

/-- two well-formed stores with the same content of index `c.index`: everything a writer or reader of
    that index reads is the same -/
theorem answers_of_restrictTo_eq {s s' : Store} (hw : Store.WF s) (hw' : Store.WF s') (c : Cfg)
    (hi : c.index < 65536) (h : restrictTo c.index s' = restrictTo c.index s) :
    Reader.open c s' = Reader.open c s ∧
    Writer.needBuild c s' = Writer.needBuild c s ∧
    (∀ id, Writer.itemLeaf c s' id = Writer.itemLeaf c s id) ∧
    (∀ id, Writer.itemVector c s' id = Writer.itemVector c s id) ∧
    (∀ id, Writer.containsItem c s' id = Writer.containsItem c s id) ∧
    Writer.iter c s' = Writer.iter c s ∧
    (∀ rd : ReaderState, ForestOK c s rd →
      ForestOK c s' rd ∧
      (∀ (qh qv : List Nat) (q : QueryOpts),
        Reader.nnsByLeaf c s' rd qh qv q = Reader.nnsByLeaf c s rd qh qv q) ∧
      (∀ (vec : List Nat) (q : QueryOpts), Reader.byVector c s' rd vec q = Reader.byVector c s rd vec q) ∧
      (∀ (id : Nat) (q : QueryOpts), Reader.byItem c s' rd id q = Reader.byItem c s rd id q)) := by
  have hget : ∀ k : Key, k.index = c.index → Store.get s' k = Store.get s k := get_of_restrictTo_eq h
  have hsame : Reader.SameIndex c s s' := fun m id => hget ⟨c.index, m, id⟩ rfl
  have hpre : ∀ m, Store.prefixIter s' c.index m = Store.prefixIter s c.index m := by
    intro m
    rw [← prefixIter_restrictTo hi (fun kv h => (hw' kv h).1) m, ← prefixIter_restrictTo hi (fun kv h => (hw kv h).1) m, h]
  obtain ⟨ho, hn⟩ := C06.open_congr_get hw hw' hi hget
  have hleaf : ∀ id, Writer.itemLeaf c s' id = Writer.itemLeaf c s id := by
    intro id; unfold Writer.itemLeaf; rw [hget _ rfl]
  refine ⟨ho, hn, hleaf, ?_, ?_, ?_, ?_⟩
  · intro id; unfold Writer.itemVector; rw [hleaf]
  · intro id; unfold Writer.containsItem Store.contains; rw [hget _ rfl]
  · unfold Writer.iter; rw [hpre]
  · intro rd F
    have hq : ∀ (qh qv : List Nat) (q : QueryOpts),
        Reader.nnsByLeaf c s' rd qh qv q = Reader.nnsByLeaf c s rd qh qv q :=
      fun qh qv q => Reader.nnsByLeaf_congr_of_forest c hsame rd F qh qv q
    exact ⟨F.congr hsame, hq, byVector_byItem_congr c rd hq hleaf⟩

/-- **C07 over interleaved histories (answers).**  Under the hypotheses of the projection theorem, whatever
the other indexes did in between and in whatever interleaving, a `Cfg` of index `j` gets the same answers
after the interleaved history as after `j`'s own history: `Reader::open` (same result or same error),
`need_build`, the item reads (`item_vector`, `contains_item`, `iter`), and — for a reader state whose forest
is valid in either of the two stores — a valid forest in the other and the same answer to every query
(`nns_by_leaf`, `by_vector`, `by_item`; any count, budget, oversampling, filter), although the traversal
fuel of the model depends on the size of the whole database. `hbuild` holds of every well-formed history
(`buildsLocalFrom_of_wf`, `C07BuildLocal.lean`). -/
theorem C07_history_answers_partial (j : Nat) (hj : j < 65536) (ops : List Op) (hops : ∀ op ∈ ops, op.wf)
    (happ : ∀ op ∈ ops, opIndex op = j → isAppend op = false)
    (hbuild : BuildsLocalFrom j [] ops)
    (c : Cfg) (hc : c.index = j) :
    Reader.open c (run ops) = Reader.open c (run (opsOf j ops)) ∧
    Writer.needBuild c (run ops) = Writer.needBuild c (run (opsOf j ops)) ∧
    (∀ id, Writer.itemLeaf c (run ops) id = Writer.itemLeaf c (run (opsOf j ops)) id) ∧
    (∀ id, Writer.itemVector c (run ops) id = Writer.itemVector c (run (opsOf j ops)) id) ∧
    (∀ id, Writer.containsItem c (run ops) id = Writer.containsItem c (run (opsOf j ops)) id) ∧
    Writer.iter c (run ops) = Writer.iter c (run (opsOf j ops)) ∧
    (∀ rd : ReaderState, ForestOK c (run ops) rd ∨ ForestOK c (run (opsOf j ops)) rd →
      ForestOK c (run ops) rd ∧ ForestOK c (run (opsOf j ops)) rd ∧
      (∀ (qh qv : List Nat) (q : QueryOpts),
        Reader.nnsByLeaf c (run ops) rd qh qv q = Reader.nnsByLeaf c (run (opsOf j ops)) rd qh qv q) ∧
      (∀ (vec : List Nat) (q : QueryOpts),
        Reader.byVector c (run ops) rd vec q = Reader.byVector c (run (opsOf j ops)) rd vec q) ∧
      (∀ (id : Nat) (q : QueryOpts),
        Reader.byItem c (run ops) rd id q = Reader.byItem c (run (opsOf j ops)) rd id q)) := by
  subst hc
  have hR := (C07_history_projection_partial c.index hj ops hops happ hbuild).1
  have W := (Reach.run hops).wf
  have W' := (Reach.run (opsOf_wf (j := c.index) hops)).wf
  obtain ⟨a1, a2, a3, a4, a5, a6, a7⟩ := answers_of_restrictTo_eq W' W c hj hR
  obtain ⟨_, _, _, _, _, _, b7⟩ := answers_of_restrictTo_eq W W' c hj hR.symm
  refine ⟨a1, a2, a3, a4, a5, a6, fun rd F => ?_⟩
  rcases F with F | F
  · obtain ⟨f, q1, q2, q3⟩ := b7 rd F
    exact ⟨F, f, fun qh qv q => (q1 qh qv q).symm, fun vec q => (q2 vec q).symm, fun id q => (q3 id q).symm⟩
  · obtain ⟨f, q1, q2, q3⟩ := a7 rd F
    exact ⟨f, F, q1, q2, q3⟩

/-- the answers theorem with no hypothesis on the build (no build of index `j` in the history; then the
    reader of `j` reports the missing metadata in both, and the writer-side reads agree) -/
theorem C07_history_answers_nobuild (j : Nat) (hj : j < 65536) (ops : List Op) (hops : ∀ op ∈ ops, op.wf)
    (happ : ∀ op ∈ ops, opIndex op = j → isAppend op = false)
    (hnb : ∀ op ∈ ops, opIndex op = j → isBuild op = false) (c : Cfg) (hc : c.index = j) :
    Reader.open c (run ops) = Reader.open c (run (opsOf j ops)) ∧
    Writer.needBuild c (run ops) = Writer.needBuild c (run (opsOf j ops)) ∧
    (∀ id, Writer.itemVector c (run ops) id = Writer.itemVector c (run (opsOf j ops)) id) ∧
    (∀ id, Writer.containsItem c (run ops) id = Writer.containsItem c (run (opsOf j ops)) id) ∧
    Writer.iter c (run ops) = Writer.iter c (run (opsOf j ops)) := by
  obtain ⟨a1, a2, _, a4, a5, a6, _⟩ := C07_history_answers_partial j hj ops hops happ
    (buildsLocalFrom_of_nobuild j ops hops hnb) c hc
  exact ⟨a1, a2, a4, a5, a6⟩

namespace ExH
open C01.Ex C17.Ex

/-- index 0 (Euclidean, dimension 2): two adds, a delete, a metric change; interleaved with index 3
    (cosine): an add, an accepted append, a build, another add -/
def hA : List Op :=
  [.add cEx 1 [f1, f2], .add cD 7 [f1, f2], .append cD 9 [f2, f2], .add cEx 0 [f2, f1],
   .build cD oLeaf 0 { store := [] }, .del cEx 1, .prepare cEx .cosine, .add cD 8 [f2, f2]]

theorem hA_wf : ∀ op ∈ hA, op.wf := by decide
theorem hA_noappend : ∀ op ∈ hA, opIndex op = 0 → isAppend op = false := by decide
theorem hA_nobuild : ∀ op ∈ hA, opIndex op = 0 → isBuild op = false := by decide

/-- the hypotheses of `C07_history_projection_nobuild` hold for index 0 of `hA`; the own history of index 0
    has four operations, its content is not empty, and the database holds more than index 0 -/
example : restrictTo 0 (run hA) = run (opsOf 0 hA) :=
  (C07_history_projection_nobuild 0 (by decide) hA hA_wf hA_noappend hA_nobuild).2
example : (opsOf 0 hA).length = 4 ∧ (run (opsOf 0 hA)).length = 3 ∧ (run hA).length = 10 ∧
    C06.accepted (run (hA.take 2)) (.append cD 9 [f2, f2]) = true := by decide +kernel

/-- `opsC` of `C17Reachable`: index 0 is built twice (the second build on the incremental path, under a
    cancellation schedule), index 3 once (the projection theorems on it: `C07BuildLocal.lean`) -/
theorem opsC2_wf : ∀ op ∈ opsC ++ [.build cC oEx 5 env2], op.wf := by decide

example : (opsOf 0 (opsC ++ [.build cC oEx 5 env2])).length = 9 ∧ (opsOf 3 (opsC ++ [.build cC oEx 5 env2])).length = 3 := by
  decide

/-- the answers: index 0 of `hA` (no build: the reader reports the missing metadata in both) -/
example : Writer.containsItem cEx (run hA) 0 = Writer.containsItem cEx (run (opsOf 0 hA)) 0 ∧
    Reader.open cEx (run hA) = Reader.open cEx (run (opsOf 0 hA)) := by
  obtain ⟨a1, _, _, a4, _⟩ := C07_history_answers_nobuild 0 (by decide) hA hA_wf hA_noappend hA_nobuild cEx rfl
  exact ⟨a4 0, a1⟩
example : Writer.containsItem cEx (run hA) 0 = true ∧ Writer.containsItem cEx (run hA) 1 = false ∧
    Writer.needBuild cEx (run hA) = true := by decide +kernel

/-- appends.  After `[add on index 3]` an append on index 0 is accepted in the own history of index 0 (empty)
    and refused in the interleaved history: a key of index 3 is not smaller.  After `[add on index 0]` an
    append on index 3 is accepted in both, and writes the same. -/
def hB : List Op := [.add cD 7 [f1, f2]]
def hB' : List Op := [.add cEx 1 [f1, f2]]

example : C06.accepted (run (opsOf 0 hB)) (.append cEx 5 [f1, f1]) = true ∧
    C06.accepted (run hB) (.append cEx 5 [f1, f1]) = false ∧
    ¬ (∀ kv ∈ run hB, kv.1.index ≠ 0 → kv.1.lt (cEx.itemKey 5) = true) := by
  have h := (C07_history_append_partial 0 (by decide) hB (by decide) (by decide) (by decide) cEx rfl 5 [f1, f1]
    (by decide)).1
  have h1 : C06.accepted (run (opsOf 0 hB)) (.append cEx 5 [f1, f1]) = true := by decide +kernel
  have h2 : C06.accepted (run hB) (.append cEx 5 [f1, f1]) = false := by decide +kernel
  refine ⟨h1, h2, fun hall => ?_⟩
  rw [h.2 ⟨h1, hall⟩] at h2
  cases h2

example : C06.accepted (run hB') (.append cD 9 [f2, f2]) = true ∧
    restrictTo 3 (run (hB' ++ [.append cD 9 [f2, f2]])) = run (opsOf 3 (hB' ++ [.append cD 9 [f2, f2]])) := by
  have h : C06.accepted (run hB') (.append cD 9 [f2, f2]) = true := by decide +kernel
  exact ⟨h, ((C07_history_append_partial 3 (by decide) hB' (by decide) (by decide) (by decide) cD rfl 9 [f2, f2]
    (by decide)).2 h).1⟩

/-- with an append on index `j` refused because of another index the projection equation is FALSE: the
    hypothesis on the appends cannot be dropped -/
theorem C07_projection_fails_example :
    restrictTo 0 (run (hB ++ [.append cEx 5 [f1, f1]])) ≠ restrictTo 0 (run (opsOf 0 (hB ++ [.append cEx 5 [f1, f1]]))) ∧
    ¬ AppendsAgreeFrom 0 [] (hB ++ [.append cEx 5 [f1, f1]]) := by decide +kernel

/-- `hA` has an (accepted) append on index 3: the general theorem applies to index 3 -/
example : restrictTo 3 (run hA) = run (opsOf 3 hA) :=
  (C07_history_projection_general_partial 3 (by decide) hA hA_wf (by decide +kernel) (by decide +kernel)).2

end ExH

end Arroy.C07
