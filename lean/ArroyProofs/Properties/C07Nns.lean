import ArroyProofs.TraverseFuel
import ArroyProofs.Properties.C07
import ArroyProofs.Properties.Reachable
/-! # C07 — the query answers of another index are unchanged

`nns_by_leaf` of the model runs its traversal with the fuel `2 * s.length + rd.roots.length + 2`, a
function of the **whole** store: an operation on index `i` changes the fuel of a query on index `j`.
Here: the fuel is irrelevant once it is sufficient (`C07_fuel_mono`, `C07_fuel_irrelevant`), the reader
reads only keys of its own index (`C07_nns_local`), hence whatever happened to index `i`, every query
(`nns_by_leaf`, `by_vector`, `by_item`; any count, budget, oversampling, filter) on a valid forest of
another index answers the same (`C07_answers_nns`), in particular after a build of `i`
(`C07_answers_build_nns`) and after any sequence of operations and builds on other indexes
(`C07_answers_nns_history`, `C07_answers_nns_reachable`). -/
namespace Arroy.C07
open Arroy Generated Reader

/-- **fuel monotonicity**: a traversal that returns `.ok out` returns the same `.ok out` with any larger fuel
    (any store, any queue: no hypothesis) -/
theorem C07_fuel_mono (c : Cfg) (s : Store) (qv : List Nat) (q : QueryOpts) (searchK fuel fuel' : Nat)
    (queue : List (Nat × NodeId)) (nns out : List Nat)
    (h : traverse c s qv q searchK fuel queue nns = .ok out) (hf : fuel ≤ fuel') :
    traverse c s qv q searchK fuel' queue nns = .ok out :=
  traverse_fuel_mono c s qv q searchK fuel queue nns out h fuel' hf

/-- **fuel irrelevance**: two successful traversals from the same state agree whatever their fuels -/
theorem C07_fuel_irrelevant (c : Cfg) (s : Store) (qv : List Nat) (q : QueryOpts) (searchK f₁ f₂ : Nat)
    (queue : List (Nat × NodeId)) (nns out₁ out₂ : List Nat)
    (h₁ : traverse c s qv q searchK f₁ queue nns = .ok out₁)
    (h₂ : traverse c s qv q searchK f₂ queue nns = .ok out₂) : out₁ = out₂ :=
  traverse_fuel_irrelevant c s qv q searchK f₁ f₂ queue nns out₁ out₂ h₁ h₂

theorem C07_sameIndex {i : Nat} {s s' : Store} (h : OtherSame i s s') (c' : Cfg) (hi' : c'.index < 65536)
    (hne : c'.index ≠ i) : SameIndex c' s s' :=
  fun _ _ => C07_get_other h _ (by rw [Nat.mod_eq_of_lt hi']; exact hne)

/-- **the reader is local**: with the same fuel, the traversal and the scoring pass on two stores that
    agree on the keys of index `c.index` are the same computation (same result, same error) -/
theorem C07_nns_local (c : Cfg) {s s' : Store} (hs : SameIndex c s s') (qh qv : List Nat) (q : QueryOpts)
    (searchK fuel : Nat) (queue : List (Nat × NodeId)) (nns ids : List Nat) :
    traverse c s' qv q searchK fuel queue nns = traverse c s qv q searchK fuel queue nns ∧
    scoreAll c s' qh qv ids = scoreAll c s qh qv ids :=
  ⟨traverse_congr c hs qv q searchK fuel queue nns, scoreAll_congr c hs qh qv ids⟩

theorem C07_forest_local (c : Cfg) {s s' : Store} (hs : SameIndex c s s') (rd : ReaderState)
    (F : ForestOK c s rd) : ForestOK c s' rd := F.congr hs

/-- `by_vector` and `by_item` are `nns_by_leaf` on the query vector, resp. on the stored leaf of the item -/
theorem byVector_byItem_congr (c : Cfg) {s s' : Store} (rd : ReaderState)
    (hn : ∀ (qh qv : List Nat) (q : QueryOpts), nnsByLeaf c s' rd qh qv q = nnsByLeaf c s rd qh qv q)
    (hl : ∀ id, Writer.itemLeaf c s' id = Writer.itemLeaf c s id) :
    (∀ (vec : List Nat) (q : QueryOpts), byVector c s' rd vec q = byVector c s rd vec q) ∧
    (∀ (id : Nat) (q : QueryOpts), byItem c s' rd id q = byItem c s rd id q) := by
  refine ⟨fun vec q => ?_, fun id q => ?_⟩
  · unfold byVector; rw [hn]
  · unfold byItem; rw [hl id]
    cases Writer.itemLeaf c s id with
    | none => rfl
    | some p => simp only [hn]

/-- **C07 (query answers)**: whatever happened to index `i` (any `s'` with the same dump outside `i`: one
    operation or build on `i`, or any sequence of them), a reader of another index `c'` whose forest is
    valid in `s` opens the same, still has a valid forest, and answers every query the same:
    `nns_by_leaf`, `by_vector`, `by_item`, for every query leaf, count, budget, oversampling and filter
    — although the traversal fuel of the model depends on the number of entries of the whole store. -/
theorem C07_answers_nns {i : Nat} {s s' : Store} (h : OtherSame i s s') (c' : Cfg) (hi' : c'.index < 65536)
    (hne : c'.index ≠ i) (rd : ReaderState) (F : ForestOK c' s rd) :
    Reader.open c' s' = Reader.open c' s ∧
    ForestOK c' s' rd ∧
    (∀ (qh qv : List Nat) (q : QueryOpts), nnsByLeaf c' s' rd qh qv q = nnsByLeaf c' s rd qh qv q) ∧
    (∀ (vec : List Nat) (q : QueryOpts), byVector c' s' rd vec q = byVector c' s rd vec q) ∧
    (∀ (id : Nat) (q : QueryOpts), byItem c' s' rd id q = byItem c' s rd id q) := by
  have hs := C07_sameIndex h c' hi' hne
  have hn : ∀ (qh qv : List Nat) (q : QueryOpts), nnsByLeaf c' s' rd qh qv q = nnsByLeaf c' s rd qh qv q :=
    fun qh qv q => nnsByLeaf_congr_of_forest c' hs rd F qh qv q
  exact ⟨(C07_answers h c' hi' hne).2.2.2.2.2, F.congr hs, hn,
    byVector_byItem_congr c' rd hn (C07_answers h c' hi' hne).1⟩

/-- without any hypothesis on the forest: an answer `nns_by_leaf` gives on `s` is given on every `s'`
    with the same dump outside `i` that has at least as many entries (a failed query may only turn
    from a fuel error into an answer) -/
theorem C07_answers_nns_of_ok {i : Nat} {s s' : Store} (h : OtherSame i s s') (c' : Cfg)
    (hi' : c'.index < 65536) (hne : c'.index ≠ i) (hlen : s.length ≤ s'.length) (rd : ReaderState)
    (qh qv : List Nat) (q : QueryOpts) (ans : List (Nat × Nat))
    (hq : nnsByLeaf c' s rd qh qv q = .ok ans) : nnsByLeaf c' s' rd qh qv q = .ok ans :=
  nnsByLeaf_congr_of_ok c' (C07_sameIndex h c' hi' hne) hlen rd qh qv q ans hq

/-- the corollary for a successful build of `c` (any options, oracle streams, cancellation point):
    every query on a valid forest of another index of the same database answers as before -/
theorem C07_answers_build_nns (c c' : Cfg) (hi : c.index < 65536) (hi' : c'.index < 65536)
    (hne : c'.index ≠ c.index) (o : BuildOpts) (fuel : Nat) (st st' : BState)
    (h : Build.build c o fuel st = .ok ((), st')) (rd : ReaderState) (F : ForestOK c' st.store rd) :
    Reader.open c' st'.store = Reader.open c' st.store ∧
    ForestOK c' st'.store rd ∧
    (∀ (qh qv : List Nat) (q : QueryOpts),
      nnsByLeaf c' st'.store rd qh qv q = nnsByLeaf c' st.store rd qh qv q) ∧
    (∀ (vec : List Nat) (q : QueryOpts), byVector c' st'.store rd vec q = byVector c' st.store rd vec q) ∧
    (∀ (id : Nat) (q : QueryOpts), byItem c' st'.store rd id q = byItem c' st.store rd id q) :=
  C07_answers_nns (C07_dump_build c hi o fuel st st' h) c' hi' hne rd F

/-- the index an operation of a history works on -/
def opIndex : C01.Op → Nat
  | .add c _ _ => c.index
  | .append c _ _ => c.index
  | .del c _ => c.index
  | .clear c => c.index
  | .build c _ _ _ => c.index
  | .prepare c _ => c.index

theorem C07_dump_step (s : Store) (op : C01.Op) (hop : op.wf) : OtherSame (opIndex op) s (C01.step s op) := by
  have h := C01.stepTo s op
  generalize C01.step s op = s' at h
  cases h with
  | noop => exact (OtherSame.storeRel _).refl s
  | add h => exact C07_dump_add _ hop.1 s _ _ _ h
  | append h => exact C07_dump_append _ hop.1 s _ _ _ h
  | del c id => exact C07_dump_del c hop.1 s id
  | clear c => exact C07_dump_clear c hop s
  | build h => exact C07_dump_build _ hop.1 _ _ _ _ h
  | prepare _ h => exact C07_dump_prepare _ hop _ s _ h

/-- **C07 (query answers, over histories)**: any sequence of operations, metric changes and builds (successful,
    failed or cancelled) on indexes other than `c'.index` leaves `Reader::open` and every query of `c'` unchanged,
    when the forest of `c'` is valid in the starting state. -/
theorem C07_answers_nns_history (c' : Cfg) (hi' : c'.index < 65536) (ops : List C01.Op)
    (hops : ∀ op ∈ ops, op.wf) (hother : ∀ op ∈ ops, c'.index ≠ opIndex op)
    (s : Store) (rd : ReaderState) (F : ForestOK c' s rd) :
    Reader.open c' (ops.foldl C01.step s) = Reader.open c' s ∧
    ForestOK c' (ops.foldl C01.step s) rd ∧
    (∀ (qh qv : List Nat) (q : QueryOpts),
      nnsByLeaf c' (ops.foldl C01.step s) rd qh qv q = nnsByLeaf c' s rd qh qv q) ∧
    (∀ (vec : List Nat) (q : QueryOpts),
      byVector c' (ops.foldl C01.step s) rd vec q = byVector c' s rd vec q) ∧
    (∀ (id : Nat) (q : QueryOpts), byItem c' (ops.foldl C01.step s) rd id q = byItem c' s rd id q) := by
  induction ops generalizing s with
  | nil => exact ⟨rfl, F, fun _ _ _ => rfl, fun _ _ => rfl, fun _ _ => rfl⟩
  | cons op ops ih =>
    simp only [List.foldl_cons]
    obtain ⟨a1, a2, a3, a4, a5⟩ := C07_answers_nns (C07_dump_step s op (hops op (by simp))) c' hi'
      (hother op (by simp)) rd F
    obtain ⟨b1, b2, b3, b4, b5⟩ := ih (fun op' h' => hops op' (List.mem_cons_of_mem _ h'))
      (fun op' h' => hother op' (List.mem_cons_of_mem _ h')) (C01.step s op) a2
    exact ⟨b1.trans a1, b2, fun qh qv q => (b3 qh qv q).trans (a3 qh qv q),
      fun vec q => (b4 vec q).trans (a4 vec q), fun id q => (b5 id q).trans (a5 id q)⟩

/-- **C07 (query answers, end to end)**: after any history and a successful build of index `c'`, whatever
    is then done to the other indexes of the database (`later`: any operations and builds, none of them
    on `c'.index`), a reader of `c'` opens as right after the build and every query returns the answer it
    returned right after the build — and that answer is `.ok` (`C03_total_reachable`). -/
theorem C07_answers_nns_reachable (ops : List C01.Op) (hops : ∀ op ∈ ops, op.wf)
    (c' : Cfg) (o : BuildOpts) (fuel : Nat) (env st' : BState) (hwf : (C01.Op.build c' o fuel env).wf)
    (h : Build.build c' o fuel { env with store := C01.run ops } = .ok ((), st'))
    (later : List C01.Op) (hlater : ∀ op ∈ later, op.wf) (hother : ∀ op ∈ later, c'.index ≠ opIndex op) :
    ∃ roots,
      Reader.open c' (later.foldl C01.step st'.store) =
        .ok ⟨roots, c'.dims, (C01.run ops).keysOf c'.index modeItem⟩ ∧
      ∀ (qh qv : List Nat) (q : QueryOpts), ∃ ans,
        nnsByLeaf c' st'.store ⟨roots, c'.dims, (C01.run ops).keysOf c'.index modeItem⟩ qh qv q = .ok ans ∧
        nnsByLeaf c' (later.foldl C01.step st'.store)
          ⟨roots, c'.dims, (C01.run ops).keysOf c'.index modeItem⟩ qh qv q = .ok ans := by
  obtain ⟨roots, h1, h2, _⟩ := C01.C01_forestOK_reachable ops hops c' o fuel env st' hwf h
  obtain ⟨a1, _, a3, _, _⟩ := C07_answers_nns_history c' hwf.1 later hlater hother st'.store _ h2
  refine ⟨roots, a1.trans h1, fun qh qv q => ?_⟩
  obtain ⟨ans, ha, _⟩ := C03.C03_total h2 qh qv q
  exact ⟨ans, ha, (a3 qh qv q).trans ha⟩

/-! ## non-vacuity

The valid forest of `ForestExample` (index 0: three items, a split node, a bucket) in a database where
index 5 then receives an item, and is then built. The store grows from 5 to 7 entries (the traversal
fuel of a query on index 0 from 13 to 17), then to 9. -/

def nvCfg : Cfg := ⟨5, .euclidean, 2, {}⟩
def nvStore : Store := (C01.step ForestExample.s (.add nvCfg 9 [0, 0]))
def nvOps : List C01.Op := [.add nvCfg 9 [0, 0], .build nvCfg {} 0 { store := [], cancelAt := none }]

example : ForestOK ForestExample.c ForestExample.s ForestExample.rd := ForestExample.forestOK
example : ForestExample.c.index < 65536 ∧ ForestExample.c.index ≠ nvCfg.index ∧ nvCfg.index < 65536 := by decide
example : OtherSame nvCfg.index ForestExample.s nvStore :=
  C07_dump_step ForestExample.s (.add nvCfg 9 [0, 0]) (by decide)
example : ForestExample.s.length = 5 ∧ nvStore.length = 7 := by decide
example : ∀ op ∈ nvOps, op.wf ∧ ForestExample.c.index ≠ opIndex op := by
  intro op hop
  simp only [nvOps, List.mem_cons, List.not_mem_nil, or_false] at hop
  rcases hop with rfl | rfl <;> exact ⟨by decide, by decide⟩
/-- a query on index 0 (budget 1, filter {2, 1}) succeeds before, and gives the same answer after -/
example : ∃ ans, nnsByLeaf ForestExample.c ForestExample.s ForestExample.rd [F32.zero] [F32.zero, F32.zero]
      { count := 2, searchK := some 1, candidates := some [2, 1] } = .ok ans ∧
    nnsByLeaf ForestExample.c nvStore ForestExample.rd [F32.zero] [F32.zero, F32.zero]
      { count := 2, searchK := some 1, candidates := some [2, 1] } = .ok ans := by
  obtain ⟨ans, h, _⟩ := C03.C03_total ForestExample.forestOK [F32.zero] [F32.zero, F32.zero]
    { count := 2, searchK := some 1, candidates := some [2, 1] }
  refine ⟨ans, h, ?_⟩
  rw [← h]
  exact (C07_answers_nns (C07_dump_step ForestExample.s (.add nvCfg 9 [0, 0]) (by decide)) ForestExample.c
    (by decide) (by decide) ForestExample.rd ForestExample.forestOK).2.2.1 _ _ _
/-- the build of index 5 in that database succeeds -/
example : ∃ st', Build.build nvCfg {} 0 { store := nvStore, cancelAt := none } = .ok ((), st') ∧
    st'.store.length = 9 := ⟨_, rfl, rfl⟩

end Arroy.C07
