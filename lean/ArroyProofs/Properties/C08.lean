import ArroyModel.Env
/-! # C08 — writers are atomic, readers keep a consistent snapshot

Theorems over the trusted model of the LMDB environment (`ArroyModel/Env.lean`), for every
interleaving of events. The arroy-specific content — every writer operation is a function of the
transaction's own store, every reader answer a function of its snapshot — is built into the
model's types (`Writer.*`, `Build.build`, `Reader.*` take and return a `Store`) and is what the
correspondence runs with real threads validate. -/
namespace Arroy.C08
open Arroy Env

/-- every committed version ever is remembered, in order: history only grows at the front -/
theorem history_suffix (e : Env) (ev : Event) : ∃ pre, (e.step ev).history = pre ++ e.history := by
  cases ev with
  | commit =>
    -- the only event that adds a version
    simp only [step]
    cases e.writer with
    | none => exact ⟨[], rfl⟩
    | some s => exact ⟨[s], rfl⟩
  | beginW => simp only [step]; cases e.writer <;> exact ⟨[], rfl⟩
  | _ => exact ⟨[], rfl⟩

theorem history_suffix_run (e : Env) (evs : List Event) : ∃ pre, (e.run evs).history = pre ++ e.history := by
  induction evs generalizing e with
  | nil => exact ⟨[], rfl⟩
  | cons ev evs ih =>
    obtain ⟨p1, h1⟩ := history_suffix e ev
    obtain ⟨p2, h2⟩ := ih (e.step ev)
    refine ⟨p2 ++ p1, ?_⟩
    simp only [run, List.foldl_cons] at h2 ⊢
    rw [h2, h1, List.append_assoc]

/-- invariant: every open reader holds one of the committed versions -/
def ReadersPinned (e : Env) : Prop := ∀ r ∈ e.readers, r.2 ∈ e.history

theorem committed_mem (e : Env) (h : e.history ≠ []) : e.committed ∈ e.history := by
  unfold committed
  cases hh : e.history with
  | nil => exact absurd hh h
  | cons a l => simp

theorem history_ne_nil_step (e : Env) (ev : Event) (h : e.history ≠ []) : (e.step ev).history ≠ [] := by
  obtain ⟨pre, hp⟩ := history_suffix e ev
  rw [hp]; intro hc
  exact h (List.append_eq_nil_iff.1 hc).2

theorem pinned_step (e : Env) (ev : Event) (hne : e.history ≠ []) (h : ReadersPinned e) :
    ReadersPinned (e.step ev) := by
  obtain ⟨pre, hp⟩ := history_suffix e ev
  intro r hr
  rw [hp]
  apply List.mem_append_right
  cases ev with
  | openR rid =>
    simp only [step, List.mem_cons, List.mem_filter] at hr
    rcases hr with rfl | ⟨hr, _⟩
    · exact committed_mem e hne
    · exact h r hr
  | closeR rid =>
    simp only [step, List.mem_filter] at hr
    exact h r hr.1
  | crash => simp [step] at hr
  | beginW => simp only [step] at hr; cases hw : e.writer <;> simp [hw] at hr <;> exact h r hr
  | write f => exact h r hr
  | commit => simp only [step] at hr; cases hw : e.writer <;> simp [hw] at hr <;> exact h r hr
  | abort => exact h r hr

theorem find_filter_ne (l : List (Nat × Store)) (r rid : Nat) (hne : r ≠ rid) :
    (l.filter (fun x => decide (x.1 ≠ r))).find? (fun x => decide (x.1 = rid)) = l.find? (fun x => decide (x.1 = rid)) := by
  rw [List.find?_filter]
  congr 1
  funext a
  by_cases h : a.1 = rid
  · simp [h, Ne.symm hne]
  · simp [h]

/-- an event other than a crash and the opening or closing of reader `rid` leaves what `rid` observes -/
theorem view_step (e : Env) (rid : Nat) (ev : Event)
    (h : ev ≠ .crash ∧ (∀ r, ev = .openR r → r ≠ rid) ∧ (∀ r, ev = .closeR r → r ≠ rid)) :
    (e.step ev).view rid = e.view rid := by
  cases ev with
  | crash => exact absurd rfl h.1
  | openR r =>
    have hne : r ≠ rid := h.2.1 r rfl
    simp only [step, view, List.find?_cons, hne, decide_false]
    exact congrArg _ (find_filter_ne _ r rid hne)
  | closeR r => exact congrArg _ (find_filter_ne _ r rid (h.2.2 r rfl))
  | beginW => simp only [step]; cases e.writer <;> rfl
  | commit => simp only [step]; cases e.writer <;> rfl
  | write f => rfl
  | abort => rfl

/-- **C08 (snapshot)**: whatever the interleaving of writer events, other readers' events and
    commits, a reader that stays open keeps observing exactly the version it was opened on, and
    that version is one of the committed ones. -/
theorem C08_snapshot (e : Env) (rid : Nat) (evs : List Event)
    (hopen : ∀ ev ∈ evs, ev ≠ .crash ∧ (∀ r, ev = .openR r → r ≠ rid) ∧ (∀ r, ev = .closeR r → r ≠ rid)) :
    ((e.step (.openR rid)).run evs).view rid = some e.committed := by
  have key : ∀ e' : Env, (e'.run evs).view rid = e'.view rid := by
    induction evs with
    | nil => intro e'; rfl
    | cons ev evs ih =>
      intro e'
      simp only [run, List.foldl_cons]
      exact (ih (fun ev' h' => hopen ev' (List.mem_cons_of_mem _ h')) _).trans
        (view_step e' rid ev (hopen ev (List.mem_cons_self ..)))
  rw [key]
  simp [step, view]

/-- the two facts every event keeps: some version is committed, and the readers are pinned to committed versions -/
theorem readersPinned_run (e : Env) (evs : List Event) (hne : e.history ≠ []) (hp : ReadersPinned e) :
    (e.run evs).history ≠ [] ∧ ReadersPinned (e.run evs) := by
  induction evs generalizing e with
  | nil => exact ⟨hne, hp⟩
  | cons ev evs ih =>
    simp only [run, List.foldl_cons]
    exact ih _ (history_ne_nil_step e ev hne) (pinned_step e ev hne hp)

/-- **C08 (atomic)**: a reader opened at any moment sees a committed version, never the open
    transaction's private state. -/
theorem C08_reader_sees_committed (e : Env) (evs : List Event) (hne : e.history ≠ []) (h : ReadersPinned e)
    (rid : Nat) (s : Store) (hv : (e.run evs).view rid = some s) : s ∈ (e.run evs).history := by
  obtain ⟨_, hp⟩ := readersPinned_run e evs hne h
  simp only [view] at hv
  cases hf : (e.run evs).readers.find? (·.1 = rid) with
  | none => simp [hf] at hv
  | some r =>
    simp only [hf, Option.map_some, Option.some.injEq] at hv
    subst hv
    exact hp r (List.mem_of_find?_eq_some hf)

/-- the operations of an open write transaction touch neither the committed versions nor the readers -/
theorem writes_frame (e : Env) (ops : List (Store → Store)) :
    (e.run (ops.map Event.write)).history = e.history ∧ (e.run (ops.map Event.write)).readers = e.readers := by
  induction ops generalizing e with
  | nil => exact ⟨rfl, rfl⟩
  | cons f fs ih =>
    simp only [List.map_cons, run, List.foldl_cons]
    have := ih (e.step (.write f))
    simpa [run, step] using this

/-- … and make the private store of the transaction the composition of the operations -/
theorem writes_writer (e : Env) (ops : List (Store → Store)) (s : Store) (h : e.writer = some s) :
    (e.run (ops.map Event.write)).writer = some (ops.foldl (fun s f => f s) s) := by
  induction ops generalizing e s with
  | nil => exact h
  | cons f fs ih =>
    simp only [List.map_cons, run, List.foldl_cons]
    exact ih (e.step (.write f)) (f s) (by simp [step, h])

/-- **C08 (abort)**: a write transaction that is aborted — after any operations, including a
    successful or failed build — leaves no trace: committed versions and every reader are unchanged. -/
theorem C08_abort (e : Env) (ops : List (Store → Store)) (hw : e.writer = none) :
    let e' := (((e.step .beginW).run (ops.map Event.write)).step .abort)
    e'.history = e.history ∧ e'.readers = e.readers ∧ e'.writer = none := by
  have hb : (e.step .beginW).history = e.history ∧ (e.step .beginW).readers = e.readers := by
    simp [step, hw]
  obtain ⟨k1, k2⟩ := writes_frame (e.step .beginW) ops
  exact ⟨k1.trans hb.1, k2.trans hb.2, rfl⟩

/-- **C08 (commit is all-at-once)**: what becomes visible at commit is exactly the transaction's
    final private state — the composition of all its operations on the version it started from. -/
theorem C08_commit (e : Env) (ops : List (Store → Store)) (hw : e.writer = none) :
    (((e.step .beginW).run (ops.map Event.write)).step .commit).committed
      = ops.foldl (fun s f => f s) e.committed := by
  have hb : (e.step .beginW).writer = some e.committed := by simp [step, hw]
  have hk := writes_writer _ ops _ hb
  have hc : ∀ (x : Env) (s : Store), x.writer = some s → (x.step .commit).committed = s := by
    intro x s hx; simp [step, hx, committed]
  exact hc _ _ hk

/-- non-vacuity: a reader opened before a commit keeps the old version while a later one sees the new -/
example :
    let e0 : Env := {}
    let w : Store → Store := fun s => s.put ⟨0, 3, 7⟩ .unit
    let e := e0.run [.openR 1, .beginW, .write w, .commit, .openR 2]
    e.view 1 = some [] ∧ e.view 2 = some [(⟨0, 3, 7⟩, .unit)] := by
  decide

end Arroy.C08
