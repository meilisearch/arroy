import ArroyProofs.Properties.C08
/-! # C09 — a crash leaves the last committed index intact

Over the trusted model of the LMDB environment: a crash at any point of any event sequence loses
the open transactions and nothing else. That LMDB implements this (copy-on-write pages, a commit
that has returned is durable) is assumed; arroy's own part — it keeps no state outside the
database that a reopened environment would need — is what the kill-and-reopen runs validate. -/
namespace Arroy.C09
open Arroy Env

/-- **C09**: after a crash at ANY point, the environment shows exactly the last committed version;
    no write transaction and no reader survive. (By construction of `Env.step`: the crash event keeps `history`
    and clears the rest; `evs` plays no role in the proof.) -/
theorem C09_crash (e : Env) (evs : List Event) :
    let e' := (e.run evs).step .crash
    e'.committed = (e.run evs).committed ∧ e'.history = (e.run evs).history ∧ e'.writer = none ∧ e'.readers = [] := by
  simp [step, committed]

/-- the committed version at the crash is the state of the last transaction whose commit returned:
    operations of an open (uncommitted) transaction never reach it -/
theorem C09_uncommitted_lost (e : Env) (ops : List (Store → Store)) (hw : e.writer = none) :
    (((e.step .beginW).run (ops.map Event.write)).step .crash).committed = e.committed := by
  have hb : (e.step .beginW).history = e.history := by simp [step, hw]
  show ((e.step .beginW).run (ops.map Event.write)).committed = e.committed
  unfold committed
  rw [(C08.writes_frame _ ops).1, hb]

theorem C09_committed_kept (e : Env) (s : Store) (hw : e.writer = some s) :
    ((e.step .commit).step .crash).committed = s := by
  simp [step, hw, committed]

/-- restarting after a crash: a new write transaction starts from the last committed version (by construction of
    `Env.step`, as `C09_crash`) -/
theorem C09_restart (e : Env) (evs : List Event) :
    (((e.run evs).step .crash).step .beginW).writer = some (e.run evs).committed := by
  simp [step, committed]

example :
    let e0 : Env := {}
    let w1 : Store → Store := fun s => s.put ⟨0, 3, 1⟩ .unit
    let w2 : Store → Store := fun s => s.put ⟨0, 3, 2⟩ .unit
    (e0.run [.beginW, .write w1, .commit, .beginW, .write w2, .crash]).committed = [(⟨0, 3, 1⟩, .unit)] := by
  decide

end Arroy.C09
