import ArroyProofs.TransparentBuild
/-! # C10 — a cancelled build reports it, and can be rolled back

The cancellation callback of the model is monotone by construction: `cancelAt = some n` means
"false for the calls `0 .. n-1`, true from call `n` on" (`BuildM.poll`).  `erase st` is the same
state with the callback that never fires.

Main results (for `Build.build`, i.e. `Writer::build`), all under the explicit, decidable
hypothesis `RootsPresent c st.store` (if the database holds tree nodes, its metadata lists at
least one root — one direction of the forest invariant):

* `C10_transparent_ok`  : a build that returns `Ok` under a cancel schedule returns exactly what the
  fault-free build returns (store, poll count, oracle remainders): no success over a half-built forest;
* `C10_transparent_err` : a failing build fails with `cancelled`, or with the fault-free build's own error;
* `C10_cancel_iff`      : with `P` the number of polls of the successful fault-free build, the build
  under `cancelAt = some n` fails with `cancelled` iff `n < P` (and otherwise returns the fault-free
  result, `C10_cancel_late`) — *including* when call `n` is the one swallowed by `used_tree_node`;
* `C10_abort`, `C10_commit_err`, `C10_retry` : the transaction model.

The hypothesis cannot be dropped: `C10_transparent_ok_needs_roots`, `C10_cancel_iff_needs_roots`
(tree nodes without roots, `n_trees = 0`: the swallowed cancellation is never seen again). -/
namespace Arroy.C10
open Generated Transp BuildM

/-- A build that returns `Ok` under a cancel schedule is the fault-free build: same store, same
    number of polls, same oracle remainders.  In particular it never reports success over a
    half-built forest. -/
theorem C10_transparent_ok (c : Cfg) (o : BuildOpts) (fuel : Nat) (st st' : BState)
    (H : RootsPresent c st.store)
    (h : Build.build c o fuel st = .ok ((), st')) :
    Build.build c o fuel (erase st) = .ok ((), erase st') :=
  ((build_transparentOn c o fuel st H).ok () st' h).1

/-- A build that fails under a cancel schedule fails with the cancellation error, or exactly like
    the fault-free build. -/
theorem C10_transparent_err (c : Cfg) (o : BuildOpts) (fuel : Nat) (st : BState) (e : Err)
    (H : RootsPresent c st.store)
    (h : Build.build c o fuel st = .error e) :
    (∃ k, e = .cancelled k) ∨ Build.build c o fuel (erase st) = .error e := by
  rcases (build_transparentOn c o fuel st H).err e h with ⟨k, hk, _⟩ | h2
  · exact Or.inl ⟨k, hk⟩
  · exact Or.inr h2

/-- both at once, in the `match` form of the closure predicate (`Transp.Transparent.simple`) -/
theorem C10_transparent_match (c : Cfg) (o : BuildOpts) (fuel : Nat) (st : BState)
    (H : RootsPresent c st.store) :
    match Build.build c o fuel st with
    | .ok (a, st') => Build.build c o fuel (erase st) = .ok (a, erase st')
    | .error e => (∃ k, e = .cancelled k) ∨ Build.build c o fuel (erase st) = .error e := by
  cases hb : Build.build c o fuel st with
  | ok r => obtain ⟨⟨⟩, st'⟩ := r; exact C10_transparent_ok c o fuel st st' H hb
  | error e => exact C10_transparent_err c o fuel st e H hb

/- Remark (not machine-checked): the unconditional form of `C10_transparent_err` also fails in the
   model, but only through a model artefact: tree keys without roots, `n_trees = 2^32`,
   `loopFuel = 0`.  After the swallow `used = []`, so `new_trees` can hand out `2^32` ids and the run
   ends with the model's `.fuel` error, whereas the fault-free run (one id already used) ends with
   `.dbFull`.  With `loopFuel > 0` the next poll reports `cancelled`. -/

/-- a successful build under a schedule has not made the firing call, never decreases the
    counter and leaves the schedule alone -/
theorem C10_ok_before_firing (c : Cfg) (o : BuildOpts) (fuel n : Nat) (st st' : BState)
    (H : RootsPresent c st.store) (hc : st.cancelAt = some n) (hs : st.polls ≤ n)
    (h : Build.build c o fuel st = .ok ((), st')) :
    st'.cancelAt = some n ∧ st.polls ≤ st'.polls ∧ st'.polls ≤ n := by
  obtain ⟨_, h2, h3, h4⟩ := (build_transparentOn c o fuel st H).ok () st' h
  have hsafe : Safe st := by
    intro m hm; rw [hc] at hm; cases hm; exact hs
  exact ⟨by rw [h3, hc], h2, h4 hsafe n (by rw [h3, hc])⟩

/-- a build that succeeds under a schedule ends in the state of the fault-free build, up to the schedule -/
theorem C10_ok_eq_erase {c : Cfg} {o : BuildOpts} {fuel : Nat} {st st' st'' : BState}
    (H : RootsPresent c st.store) (hb : Build.build c o fuel st = .ok ((), st''))
    (hff : Build.build c o fuel (erase st) = .ok ((), st')) : st' = erase st'' := by
  have h1 := C10_transparent_ok c o fuel st st'' H hb
  rw [hff] at h1
  cases h1
  rfl

/-- Exact characterisation.  Let the fault-free build succeed and make `P = st'.polls` polls in
    total (counted from `st.polls ≤ n`, e.g. from `0`).  Then the build whose callback fires at
    call `n` fails with `cancelled` iff `n < P`.  This includes the case where call `n` is one of
    the calls of `used_tree_node`, whose error is swallowed: a later poll sees the flag again. -/
theorem C10_cancel_iff (c : Cfg) (o : BuildOpts) (fuel n : Nat) (st st' : BState)
    (H : RootsPresent c st.store) (hc : st.cancelAt = some n) (hs : st.polls ≤ n)
    (hff : Build.build c o fuel (erase st) = .ok ((), st')) :
    (∃ k, Build.build c o fuel st = .error (.cancelled k)) ↔ n < st'.polls := by
  have T := build_transparentOn c o fuel st H
  cases hb : Build.build c o fuel st with
  | error e =>
    rcases T.err e hb with ⟨k, hk, hn⟩ | h2
    · subst hk
      exact ⟨fun _ => hn n () st' hc hff, fun _ => ⟨k, rfl⟩⟩
    · rw [hff] at h2; cases h2
  | ok r =>
    obtain ⟨⟨⟩, st''⟩ := r
    have h2 := (C10_ok_before_firing c o fuel n st st'' H hc hs hb).2.2
    cases C10_ok_eq_erase H hb hff
    constructor
    · rintro ⟨k, hk⟩; cases hk
    · intro hlt
      simp only [erase_polls] at hlt
      omega

/-- ... and if the callback would only fire after the last poll (`P ≤ n`), the build returns
    exactly the fault-free result. -/
theorem C10_cancel_late (c : Cfg) (o : BuildOpts) (fuel n : Nat) (st st' : BState)
    (H : RootsPresent c st.store) (hc : st.cancelAt = some n) (hs : st.polls ≤ n)
    (hff : Build.build c o fuel (erase st) = .ok ((), st')) (hn : st'.polls ≤ n) :
    Build.build c o fuel st = .ok ((), { st' with cancelAt := some n }) := by
  have T := build_transparentOn c o fuel st H
  cases hb : Build.build c o fuel st with
  | error e =>
    rcases T.err e hb with ⟨k, _, hlt⟩ | h2
    · have := hlt n () st' hc hff
      omega
    · rw [hff] at h2; cases h2
  | ok r =>
    obtain ⟨⟨⟩, st''⟩ := r
    have h3 := (C10_ok_before_firing c o fuel n st st'' H hc hs hb).1
    cases C10_ok_eq_erase H hb hff
    cases st''
    simp_all [erase]

/-! ## the hypothesis `RootsPresent` is needed

Tree nodes under the index but no metadata (hence no roots), one item, `n_trees = Some(0)`,
`split_after = Some(0)`: the fault-free build polls 4 times (pre-process, one item, two tree keys)
and succeeds.  With the callback firing at call 2 (the first call of `used_tree_node`) the error is
swallowed, nothing polls afterwards, and `build` returns `Ok` after 3 calls.  (The store written is
the same in this corner; only the call count shows the difference.) -/

def cBad : Cfg := { index := 0, metric := .euclidean, dims := 2 }
def oBad : BuildOpts := { nTrees := some 0, splitAfter := some 0 }
def sBad : Store :=
  [(cBad.treeKey 5, .desc [0]), (cBad.treeKey 6, .desc [0]), (cBad.itemKey 0, .leaf [] [0, 0])]
def stBad : BState := { store := sBad, cancelAt := some 2 }

def okPolls : Except Err (Unit × BState) → Option Nat
  | .ok (_, st) => some st.polls
  | .error _ => none

def cancelledAt : Except Err (Unit × BState) → Option Nat
  | .error (.cancelled k) => some k
  | _ => none

theorem C10_bad_not_rootsPresent : ¬ RootsPresent cBad sBad := by decide
theorem C10_bad_cancelled_run : okPolls (Build.build cBad oBad 0 stBad) = some 3 := by decide +kernel
theorem C10_bad_faultfree_run : okPolls (Build.build cBad oBad 0 (erase stBad)) = some 4 := by decide +kernel

/-- the unconditional form of `C10_transparent_ok` is false -/
theorem C10_transparent_ok_needs_roots :
    ¬ ∀ (c : Cfg) (o : BuildOpts) (fuel : Nat) (st st' : BState),
      Build.build c o fuel st = .ok ((), st') → Build.build c o fuel (erase st) = .ok ((), erase st') := by
  intro h
  have h1 := C10_bad_cancelled_run
  have h2 := C10_bad_faultfree_run
  cases hb : Build.build cBad oBad 0 stBad with
  | error e => rw [hb] at h1; cases h1
  | ok r =>
    obtain ⟨⟨⟩, st'⟩ := r
    rw [h _ _ _ _ _ hb] at h2
    rw [hb] at h1
    simp only [okPolls, erase_polls, Option.some.injEq] at h1 h2
    omega

/-- the unconditional form of `C10_cancel_iff` is false: `n = 2 < 4 = P`, yet no error -/
theorem C10_cancel_iff_needs_roots :
    ¬ ∀ (c : Cfg) (o : BuildOpts) (fuel n : Nat) (st st' : BState),
      st.cancelAt = some n → st.polls ≤ n → Build.build c o fuel (erase st) = .ok ((), st') →
      ((∃ k, Build.build c o fuel st = .error (.cancelled k)) ↔ n < st'.polls) := by
  intro h
  have h1 := C10_bad_cancelled_run
  have h2 := C10_bad_faultfree_run
  cases hb : Build.build cBad oBad 0 (erase stBad) with
  | error e => rw [hb] at h2; cases h2
  | ok r =>
    obtain ⟨⟨⟩, st'⟩ := r
    rw [hb] at h2
    simp only [okPolls, Option.some.injEq] at h2
    obtain ⟨k, hk⟩ := (h cBad oBad 0 2 stBad st' rfl (Nat.zero_le _) hb).2 (by omega)
    rw [hk] at h1
    cases h1

/-! ## the transaction model

`build` works inside a write transaction of the caller: a private copy of the committed store.
In the model an error returns no state at all (the partial edits live only in the transaction);
the caller commits only after `Ok`. -/

/-- run `m` in a write transaction opened on the committed store `db`
    (`env` carries the callback schedule and the oracles) -/
def runTxn (m : BuildM α) (db : Store) (env : BState) : Except Err (α × BState) :=
  m { env with store := db }

/-- run `m` in a transaction, then abort it, whatever the outcome: the database afterwards -/
def abortAfter (m : BuildM α) (db : Store) (env : BState) : Store :=
  match runTxn m db env with
  | .ok _ => db
  | .error _ => db

/-- run `m` in a transaction and commit iff it returned `Ok`: the database afterwards -/
def commitIfOk (m : BuildM α) (db : Store) (env : BState) : Store :=
  match runTxn m db env with
  | .ok (_, st') => st'.store
  | .error _ => db

/-- aborting the transaction restores the exact previous contents (by construction of `abortAfter`: both branches
    return `db`) -/
theorem C10_abort (m : BuildM α) (db : Store) (env : BState) : abortAfter m db env = db := by
  unfold abortAfter; split <;> rfl

/-- the error path performs no commit (by construction of `commitIfOk`) -/
theorem C10_commit_err (m : BuildM α) (db : Store) (env : BState) (e : Err)
    (h : runTxn m db env = .error e) : commitIfOk m db env = db := by
  unfold commitIfOk; rw [h]

/-- retrying without the fault, after the abort, is the fault-free build of the original database (`C10_abort`
    and the definition of `runTxn`; nothing about `build` is used) -/
theorem C10_retry (c : Cfg) (o : BuildOpts) (fuel : Nat) (db : Store) (env : BState) :
    runTxn (Build.build c o fuel) (abortAfter (Build.build c o fuel) db env) (erase env) =
      Build.build c o fuel (erase { env with store := db }) := by
  rw [C10_abort]; rfl

/-- a cancelled build followed by abort and a clean retry commits exactly what the build would
    have committed had the callback never fired -/
theorem C10_cancel_abort_retry (c : Cfg) (o : BuildOpts) (fuel : Nat) (db : Store) (env : BState) :
    commitIfOk (Build.build c o fuel) (abortAfter (Build.build c o fuel) db env) (erase env) =
      commitIfOk (Build.build c o fuel) db (erase env) := by
  rw [C10_abort]

def cEx : Cfg := { index := 0, metric := .euclidean, dims := 2 }

/-- three items, nothing built yet; with `split_after = 10` everything fits one leaf -/
def sItems : Store :=
  [(cEx.itemKey 0, .leaf [] [0, 0]), (cEx.itemKey 1, .leaf [] [0, 0]), (cEx.itemKey 2, .leaf [] [0, 0])]

/-- a built index: metadata with root 0, one descendants node, three items -/
def sBuilt : Store :=
  [(cEx.metaKey, .metadata [] 2 [0, 1, 2] [0]), (cEx.treeKey 0, .desc [0, 1, 2]),
   (cEx.itemKey 0, .leaf [] [0, 0]), (cEx.itemKey 1, .leaf [] [0, 0]), (cEx.itemKey 2, .leaf [] [0, 0])]

def oLeaf : BuildOpts := { splitAfter := some 10 }
def oTree : BuildOpts := { nTrees := some 1, splitAfter := some 2 }

example : RootsPresent cEx sItems := by decide
/-- non-trivially: there are tree keys, and a root -/
example : RootsPresent cEx sBuilt ∧ sBuilt.keysOf cEx.index modeTree = [0] ∧ rootsOf cEx sBuilt = [0] := by
  decide

/-- the fault-free build makes 5 polls; firing at call 3 is reported at the 4th call -/
example : cancelledAt (Build.build cEx oLeaf 0 { store := sItems, cancelAt := some 3 }) = some 4 := by
  decide +kernel
example : okPolls (Build.build cEx oLeaf 0 { store := sItems, cancelAt := none }) = some 5 := by
  decide +kernel
/-- firing after the last poll: the build completes (`C10_cancel_late`) -/
example : okPolls (Build.build cEx oLeaf 0 { store := sItems, cancelAt := some 5 }) = some 5 := by
  decide +kernel

/-- the swallowed poll: on the built index the fault-free build makes 7 polls (pre-process, 3 items,
    1 tree key in `used_tree_node`, 2 in `delete_items_from_trees`).  Firing at call 4 — the call
    inside `used_tree_node` — is swallowed there and reported by the next call, the 6th. -/
example : okPolls (Build.build cEx oTree 0 { store := sBuilt, cancelAt := none }) = some 7 := by
  decide +kernel
example : cancelledAt (Build.build cEx oTree 0 { store := sBuilt, cancelAt := some 4 }) = some 6 := by
  decide +kernel
example : Swallows cEx { store := sBuilt, polls := 4, cancelAt := some 4 } :=
  ⟨4, rfl, by decide, by decide⟩

end Arroy.C10
