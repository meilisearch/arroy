import ArroyProofs.InPlaceBuild
import ArroyProofs.Properties.C10
import ArroyProofs.Properties.C01Examples
/-! # C10 (in place) — polling inside the recursive routines is the same as charging them afterwards

`ArroyModel/Build.lean` runs `delete_items_in_file`, `insert_items_in_file` and `make_tree_in_file`
as pure functions (`delT`, `insertT`, `makeT`) and charges their polls afterwards (`pollN r.polls`).
`ArroyModel/InPlace.lean` has the same routines with `opt.cancelled()?` polled exactly where the
Rust code polls (`delM`, `insertM`, `makeM`), the stages that call them and the whole build
(`InPlace.buildM`).  Here: the two presentations have the same runs.

* tree level (`ArroyProofs/InPlaceEq.lean`): `delM_eq`, `insertM_ok`/`insertM_err`, `makeM_ok`/`makeM_err`;
* `C10_inplace_delete` : the deletion stage is literally the same computation;
* `C10_inplace_insert`, `C10_inplace_make`, `C10_inplace_build` : `SameRuns` — same successes (value and
  state), same `cancelled k`; the only difference: when the pure routine fails with a non-cancellation
  error `e` (id space exhausted, oracle exhausted, panic), `Build.lean` reports `e` at once, the
  in-place code first makes the polls that precede `e` in the Rust code, so that under a schedule a
  cancellation may pre-empt `e`.  Without a schedule the runs are equal;
* `C10_inplace_build_eq` : if the fault-free build succeeds (and `RootsPresent`), the runs under any
  schedule are equal; hence every C10 theorem holds for `buildM` (`C10_inplace_cancel_iff`). -/
namespace Arroy.C10
open Generated Transp BuildM InPlace

/-- The runs of `m` (polls charged afterwards) and `m'` (polls in place) from `st`:
1. one succeeds iff the other does, with the same value and final state;
2. if `m` fails with `e`, `m'` fails with `e`, or with a cancellation — only if `e` is not itself a
   cancellation and there is a schedule;
3. conversely for a failure of `m'`;
4. without a schedule the two runs are equal. -/
def SameRuns (m m' : BuildM α) (st : BState) : Prop :=
  (∀ x, m st = .ok x ↔ m' st = .ok x) ∧
  (∀ e, m st = .error e → ∃ e', m' st = .error e' ∧
    (e' = e ∨ ((∃ k, e' = .cancelled k) ∧ (∀ k, e ≠ .cancelled k) ∧ st.cancelAt ≠ none))) ∧
  (∀ e', m' st = .error e' → ∃ e, m st = .error e ∧
    (e' = e ∨ ((∃ k, e' = .cancelled k) ∧ (∀ k, e ≠ .cancelled k) ∧ st.cancelAt ≠ none))) ∧
  (st.cancelAt = none → m' st = m st)

theorem sameRuns_of_sim {m m' : BuildM α} (h : Sim m m') (st : BState) : SameRuns m m' st :=
  ⟨h.ok_iff st, h.err st, h.err' st, h.eq_of_none st⟩

/-- `SameRuns` preserves a reported cancellation, call number included, in both directions when the
    other side's failure is known to be a cancellation -/
theorem SameRuns.cancelled {m m' : BuildM α} {st : BState} (h : SameRuns m m' st) (k : Nat)
    (hm : m st = .error (.cancelled k)) : m' st = .error (.cancelled k) := by
  obtain ⟨e', h1, h2⟩ := h.2.1 _ hm
  rcases h2 with h2 | ⟨_, h2, _⟩
  · rw [h1, h2]
  · exact absurd rfl (h2 k)

/-! ## the stages -/

/-- `delete_items_in_file` on one tree: literal equality of the runs from every state -/
theorem C10_inplace_delete_tree (cap : Nat) (D : List Nat) (t : T) (st : BState) :
    delM cap D t st =
      (BuildM.bind' (BuildM.pollN (delT cap D t).polls) (fun _ => BuildM.pure' (delT cap D t))) st :=
  delM_eq cap D t st

/-- `insert_items_in_file` on one tree, success: the in-place run is `insertT` charged afterwards
    (the random bits are an explicit argument and a field of the result on both sides) -/
theorem C10_inplace_insert_tree_ok (cx : TreeCtx) (t : T) (ins : List Nat) (g : IdGen) (rs : List Bool)
    (r : InsRes) (h : insertT cx t ins g rs = .ok r) (st : BState) :
    insertM cx t ins g rs st = (BuildM.pollN r.polls >>= fun _ => pure r) st :=
  insertM_ok cx t ins g rs r h st

/-- ... failure: the same error, or a cancellation that pre-empts it (only under a schedule) -/
theorem C10_inplace_insert_tree_err (cx : TreeCtx) (t : T) (ins : List Nat) (g : IdGen) (rs : List Bool)
    (e : Err) (h : insertT cx t ins g rs = .error e) (st : BState) :
    ∃ e', insertM cx t ins g rs st = .error e' ∧ (e' = e ∨ ∃ k, e' = .cancelled k) ∧
      (st.cancelAt = none → e' = e) :=
  insertM_err cx t ins g rs e h st

/-- `make_tree_in_file`, success (normals and random bits explicit on both sides) -/
theorem C10_inplace_make_tree_ok (cx : TreeCtx) (fuel : Nat) (items : List Nat) (g : IdGen)
    (normals : List (List Nat)) (rs : List Bool) (r : MakeRes)
    (h : makeT cx fuel items g normals rs = .ok r) (st : BState) :
    makeM cx fuel items g normals rs st = (BuildM.pollN r.polls >>= fun _ => pure r) st :=
  makeM_ok cx fuel items g normals rs r h st

/-- ... failure -/
theorem C10_inplace_make_tree_err (cx : TreeCtx) (fuel : Nat) (items : List Nat) (g : IdGen)
    (normals : List (List Nat)) (rs : List Bool) (e : Err)
    (h : makeT cx fuel items g normals rs = .error e) (st : BState) :
    ∃ e', makeM cx fuel items g normals rs st = .error e' ∧ (e' = e ∨ ∃ k, e' = .cancelled k) ∧
      (st.cancelAt = none → e' = e) :=
  makeM_err cx fuel items g normals rs e h st

/-- the deletion stage (`delete_items_from_trees`): the in-place version is the same computation -/
theorem C10_inplace_delete (c : Cfg) (o : BuildOpts) (D : List Nat) (s : Store) (roots : List Nat) (st : BState) :
    deleteLoopM c o D s roots st = Build.deleteLoop c o D s roots st ∧
    deleteItemsFromTreesM c o roots D st = Build.deleteItemsFromTrees c o roots D st := by
  rw [deleteLoopM_eq, deleteItemsFromTreesM_eq]
  exact ⟨rfl, rfl⟩

/-- the insertion stage: one batch over the roots (`insert_items_in_tree`), and the batch loop
    (`insert_items_in_current_trees`) -/
theorem C10_inplace_insert (c : Cfg) (o : BuildOpts) (snap : Store) (batch roots : List Nat) (g : IdGen)
    (fuel : Nat) (toInsert : List Nat) (st : BState) :
    SameRuns (Build.insertRoots c o snap batch roots g) (insertRootsM c o snap batch roots g) st ∧
    SameRuns (Build.insertItemsInCurrentTrees c o roots fuel toInsert g)
      (insertItemsInCurrentTreesM c o roots fuel toInsert g) st :=
  ⟨sameRuns_of_sim (insertRoots_sim c o snap batch roots g) st,
   sameRuns_of_sim (insertItemsInCurrentTrees_sim c o roots fuel toInsert g) st⟩

/-- the re-split stage (`incremental_index_large_descendants`, which calls `make_tree_in_file`
    and `insert_items_in_current_trees`) -/
theorem C10_inplace_make (c : Cfg) (o : BuildOpts) (fuel : Nat) (large : List Nat) (g : IdGen) (st : BState) :
    SameRuns (Build.incrementalIndexLargeDescendants c o fuel large g)
      (incrementalIndexLargeDescendantsM c o fuel large g) st :=
  sameRuns_of_sim (incrementalIndexLargeDescendants_sim c o fuel large g) st

/-! ## the whole build -/

theorem C10_inplace_build (c : Cfg) (o : BuildOpts) (fuel : Nat) (st : BState) :
    SameRuns (Build.build c o fuel) (buildM c o fuel) st :=
  sameRuns_of_sim (build_sim c o fuel) st

/-- (i) + (ii): the same successes, with the same final state -/
theorem C10_inplace_build_ok (c : Cfg) (o : BuildOpts) (fuel : Nat) (st : BState) (x : Unit × BState) :
    Build.build c o fuel st = .ok x ↔ buildM c o fuel st = .ok x :=
  (C10_inplace_build c o fuel st).1 x

/-- (iii), unconditional, from `Build.build`: its error is the in-place error, unless a cancellation
    pre-empts it in place -/
theorem C10_inplace_build_err (c : Cfg) (o : BuildOpts) (fuel : Nat) (st : BState) (e : Err)
    (h : Build.build c o fuel st = .error e) :
    ∃ e', buildM c o fuel st = .error e' ∧
      (e' = e ∨ ((∃ k, e' = .cancelled k) ∧ (∀ k, e ≠ .cancelled k) ∧ st.cancelAt ≠ none)) :=
  (C10_inplace_build c o fuel st).2.1 e h

/-- (iii), unconditional, from `buildM` -/
theorem C10_inplace_build_err' (c : Cfg) (o : BuildOpts) (fuel : Nat) (st : BState) (e' : Err)
    (h : buildM c o fuel st = .error e') :
    ∃ e, Build.build c o fuel st = .error e ∧
      (e' = e ∨ ((∃ k, e' = .cancelled k) ∧ (∀ k, e ≠ .cancelled k) ∧ st.cancelAt ≠ none)) :=
  (C10_inplace_build c o fuel st).2.2.1 e' h

/-- a cancellation reported by `Build.build` is reported in place at the same call -/
theorem C10_inplace_build_cancelled (c : Cfg) (o : BuildOpts) (fuel : Nat) (st : BState) (k : Nat)
    (h : Build.build c o fuel st = .error (.cancelled k)) : buildM c o fuel st = .error (.cancelled k) :=
  (C10_inplace_build c o fuel st).cancelled k h

/-- without a schedule the two builds are the same run -/
theorem C10_inplace_build_none (c : Cfg) (o : BuildOpts) (fuel : Nat) (st : BState) (hc : st.cancelAt = none) :
    buildM c o fuel st = Build.build c o fuel st :=
  (C10_inplace_build c o fuel st).2.2.2 hc

theorem C10_inplace_build_erase (c : Cfg) (o : BuildOpts) (fuel : Nat) (st : BState) :
    buildM c o fuel (erase st) = Build.build c o fuel (erase st) :=
  C10_inplace_build_none c o fuel (erase st) rfl

/-- (iii), full strength: if the fault-free build succeeds, the two builds are the same run under
    every schedule (same result, same `cancelled k`).  `RootsPresent` is the hypothesis of C10. -/
theorem C10_inplace_build_eq (c : Cfg) (o : BuildOpts) (fuel : Nat) (st st' : BState)
    (H : RootsPresent c st.store) (hff : Build.build c o fuel (erase st) = .ok ((), st')) :
    buildM c o fuel st = Build.build c o fuel st := by
  cases hb : Build.build c o fuel st with
  | ok r => exact (C10_inplace_build_ok c o fuel st r).1 hb
  | error e =>
    obtain ⟨e', h1, h2⟩ := C10_inplace_build_err c o fuel st e hb
    rcases h2 with h2 | ⟨_, hnc, _⟩
    · rw [h1, h2]
    · rcases C10_transparent_err c o fuel st e H hb with ⟨k, hk⟩ | h3
      · exact absurd hk (hnc k)
      · rw [hff] at h3; cases h3

theorem C10_inplace_build_cancelled_iff (c : Cfg) (o : BuildOpts) (fuel : Nat) (st st' : BState) (k : Nat)
    (H : RootsPresent c st.store) (hff : Build.build c o fuel (erase st) = .ok ((), st')) :
    Build.build c o fuel st = .error (.cancelled k) ↔ buildM c o fuel st = .error (.cancelled k) := by
  rw [C10_inplace_build_eq c o fuel st st' H hff]

/-- `C10_cancel_iff` for the in-place build: with `P` the number of polls of the successful fault-free
    in-place build, the in-place build under `cancelAt = some n` fails with `cancelled` iff `n < P` -/
theorem C10_inplace_cancel_iff (c : Cfg) (o : BuildOpts) (fuel n : Nat) (st st' : BState)
    (H : RootsPresent c st.store) (hc : st.cancelAt = some n) (hs : st.polls ≤ n)
    (hff : buildM c o fuel (erase st) = .ok ((), st')) :
    (∃ k, buildM c o fuel st = .error (.cancelled k)) ↔ n < st'.polls := by
  rw [C10_inplace_build_erase] at hff
  rw [C10_inplace_build_eq c o fuel st st' H hff]
  exact C10_cancel_iff c o fuel n st st' H hc hs hff

/-- `C10_cancel_late` for the in-place build -/
theorem C10_inplace_cancel_late (c : Cfg) (o : BuildOpts) (fuel n : Nat) (st st' : BState)
    (H : RootsPresent c st.store) (hc : st.cancelAt = some n) (hs : st.polls ≤ n)
    (hff : buildM c o fuel (erase st) = .ok ((), st')) (hn : st'.polls ≤ n) :
    buildM c o fuel st = .ok ((), { st' with cancelAt := some n }) := by
  rw [C10_inplace_build_erase] at hff
  rw [C10_inplace_build_eq c o fuel st st' H hff]
  exact C10_cancel_late c o fuel n st st' H hc hs hff hn

/-! ## non-vacuity -/
namespace InPlaceEx

def errAt : Except Err (α × BState) → Option Nat
  | .error (.cancelled k) => some k
  | _ => none

def pollsOf : Except Err (α × BState) → Option Nat
  | .ok (_, st) => some st.polls
  | .error _ => none

def isDbFull : Except Err (α × BState) → Bool
  | .error .dbFull => true
  | _ => false

def isOracle : Except Err (α × BState) → Bool
  | .error (.oracle _) => true
  | _ => false

/-- a small tree: two split nodes, an item child, two buckets -/
def t0 : T := .node 0 [1] (.bucket 1 [1, 2]) (.node 2 [1] (.leaf 3) (.bucket 3 [4, 5]))
def st2 : BState := { store := [], cancelAt := some 2 }
def st9 : BState := { store := [], cancelAt := some 9 }

/-- `delete_items_in_file`: 4 calls (the item child is not a call); firing at call 2 is reported by the
    third poll — the one at the start of the call on node 2 — on both sides -/
example : (delT 1 [2] t0).polls = 4 := by decide +kernel
example : errAt (delM 1 [2] t0 st2) = some 3 ∧
    errAt (bind' (pollN (delT 1 [2] t0).polls) (fun _ => pure' (delT 1 [2] t0)) st2) = some 3 := by decide +kernel
example : pollsOf (delM 1 [2] t0 st9) = some 4 := by decide +kernel

/-- sides by parity (odd = right), capacity 2 -/
def cx0 : TreeCtx := { cap := 2, side := fun _ x => some (some (x % 2 == 1)), isZero := fun n => n.all (· == 0) }
def g0 : IdGen := IdGen.new [0, 1, 2, 3]

/-- `insert_items_in_file`: 5 calls (the item child is a call) -/
example : ((insertT cx0 t0 [6, 7] g0 []).toOption.map (·.polls)) = some 5 := by decide +kernel
example : errAt (insertM cx0 t0 [6, 7] g0 [] st2) = some 3 := by decide +kernel
example : pollsOf (insertM cx0 t0 [6, 7] g0 [] st9) = some 5 := by decide +kernel

/-- the id space is exhausted: `insertT` fails with `dbFull`; in place the poll at the start of the
    call on the item comes first: under a schedule the cancellation pre-empts the error
    (`insertM_err`, second disjunct), without one the error is the same -/
def gFull : IdGen := { available := [], sel := 0, look := false, current := 0, used := IdGen.u32Max + 1 }
example : (match insertT cx0 (.leaf 3) [7] gFull [] with | .error .dbFull => true | _ => false) = true := by decide +kernel
example : errAt (insertM cx0 (.leaf 3) [7] gFull [] { store := [], cancelAt := some 0 }) = some 1 := by decide +kernel
example : isDbFull (insertM cx0 (.leaf 3) [7] gFull [] { store := [] }) = true := by decide +kernel

/-- `make_tree_in_file` on 4 items: call, one attempt, two calls = 4 polls -/
example : ((makeT cx0 3 [1, 2, 3, 4] g0 [[1]] []).toOption.map (·.polls)) = some 4 := by decide +kernel
example : errAt (makeM cx0 3 [1, 2, 3, 4] g0 [[1]] [] st2) = some 3 := by decide +kernel
example : pollsOf (makeM cx0 3 [1, 2, 3, 4] g0 [[1]] [] st9) = some 4 := by decide +kernel

/-! The second build of the C01 example history (one deletion, one insertion, one re-split, 33 polls):
the hypotheses of `C10_inplace_build_eq` hold, and the in-place build reports the cancellation at
the same call. -/
open C01.Ex in
example : RootsPresent cEx (C01.run ops2) := by rw [C01.Ex.run_ops2]; decide +kernel
open C01.Ex in
example : pollsOf (buildM cEx oEx 5 { env2 with store := C01.run ops2, cancelAt := none }) = some 33 ∧
    pollsOf (Build.build cEx oEx 5 { env2 with store := C01.run ops2, cancelAt := none }) = some 33 := by
  rw [C01.Ex.run_ops2]; decide +kernel
open C01.Ex in
example : errAt (buildM cEx oEx 5 { env2 with store := C01.run ops2, cancelAt := some 2 }) = some 3 ∧
    errAt (buildM cEx oEx 5 { env2 with store := C01.run ops2, cancelAt := some 20 }) = some 21 ∧
    errAt (Build.build cEx oEx 5 { env2 with store := C01.run ops2, cancelAt := some 20 }) = some 21 ∧
    errAt (buildM cEx oEx 5 { env2 with store := C01.run ops2, cancelAt := some 30 }) = some 31 := by
  rw [C01.Ex.run_ops2]; decide +kernel

/-- the pre-empted error is real (second disjunct of `C10_inplace_build_err`): with the recorded
    normals missing, `Build.build` reports the oracle error before charging the polls of the split
    loop; in place the poll of the attempt comes first and, firing at call 27, is what is reported -/
example : open C01.Ex in
    isOracle (Build.build cEx oEx 5 { env2 with store := C01.run ops2, normals := [], cancelAt := some 27 }) = true ∧
    errAt (buildM cEx oEx 5 { env2 with store := C01.run ops2, normals := [], cancelAt := some 27 }) = some 28 ∧
    isOracle (buildM cEx oEx 5 { env2 with store := C01.run ops2, normals := [], cancelAt := none }) = true := by
  rw [C01.Ex.run_ops2]; decide +kernel

end InPlaceEx
end Arroy.C10
