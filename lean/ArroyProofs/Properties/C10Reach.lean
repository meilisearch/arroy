import ArroyProofs.Properties.C01
import ArroyProofs.Properties.C10
/-! # C10 — `RootsPresent` holds in every reachable state

The C10 theorems (ArroyProofs/Properties/C10.lean) assume `RootsPresent c st.store`: if the index has
tree nodes, its metadata lists a root. It follows from the index invariant, which every history
`((add | append | del | clear | prepare_changing_distance)* build)*` from the empty database maintains. -/
namespace Arroy.C10
open Arroy Generated Transp BuildM

/-- the index invariant implies the hypothesis of the C10 theorems -/
theorem C10_roots_present (c : Cfg) (s : Store) (hi : c.index < 65536) (hinv : IndexInvW c s) :
    RootsPresent c s := hinv.rootsPresent hi

theorem C10_roots_present_build (c : Cfg) (o : BuildOpts) (fuel : Nat) (st st' : BState)
    (hi : c.index < 65536) (hcap : 1 ≤ Build.cap c o) (hfresh : FreshSupply)
    (hinv : IndexInvW c st.store) (h : Build.build c o fuel st = .ok ((), st')) :
    RootsPresent c st'.store := by
  obtain ⟨_, _, _, _, _, hinv'⟩ := C01.C01_build_any c o fuel st st' hi hcap hfresh hinv h
  exact hinv'.rootsPresent hi

/-- preserved by the item operations (on any index) -/
theorem C10_roots_present_ops (c c' : Cfg) (s : Store) (hi : c.index < 65536) (hi' : c'.index < 65536)
    (id : Nat) (hid : id < 4294967296) (vec : List Nat) (hinv : IndexInv c s) :
    (∀ s', Writer.addItem c' s id vec = .ok s' → RootsPresent c s') ∧
    (∀ s', Writer.appendItem c' s id vec = .ok s' → RootsPresent c s') ∧
    RootsPresent c (Writer.delItem c' s id).1 ∧
    RootsPresent c (Writer.clear c' s) :=
  ⟨fun _ h => (IndexInv_add hinv hi' hid h).1.rootsPresent hi,
   fun _ h => (IndexInv_append hinv hi' hid h).1.rootsPresent hi,
   (IndexInv_del hinv hi' hid).1.rootsPresent hi,
   (IndexInv_clear hinv hi').1.rootsPresent hi⟩

/-- in every state reachable from the empty database -/
theorem C10_roots_present_history (hfresh : FreshSupply) (ops : List C01.Op) (hops : ∀ op ∈ ops, op.wf)
    (c : Cfg) (hi : c.index < 65536) : RootsPresent c (C01.run ops) :=
  (C01.C01_history_inv hfresh ops hops c hi).1.rootsPresent hi

/-- hence, on reachable states, a build that succeeds under any cancellation schedule is the
    fault-free build (`C10_transparent_ok` without its hypothesis) -/
theorem C10_transparent_ok_reachable (hfresh : FreshSupply) (ops : List C01.Op) (hops : ∀ op ∈ ops, op.wf)
    (c : Cfg) (hi : c.index < 65536) (o : BuildOpts) (fuel : Nat) (env st' : BState)
    (h : Build.build c o fuel { env with store := C01.run ops } = .ok ((), st')) :
    Build.build c o fuel (erase { env with store := C01.run ops }) = .ok ((), erase st') :=
  C10_transparent_ok c o fuel _ st' (C10_roots_present_history hfresh ops hops c hi) h

/-- and a failing build either reports the cancellation or fails the same way without it -/
theorem C10_transparent_err_reachable (hfresh : FreshSupply) (ops : List C01.Op) (hops : ∀ op ∈ ops, op.wf)
    (c : Cfg) (hi : c.index < 65536) (o : BuildOpts) (fuel : Nat) (env : BState) (e : Err)
    (h : Build.build c o fuel { env with store := C01.run ops } = .error e) :
    (∃ k, e = .cancelled k) ∨ Build.build c o fuel (erase { env with store := C01.run ops }) = .error e :=
  C10_transparent_err c o fuel _ e (C10_roots_present_history hfresh ops hops c hi) h

end Arroy.C10
