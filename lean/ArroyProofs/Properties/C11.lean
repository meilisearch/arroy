import ArroyProofs.KernelCover
import ArroyProofs.SoftFloatSymm
import ArroyProofs.KernelF32
import ArroyProofs.SoftFloatRange
import ArroyProofs.KernelRound
import ArroyProofs.KernelRoundSimd
import ArroyModel.Distance
/-! # C11 — reported distances equal the metric's definition for every vector shape

Exact part: over any commutative ring the scalar, SSE-shaped and AVX-shaped kernels compute the same sums
for every length; which kernel the run-time dispatch selects; on the soft-float instance all distances are
bit-identical under swapping the arguments, Euclidean and Manhattan self distance is `+0.0`, the cosine
distance is in `[0, 1]` or NaN.  Rounding part: in the standard model of floating-point arithmetic every
kernel is within `((1+u)^K − 1)·Σ|termᵢ|` of the exact sum, `K` the depth of its summation tree.  That the
soft-float instance satisfies the standard model is `C11Real.lean`. -/
namespace Arroy.C11
open Arroy Kernel KernelF32

section cover
variable {R : Type} [CommRing R]

theorem C11_cover_dot_scalar (u v : List R) :
    dotScalar (ringArith R) u v = (List.zipWith (· * ·) u v).sum := KernelCover.dotScalar_eq u v

theorem C11_cover_dot_sse (u v : List R) (h : u.length = v.length) :
    dotSse (ringArith R) u v = (List.zipWith (· * ·) u v).sum := KernelCover.dotSse_eq u v h

theorem C11_cover_dot_avx (u v : List R) (h : u.length = v.length) :
    dotAvx (ringArith R) u v = (List.zipWith (· * ·) u v).sum := KernelCover.dotAvx_eq u v h

theorem C11_cover_euclid_scalar (u v : List R) :
    euclidScalar (ringArith R) u v = (List.zipWith (fun a b => (a - b) * (a - b)) u v).sum :=
  KernelCover.euclidScalar_eq u v

theorem C11_cover_euclid_sse (u v : List R) (h : u.length = v.length) :
    euclidSse (ringArith R) u v = (List.zipWith (fun a b => (a - b) * (a - b)) u v).sum :=
  KernelCover.euclidSse_eq u v h

theorem C11_cover_euclid_avx (u v : List R) (h : u.length = v.length) :
    euclidAvx (ringArith R) u v = (List.zipWith (fun a b => (a - b) * (a - b)) u v).sum :=
  KernelCover.euclidAvx_eq u v h

/-- all three code paths agree, for every length -/
theorem C11_cover_agree (u v : List R) (h : u.length = v.length) :
    dotSse (ringArith R) u v = dotScalar (ringArith R) u v ∧
    dotAvx (ringArith R) u v = dotScalar (ringArith R) u v ∧
    euclidSse (ringArith R) u v = euclidScalar (ringArith R) u v ∧
    euclidAvx (ringArith R) u v = euclidScalar (ringArith R) u v := by
  rw [C11_cover_dot_sse u v h, C11_cover_dot_avx u v h, C11_cover_dot_scalar,
      C11_cover_euclid_sse u v h, C11_cover_euclid_avx u v h, C11_cover_euclid_scalar]
  exact ⟨rfl, rfl, rfl, rfl⟩
end cover

/-- the kernel selected by `dot_product` / `euclidean_distance`: AVX needs `avx ∧ fma` and ≥ 32
components, SSE needs `sse` and ≥ 16 components, otherwise the scalar loop -/
theorem C11_dispatch (h : Host) (u v : List Nat) :
    (h.avx = true ∧ h.fma = true ∧ 32 ≤ u.length →
      dotProduct h u v = dotAvx f32Arith u v ∧ euclideanDistance h u v = euclidAvx f32Arith u v) ∧
    (¬ (h.avx = true ∧ h.fma = true ∧ 32 ≤ u.length) → h.sse = true ∧ 16 ≤ u.length →
      dotProduct h u v = dotSse f32Arith u v ∧ euclideanDistance h u v = euclidSse f32Arith u v) ∧
    (¬ (h.avx = true ∧ h.fma = true ∧ 32 ≤ u.length) → ¬ (h.sse = true ∧ 16 ≤ u.length) →
      dotProduct h u v = dotScalar f32Arith u v ∧
      euclideanDistance h u v = euclidScalar f32Arith u v) := by
  unfold dotProduct euclideanDistance
  simp only [Generated.minDimAvx, Generated.minDimSimd, Bool.and_eq_true, decide_eq_true_eq, ge_iff_le]
  refine ⟨?_, ?_, ?_⟩
  · intro ⟨a, b, c⟩; simp [a, b, c]
  · intro n ⟨a, b⟩
    have n' : ¬ ((h.avx = true ∧ h.fma = true) ∧ 32 ≤ u.length) := fun ⟨⟨x, y⟩, z⟩ => n ⟨x, y, z⟩
    simp [n', a, b]
  · intro n n2
    have n' : ¬ ((h.avx = true ∧ h.fma = true) ∧ 32 ≤ u.length) := fun ⟨⟨x, y⟩, z⟩ => n ⟨x, y, z⟩
    simp [n', n2]

/-- `dot_product(u, v) = dot_product(v, u)`, bit for bit, whatever kernel the host selects -/
theorem C11_symm_dot (h : Host) (u v : List Nat) (hl : u.length = v.length) :
    dotProduct h u v = dotProduct h v u := by
  unfold dotProduct
  rw [dotAvx_symm u v hl, dotSse_symm u v hl, dotScalar_symm u v, hl]

theorem C11_symm_euclid (h : Host) (u v : List Nat) (hl : u.length = v.length) :
    euclideanDistance h u v = euclideanDistance h v u := by
  unfold euclideanDistance
  rw [euclidAvx_symm u v hl, euclidSse_symm u v hl, euclidScalar_symm u v, hl]

theorem C11_symm_manhattan (u v : List Nat) : manhattanDistance u v = manhattanDistance v u := by
  unfold manhattanDistance manhattanWith
  rw [List.zipWith_comm_of_comm (f := fun a b => F32.abs (f32Arith.sub a b)) (fun a b => SF.sub_abs_symm F32.fmt a b)]

/-- the distance between two stored leaves does not depend on their order, bit for bit — all metrics -/
theorem C11_symm (m : Metric) (h : Host) (ph pv qh qv : List Nat) (hl : pv.length = qv.length) :
    Metric.builtDistance m h ph pv qh qv = Metric.builtDistance m h qh qv ph pv := by
  cases m <;> simp only [Metric.builtDistance]
  · exact C11_symm_euclid h pv qv hl
  · exact C11_symm_manhattan pv qv
  · rw [C11_symm_dot h pv qv hl, show F32.mul (Metric.hdrNorm .cosine ph) (Metric.hdrNorm .cosine qh)
        = F32.mul (Metric.hdrNorm .cosine qh) (Metric.hdrNorm .cosine ph) from SF.mul_comm _ _ _]
  · rw [C11_symm_dot h pv qv hl]
  · rw [hamming_symm]
  · rw [hamming_symm]
  · -- the norm product of the quantised cosine metric is computed from the two (equal) lengths
    rw [bqDot_symm pv qv, show F32.mul (F32.ofNat (Generated.quantizedWordBits * pv.length))
          (F32.ofNat (Generated.quantizedWordBits * qv.length))
        = F32.mul (F32.ofNat (Generated.quantizedWordBits * qv.length))
          (F32.ofNat (Generated.quantizedWordBits * pv.length)) from SF.mul_comm _ _ _]

/-- Euclidean self distance: for every non-empty vector of finite components the squared distance
computed by whichever kernel is selected is exactly `+0.0`, and so is the reported distance
`sqrt` of it.  (For the empty vector the scalar loop returns the `-0.0` the sum starts from.) -/
theorem C11_self_zero_euclid (h : Host) (v ph qh : List Nat) (dims : Nat) (hne : v ≠ [])
    (hfin : ∀ x ∈ v, finite x = true) :
    euclideanDistance h v v = F32.zero ∧
    Metric.builtDistance .euclidean h ph v qh v = F32.zero ∧
    Metric.normalizedDistance .euclidean (Metric.builtDistance .euclidean h ph v qh v) dims = F32.zero := by
  have e : euclideanDistance h v v = 0 := by
    unfold euclideanDistance
    rw [euclidAvx_self v hfin, euclidSse_self v hfin, euclidScalar_self v hne hfin]
    simp
  refine ⟨e, e, ?_⟩
  show F32.sqrt (euclideanDistance h v v) = 0
  rw [e]; decide

/-- Manhattan self distance: exactly `+0.0` for every non-empty vector of finite components -/
theorem C11_self_zero_manhattan (h : Host) (v ph qh : List Nat) (dims : Nat) (hne : v ≠ [])
    (hfin : ∀ x ∈ v, finite x = true) :
    manhattanDistance v v = F32.zero ∧
    Metric.builtDistance .manhattan h ph v qh v = F32.zero ∧
    Metric.normalizedDistance .manhattan (Metric.builtDistance .manhattan h ph v qh v) dims = F32.zero := by
  have e : manhattanDistance v v = 0 := manhattan_self v hne hfin
  refine ⟨e, e, ?_⟩
  show Metric.normalizedDistance .manhattan (manhattanDistance v v) dims = 0
  rw [e]
  show (if F32.isNaN 0 = true then 0 else F32.max 0 F32.zero) = 0
  decide

/-- Cosine distance between two stored leaves: whenever the quotient `p·q / (‖p‖‖q‖)` is not NaN the
result lies in `[0, 1]` (it is `+0` when the product of the norms is not above `f32::EPSILON`).
Self distance is *not* claimed to be `0`: `dot(v,v) / sqrt(dot(v,v))²` can be `1 - 2⁻²⁴`. -/
theorem C11_cosine_range (h : Host) (ph pv qh qv : List Nat)
    (hq : F32.isNaN (F32.div (dotProduct h pv qv)
      (F32.mul (Metric.hdrNorm .cosine ph) (Metric.hdrNorm .cosine qh))) = false) :
    F32.le F32.zero (Metric.builtDistance .cosine h ph pv qh qv) = true ∧
    F32.le (Metric.builtDistance .cosine h ph pv qh qv) F32.one = true := by
  simp only [Metric.builtDistance]
  split
  · exact SF.cosine_formula_range _ hq
  · decide

/-- … and a NaN quotient is reported as the canonical NaN (when the norms pass the threshold) -/
theorem C11_cosine_nan (h : Host) (ph pv qh qv : List Nat)
    (hn : F32.gt (F32.mul (Metric.hdrNorm .cosine ph) (Metric.hdrNorm .cosine qh)) F32.epsilon = true)
    (hq : F32.isNaN (F32.div (dotProduct h pv qv)
      (F32.mul (Metric.hdrNorm .cosine ph) (Metric.hdrNorm .cosine qh))) = true) :
    Metric.builtDistance .cosine h ph pv qh qv = SF.qnan F32.fmt := by
  simp only [Metric.builtDistance, hn, if_true]
  exact SF.cosine_formula_nan _ hq

/-- Standard model of floating-point arithmetic (`fl(x∘y) = (x∘y)(1+δ)`, `|δ| ≤ u`): the scalar loops
are within the classical bound `((1+u)^(n+c) − 1)·Σ|termᵢ|` of the exact sums
(`c = 1` for the dot product and Manhattan, `c = 3` for the squared Euclidean distance). -/
theorem C11_round (A : Arith ℝ) (u : ℝ) (hA : StdModel A u) (x y : List ℝ) (n : Nat)
    (hx : x.length = n) (hy : y.length = n) :
    |dotScalar A x y - (List.zipWith (· * ·) x y).sum|
      ≤ ((1 + u)^(n + 1) - 1) * ((List.zipWith (· * ·) x y).map (fun t => |t|)).sum ∧
    |euclidScalar A x y - (List.zipWith (fun a b => (a - b) * (a - b)) x y).sum|
      ≤ ((1 + u)^(n + 3) - 1) * ((List.zipWith (fun a b => (a - b) * (a - b)) x y).map (fun t => |t|)).sum ∧
    |manhattanWith A (fun t => |t|) x y - (List.zipWith (fun a b => |a - b|) x y).sum|
      ≤ ((1 + u)^(n + 1) - 1) * ((List.zipWith (fun a b => |a - b|) x y).map (fun t => |t|)).sum :=
  ⟨KernelRound.dotScalar_round hA x y n hx hy, KernelRound.euclidScalar_round hA x y n hx hy,
   KernelRound.manhattan_round hA x y n hx hy⟩

/-- The same for the vectorised kernels (any summation order they use): the exponent is the depth of
the summation tree, `⌊n/16⌋ + n mod 16 + c` (SSE) resp. `⌊n/32⌋ + n mod 32 + c` (AVX, with FMA),
so the vector kernels are *more* accurate than the plain loop for long vectors. -/
theorem C11_round_simd (A : Arith ℝ) (u : ℝ) (hA : StdModel A u) (x y : List ℝ) (hl : x.length = y.length) :
    |dotSse A x y - (List.zipWith (· * ·) x y).sum|
      ≤ ((1 + u)^(x.length / 16 + x.length % 16 + 6) - 1)
        * ((List.zipWith (· * ·) x y).map (fun t => |t|)).sum ∧
    |dotAvx A x y - (List.zipWith (· * ·) x y).sum|
      ≤ ((1 + u)^(x.length / 32 + x.length % 32 + 7) - 1)
        * ((List.zipWith (· * ·) x y).map (fun t => |t|)).sum ∧
    |euclidSse A x y - (List.zipWith (fun a b => (a - b) * (a - b)) x y).sum|
      ≤ ((1 + u)^(x.length / 16 + x.length % 16 + 8) - 1)
        * ((List.zipWith (fun a b => (a - b) * (a - b)) x y).map (fun t => |t|)).sum ∧
    |euclidAvx A x y - (List.zipWith (fun a b => (a - b) * (a - b)) x y).sum|
      ≤ ((1 + u)^(x.length / 32 + x.length % 32 + 9) - 1)
        * ((List.zipWith (fun a b => (a - b) * (a - b)) x y).map (fun t => |t|)).sum :=
  ⟨KernelRound.dotSse_round hA x y hl, KernelRound.dotAvx_round hA x y hl,
   KernelRound.euclidSse_round hA x y hl, KernelRound.euclidAvx_round hA x y hl⟩

section examples

/-- a length with non-zero remainders modulo 16 and 32, above both thresholds -/
def exU : List Int := (List.range 37).map (fun (i : Nat) => (i : Int) - 11)
def exV : List Int := (List.range 37).map (fun (i : Nat) => 3 * (i : Int) + 2)

example : dotAvx (ringArith Int) exU exV = (List.zipWith (· * ·) exU exV).sum :=
  C11_cover_dot_avx exU exV (by simp [exU, exV])
example : euclidSse (ringArith Int) exU exV = (List.zipWith (fun a b => (a - b) * (a - b)) exU exV).sum :=
  C11_cover_euclid_sse exU exV (by simp [exU, exV])
example : exU.length % 32 = 5 ∧ exU.length % 16 = 5 := by simp [exU]

/-- 1.0, π, -2.5, 1e-40 (subnormal), -0.0 -/
def exP : List Nat := [0x3f800000, 0x40490fdb, 0xc0200000, 0x000116c2, 0x80000000]
def exQ : List Nat := [0x3e99999a, 0xbf000000, 0x7f7fffff, 0x00000001, 0x00000000]

example : ∀ x ∈ exP, finite x = true := by decide
example : exP ≠ [] := by decide
example : euclideanDistance {} exP exP = F32.zero := (C11_self_zero_euclid {} exP [] [] 5 (by decide) (by decide)).1
example : manhattanDistance exP exP = F32.zero := (C11_self_zero_manhattan {} exP [] [] 5 (by decide) (by decide)).1
/-- without the finiteness hypothesis the claim is false: `inf - inf = NaN` -/
example : euclideanDistance {} [F32.inf] [F32.inf] ≠ F32.zero := by decide
/-- … and for the empty vector the scalar loop returns the `-0.0` the sum starts from -/
example : euclideanDistance {} [] [] = F32.negZero := by decide

example : Metric.builtDistance .cosine {} [F32.two] exP [F32.one] exQ
    = Metric.builtDistance .cosine {} [F32.one] exQ [F32.two] exP := C11_symm .cosine {} _ _ _ _ (by decide)
/-- the symmetric value is not trivially a constant -/
example : Metric.builtDistance .euclidean {} [] exP [] exQ ≠ F32.zero := by decide

/-- hypotheses of `C11_cosine_range` hold on a concrete pair (norm product `2.0 > ε`) -/
example : F32.isNaN (F32.div (dotProduct {} [F32.one, F32.two] [F32.two, F32.one])
    (F32.mul (Metric.hdrNorm .cosine [F32.two]) (Metric.hdrNorm .cosine [F32.one]))) = false := by decide
example : F32.gt (F32.mul (Metric.hdrNorm .cosine [F32.two]) (Metric.hdrNorm .cosine [F32.one])) F32.epsilon = true := by
  decide

/-- … and of `C11_cosine_nan` (`inf · 0 = NaN`) -/
example : F32.isNaN (F32.div (dotProduct {} [F32.inf] [F32.zero])
    (F32.mul (Metric.hdrNorm .cosine [F32.two]) (Metric.hdrNorm .cosine [F32.one]))) = true := by decide

/-- the three branches of `C11_dispatch` are all reachable -/
example : dotProduct {} (List.replicate 37 F32.one) (List.replicate 37 F32.two)
    = dotAvx f32Arith (List.replicate 37 F32.one) (List.replicate 37 F32.two) :=
  ((C11_dispatch {} _ _).1 ⟨rfl, rfl, by simp⟩).1
example : dotProduct { avx := false } (List.replicate 37 F32.one) (List.replicate 37 F32.two)
    = dotSse f32Arith (List.replicate 37 F32.one) (List.replicate 37 F32.two) :=
  ((C11_dispatch { avx := false } _ _).2.1 (by simp) ⟨rfl, by simp⟩).1
example : dotProduct {} (List.replicate 15 F32.one) (List.replicate 15 F32.two)
    = dotScalar f32Arith (List.replicate 15 F32.one) (List.replicate 15 F32.two) :=
  ((C11_dispatch {} _ _).2.2 (by simp) (by simp)).1

/-- exact real arithmetic is a standard model for every `u ≥ 0` … -/
example (u : ℝ) (hu : 0 ≤ u) : StdModel (ringArith ℝ) u where
  u_nonneg := hu
  sumInit := rfl
  zero := rfl
  add := fun x y => ⟨0, by simpa using hu, by simp [ringArith]⟩
  sub := fun x y => ⟨0, by simpa using hu, by simp [ringArith]⟩
  mul := fun x y => ⟨0, by simpa using hu, by simp [ringArith]⟩
  fma := fun x y z => ⟨0, by simpa using hu, by simp [ringArith]⟩

/-- … and so is an arithmetic that always errs by the full `u` -/
example (u : ℝ) (hu : 0 ≤ u) : StdModel
    { zero := 0, sumInit := 0, add := fun x y => (x + y) * (1 + u), sub := fun x y => (x - y) * (1 - u),
      mul := fun x y => (x * y) * (1 + u), fma := fun x y z => (x * y + z) * (1 - u) } u where
  u_nonneg := hu
  sumInit := rfl
  zero := rfl
  add := fun x y => ⟨u, by rw [abs_of_nonneg hu], rfl⟩
  sub := fun x y => ⟨-u, by rw [abs_neg, abs_of_nonneg hu], by ring⟩
  mul := fun x y => ⟨u, by rw [abs_of_nonneg hu], rfl⟩
  fma := fun x y z => ⟨-u, by rw [abs_neg, abs_of_nonneg hu], by ring⟩

end examples

end Arroy.C11
