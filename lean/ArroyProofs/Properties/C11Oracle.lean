import ArroyModel.Driver
import ArroyProofs.Properties.C11Reported2
/-! # C11 — the run-time tolerance predicate never rejects a value the rounding theorems allow

The trace driver (`ArroyModel/Driver.lean`) judges the kernels and the reported distances of the real crate
with integer arithmetic: `Driver.exactOf`, `Driver.exactSum`, `Driver.withinTolerance`,
`Driver.definitionOracle`.  Here these definitions (the driver's own, imported, not copies) are tied to
the real-number semantics `SFR.toReal` and to the rounding theorems of `C11Real.lean` / `C11Reported*.lean`:
the exact data are `2^300·Σ tᵢ` and `2^300·Σ|tᵢ|` of the real-number terms, a value within the bound of the
theorems passes every test (`natAbs_le_tol`: the floor of `/ 2^c` never matters and the additive slack is
not used), so `definitionOracle m` answers `some none` or `none` (not judged), never `some (some msg)`, on
the value the reader reports.  Cosine is in `C11OracleCosine.lean`.

Not covered: the quantised metrics (`m.isBq`, property C12). -/
namespace Arroy.C11
open Arroy Kernel SF SFR KernelRound ReportedReal Driver

/-- **`exactOf` is exact**: the pair `(m, e)` it returns denotes the real value of the bit pattern. -/
theorem C11_exactOf_toReal {x : Nat} {m e : Int} (h : exactOf x = some (m, e)) :
    toReal x = (m : ℝ) * (2 : ℝ) ^ e := by
  unfold exactOf at h
  split at h
  · rename_i neg m' e' hu
    cases h
    rw [toReal_of_unpack hu, sgn_int]
    push_cast
    ring
  · cases h

/-- `exactOf` answers exactly on the finite patterns; mantissa below `2^24`, exponent in `[-149, 104]` -/
theorem C11_exactOf_bounds {x : Nat} {m e : Int} (h : exactOf x = some (m, e)) :
    Finite x ∧ m.natAbs < 2 ^ 24 ∧ -149 ≤ e ∧ e ≤ 104 := by
  unfold exactOf at h
  split at h
  · rename_i neg m' e' hu
    cases h
    obtain ⟨b1, b2, b3⟩ := unpack_fin_bounds hu
    refine ⟨finite_of_unpack hu, ?_, b2, b3⟩
    cases neg <;> simpa using b1
  · cases h

theorem C11_exactOf_isSome (x : Nat) : (exactOf x).isSome = true ↔ Finite x := by
  rw [finite_iff]
  unfold exactOf
  constructor
  · intro h
    split at h
    · rename_i neg m e hu; exact ⟨neg, m, e, hu⟩
    · cases h
  · rintro ⟨n, m, e, hu⟩
    rw [hu]; rfl

/-- the integer `m·2^(e+k)` the driver works with is `2^k` times the value of the pattern (`k ≥ 149`: the
exponent is not negative) -/
theorem scaled_toReal {x : Nat} {m e : Int} (h : exactOf x = some (m, e)) (k : Nat) (hk : 149 ≤ k) :
    ((m * (2 : Int) ^ ((e + k).toNat) : Int) : ℝ) = (2 : ℝ) ^ k * toReal x := by
  have b := (C11_exactOf_bounds h).2.2.1
  rw [C11_exactOf_toReal h]
  push_cast
  have : (2 : ℝ) ^ ((e + k).toNat) = (2 : ℝ) ^ k * (2 : ℝ) ^ e := by
    rw [← zpow_natCast, ← zpow_natCast, ← zpow_add₀ two_ne_zero]
    congr 1
    omega
  rw [this]
  ring

theorem scaled150_toReal {rep : Nat} {r : Int × Int} (hr : exactOf rep = some r) :
    (scaled150 r : ℝ) = (2 : ℝ) ^ (150 : ℕ) * toReal rep :=
  scaled_toReal (m := r.1) (e := r.2) hr 150 (by decide)

/-- the integer term `exactSum` adds for one pair of operands -/
def termInt (euclid : Bool) (p : (Int × Int) × (Int × Int)) : Int :=
  if euclid then (scaled150 p.1 - scaled150 p.2) * (scaled150 p.1 - scaled150 p.2)
  else scaled150 p.1 * scaled150 p.2

theorem exactSum_foldl (euclid : Bool) (terms : List ((Int × Int) × (Int × Int))) (acc : Int × Int) :
    terms.foldl (fun (acc : Int × Int) (p : (Int × Int) × (Int × Int)) =>
        (acc.1 + termInt euclid p, acc.2 + ((termInt euclid p).natAbs : Int))) acc
      = (acc.1 + (terms.map (termInt euclid)).sum,
         acc.2 + (terms.map (fun p => ((termInt euclid p).natAbs : Int))).sum) := by
  induction terms generalizing acc with
  | nil => simp
  | cons p t ih =>
    rw [List.foldl_cons, ih]
    simp only [List.map_cons, List.sum_cons]
    ext <;> simp only <;> ring

/-- **`exactSum` is a pair of plain integer sums** (the accumulator of the fold unrolled) -/
theorem exactSum_eq (terms : List ((Int × Int) × (Int × Int))) (euclid : Bool) :
    exactSum terms euclid
      = ((terms.map (termInt euclid)).sum, (terms.map (fun p => ((termInt euclid p).natAbs : Int))).sum) := by
  have h := exactSum_foldl euclid terms (0, 0)
  simp only [Int.zero_add] at h
  rw [← h]
  rfl

/-- the real-number term of the two kernels on bit patterns -/
noncomputable def termReal (euclid : Bool) (a b : Nat) : ℝ :=
  if euclid then (toReal a - toReal b) * (toReal a - toReal b) else toReal a * toReal b

theorem termReal_false : termReal false = fun a b => toReal a * toReal b := by
  funext a b; simp [termReal]
theorem termReal_true : termReal true = fun a b => (toReal a - toReal b) * (toReal a - toReal b) := by
  funext a b; simp [termReal]

/-- `mapM exactOf` succeeds exactly when every component is finite, and then lists the exact pairs -/
theorem mapM_exactOf_forall₂ : ∀ (x : List Nat) (ea : List (Int × Int)), x.mapM exactOf = some ea →
    List.Forall₂ (fun a v => exactOf a = some v) x ea := by
  intro x
  induction x with
  | nil =>
    intro ea h
    simp at h
    subst h
    exact List.Forall₂.nil
  | cons a t ih =>
    intro ea h
    rw [List.mapM_cons] at h
    cases ha : exactOf a with
    | none => rw [ha] at h; simp at h
    | some v =>
      rw [ha] at h
      cases ht : t.mapM exactOf with
      | none => rw [ht] at h; simp at h
      | some et =>
        rw [ht] at h
        simp at h
        subst h
        exact List.Forall₂.cons ha (ih et ht)

theorem mapM_exactOf_of_finite : ∀ (x : List Nat), (∀ a ∈ x, Finite a) → ∃ ea, x.mapM exactOf = some ea := by
  intro x
  induction x with
  | nil => intro _; exact ⟨[], by simp⟩
  | cons a t ih =>
    intro h
    obtain ⟨et, ht⟩ := ih (fun b hb => h b (List.mem_cons_of_mem _ hb))
    have ha := (C11_exactOf_isSome a).2 (h a List.mem_cons_self)
    obtain ⟨v, hv⟩ := Option.isSome_iff_exists.1 ha
    exact ⟨v :: et, by rw [List.mapM_cons, hv, ht]; rfl⟩

theorem zip_map_real (F : (Int × Int) × (Int × Int) → ℝ) (G : Nat → Nat → ℝ)
    (hFG : ∀ a v b w, exactOf a = some v → exactOf b = some w → F (v, w) = G a b) :
    ∀ (x : List Nat) (ea : List (Int × Int)) (y : List Nat) (eb : List (Int × Int)),
    List.Forall₂ (fun a v => exactOf a = some v) x ea →
    List.Forall₂ (fun a v => exactOf a = some v) y eb →
    (List.zip ea eb).map F = List.zipWith G x y := by
  intro x ea y eb hx
  induction hx generalizing y eb with
  | nil => intro _; simp
  | @cons a v t et hav _ ih =>
    intro hy
    cases hy with
    | nil => simp
    | @cons b w s es hbw hs =>
      simp only [List.zip_cons_cons, List.map_cons, List.zipWith_cons_cons]
      rw [ih s es hs, hFG a v b w hav hbw]

theorem termInt_toReal (euclid : Bool) {a b : Nat} {v w : Int × Int} (hav : exactOf a = some v)
    (hbw : exactOf b = some w) :
    (termInt euclid (v, w) : ℝ) = (2 : ℝ) ^ (300 : ℕ) * termReal euclid a b := by
  have e : (2 : ℝ) ^ (300 : ℕ) = (2 : ℝ) ^ (150 : ℕ) * (2 : ℝ) ^ (150 : ℕ) := by rw [← pow_add]
  unfold termInt termReal
  cases euclid
  · simp only [Bool.false_eq_true, if_false]
    rw [Int.cast_mul, scaled150_toReal hav, scaled150_toReal hbw, e]
    ring
  · simp only [if_true]
    rw [Int.cast_mul, Int.cast_sub, scaled150_toReal hav, scaled150_toReal hbw, e]
    ring

theorem sum_map_mul_left (c : ℝ) (l : List ℝ) : (l.map (fun t => c * t)).sum = c * l.sum := by
  induction l with
  | nil => simp
  | cons a t ih => simp [ih, mul_add]

/-- **`exactSum` is exact**: for vectors of finite bit patterns (`mapM exactOf` succeeds on both), the first
component is `2^300 · Σ tᵢ` and the second `2^300 · Σ |tᵢ|`, with `tᵢ = toReal aᵢ · toReal bᵢ`
(`euclid = false`) or `tᵢ = (toReal aᵢ − toReal bᵢ)²` (`euclid = true`) — the sums over
`List.zipWith … x y` exactly as in the statements of `C11_round_f32_dot_product` /
`C11_round_f32_euclidean_distance`. -/
theorem exactSum_spec (euclid : Bool) (x y : List Nat) (ea eb : List (Int × Int))
    (hx : x.mapM exactOf = some ea) (hy : y.mapM exactOf = some eb) :
    ((exactSum (List.zip ea eb) euclid).1 : ℝ)
      = (2 : ℝ) ^ (300 : ℕ) * (List.zipWith (termReal euclid) x y).sum ∧
    ((exactSum (List.zip ea eb) euclid).2 : ℝ)
      = (2 : ℝ) ^ (300 : ℕ) * ((List.zipWith (termReal euclid) x y).map (fun z => |z|)).sum := by
  have ht : (List.zip ea eb).map (fun p => (termInt euclid p : ℝ))
      = (List.zipWith (termReal euclid) x y).map (fun t => (2 : ℝ) ^ (300 : ℕ) * t) := by
    rw [List.map_zipWith]
    exact zip_map_real _ _ (fun a v b w => termInt_toReal euclid) x ea y eb (mapM_exactOf_forall₂ x ea hx)
      (mapM_exactOf_forall₂ y eb hy)
  rw [exactSum_eq]
  constructor
  · show (Int.cast (List.map (termInt euclid) (List.zip ea eb)).sum : ℝ) = _
    rw [Int.cast_list_sum, List.map_map]
    rw [show (Int.cast ∘ termInt euclid) = (fun p => (termInt euclid p : ℝ)) from rfl, ht,
      sum_map_mul_left]
  · show (Int.cast (List.map (fun p => ((termInt euclid p).natAbs : Int)) (List.zip ea eb)).sum : ℝ) = _
    rw [Int.cast_list_sum, List.map_map]
    have e : (Int.cast ∘ fun p => ((termInt euclid p).natAbs : Int))
        = (fun z : ℝ => |z|) ∘ (fun p => (termInt euclid p : ℝ)) := by
      funext p
      show (((termInt euclid p).natAbs : Int) : ℝ) = |(termInt euclid p : ℝ)|
      rw [Int.natCast_natAbs, Int.cast_abs]
    rw [e, ← List.map_map, ht, List.map_map, ← sum_map_mul_left, List.map_map]
    congr 1
    apply List.map_congr_left
    intro t _
    show |(2 : ℝ) ^ (300 : ℕ) * t| = (2 : ℝ) ^ (300 : ℕ) * |t|
    rw [abs_mul, abs_of_pos (by positivity : (0 : ℝ) < (2 : ℝ) ^ (300 : ℕ))]

/-- **Bernoulli-type bound behind the tolerance**: for `K ≤ n + 3 ≤ 2^22` (so for `K = n + 1`, the dot
product and Manhattan sum, and for `K = n + 3`, the squared Euclidean distance),
`(1+u)^K − 1 ≤ (4/3)·(n+3)·u ≤ (n+2)·2^-23`. -/
theorem C11_E_le_tolerance (n K : Nat) (hK : K ≤ n + 3) (hn : n + 3 ≤ 2 ^ 22) :
    (1 + u) ^ K - 1 ≤ ((n : ℝ) + 2) / (2 : ℝ) ^ (23 : ℕ) := by
  refine le_trans (pow_sub_one_le_nat hK hn (c := 4 / 3) (by norm_num) (by norm_num)) ?_
  rw [u_eq, le_div_iff₀ (by positivity)]
  push_cast
  linarith only [(Nat.cast_nonneg n : (0 : ℝ) ≤ n)]

/-- **Integer form of a relative tolerance test.**  `D = P·d` and `E = P·S` as real numbers (`P > 0` the
common scale, `S ≥ 0`), `|d| ≤ (w/2^c)·S` with `w ≤ W`.  The left side `|D|` is an integer, so it is already
below the FLOORED `E·W / 2^c`: the floor costs nothing and the additive slack `s ≥ 0` is never needed. -/
theorem natAbs_le_tol {D E W s : Int} {P d S w : ℝ} (c : Nat) (hP : 0 < P) (hD : (D : ℝ) = P * d)
    (hE : (E : ℝ) = P * S) (hS : 0 ≤ S) (hW : w ≤ (W : ℝ)) (hW0 : 0 ≤ W) (hs : 0 ≤ s)
    (h : |d| ≤ w / (2 : ℝ) ^ c * S) :
    D.natAbs ≤ (E * W / (2 : Int) ^ c + s).natAbs := by
  have hE0 : 0 ≤ E := by
    have : (0 : ℝ) ≤ (E : ℝ) := by rw [hE]; exact mul_nonneg hP.le hS
    exact_mod_cast this
  have hc : (0 : ℝ) < (2 : ℝ) ^ c := by positivity
  have h1 : |d| * (2 : ℝ) ^ c ≤ (W : ℝ) * S :=
    calc |d| * (2 : ℝ) ^ c ≤ w / (2 : ℝ) ^ c * S * (2 : ℝ) ^ c := mul_le_mul_of_nonneg_right h hc.le
      _ = w * S := by rw [mul_right_comm, div_mul_cancel₀ w hc.ne']
      _ ≤ (W : ℝ) * S := mul_le_mul_of_nonneg_right hW hS
  have h2 : (D.natAbs : Int) ≤ E * W / (2 : Int) ^ c := by
    rw [Int.le_ediv_iff_mul_le (by positivity)]
    have : (((D.natAbs : Int) * (2 : Int) ^ c : Int) : ℝ) ≤ ((E * W : Int) : ℝ) := by
      rw [Int.natCast_natAbs]
      push_cast
      rw [hD, hE, abs_mul, abs_of_pos hP]
      calc P * |d| * (2 : ℝ) ^ c = P * (|d| * (2 : ℝ) ^ c) := by ring
        _ ≤ P * ((W : ℝ) * S) := mul_le_mul_of_nonneg_left h1 hP.le
        _ = P * S * (W : ℝ) := by ring
    exact_mod_cast this
  have h3 : 0 ≤ E * W / (2 : Int) ^ c := Int.ediv_nonneg (Int.mul_nonneg hE0 hW0) (by positivity)
  omega

/-- **`withinTolerance` never rejects a value within the bound of the C11 rounding theorems.**
`S`, `A` the exact sum and the sum of the absolute values of the terms (real numbers), `exact`, `absSum`
their integer images scaled by `2^300` (what `exactSum` computes, `exactSum_spec`); if
`|toReal impl − S| ≤ ((1+u)^K − 1)·A` with `K ≤ n + 3` and `n + 3 ≤ 2^22 = 4194304`, the predicate
answers `true`.  (`K = n + 1`: `C11_withinTolerance_of_bound`.)  The statement needs no lower bound on `A`:
the floor of `/ 2^23` is harmless for every size of the sum (`natAbs_le_tol`), and a non-finite `impl` is
accepted by definition. -/
theorem C11_withinTolerance_of_bound_K (n K : Nat) (exact absSum : Int) (S A : ℝ) (impl : Nat)
    (hS : (exact : ℝ) = (2 : ℝ) ^ (300 : ℕ) * S) (hA : (absSum : ℝ) = (2 : ℝ) ^ (300 : ℕ) * A) (hA0 : 0 ≤ A)
    (hK : K ≤ n + 3) (hn : n + 3 ≤ 2 ^ 22)
    (hb : |toReal impl - S| ≤ ((1 + u) ^ K - 1) * A) :
    withinTolerance n exact absSum impl = true := by
  unfold withinTolerance
  cases himpl : exactOf impl with
  | none => rfl
  | some v =>
    obtain ⟨m, e⟩ := v
    have hD : ((m * (2 : Int) ^ ((e + 300).toNat) - exact : Int) : ℝ) = (2 : ℝ) ^ (300 : ℕ) * (toReal impl - S) := by
      have hg : ((m * (2 : Int) ^ ((e + 300).toNat) : Int) : ℝ) = (2 : ℝ) ^ (300 : ℕ) * toReal impl :=
        scaled_toReal himpl 300 (by decide)
      rw [Int.cast_sub, hg, hS, mul_sub]
    exact decide_eq_true (natAbs_le_tol (W := (n : Int) + 2) (w := (n : ℝ) + 2) 23 (by positivity) hD hA hA0
      (by push_cast; exact le_rfl) (by omega) (by positivity)
      (le_trans hb (mul_le_mul_of_nonneg_right (C11_E_le_tolerance n K hK hn) hA0)))

/-- `K = n + 1`: the scalar dot product and the Manhattan sum of `n` terms -/
theorem C11_withinTolerance_of_bound (n : Nat) (exact absSum : Int) (S A : ℝ) (impl : Nat)
    (hS : (exact : ℝ) = (2 : ℝ) ^ (300 : ℕ) * S) (hA : (absSum : ℝ) = (2 : ℝ) ^ (300 : ℕ) * A) (hA0 : 0 ≤ A)
    (hn : n + 3 ≤ 2 ^ 22)
    (hb : |toReal impl - S| ≤ ((1 + u) ^ (n + 1) - 1) * A) :
    withinTolerance n exact absSum impl = true :=
  C11_withinTolerance_of_bound_K n (n + 1) exact absSum S A impl hS hA hA0 (by omega) hn hb

/-- the driver's kernel check accepts every value within `((1+u)^K − 1)·Σ|tᵢ|`, `K ≤ n + 3`, of the sum of
the terms `exactSum` adds up (products, or squared differences) -/
theorem withinTolerance_exactSum (euclid : Bool) (x y : List Nat) (K impl : Nat) (ea eb : List (Int × Int))
    (hx : x.mapM exactOf = some ea) (hy : y.mapM exactOf = some eb) (hK : K ≤ x.length + 3)
    (hn : x.length + 3 ≤ 2 ^ 22)
    (hb : |toReal impl - (List.zipWith (termReal euclid) x y).sum|
      ≤ ((1 + u) ^ K - 1) * ((List.zipWith (termReal euclid) x y).map (fun z => |z|)).sum) :
    withinTolerance x.length (exactSum (List.zip ea eb) euclid).1 (exactSum (List.zip ea eb) euclid).2 impl
      = true := by
  obtain ⟨h1, h2⟩ := exactSum_spec euclid x y ea eb hx hy
  exact C11_withinTolerance_of_bound_K x.length K _ _ _ _ _ h1 h2 (sum_abs_nonneg _) hK hn hb

/-- **The driver's kernel check accepts the model's `dotProduct`.**  Under the hypotheses of
`C11_round_f32_dot_product` (equal lengths, run-time flag) and `n + 3 ≤ 2^22`, for the exact operands the
driver extracts (`mapM exactOf`, defined as soon as all components are finite —
`mapM_exactOf_of_finite`), `withinTolerance n exact absSum (dotProduct h x y)` with
`(exact, absSum) = exactSum (zip ea eb) false` is `true` — the very expression evaluated by the driver. -/
theorem C11_oracle_accepts_dot (h : Host) (x y : List Nat) (hl : x.length = y.length)
    (hrun : (dotProductG f32Chk h (chkIn x) (chkIn y)).2 = true) (hn : x.length + 3 ≤ 2 ^ 22)
    (ea eb : List (Int × Int)) (hx : x.mapM exactOf = some ea) (hy : y.mapM exactOf = some eb) :
    withinTolerance x.length (exactSum (List.zip ea eb) false).1 (exactSum (List.zip ea eb) false).2
      (dotProduct h x y) = true := by
  obtain ⟨hb, hK⟩ := C11_round_f32_dot_product h x y hl hrun
  exact withinTolerance_exactSum false x y (dotDepth h x.length) _ ea eb hx hy (by omega) hn
    (by rw [termReal_false]; exact hb)

/-- **… and the model's squared Euclidean distance** (`K = euclidDepth h n ≤ n + 3`, against the
predicate's `n + 2`: `(1+u)^(n+3) − 1 ≤ (4/3)(n+3)u ≤ 2(n+2)u` for `n + 3 ≤ 2^22`). -/
theorem C11_oracle_accepts_euclid (h : Host) (x y : List Nat) (hl : x.length = y.length)
    (hrun : (euclideanDistanceG f32Chk h (chkIn x) (chkIn y)).2 = true) (hn : x.length + 3 ≤ 2 ^ 22)
    (ea eb : List (Int × Int)) (hx : x.mapM exactOf = some ea) (hy : y.mapM exactOf = some eb) :
    withinTolerance x.length (exactSum (List.zip ea eb) true).1 (exactSum (List.zip ea eb) true).2
      (euclideanDistance h x y) = true := by
  obtain ⟨hb, hK⟩ := C11_round_f32_euclidean_distance h x y hl hrun
  exact withinTolerance_exactSum true x y (euclidDepth h x.length) _ ea eb hx hy hK hn
    (by rw [termReal_true]; exact hb)

/-- **… and the Manhattan sum judged by `withinTolerance`** in the generic form: the predicate applied to
any exact data `2^300·Σ|aᵢ−bᵢ|` accepts `manhattanDistance x y` (`K = n + 1`). -/
theorem C11_oracle_accepts_manhattan_sum (x y : List Nat) (hl : x.length = y.length)
    (hrun : (manhattanWith f32Chk (fun c => (F32.abs c.1, c.2)) (chkIn x) (chkIn y)).2 = true)
    (hn : x.length + 3 ≤ 2 ^ 22) (exact : Int)
    (hS : (exact : ℝ) = (2 : ℝ) ^ (300 : ℕ) * (List.zipWith (fun a b => |toReal a - toReal b|) x y).sum) :
    withinTolerance x.length exact exact (manhattanDistance x y) = true := by
  have hb := C11_round_f32_manhattan_distance x y hl hrun
  have hS' := hS
  rw [← abs_terms_abs] at hS'
  exact C11_withinTolerance_of_bound x.length exact exact _ _ _ hS hS' (sum_abs_nonneg _) hn hb

/-- **`definitionOracle .dot` never rejects the reported dot product** (`C11_reported_dot_eq`: the reported
value is `dotProduct h x y` itself): the answer is `some none` (accepted) or `none` (not judged: a
non-finite component, or `Σ|aᵢbᵢ| > 2^120`), never `some (some msg)`. -/
theorem C11_definitionOracle_accepts_dot (h : Host) (x y : List Nat) (hl : x.length = y.length)
    (hrun : (dotProductG f32Chk h (chkIn x) (chkIn y)).2 = true) (hn : x.length + 3 ≤ 2 ^ 22) :
    definitionOracle .dot x y (dotProduct h x y) = some none ∨
    definitionOracle .dot x y (dotProduct h x y) = none := by
  unfold definitionOracle
  rw [show Metric.isBq .dot = false from rfl]
  simp only [Bool.false_eq_true, if_false]
  split
  · rename_i ea eb r hx hy hr
    split
    · right; rfl
    · left
      rw [C11_oracle_accepts_dot h x y hl hrun hn ea eb hx hy]
      rfl
  · right; rfl

theorem foldl_add_sum {α : Type} (f : Int → α → Int) (g : α → Int) (hf : ∀ acc p, f acc p = acc + g p) :
    ∀ (l : List α) (a : Int), l.foldl f a = a + (l.map g).sum := by
  intro l
  induction l with
  | nil => intro a; simp
  | cons p t ih =>
    intro a
    rw [List.foldl_cons, ih, hf]
    simp only [List.map_cons, List.sum_cons]
    ring

/-- the `E` of `definitionOracle .euclidean` is the first component of `exactSum … true` -/
theorem oracle_E_eq (ea eb : List (Int × Int)) :
    List.foldl (fun (acc : Int) (x : Int × Int) => acc + (x.1 - x.2) * (x.1 - x.2)) 0
        ((List.map scaled150 ea).zip (List.map scaled150 eb))
      = (exactSum (List.zip ea eb) true).1 := by
  rw [exactSum_eq, foldl_add_sum _ (fun x : Int × Int => (x.1 - x.2) * (x.1 - x.2)) (fun _ _ => rfl),
    List.zip_map, List.map_map, Int.zero_add]
  rfl

/-- the `M` of `definitionOracle .manhattan` -/
theorem oracle_M_eq (ea eb : List (Int × Int)) :
    List.foldl (fun (acc : Int) (x : Int × Int) => acc + ((x.1 - x.2).natAbs : Int)) 0
        ((List.map scaled150 ea).zip (List.map scaled150 eb))
      = ((List.zip ea eb).map (fun p => ((scaled150 p.1 - scaled150 p.2).natAbs : Int))).sum := by
  rw [foldl_add_sum _ (fun x : Int × Int => ((x.1 - x.2).natAbs : Int)) (fun _ _ => rfl),
    List.zip_map, List.map_map, Int.zero_add]
  rfl

/-- `|r − s| ≤ (W − 1)·s` gives `|r² − s²| ≤ (W² − 1)·s²` -/
theorem sq_err {r s W : ℝ} (hs : 0 ≤ s) (hW : 1 ≤ W) (h : |r - s| ≤ (W - 1) * s) :
    |r * r - s * s| ≤ (W * W - 1) * (s * s) := by
  have h2 : |r + s| ≤ (W + 1) * s :=
    calc |r + s| = |r - s + 2 * s| := by rw [show r - s + 2 * s = r + s by ring]
      _ ≤ |r - s| + |2 * s| := abs_add_le _ _
      _ ≤ (W - 1) * s + 2 * s := by rw [abs_of_nonneg (by linarith only [hs] : 0 ≤ 2 * s)]; linarith only [h]
      _ = (W + 1) * s := by ring
  calc |r * r - s * s| = |r - s| * |r + s| := by rw [← abs_mul, show (r - s) * (r + s) = r * r - s * s by ring]
    _ ≤ (W - 1) * s * ((W + 1) * s) :=
        mul_le_mul h h2 (abs_nonneg _) (mul_nonneg (sub_nonneg.2 hW) hs)
    _ = (W * W - 1) * (s * s) := by ring

/-- `(1+u)^(2K) − 1 ≤ 2·(2n+8)·u = (n+4)·2^-22` for `K ≤ n + 4 ≤ 2^22` -/
theorem C11_E_le_tolerance_sq (n K : Nat) (hK : K ≤ n + 4) (hn : n + 4 ≤ 2 ^ 22) :
    (1 + u) ^ K * (1 + u) ^ K - 1 ≤ ((n : ℝ) + 8) / (2 : ℝ) ^ (22 : ℕ) := by
  rw [← pow_add]
  refine le_trans (pow_sub_one_le_nat (c := 2) (show K + K ≤ 2 * n + 8 by omega)
    (show 2 * n + 8 ≤ 2 ^ 23 by omega) (by norm_num) (by norm_num)) ?_
  rw [u_eq, le_div_iff₀ (by positivity)]
  push_cast
  linarith only [(Nat.cast_nonneg n : (0 : ℝ) ≤ n)]

/-- the tolerance test of `definitionOracle .euclidean`, on the data the oracle computes: from
`|R − √S| ≤ (W − 1)·√S`, `W = (1+u)^(K+1)`, `K ≤ n + 3`: `|R² − S| ≤ (W² − 1)·S ≤ S·(n+8)/2^22` -/
theorem euclid_tol_ok (h : Host) (x y : List Nat) (hl : x.length = y.length)
    (hrun : (euclideanDistanceG f32Chk h (chkIn x) (chkIn y)).2 = true) (hn : x.length + 4 ≤ 2 ^ 22)
    (ea eb : List (Int × Int)) (r : Int × Int)
    (hx : x.mapM exactOf = some ea) (hy : y.mapM exactOf = some eb)
    (hr : exactOf (F32.sqrt (euclideanDistance h x y)) = some r) :
    (scaled150 r * scaled150 r - (exactSum (List.zip ea eb) true).1).natAbs
      ≤ ((exactSum (List.zip ea eb) true).1 * ((x.length : Int) + 8) / (2 : Int) ^ 22
          + ((x.length : Int) + 8) * (2 : Int) ^ 152).natAbs := by
  obtain ⟨-, -, hb, -, -, hK⟩ := C11_round_f32_reported_euclidean h [] [] x y 0 hl hrun
  obtain ⟨h1, -⟩ := exactSum_spec true x y ea eb hx hy
  rw [termReal_true] at h1
  have hS := sq_terms_sum_nonneg x y
  have hsq := sq_err (Real.sqrt_nonneg _) (one_le_pow₀ (le_add_of_nonneg_right u_nonneg)) hb
  rw [Real.mul_self_sqrt hS] at hsq
  have hT := C11_E_le_tolerance_sq x.length (euclidDepth h x.length + 1) (by omega) hn
  have hD : ((scaled150 r * scaled150 r - (exactSum (List.zip ea eb) true).1 : Int) : ℝ)
      = (2 : ℝ) ^ (300 : ℕ) * (toReal (F32.sqrt (euclideanDistance h x y)) * toReal (F32.sqrt (euclideanDistance h x y))
          - (List.zipWith (fun a b => (toReal a - toReal b) * (toReal a - toReal b)) x y).sum) := by
    rw [Int.cast_sub, Int.cast_mul, scaled150_toReal hr, h1,
      show (2 : ℝ) ^ (300 : ℕ) = (2 : ℝ) ^ (150 : ℕ) * (2 : ℝ) ^ (150 : ℕ) by rw [← pow_add]]
    ring
  exact natAbs_le_tol (w := (x.length : ℝ) + 8) 22 (by positivity) hD h1 hS (by push_cast; exact le_rfl)
    (by omega) (by positivity) (le_trans hsq (mul_le_mul_of_nonneg_right hT hS))

/-- **`definitionOracle .euclidean` never rejects the reported Euclidean distance**
`F32.sqrt (euclideanDistance h x y)` (`C11_round_f32_reported_euclidean`: that is what the reader reports),
under the flag of `C11_round_f32_euclidean_distance` and `n + 4 ≤ 2^22`.  From `|R − √E| ≤ ε·√E`,
`ε = (1+u)^(K+1) − 1`, `K ≤ n + 3`: `|R² − E| ≤ ((1+ε)² − 1)·E = ((1+u)^(2K+2) − 1)·E ≤ 2·(2n+8)·u·E
= E·(n+8)/2^22`; the additive `(n+8)·2^152` is not needed, nor does the floor matter. -/
theorem C11_definitionOracle_accepts_euclidean (h : Host) (x y : List Nat) (hl : x.length = y.length)
    (hrun : (euclideanDistanceG f32Chk h (chkIn x) (chkIn y)).2 = true) (hn : x.length + 4 ≤ 2 ^ 22) :
    definitionOracle .euclidean x y (F32.sqrt (euclideanDistance h x y)) = some none ∨
    definitionOracle .euclidean x y (F32.sqrt (euclideanDistance h x y)) = none := by
  unfold definitionOracle
  rw [show Metric.isBq .euclidean = false from rfl]
  simp only [Bool.false_eq_true, if_false]
  split
  · rename_i ea eb r hx hy hr
    split
    · right; rfl
    · left
      have key := euclid_tol_ok h x y hl hrun hn ea eb r hx hy hr
      rw [← oracle_E_eq] at key
      exact if_pos key
  · right; rfl

/-- the `M` of `definitionOracle .manhattan` is `2^150 · Σ|aᵢ − bᵢ|` -/
theorem oracle_M_real (x y : List Nat) (ea eb : List (Int × Int))
    (hx : x.mapM exactOf = some ea) (hy : y.mapM exactOf = some eb) :
    (Int.cast ((List.zip ea eb).map (fun p => ((scaled150 p.1 - scaled150 p.2).natAbs : Int))).sum : ℝ)
      = (2 : ℝ) ^ (150 : ℕ) * (List.zipWith (fun a b => |toReal a - toReal b|) x y).sum := by
  rw [Int.cast_list_sum, List.map_map, ← sum_map_mul_left, List.map_zipWith]
  congr 1
  apply zip_map_real _ _ _ x ea y eb (mapM_exactOf_forall₂ x ea hx) (mapM_exactOf_forall₂ y eb hy)
  intro a v b w hav hbw
  show (Int.cast ((scaled150 v - scaled150 w).natAbs : Int) : ℝ) = _
  rw [Int.natCast_natAbs, Int.cast_abs, Int.cast_sub, scaled150_toReal hav, scaled150_toReal hbw, ← mul_sub,
    abs_mul, abs_of_pos (by positivity : (0 : ℝ) < (2 : ℝ) ^ (150 : ℕ))]

/-- the tolerance test of `definitionOracle .manhattan`, on the data the oracle computes -/
theorem manhattan_tol_ok (x y : List Nat) (hl : x.length = y.length)
    (hrun : (manhattanWith f32Chk (fun c => (F32.abs c.1, c.2)) (chkIn x) (chkIn y)).2 = true)
    (hn : x.length + 3 ≤ 2 ^ 22) (ea eb : List (Int × Int)) (r : Int × Int)
    (hx : x.mapM exactOf = some ea) (hy : y.mapM exactOf = some eb)
    (hr : exactOf (manhattanDistance x y) = some r) (M : Int)
    (hM : M = ((List.zip ea eb).map (fun p => ((scaled150 p.1 - scaled150 p.2).natAbs : Int))).sum) :
    (scaled150 r - M).natAbs ≤ (M * ((x.length : Int) + 4) / (2 : Int) ^ 23 + ((x.length : Int) + 4) * 4).natAbs := by
  have hb := C11_round_f32_manhattan_distance x y hl hrun
  rw [abs_terms_abs] at hb
  have h1 : (M : ℝ) = (2 : ℝ) ^ (150 : ℕ) * (List.zipWith (fun a b => |toReal a - toReal b|) x y).sum := by
    rw [hM]; exact oracle_M_real x y ea eb hx hy
  have hS : 0 ≤ (List.zipWith (fun a b => |toReal a - toReal b|) x y).sum := by
    rw [← abs_terms_abs]; exact sum_abs_nonneg _
  have hD : ((scaled150 r - M : Int) : ℝ) = (2 : ℝ) ^ (150 : ℕ)
      * (toReal (manhattanDistance x y) - (List.zipWith (fun a b => |toReal a - toReal b|) x y).sum) := by
    rw [Int.cast_sub, scaled150_toReal hr, h1, mul_sub]
  exact natAbs_le_tol (w := (x.length : ℝ) + 2) 23 (by positivity) hD h1 hS (by push_cast; linarith only [])
    (by omega) (by omega)
    (le_trans hb (mul_le_mul_of_nonneg_right (C11_E_le_tolerance x.length (x.length + 1) (by omega) hn) hS))

/-- **`definitionOracle .manhattan` never rejects the reported Manhattan distance**
(`C11_reported_manhattan_eq`: the reader reports `manhattanDistance x y`), under the flag of
`C11_round_f32_manhattan_distance`: `(1+u)^(n+1) − 1 ≤ (n+2)·2^-23 ≤ (n+4)·2^-23`. -/
theorem C11_definitionOracle_accepts_manhattan (x y : List Nat) (hl : x.length = y.length)
    (hrun : (manhattanWith f32Chk (fun c => (F32.abs c.1, c.2)) (chkIn x) (chkIn y)).2 = true)
    (hn : x.length + 3 ≤ 2 ^ 22) :
    definitionOracle .manhattan x y (manhattanDistance x y) = some none ∨
    definitionOracle .manhattan x y (manhattanDistance x y) = none := by
  unfold definitionOracle
  rw [show Metric.isBq .manhattan = false from rfl]
  simp only [Bool.false_eq_true, if_false]
  split
  · rename_i ea eb r hx hy hr
    split
    · right; rfl
    · left
      exact if_pos (manhattan_tol_ok x y hl hrun hn ea eb r hx hy hr _ (oracle_M_eq ea eb))
  · right; rfl

section examples

/-- `exactOf` on `1 + 2^-23`, on `-7`, on `+inf` and on a NaN -/
example : exactOf 0x3f800001 = some (8388609, -23) ∧ exactOf 0xc0e00000 = some (-14680064, -21) ∧
    exactOf 0x7f800000 = none ∧ exactOf 0x7fc00000 = none := by decide +kernel

example : toReal 0xc0e00000 = ((-14680064 : Int) : ℝ) * (2 : ℝ) ^ (-21 : Int) :=
  C11_exactOf_toReal (by decide +kernel)

/-- `exactSum` of `(1 + 2^-23, -7)·(-7, 3)`: `-7·(1 + 2^-23) − 21` and `7·(1 + 2^-23) + 21`, times `2^300` -/
example : exactSum (List.zip [(8388609, -23), (-14680064, -21)] [(-14680064, -21), (12582912, -22)]) false
    = (-(58720263 * 2 ^ 277 + 21 * 2 ^ 300), 58720263 * 2 ^ 277 + 21 * 2 ^ 300) := by decide +kernel

/-- the hypotheses of `exactSum_spec` / `C11_oracle_accepts_dot` hold for `exX`, `exY` -/
example : (∀ a ∈ exX, Finite a) ∧ (∀ b ∈ exY, Finite b) ∧ exX.length = exY.length ∧ exX.length + 4 ≤ 2 ^ 22 ∧
    (dotProductG f32Chk {} (chkIn exX) (chkIn exY)).2 = true :=
  ⟨by decide +kernel, by decide +kernel, by decide, by decide, congrArg Prod.snd exXY_dotG⟩

/-- `exactSum_spec` applied -/
example : ∃ ea eb, exX.mapM exactOf = some ea ∧ exY.mapM exactOf = some eb ∧
    ((exactSum (List.zip ea eb) false).1 : ℝ)
      = (2 : ℝ) ^ (300 : ℕ) * (List.zipWith (fun a b => toReal a * toReal b) exX exY).sum := by
  obtain ⟨ea, hx⟩ := mapM_exactOf_of_finite exX (by decide +kernel)
  obtain ⟨eb, hy⟩ := mapM_exactOf_of_finite exY (by decide +kernel)
  have := (exactSum_spec false exX exY ea eb hx hy).1
  rw [termReal_false] at this
  exact ⟨ea, eb, hx, hy, this⟩

/-- `C11_oracle_accepts_dot` / `_euclid` applied (AVX path and SSE path) -/
example : ∃ ea eb, exX.mapM exactOf = some ea ∧ exY.mapM exactOf = some eb ∧
    withinTolerance 37 (exactSum (List.zip ea eb) false).1 (exactSum (List.zip ea eb) false).2
      (dotProduct {} exX exY) = true ∧
    withinTolerance 37 (exactSum (List.zip ea eb) false).1 (exactSum (List.zip ea eb) false).2
      (dotProduct { avx := false } exX exY) = true ∧
    withinTolerance 37 (exactSum (List.zip ea eb) true).1 (exactSum (List.zip ea eb) true).2
      (euclideanDistance {} exX exY) = true := by
  obtain ⟨ea, hx⟩ := mapM_exactOf_of_finite exX (by decide +kernel)
  obtain ⟨eb, hy⟩ := mapM_exactOf_of_finite exY (by decide +kernel)
  exact ⟨ea, eb, hx, hy,
    C11_oracle_accepts_dot {} exX exY (by decide) (congrArg Prod.snd exXY_dotG) (by decide) ea eb hx hy,
    C11_oracle_accepts_dot { avx := false } exX exY (by decide) (congrArg Prod.snd exXY_dotG_sse) (by decide)
      ea eb hx hy,
    C11_oracle_accepts_euclid {} exX exY (by decide) (congrArg Prod.snd exXY_euclidG) (by decide) ea eb hx hy⟩

/-- the same verdicts computed directly: the oracle JUDGES these inputs (`some none`, not `none`) -/
example : definitionOracle .dot exX exY (dotProduct {} exX exY) = some none ∧
    definitionOracle .euclidean exX exY (F32.sqrt (euclideanDistance {} exX exY)) = some none ∧
    definitionOracle .euclidean exX exY (F32.sqrt (euclideanDistance { avx := false } exX exY)) = some none ∧
    definitionOracle .manhattan exX exY (manhattanDistance exX exY) = some none := by
  rw [exXY_dot, exXY_euclid, exXY_euclid_sse, exXY_manhattan]
  decide +kernel

/-- the three oracle theorems applied to the same data -/
example :
    (definitionOracle .dot exX exY (dotProduct {} exX exY) = some none ∨
      definitionOracle .dot exX exY (dotProduct {} exX exY) = none) ∧
    (definitionOracle .euclidean exX exY (F32.sqrt (euclideanDistance {} exX exY)) = some none ∨
      definitionOracle .euclidean exX exY (F32.sqrt (euclideanDistance {} exX exY)) = none) ∧
    (definitionOracle .manhattan exX exY (manhattanDistance exX exY) = some none ∨
      definitionOracle .manhattan exX exY (manhattanDistance exX exY) = none) :=
  ⟨C11_definitionOracle_accepts_dot {} exX exY (by decide) (congrArg Prod.snd exXY_dotG) (by decide),
   C11_definitionOracle_accepts_euclidean {} exX exY (by decide) (congrArg Prod.snd exXY_euclidG) (by decide),
   C11_definitionOracle_accepts_manhattan exX exY (by decide) (congrArg Prod.snd exXY_manhattanG) (by decide)⟩

/-- the predicate is not trivially `true`: the computed value is accepted with room to spare (64 units in
the last place still pass: the tolerance is at least twice the bound of the theorems), a result 1000 units
in the last place away is rejected -/
example : (definitionOracle .dot exX exY (dotProduct {} exX exY + 64) == some none) = true ∧
    (match definitionOracle .dot exX exY (dotProduct {} exX exY + 1000) with
      | some (some _) => true | _ => false) = true := by
  rw [exXY_dot]
  decide +kernel

/-- tiny sums: all products zero, `absSum = 0`, the relative part of the tolerance is `0` — accepted
(the flag allows exact zeros) -/
example : (dotProductG f32Chk {} (chkIn [0, 0x80000000, 0]) (chkIn [0x3f800001, 0x40000000, 0])).2 = true ∧
    exactSum (List.zip [(0, -149), (0, -149), (0, -149)] [(8388609, -23), (8388608, -22), (0, -149)]) false = (0, 0) ∧
    withinTolerance 3 0 0 (dotProduct {} [0, 0x80000000, 0] [0x3f800001, 0x40000000, 0]) = true := by
  decide +kernel

/-- the smallest non-zero case the flag allows: one product `2^-63·2^-63 = 2^-126`; `absSum = 2^174`,
the floored relative part `2^174·3/2^23` is exact, the computed value is exact -/
example : (dotProductG f32Chk {} (chkIn [0x20000000]) (chkIn [0x20000000])).2 = true ∧
    exactSum (List.zip [(8388608, -86)] [(8388608, -86)]) false = (2 ^ 174, 2 ^ 174) ∧
    withinTolerance 1 (2 ^ 174) (2 ^ 174) (dotProduct {} [0x20000000] [0x20000000]) = true := by
  decide +kernel

end examples

end Arroy.C11
