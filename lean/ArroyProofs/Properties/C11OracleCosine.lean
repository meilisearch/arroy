import ArroyProofs.Properties.C11Oracle
/-! # C11 — the run-time predicate `Driver.definitionOracle .cosine` never rejects the reported cosine
distance that `C11_round_f32_cosine` allows (continuation of `C11Oracle.lean`) -/
namespace Arroy.C11
open Arroy Kernel SF SFR KernelRound ReportedReal Driver

/-- real-number core of the cosine test: with `G = 2^300·‖a‖‖b‖`, `N ≤ G < N + 1`, `|d| ≤ 2θ`,
`θ = 1.05·(K+4)·u`: replacing `G` by its floor costs at most `1`, and `2θ·2^22 = (21/40)·(K+4) ≤ n + 8` -/
theorem cos_core {G Nr ρ d : ℝ} {n K : Nat} (hG0 : 0 ≤ G) (hN1 : Nr ≤ G) (hN2 : G < Nr + 1)
    (hρ0 : 0 ≤ ρ) (hρ1 : ρ ≤ 1) (hd : |d| ≤ 2 * (21 / 20 * ((K : ℝ) + 4) * u))
    (hK : K ≤ n + 1) (hn : n + 8 ≤ 2 ^ 22) :
    |(1 - 2 * ρ) * (Nr - G) + G * d| * (2 : ℝ) ^ (22 : ℕ) ≤ Nr * ((n : ℝ) + 8) + (2 : ℝ) ^ (30 : ℕ) := by
  have hKr : (K : ℝ) ≤ (n : ℝ) + 1 := by exact_mod_cast hK
  have hnr : (n : ℝ) + 8 ≤ (2 : ℝ) ^ (22 : ℕ) := by exact_mod_cast hn
  have hn0 : (0 : ℝ) ≤ (n : ℝ) := Nat.cast_nonneg n
  have h1 : |(1 - 2 * ρ) * (Nr - G)| ≤ 1 := by
    rw [abs_mul]
    have a1 : |1 - 2 * ρ| ≤ 1 := abs_le.2 ⟨by linarith only [hρ1], by linarith only [hρ0]⟩
    have a2 : |Nr - G| ≤ 1 := abs_le.2 ⟨by linarith only [hN2], by linarith only [hN1]⟩
    exact mul_le_one₀ a1 (abs_nonneg _) a2
  have h2 : |G * d| ≤ G * (2 * (21 / 20 * ((K : ℝ) + 4) * u)) := by
    rw [abs_mul, abs_of_nonneg hG0]
    exact mul_le_mul_of_nonneg_left hd hG0
  have h3 : |(1 - 2 * ρ) * (Nr - G) + G * d| ≤ 1 + G * (2 * (21 / 20 * ((K : ℝ) + 4) * u)) :=
    le_trans (abs_add_le _ _) (add_le_add h1 h2)
  have e : G * (2 * (21 / 20 * ((K : ℝ) + 4) * u)) * (2 : ℝ) ^ (22 : ℕ) = G * (21 / 40 * ((K : ℝ) + 4)) := by
    rw [u_eq]; norm_num; ring
  have h5 : G * (21 / 40 * ((K : ℝ) + 4)) ≤ G * ((n : ℝ) + 8) :=
    mul_le_mul_of_nonneg_left (by linarith only [hKr, hn0]) hG0
  have h6 : (G - 1) * ((n : ℝ) + 8) ≤ Nr * ((n : ℝ) + 8) :=
    mul_le_mul_of_nonneg_right (by linarith only [hN2]) (by linarith only [hn0])
  have h7 : (2 : ℝ) ^ (22 : ℕ) + (2 : ℝ) ^ (22 : ℕ) ≤ (2 : ℝ) ^ (30 : ℕ) := by norm_num
  calc |(1 - 2 * ρ) * (Nr - G) + G * d| * (2 : ℝ) ^ (22 : ℕ)
      ≤ (1 + G * (2 * (21 / 20 * ((K : ℝ) + 4) * u))) * (2 : ℝ) ^ (22 : ℕ) :=
        mul_le_mul_of_nonneg_right h3 (by positivity)
    _ = (2 : ℝ) ^ (22 : ℕ) + G * (21 / 40 * ((K : ℝ) + 4)) := by rw [add_mul, one_mul, e]
    _ ≤ Nr * ((n : ℝ) + 8) + (2 : ℝ) ^ (30 : ℕ) := by linarith only [h5, h6, h7, hnr]

/-- the integer square root of `definitionOracle .cosine`: for `A = Q²·sa`, `B = Q²·sb` (as real numbers),
`N = ⌊√(A·B)⌋` brackets `G = Q²·√sa·√sb` -/
theorem isqrt_bracket {A B : Int} {Q sa sb : ℝ} (hQ : 0 ≤ Q) (hA : (A : ℝ) = Q * Q * sa)
    (hB : (B : ℝ) = Q * Q * sb) (hsa : 0 ≤ sa) (hsb : 0 ≤ sb) :
    (((A * B).toNat.sqrt : ℕ) : ℝ) ≤ Q * Q * (√sa * √sb) ∧
    Q * Q * (√sa * √sb) < (((A * B).toNat.sqrt : ℕ) : ℝ) + 1 := by
  have hAB0 : 0 ≤ A * B := by
    have : (0 : ℝ) ≤ ((A * B : Int) : ℝ) := by rw [Int.cast_mul, hA, hB]; positivity
    exact_mod_cast this
  have hG0 : 0 ≤ Q * Q * (√sa * √sb) := by positivity
  have hM : (((A * B).toNat : ℕ) : ℝ) = (Q * Q * (√sa * √sb)) * (Q * Q * (√sa * √sb)) := by
    have : ((((A * B).toNat : ℕ) : Int) : ℝ) = ((A * B : Int) : ℝ) := by rw [Int.toNat_of_nonneg hAB0]
    rw [Int.cast_natCast, Int.cast_mul, hA, hB] at this
    rw [this]
    calc Q * Q * sa * (Q * Q * sb) = Q * Q * (Q * Q) * ((√sa * √sa) * (√sb * √sb)) := by
          rw [Real.mul_self_sqrt hsa, Real.mul_self_sqrt hsb]; ring
      _ = _ := by ring
  rw [← Real.sqrt_mul_self hG0, ← hM]
  exact ⟨Real.nat_sqrt_le_real_sqrt, Real.real_sqrt_lt_nat_sqrt_succ⟩

/-- the tolerance test of `definitionOracle .cosine` (last branch).  `q` is the scale of the reported value
(`2^150` there), `Q` its real value, `t = q·2^30` the additive term that absorbs the floor of the integer
square root. -/
theorem cos_tol {q A B P R : Int} {t n K : Nat} {Q sa sb p ρ : ℝ} (hQ : 0 < Q) (hq : (q : ℝ) = Q)
    (ht : (t : ℝ) = Q * (2 : ℝ) ^ (30 : ℕ))
    (hA : (A : ℝ) = Q * Q * sa) (hB : (B : ℝ) = Q * Q * sb) (hP : (P : ℝ) = Q * Q * p) (hR : (R : ℝ) = Q * ρ)
    (hsa : 0 ≤ sa) (hsb : 0 ≤ sb) (hg : 0 < √sa * √sb) (hρ0 : 0 ≤ ρ) (hρ1 : ρ ≤ 1)
    (hb : |ρ - (1 - p / (√sa * √sb)) / 2| ≤ 21 / 20 * ((K : ℝ) + 4) * u)
    (hK : K ≤ n + 1) (hn : n + 8 ≤ 2 ^ 22) :
    ((q - 2 * R) * (((A * B).toNat.sqrt : Nat) : Int) - P * q).natAbs * 2 ^ 22
      ≤ ((((A * B).toNat.sqrt : Nat) : Int) * q * ((n : Int) + 8)).natAbs + t := by
  obtain ⟨hN1, hN2⟩ := isqrt_bracket hQ.le hA hB hsa hsb
  generalize (A * B).toNat.sqrt = N at hN1 hN2 ⊢
  generalize √sa * √sb = g at hg hb hN1 hN2
  have hd : |(1 - 2 * ρ) - p / g| ≤ 2 * (21 / 20 * ((K : ℝ) + 4) * u) := by
    have e : (1 - 2 * ρ) - p / g = 2 * ((1 - p / g) / 2 - ρ) := by ring
    rw [e, abs_mul, abs_of_pos two_pos, abs_sub_comm]
    exact mul_le_mul_of_nonneg_left hb zero_le_two
  have hcore := cos_core (mul_nonneg (mul_nonneg hQ.le hQ.le) hg.le) hN1 hN2 hρ0 hρ1 hd hK hn
  have hid : (1 - 2 * ρ) * ((N : ℝ) - Q * Q * g) + Q * Q * g * ((1 - 2 * ρ) - p / g)
      = (1 - 2 * ρ) * (N : ℝ) - Q * Q * p := by
    have hg0 : g ≠ 0 := ne_of_gt hg
    field_simp
    ring
  rw [hid] at hcore
  -- back to the integers
  apply (Nat.cast_le (α := ℝ)).1
  rw [Nat.cast_mul, Nat.cast_add, Nat.cast_natAbs, Nat.cast_natAbs]
  simp only [Int.cast_mul, Int.cast_abs, Int.cast_sub, Int.cast_add, Int.cast_natCast, Int.cast_ofNat,
    Nat.cast_pow, Nat.cast_ofNat]
  rw [hq, hR, hP, ht]
  have e1 : (Q - 2 * (Q * ρ)) * (N : ℝ) - Q * Q * p * Q = Q * ((1 - 2 * ρ) * (N : ℝ) - Q * Q * p) := by ring
  have hNn : (0 : ℝ) ≤ (N : ℝ) * Q * ((n : ℝ) + 8) :=
    mul_nonneg (mul_nonneg (Nat.cast_nonneg N) hQ.le) (add_nonneg (Nat.cast_nonneg n) (by norm_num))
  rw [e1, abs_mul, abs_of_pos hQ, abs_of_nonneg hNn]
  calc Q * |(1 - 2 * ρ) * (N : ℝ) - Q * Q * p| * (2 : ℝ) ^ (22 : ℕ)
      = Q * (|(1 - 2 * ρ) * (N : ℝ) - Q * Q * p| * (2 : ℝ) ^ (22 : ℕ)) := by ring
    _ ≤ Q * ((N : ℝ) * ((n : ℝ) + 8) + (2 : ℝ) ^ (30 : ℕ)) := mul_le_mul_of_nonneg_left hcore hQ.le
    _ = (N : ℝ) * Q * ((n : ℝ) + 8) + Q * (2 : ℝ) ^ (30 : ℕ) := by ring

theorem map_real₁ (F : Int × Int → ℝ) (G : Nat → ℝ) (hFG : ∀ a v, exactOf a = some v → F v = G a) :
    ∀ (x : List Nat) (ea : List (Int × Int)), List.Forall₂ (fun a v => exactOf a = some v) x ea →
    ea.map F = x.map G := by
  intro x ea hx
  induction hx with
  | nil => simp
  | @cons a v t et hav _ ih => simp only [List.map_cons]; rw [ih, hFG a v hav]

/-- the `A` (and `B`) of `definitionOracle .cosine` is `2^300·Σ aᵢ²` -/
theorem oracle_A_real (x : List Nat) (ea : List (Int × Int)) (hx : x.mapM exactOf = some ea) :
    (Int.cast (List.foldl (fun (acc : Int) (x : Int) => acc + x * x) 0 (List.map scaled150 ea)) : ℝ)
      = (2 : ℝ) ^ (300 : ℕ) * (x.map (fun a => toReal a * toReal a)).sum := by
  rw [foldl_add_sum _ (fun x : Int => x * x) (fun _ _ => rfl), Int.zero_add, Int.cast_list_sum, List.map_map,
    List.map_map, ← sum_map_mul_left, List.map_map]
  congr 1
  apply map_real₁ _ _ _ x ea (mapM_exactOf_forall₂ x ea hx)
  intro a v hav
  show (Int.cast (scaled150 v * scaled150 v) : ℝ) = (2 : ℝ) ^ (300 : ℕ) * (toReal a * toReal a)
  rw [Int.cast_mul, scaled150_toReal hav,
    show (2 : ℝ) ^ (300 : ℕ) = (2 : ℝ) ^ (150 : ℕ) * (2 : ℝ) ^ (150 : ℕ) by rw [← pow_add]]
  generalize (2 : ℝ) ^ (150 : ℕ) = Q
  ring

/-- the `P` of `definitionOracle .cosine` is the first component of `exactSum … false` -/
theorem oracle_P_eq (ea eb : List (Int × Int)) :
    List.foldl (fun (acc : Int) (x : Int × Int) => acc + x.1 * x.2) 0
        ((List.map scaled150 ea).zip (List.map scaled150 eb))
      = (exactSum (List.zip ea eb) false).1 := by
  rw [exactSum_eq, foldl_add_sum _ (fun x : Int × Int => x.1 * x.2) (fun _ _ => rfl),
    List.zip_map, List.map_map, Int.zero_add]
  rfl

/-- an integer image `Z = 2^300·s` with `√s > 0` is not `0` -/
theorem scaled_ne_zero {Z : Int} {s : ℝ} (hZ : (Z : ℝ) = (2 : ℝ) ^ (300 : ℕ) * s) (hs : 0 < √s) : Z ≠ 0 := by
  rintro rfl
  rw [Int.cast_zero] at hZ
  rw [(mul_eq_zero.mp hZ.symm).resolve_left (by positivity), Real.sqrt_zero] at hs
  exact lt_irrefl _ hs

/-- **`definitionOracle .cosine` never rejects the reported cosine distance**, under the hypotheses of
`C11_round_f32_cosine` (the formula branch) and `n + 8 ≤ 2^22`: with `G = 2^300·‖a‖‖b‖`, `N = ⌊G⌋`,
`|C·N − P·2^150|·2^22 ≤ 2^172·(1 + 2θG)`, `θ = 1.05·(K+4)·u`, and `2^173·θ ≤ 2^150·(n+8)`,
`2^172 + 2^150·(n+8) ≤ 2^180`: the floor of the integer square root is absorbed by the additive `2^180`.
The range test `0 ≤ R ≤ 2^150` holds by `C11_cosine_range_real`. -/
theorem C11_definitionOracle_accepts_cosine (h : Host) (p q : List Nat) (hl : p.length = q.length)
    (hK : dotDepth h p.length ≤ 65536)
    (hpp : (dotProductG f32Chk h (chkIn p) (chkIn p)).2 = true)
    (hqq : (dotProductG f32Chk h (chkIn q) (chkIn q)).2 = true)
    (hpq : (dotProductG f32Chk h (chkIn p) (chkIn q)).2 = true)
    (hmul : f32Checks.mul (F32.sqrt (dotProduct h p p)) (F32.sqrt (dotProduct h q q)) = true)
    (hgt : F32.gt (F32.mul (F32.sqrt (dotProduct h p p)) (F32.sqrt (dotProduct h q q))) F32.epsilon = true)
    (hdiv : divRange (dotProduct h p q)
      (F32.mul (F32.sqrt (dotProduct h p p)) (F32.sqrt (dotProduct h q q))) = true)
    (hn : p.length + 8 ≤ 2 ^ 22) :
    definitionOracle .cosine p q
        (Metric.builtDistance .cosine h (Metric.newHeader .cosine h p) p (Metric.newHeader .cosine h q) q)
      = some none ∨
    definitionOracle .cosine p q
        (Metric.builtDistance .cosine h (Metric.newHeader .cosine h p) p (Metric.newHeader .cosine h q) q)
      = none := by
  obtain ⟨hg, hfin, hb, hKle⟩ := C11_round_f32_cosine h p q hl hK hpp hqq hpq hmul hgt hdiv
  obtain ⟨-, hρ0, hρ1⟩ := C11_cosine_range_real h (Metric.newHeader .cosine h p) p (Metric.newHeader .cosine h q) q
    (isNaN_false_of_finite hfin)
  generalize Metric.builtDistance .cosine h (Metric.newHeader .cosine h p) p (Metric.newHeader .cosine h q) q
    = rep at hfin hb hρ0 hρ1 ⊢
  unfold definitionOracle
  rw [show Metric.isBq .cosine = false from rfl]
  simp only [Bool.false_eq_true, if_false]
  split
  · rename_i ea eb r hx hy hr
    have hAr := oracle_A_real p ea hx
    have hBr := oracle_A_real q eb hy
    have hPr := (exactSum_spec false p q ea eb hx hy).1
    rw [termReal_false, ← oracle_P_eq] at hPr
    have hRr := scaled150_toReal hr
    have hA0 := scaled_ne_zero hAr ((Real.sqrt_nonneg _).lt_of_ne' (left_ne_zero_of_mul hg.ne'))
    have hB0 := scaled_ne_zero hBr ((Real.sqrt_nonneg _).lt_of_ne' (right_ne_zero_of_mul hg.ne'))
    rw [show (2 : ℝ) ^ (300 : ℕ) = (2 : ℝ) ^ (150 : ℕ) * (2 : ℝ) ^ (150 : ℕ) by rw [← pow_add]] at hAr hBr hPr
    have htol := cos_tol (q := (2 : Int) ^ 150) (t := 2 ^ 180) (n := p.length) (by positivity)
      (by rw [Int.cast_pow, Int.cast_ofNat]) (by norm_num) hAr hBr hPr hRr (sq_sum_nonneg p) (sq_sum_nonneg q) hg hρ0 hρ1 hb hKle hn
    have hR0 : ¬ (scaled150 r < 0 ∨ scaled150 r > (2 : Int) ^ 150) := by
      have hQ : (0 : ℝ) < (2 : ℝ) ^ (150 : ℕ) := by positivity
      have a1 : (0 : ℝ) ≤ (scaled150 r : ℝ) := by rw [hRr]; exact mul_nonneg hQ.le hρ0
      have a2 : (scaled150 r : ℝ) ≤ (((2 : Int) ^ 150 : Int) : ℝ) := by
        rw [hRr, Int.cast_pow, Int.cast_ofNat]
        calc (2 : ℝ) ^ (150 : ℕ) * toReal rep ≤ (2 : ℝ) ^ (150 : ℕ) * 1 := mul_le_mul_of_nonneg_left hρ1 hQ.le
          _ = _ := mul_one _
      have b1 : (0 : Int) ≤ scaled150 r := Int.cast_nonneg_iff.mp a1
      have b2 : scaled150 r ≤ (2 : Int) ^ 150 := Int.cast_le.mp a2
      rintro (hc | hc)
      · exact absurd b1 (not_le.mpr hc)
      · exact absurd b2 (not_le.mpr hc)
    rw [if_neg (by rintro (hc | hc); exact hA0 hc; exact hB0 hc)]
    simp only [if_neg hR0, if_pos htol]
    split
    · right; rfl
    · left
      split
      · rfl
      · rfl
  · right; rfl

/-- the same under the single Boolean flag `cosineChk` -/
theorem C11_definitionOracle_accepts_cosine_chk (h : Host) (p q : List Nat) (hc : cosineChk h p q = true)
    (hn : p.length + 8 ≤ 2 ^ 22) :
    definitionOracle .cosine p q
        (Metric.builtDistance .cosine h (Metric.newHeader .cosine h p) p (Metric.newHeader .cosine h q) q)
      = some none ∨
    definitionOracle .cosine p q
        (Metric.builtDistance .cosine h (Metric.newHeader .cosine h p) p (Metric.newHeader .cosine h q) q)
      = none := by
  obtain ⟨hl, hK, hpp, hqq, hpq, hmul, hgt, hdiv⟩ := cosineChk_sound hc
  exact C11_definitionOracle_accepts_cosine h p q hl hK hpp hqq hpq hmul hgt hdiv hn

/-- **Zero norm**: if all components of `p` (or of `q`) are `±0`, the reported value is `+0.0`
(`C11_cosine_zero_norm`) and the oracle's rule "a norm vanishes: the distance must be 0" accepts it
(when the other vector has a non-finite component the oracle does not judge). -/
theorem C11_definitionOracle_accepts_cosine_zero (h : Host) (p q : List Nat)
    (hz : (∀ x ∈ p, x = F32.zero ∨ x = F32.negZero) ∨ (∀ x ∈ q, x = F32.zero ∨ x = F32.negZero)) :
    definitionOracle .cosine p q
        (Metric.builtDistance .cosine h (Metric.newHeader .cosine h p) p (Metric.newHeader .cosine h q) q)
      = some none ∨
    definitionOracle .cosine p q
        (Metric.builtDistance .cosine h (Metric.newHeader .cosine h p) p (Metric.newHeader .cosine h q) q)
      = none := by
  rw [(C11_cosine_zero_norm h p q 0 hz).1]
  have hzero : ∀ (x : List Nat) (ea : List (Int × Int)), x.mapM exactOf = some ea →
      (∀ a ∈ x, a = F32.zero ∨ a = F32.negZero) →
      List.foldl (fun (acc : Int) (x : Int) => acc + x * x) 0 (List.map scaled150 ea) = 0 := by
    intro x ea hx hall
    have hr := oracle_A_real x ea hx
    have h0 : (x.map (fun a => toReal a * toReal a)).sum = 0 := by
      apply List.sum_eq_zero
      intro z hz'
      obtain ⟨a, ha, rfl⟩ := List.mem_map.mp hz'
      have : toReal a = 0 := by
        rcases hall a ha with e | e
        · rw [e]; exact toReal_zero
        · rw [e, toReal_of_unpack unpack_negZero]; simp
      rw [this, mul_zero]
    rw [h0, mul_zero] at hr
    exact_mod_cast hr
  unfold definitionOracle
  rw [show Metric.isBq .cosine = false from rfl]
  simp only [Bool.false_eq_true, if_false]
  split
  · rename_i ea eb r hx hy hr
    have hAB : List.foldl (fun (acc : Int) (x : Int) => acc + x * x) 0 (List.map scaled150 ea) = 0 ∨
        List.foldl (fun (acc : Int) (x : Int) => acc + x * x) 0 (List.map scaled150 eb) = 0 := by
      rcases hz with hp | hq
      · exact Or.inl (hzero p ea hx hp)
      · exact Or.inr (hzero q eb hy hq)
    rw [if_pos hAB, if_pos (show F32.zero = 0 ∨ F32.zero = 2147483648 from Or.inl rfl)]
    left; rfl
  · right; rfl

/-- computed norm product not above `f32::EPSILON = 2^-23` ⟹ exact norm product at most `2^-22`:
`(1 − 1.02·a − 3u)·√A·√B ≤ fl(‖p‖·‖q‖)` (`norm_product_bounds`) and `1 − 1.02·a − 3u ≥ 1/2` -/
theorem norm_product_tiny {dpp dqq : Nat} {A B a : ℝ} (hA : 0 ≤ A) (hB : 0 ≤ B) (ha0 : 0 ≤ a)
    (ha1 : a ≤ 1 / 100) (bpp : |toReal dpp - A| ≤ a * A) (bqq : |toReal dqq - B| ≤ a * B)
    (hmul : f32Checks.mul (F32.sqrt dpp) (F32.sqrt dqq) = true)
    (hng : F32.gt (F32.mul (F32.sqrt dpp) (F32.sqrt dqq)) F32.epsilon = false) :
    √A * √B ≤ 1 / (2 : ℝ) ^ (22 : ℕ) := by
  obtain ⟨fn, δ1, δ2, δ3, h1, h2, h3, en⟩ := norm_product_std hmul
  have heps : toReal (F32.mul (F32.sqrt dpp) (F32.sqrt dqq)) ≤ 1 / (2 : ℝ) ^ (23 : ℕ) :=
    not_lt.mp fun hc => by rw [(gt_epsilon_iff fn).2 hc] at hng; exact Bool.noConfusion hng
  obtain ⟨lo, -⟩ := norm_product_bounds hA hB ha0 ha1 u_nonneg (by rw [u_eq]; norm_num) bpp bqq h1 h2 h3
    rfl rfl en
  have hg0 : 0 ≤ √A * √B := mul_nonneg (Real.sqrt_nonneg _) (Real.sqrt_nonneg _)
  have hc : (1 : ℝ) / 2 ≤ 1 - 51 / 50 * a - 3 * u := by rw [u_eq]; linarith only [ha1]
  have hhalf := mul_le_mul_of_nonneg_right hc hg0
  calc √A * √B = 2 * (1 / 2 * (√A * √B)) := by ring
    _ ≤ 2 * (1 / (2 : ℝ) ^ (23 : ℕ)) := mul_le_mul_of_nonneg_left ((hhalf.trans lo).trans heps) zero_le_two
    _ = 1 / (2 : ℝ) ^ (22 : ℕ) := by norm_num

/-- **The tiny-norm rule**: when the computed product of the norms is NOT above `f32::EPSILON` the code
reports `+0.0`; under the flags of the two squared norms and of their product, the exact product of the
norms is then at most `2^-22` (`(1 − 1.02·a − 3u)·‖a‖‖b‖ ≤ fl(‖a‖·‖b‖) ≤ 2^-23`), so the oracle's
`tinyNorms` (`N ≤ 2^278`, i.e. `‖a‖‖b‖ ≤ 2^-22`: twice `EPSILON`) is set and the answer `0` is accepted. -/
theorem C11_definitionOracle_accepts_cosine_tiny (h : Host) (p q : List Nat) (hl : p.length = q.length)
    (hK : dotDepth h p.length ≤ 65536)
    (hpp : (dotProductG f32Chk h (chkIn p) (chkIn p)).2 = true)
    (hqq : (dotProductG f32Chk h (chkIn q) (chkIn q)).2 = true)
    (hmul : f32Checks.mul (F32.sqrt (dotProduct h p p)) (F32.sqrt (dotProduct h q q)) = true)
    (hng : F32.gt (F32.mul (F32.sqrt (dotProduct h p p)) (F32.sqrt (dotProduct h q q))) F32.epsilon = false) :
    definitionOracle .cosine p q
        (Metric.builtDistance .cosine h (Metric.newHeader .cosine h p) p (Metric.newHeader .cosine h q) q)
      = some none ∨
    definitionOracle .cosine p q
        (Metric.builtDistance .cosine h (Metric.newHeader .cosine h p) p (Metric.newHeader .cosine h q) q)
      = none := by
  rw [show Metric.builtDistance .cosine h (Metric.newHeader .cosine h p) p (Metric.newHeader .cosine h q) q
      = F32.zero from (C11_cosine_reported_eq h p q 0).trans (if_neg (by rw [hng]; exact Bool.false_ne_true))]
  have bqq := dotProduct_self_round h q hqq
  rw [← hl] at bqq
  obtain ⟨ha0, -, ha1⟩ := depth_err_bounds hK
  have hsa := sq_sum_nonneg p
  have hsb := sq_sum_nonneg q
  have hgle := norm_product_tiny hsa hsb ha0 ha1 (dotProduct_self_round h p hpp) bqq hmul hng
  unfold definitionOracle
  rw [show Metric.isBq .cosine = false from rfl]
  simp only [Bool.false_eq_true, if_false]
  have hz : F32.zero = 0 ∨ F32.zero = 2147483648 := Or.inl rfl
  split
  · rename_i ea eb r hx hy hr
    have hAr := oracle_A_real p ea hx
    have hBr := oracle_A_real q eb hy
    generalize List.foldl (fun (acc : Int) (x : Int) => acc + x * x) 0 (List.map scaled150 ea) = A at hAr ⊢
    generalize List.foldl (fun (acc : Int) (x : Int) => acc + x * x) 0 (List.map scaled150 eb) = B at hBr ⊢
    rw [show (2 : ℝ) ^ (300 : ℕ) = (2 : ℝ) ^ (150 : ℕ) * (2 : ℝ) ^ (150 : ℕ) by rw [← pow_add]] at hAr hBr
    -- `N ≤ 2^300·‖a‖‖b‖ ≤ 2^278`
    have hN : (((A * B).toNat.sqrt : Nat) : ℝ) ≤ (2 : ℝ) ^ (278 : ℕ) := by
      refine le_trans (isqrt_bracket (by positivity) hAr hBr hsa hsb).1 ?_
      rw [show (2 : ℝ) ^ (150 : ℕ) * (2 : ℝ) ^ (150 : ℕ) = (2 : ℝ) ^ (278 : ℕ) * (2 : ℝ) ^ (22 : ℕ) by
        rw [← pow_add, ← pow_add]]
      calc (2 : ℝ) ^ (278 : ℕ) * (2 : ℝ) ^ (22 : ℕ) * _
          ≤ (2 : ℝ) ^ (278 : ℕ) * (2 : ℝ) ^ (22 : ℕ) * (1 / (2 : ℝ) ^ (22 : ℕ)) :=
            mul_le_mul_of_nonneg_left hgle (by positivity)
        _ = (2 : ℝ) ^ (278 : ℕ) := by rw [mul_assoc, mul_one_div_cancel (by positivity), mul_one]
    have hNi : (((A * B).toNat.sqrt : Nat) : Int) ≤ (2 : Int) ^ 278 := by exact_mod_cast hN
    by_cases hAB : A = 0 ∨ B = 0
    · rw [if_pos hAB, if_pos hz]; left; rfl
    · rw [if_neg hAB]
      by_cases hrg : A < (2 : Int) ^ 260 ∨ B < (2 : Int) ^ 260 ∨ A > (2 : Int) ^ 340 ∨ B > (2 : Int) ^ 340
      · rw [if_pos hrg]; right; rfl
      · rw [if_neg hrg, if_pos (by rw [Bool.and_eq_true]; exact ⟨decide_eq_true hNi, decide_eq_true hz⟩)]
        left; rfl
  · right; rfl

section examples

/-- cosine: the flag holds on the AVX and SSE paths; the oracle's verdict computed directly is `some none`
(judged and accepted), and the theorem applies -/
example : cosineChk {} exX exY = true ∧ cosineChk { avx := false } exX exY = true ∧
    definitionOracle .cosine exX exY
      (Metric.builtDistance .cosine {} (Metric.newHeader .cosine {} exX) exX (Metric.newHeader .cosine {} exY) exY)
      = some none ∧
    definitionOracle .cosine exX exY
      (Metric.builtDistance .cosine { avx := false } (Metric.newHeader .cosine { avx := false } exX) exX
        (Metric.newHeader .cosine { avx := false } exY) exY) = some none :=
  ⟨cosineChk_exXY, cosineChk_exXY_sse, by rw [exXY_cosine]; decide +kernel,
   by rw [exXY_cosine_sse]; decide +kernel⟩

example :
    definitionOracle .cosine exX exY
      (Metric.builtDistance .cosine {} (Metric.newHeader .cosine {} exX) exX (Metric.newHeader .cosine {} exY) exY)
      = some none ∨
    definitionOracle .cosine exX exY
      (Metric.builtDistance .cosine {} (Metric.newHeader .cosine {} exX) exX (Metric.newHeader .cosine {} exY) exY)
      = none :=
  C11_definitionOracle_accepts_cosine_chk {} exX exY cosineChk_exXY (by decide)

/-- zero norm: `⟨+0, -0⟩` against `⟨1, 2⟩` is reported as `+0.0`, and accepted -/
example : definitionOracle .cosine [F32.zero, F32.negZero] [F32.one, F32.two]
      (Metric.builtDistance .cosine {} (Metric.newHeader .cosine {} [F32.zero, F32.negZero]) [F32.zero, F32.negZero]
        (Metric.newHeader .cosine {} [F32.one, F32.two]) [F32.one, F32.two]) = some none := by decide +kernel

/-- the cosine rule rejects a value 5000 units in the last place away (and still accepts 64) -/
example : (match definitionOracle .cosine exX exY
      (Metric.builtDistance .cosine {} (Metric.newHeader .cosine {} exX) exX (Metric.newHeader .cosine {} exY) exY + 5000)
      with | some (some _) => true | _ => false) = true := by
  rw [exXY_cosine]
  decide +kernel

/-- tiny norms: `p = q = ⟨2^-13⟩`, norm product `2^-26 ≤ EPSILON`: the flags of
`C11_definitionOracle_accepts_cosine_tiny` hold, `+0.0` is reported, the oracle judges it (`A = 2^274`) and
accepts -/
example : (dotProductG f32Chk {} (chkIn [0x39000000]) (chkIn [0x39000000])).2 = true ∧
    f32Checks.mul (F32.sqrt (dotProduct {} [0x39000000] [0x39000000]))
      (F32.sqrt (dotProduct {} [0x39000000] [0x39000000])) = true ∧
    F32.gt (F32.mul (F32.sqrt (dotProduct {} [0x39000000] [0x39000000]))
      (F32.sqrt (dotProduct {} [0x39000000] [0x39000000]))) F32.epsilon = false ∧
    definitionOracle .cosine [0x39000000] [0x39000000]
      (Metric.builtDistance .cosine {} (Metric.newHeader .cosine {} [0x39000000]) [0x39000000]
        (Metric.newHeader .cosine {} [0x39000000]) [0x39000000]) = some none := by decide +kernel

end examples

end Arroy.C11
