import ArroyProofs.F32StdModel
import ArroyProofs.F32KernelRound
import ArroyProofs.SoftFloatRealDiv
import Mathlib.Analysis.Real.Sqrt
/-! # C11 (real-number side) — the soft-float binary32 arithmetic of the kernels satisfies the standard
model of floating-point arithmetic, and the rounding-error bounds hold for the ACTUAL kernels

`SFR.toReal : Nat → ℝ` is the real value `(-1)^neg · m · 2^e` of a bit pattern (via `SF.unpack`),
`SFR.Finite x` says `x` is neither NaN nor infinite, `SFR.u = 2^-24`,
`SFR.NormalRange r := 2^-126 ≤ |r| ∧ |r| < 2^128·(1 - 2^-25)` (no underflow, no overflow after rounding),
`SFR.NormalOrZero r := r = 0 ∨ NormalRange r`.

Each operation on finite operands whose exact result is zero or in the normal range returns
`exact·(1+δ)`, `|δ| ≤ u`; so `f32Arith` satisfies the conditional standard model `StdModelOn`, and the
bounds of `C11_round` hold for the scalar kernels on bit patterns under explicit conditions on the exact
intermediate results.  With DECIDABLE side conditions (`SFR.f32Checks`, carried as a flag by the
instrumented arithmetic `SFR.f32Chk` on `Nat × Bool`) the bounds hold for the dispatching functions and the
vectorised kernels under the single hypothesis that the flag of the instrumented run is `true`.

Not covered: underflow (subnormal results have an absolute, not a relative, error bound). -/
namespace Arroy.C11
open Arroy Kernel SF SFR KernelRound

/-- **Round to nearest, real-number form.** For `m > 0` and the exact value `v = ±(m + t)·2^e` in the
normal range, where `t = 0` when the sticky bit is clear and `0 ≤ t < 1` is arbitrary when it is set
(`roundPack` honours the sticky bit only if `m` has more than 24 bits — as in `div` and `sqrt`; hence
the hypothesis `sticky → 2^24 ≤ m`), the result is finite and equals `v·(1+δ)`, `|δ| ≤ 2^-24`. -/
theorem C11_roundPack_real (neg : Bool) (m : Nat) (e : Int) (sticky : Bool) (t : ℝ) (hm : 0 < m)
    (ht0 : 0 ≤ t) (ht1 : t < 1) (hst : sticky = false → t = 0) (hst' : sticky = true → 2 ^ 24 ≤ m)
    (hN : NormalRange (sgn neg * (((m : ℝ) + t) * (2 : ℝ) ^ e))) :
    Finite (roundPack f32 neg m e sticky) ∧ ∃ δ : ℝ, |δ| ≤ u ∧
      toReal (roundPack f32 neg m e sticky) = sgn neg * (((m : ℝ) + t) * (2 : ℝ) ^ e) * (1 + δ) :=
  roundPack_real neg m e sticky t hm ht0 ht1 hst hst' hN

theorem C11_mul_std (a b : Nat) (ha : Finite a) (hb : Finite b)
    (hN : NormalOrZero (toReal a * toReal b)) :
    Finite (F32.mul a b) ∧ ∃ δ : ℝ, |δ| ≤ u ∧ toReal (F32.mul a b) = toReal a * toReal b * (1 + δ) :=
  mul_std a b ha hb hN

theorem C11_add_std (a b : Nat) (ha : Finite a) (hb : Finite b)
    (hN : NormalOrZero (toReal a + toReal b)) :
    Finite (F32.add a b) ∧ ∃ δ : ℝ, |δ| ≤ u ∧ toReal (F32.add a b) = (toReal a + toReal b) * (1 + δ) :=
  add_std a b ha hb hN

theorem C11_sub_std (a b : Nat) (ha : Finite a) (hb : Finite b)
    (hN : NormalOrZero (toReal a - toReal b)) :
    Finite (F32.sub a b) ∧ ∃ δ : ℝ, |δ| ≤ u ∧ toReal (F32.sub a b) = (toReal a - toReal b) * (1 + δ) :=
  sub_std a b ha hb hN

theorem C11_fma_std (a b c : Nat) (ha : Finite a) (hb : Finite b) (hc : Finite c)
    (hN : NormalOrZero (toReal a * toReal b + toReal c)) :
    Finite (F32.fma a b c) ∧ ∃ δ : ℝ, |δ| ≤ u ∧
      toReal (F32.fma a b c) = (toReal a * toReal b + toReal c) * (1 + δ) :=
  fma_std a b c ha hb hc hN

/-- division: non-zero finite divisor, exact quotient zero or in the normal range -/
theorem C11_div_std (a b : Nat) (ha : Finite a) (hb : Finite b) (hb0 : toReal b ≠ 0)
    (hN : NormalOrZero (toReal a / toReal b)) :
    Finite (F32.div a b) ∧ ∃ δ : ℝ, |δ| ≤ u ∧ toReal (F32.div a b) = toReal a / toReal b * (1 + δ) :=
  div_std a b ha hb hb0 hN

/-- square root of a finite non-negative value (`-0.0` included: the result is then `-0.0`, value `0`) -/
theorem C11_sqrt_std (a : Nat) (ha : Finite a) (h0 : 0 ≤ toReal a) (hN : NormalOrZero (Real.sqrt (toReal a))) :
    Finite (F32.sqrt a) ∧ ∃ δ : ℝ, |δ| ≤ u ∧ toReal (F32.sqrt a) = Real.sqrt (toReal a) * (1 + δ) :=
  sqrt_std a ha _ (Real.sqrt_nonneg _) (Real.mul_self_sqrt h0) hN

theorem C11_abs_exact (a : Nat) (ha : Finite a) : Finite (F32.abs a) ∧ toReal (F32.abs a) = |toReal a| :=
  abs_real a ha

/-- **The arithmetic of the kernels satisfies the (conditional) standard model**, `u = 2^-24`. -/
theorem C11_f32_std_model_on : StdModelOn f32Arith toReal Finite NormalOrZero u := f32_std_model_on

/-- the unconditional `StdModel` of `C11_round` is the instance without side conditions -/
theorem C11_std_model_on_of_std_model (A : Arith ℝ) (u : ℝ) (h : StdModel A u) :
    StdModelOn A id (fun _ => True) (fun _ => True) u := h.toOn

/-- **Scalar dot product on bit patterns.** For finite vectors all of whose exact products
`toReal xᵢ · toReal yᵢ` and exact partial sums `toReal (fl(… + pᵢ₋₁)) + toReal pᵢ` (`pᵢ = fl(xᵢ·yᵢ)`,
summation from `-0.0` as `impl Sum for f32` does) are zero or in the normal range, the result is finite
and `|fl(Σ xᵢyᵢ) − Σ xᵢyᵢ| ≤ ((1+u)^(n+1) − 1) · Σ|xᵢyᵢ|`. -/
theorem C11_round_f32_dot (x y : List Nat) (n : Nat) (hx : x.length = n) (hy : y.length = n)
    (fx : ∀ a ∈ x, Finite a) (fy : ∀ b ∈ y, Finite b)
    (hprod : ∀ p ∈ List.zip x y, NormalOrZero (toReal p.1 * toReal p.2))
    (hsum : PartialSumsOK f32Arith toReal NormalOrZero F32.negZero (List.zipWith F32.mul x y)) :
    Finite (dotScalar f32Arith x y) ∧
    |toReal (dotScalar f32Arith x y) - (List.zipWith (fun a b => toReal a * toReal b) x y).sum|
      ≤ ((1 + u)^(n + 1) - 1)
        * ((List.zipWith (fun a b => toReal a * toReal b) x y).map (fun t => |t|)).sum :=
  dotScalar_round_on f32_std_model_on x y n hx hy fx fy hprod hsum

/-- **Scalar squared Euclidean distance on bit patterns**: relative error `(1+u)^(n+3) − 1`. -/
theorem C11_round_f32_euclid (x y : List Nat) (n : Nat) (hx : x.length = n) (hy : y.length = n)
    (fx : ∀ a ∈ x, Finite a) (fy : ∀ b ∈ y, Finite b)
    (hterm : ∀ p ∈ List.zip x y, NormalOrZero (toReal p.1 - toReal p.2) ∧
      NormalOrZero (toReal (F32.sub p.1 p.2) * toReal (F32.sub p.1 p.2)))
    (hsum : PartialSumsOK f32Arith toReal NormalOrZero F32.negZero
      (List.zipWith (fun a b => F32.mul (F32.sub a b) (F32.sub a b)) x y)) :
    Finite (euclidScalar f32Arith x y) ∧
    |toReal (euclidScalar f32Arith x y)
        - (List.zipWith (fun a b => (toReal a - toReal b) * (toReal a - toReal b)) x y).sum|
      ≤ ((1 + u)^(n + 3) - 1)
        * ((List.zipWith (fun a b => (toReal a - toReal b) * (toReal a - toReal b)) x y).map
            (fun t => |t|)).sum :=
  euclidScalar_round_on f32_std_model_on x y n hx hy fx fy hterm hsum

/-- **Manhattan distance on bit patterns** (`manhattanDistance`): relative error `(1+u)^(n+1) − 1`. -/
theorem C11_round_f32_manhattan (x y : List Nat) (n : Nat) (hx : x.length = n) (hy : y.length = n)
    (fx : ∀ a ∈ x, Finite a) (fy : ∀ b ∈ y, Finite b)
    (hterm : ∀ p ∈ List.zip x y, NormalOrZero (toReal p.1 - toReal p.2))
    (hsum : PartialSumsOK f32Arith toReal NormalOrZero F32.negZero
      (List.zipWith (fun a b => F32.abs (F32.sub a b)) x y)) :
    Finite (manhattanDistance x y) ∧
    |toReal (manhattanDistance x y) - (List.zipWith (fun a b => |toReal a - toReal b|) x y).sum|
      ≤ ((1 + u)^(n + 1) - 1)
        * ((List.zipWith (fun a b => |toReal a - toReal b|) x y).map (fun t => |t|)).sum :=
  manhattan_round_on f32_std_model_on F32.abs abs_real x y n hx hy fx fy hterm hsum

/-- **The checked standard model for `f32Arith`**: where the Boolean check of an operation passes, the
operation returns the exact result times `(1+δ)`, `|δ| ≤ 2^-24`. -/
theorem C11_f32_chk_model : ChkModel f32Arith toReal f32Checks u := f32_chk_model

/-- what the checks mean -/
theorem C11_f32_checks_sound :
    (∀ a b, f32Checks.add a b = true → Finite a ∧ Finite b ∧ NormalOrZero (toReal a + toReal b)) ∧
    (∀ a b, f32Checks.sub a b = true → Finite a ∧ Finite b ∧ NormalOrZero (toReal a - toReal b)) ∧
    (∀ a b, f32Checks.mul a b = true → Finite a ∧ Finite b ∧ NormalOrZero (toReal a * toReal b)) ∧
    (∀ a b c, f32Checks.fma a b c = true →
      Finite a ∧ Finite b ∧ Finite c ∧ NormalOrZero (toReal a * toReal b + toReal c)) :=
  ⟨chk_add_sound, chk_sub_sound, chk_mul_sound, chk_fma_sound⟩

/-- the plain run is the first component of the instrumented run (for every kernel; here the two
dispatching functions) -/
theorem C11_f32_chk_fst (h : Host) (x y : List Nat) :
    (dotProductG f32Chk h (chkIn x) (chkIn y)).1 = dotProduct h x y ∧
    (euclideanDistanceG f32Chk h (chkIn x) (chkIn y)).1 = euclideanDistance h x y := by
  have a := dotProductG_map Prod.fst (chk_fst_hom f32Arith f32Checks) h (chkIn x) (chkIn y)
  have b := euclideanDistanceG_map Prod.fst (chk_fst_hom f32Arith f32Checks) h (chkIn x) (chkIn y)
  rw [chkIn_fst, chkIn_fst] at a b
  exact ⟨a.symm, b.symm⟩

theorem C11_f32_chk_fst_manhattan (x y : List Nat) :
    (manhattanWith f32Chk (fun c => (F32.abs c.1, c.2)) (chkIn x) (chkIn y)).1 = manhattanDistance x y := by
  have e := manhattanWith_map Prod.fst (chk_fst_hom f32Arith f32Checks)
    (fun c => (F32.abs c.1, c.2)) F32.abs (fun _ => rfl) (chkIn x) (chkIn y)
  rw [chkIn_fst, chkIn_fst] at e
  exact e.symm

/-- **`dotProduct` (with its run-time dispatch) on bit patterns.** If no operation of the instrumented
run fails its check, `|fl(Σ xᵢyᵢ) − Σ xᵢyᵢ| ≤ ((1+u)^K − 1) · Σ|xᵢyᵢ|` with `K = dotDepth h n`
(`n/32 + n%32 + 7` AVX, `n/16 + n%16 + 6` SSE, `n + 1` scalar), in any case `K ≤ n + 1`. -/
theorem C11_round_f32_dot_product (h : Host) (x y : List Nat) (hl : x.length = y.length)
    (hrun : (dotProductG f32Chk h (chkIn x) (chkIn y)).2 = true) :
    |toReal (dotProduct h x y) - (List.zipWith (fun a b => toReal a * toReal b) x y).sum|
      ≤ ((1 + u)^(dotDepth h x.length) - 1)
        * ((List.zipWith (fun a b => toReal a * toReal b) x y).map (fun z => |z|)).sum ∧
    dotDepth h x.length ≤ x.length + 1 :=
  ⟨dotProduct_round h x y hl hrun, dotDepth_le h x.length⟩

/-- **`euclideanDistance` (squared, with its run-time dispatch) on bit patterns**, `K = euclidDepth h n`
(`n/32 + n%32 + 9` AVX, `n/16 + n%16 + 8` SSE, `n + 3` scalar), `K ≤ n + 3`. -/
theorem C11_round_f32_euclidean_distance (h : Host) (x y : List Nat) (hl : x.length = y.length)
    (hrun : (euclideanDistanceG f32Chk h (chkIn x) (chkIn y)).2 = true) :
    |toReal (euclideanDistance h x y)
        - (List.zipWith (fun a b => (toReal a - toReal b) * (toReal a - toReal b)) x y).sum|
      ≤ ((1 + u)^(euclidDepth h x.length) - 1)
        * ((List.zipWith (fun a b => (toReal a - toReal b) * (toReal a - toReal b)) x y).map
            (fun z => |z|)).sum ∧
    euclidDepth h x.length ≤ x.length + 3 :=
  ⟨euclideanDistance_round h x y hl hrun, euclidDepth_le h x.length⟩

theorem C11_round_f32_manhattan_distance (x y : List Nat) (hl : x.length = y.length)
    (hrun : (manhattanWith f32Chk (fun c => (F32.abs c.1, c.2)) (chkIn x) (chkIn y)).2 = true) :
    |toReal (manhattanDistance x y) - (List.zipWith (fun a b => |toReal a - toReal b|) x y).sum|
      ≤ ((1 + u)^(x.length + 1) - 1)
        * ((List.zipWith (fun a b => |toReal a - toReal b|) x y).map (fun z => |z|)).sum :=
  manhattanDistance_round x y hl hrun

/-- **The four vectorised kernels on bit patterns**, each under the flag of its own instrumented run
(`C11_round_simd` for `f32Arith`). -/
theorem C11_round_f32_simd (x y : List Nat) (hl : x.length = y.length) :
    ((dotSse f32Chk (chkIn x) (chkIn y)).2 = true →
      |toReal (dotSse f32Arith x y) - (List.zipWith (fun a b => toReal a * toReal b) x y).sum|
        ≤ ((1 + u)^(x.length / 16 + x.length % 16 + 6) - 1)
          * ((List.zipWith (fun a b => toReal a * toReal b) x y).map (fun z => |z|)).sum) ∧
    ((dotAvx f32Chk (chkIn x) (chkIn y)).2 = true →
      |toReal (dotAvx f32Arith x y) - (List.zipWith (fun a b => toReal a * toReal b) x y).sum|
        ≤ ((1 + u)^(x.length / 32 + x.length % 32 + 7) - 1)
          * ((List.zipWith (fun a b => toReal a * toReal b) x y).map (fun z => |z|)).sum) ∧
    ((euclidSse f32Chk (chkIn x) (chkIn y)).2 = true →
      |toReal (euclidSse f32Arith x y)
          - (List.zipWith (fun a b => (toReal a - toReal b) * (toReal a - toReal b)) x y).sum|
        ≤ ((1 + u)^(x.length / 16 + x.length % 16 + 8) - 1)
          * ((List.zipWith (fun a b => (toReal a - toReal b) * (toReal a - toReal b)) x y).map
              (fun z => |z|)).sum) ∧
    ((euclidAvx f32Chk (chkIn x) (chkIn y)).2 = true →
      |toReal (euclidAvx f32Arith x y)
          - (List.zipWith (fun a b => (toReal a - toReal b) * (toReal a - toReal b)) x y).sum|
        ≤ ((1 + u)^(x.length / 32 + x.length % 32 + 9) - 1)
          * ((List.zipWith (fun a b => (toReal a - toReal b) * (toReal a - toReal b)) x y).map
              (fun z => |z|)).sum) :=
  ⟨dotSse_round_chk f32_chk_model x y hl, dotAvx_round_chk f32_chk_model x y hl,
   euclidSse_round_chk f32_chk_model x y hl, euclidAvx_round_chk f32_chk_model x y hl⟩

/-- The explicit conditions on the partial sums (`PartialSumsOK`, the hypothesis of `C11_round_f32_dot` …)
follow from the flag of the instrumented summation: a flag once lowered stays lowered, so every addition
passed its check. -/
theorem partialSumsOK_of_flag {α : Type} {A : Arith α} {C : Checks α} {val : α → ℝ} {P : ℝ → Prop}
    (hC : ∀ a b, C.add a b = true → P (val a + val b)) :
    ∀ (terms : List α) (acc : α × Bool), ((chkIn terms).foldl (chkArith A C).add acc).2 = true →
      acc.2 = true ∧ PartialSumsOK A val P acc.1 terms
  | [], _, h => ⟨h, trivial⟩
  | t :: ts, acc, h => by
    obtain ⟨hs, hrest⟩ := partialSumsOK_of_flag hC ts ((chkArith A C).add acc (t, true)) h
    obtain ⟨h1, -, h3⟩ := and3_true hs
    exact ⟨h1, hC _ _ h3, hrest⟩

section examples

/-- `unpack` of a literal is evaluated by the kernel; `V` has no decidable equality, so the three
components are compared one by one -/
theorem unpack_eq_fin {x : Nat} {n : Bool} {m : Nat} {e : Int}
    (h : (match unpack f32 x with
      | .fin n' m' e' => decide (n' = n ∧ m' = m ∧ e' = e)
      | _ => false) = true) : unpack f32 x = .fin n m e := by
  cases hu : unpack f32 x with
  | nan => rw [hu] at h; cases h
  | inf s => rw [hu] at h; cases h
  | fin n' m' e' =>
    rw [hu] at h
    obtain ⟨rfl, rfl, rfl⟩ := of_decide_eq_true h
    rfl

-- `1 + 2^-22`, `2`, `3`, `6`, `7`, `-1`, `-7`
private theorem ex_unpack_a2 : unpack f32 0x3f800002 = .fin false 8388610 (-23) := unpack_eq_fin (by decide +kernel)
private theorem ex_unpack_2 : unpack f32 0x40000000 = .fin false 8388608 (-22) := unpack_eq_fin (by decide +kernel)
private theorem ex_unpack_3 : unpack f32 0x40400000 = .fin false 12582912 (-22) := unpack_eq_fin (by decide +kernel)
private theorem ex_unpack_6 : unpack f32 0x40c00000 = .fin false 12582912 (-21) := unpack_eq_fin (by decide +kernel)
private theorem ex_unpack_7 : unpack f32 0x40e00000 = .fin false 14680064 (-21) := unpack_eq_fin (by decide +kernel)
private theorem ex_unpack_m1 : unpack f32 0xbf800000 = .fin true 8388608 (-23) := unpack_eq_fin (by decide +kernel)
private theorem ex_unpack_m7 : unpack f32 0xc0e00000 = .fin true 14680064 (-21) := unpack_eq_fin (by decide +kernel)

-- the product rounds: `(1 + 2^-23)² = 1 + 2^-22 + 2^-46` becomes `1 + 2^-22`
private theorem ex_mul_aa : F32.mul 0x3f800001 0x3f800001 = 0x3f800002 := by decide +kernel

-- On concrete operands the side conditions are read off the Boolean checks (`C11_f32_checks_sound`).
private theorem ex_normal_aa : NormalOrZero (toReal 0x3f800001 * toReal 0x3f800001) :=
  (chk_mul_sound _ _ (by decide +kernel)).2.2

/-- `C11_mul_std` applies to `0x3f800001 * 0x3f800001`, a product that is not representable -/
example : Finite (F32.mul 0x3f800001 0x3f800001) ∧ ∃ δ : ℝ, |δ| ≤ u ∧
    toReal (F32.mul 0x3f800001 0x3f800001) = toReal 0x3f800001 * toReal 0x3f800001 * (1 + δ) :=
  C11_mul_std _ _ (by decide) (by decide) ex_normal_aa

/-- `C11_add_std`: `(1 + 2^-22) + 6` is a tie and rounds to `7.0` -/
example : F32.add 0x3f800002 0x40c00000 = 0x40e00000 ∧ ∃ δ : ℝ, |δ| ≤ u ∧
    toReal (F32.add 0x3f800002 0x40c00000) = (toReal 0x3f800002 + toReal 0x40c00000) * (1 + δ) :=
  ⟨by decide +kernel,
   (C11_add_std _ _ (by decide) (by decide) (chk_add_sound _ _ (by decide +kernel)).2.2).2⟩

/-- `C11_sub_std`, exact-zero branch: `7 - 7 = +0` -/
example : ∃ δ : ℝ, |δ| ≤ u ∧
    toReal (F32.sub 0x40e00000 0x40e00000) = (toReal 0x40e00000 - toReal 0x40e00000) * (1 + δ) :=
  (C11_sub_std _ _ (by decide) (by decide) (Or.inl (sub_self _))).2

/-- `C11_fma_std`: `fma(a, a, -1) = 2^-22 + 2^-46` (exactly representable: the fused operation does not
round the product) -/
example : ∃ δ : ℝ, |δ| ≤ u ∧ toReal (F32.fma 0x3f800001 0x3f800001 0xbf800000)
    = (toReal 0x3f800001 * toReal 0x3f800001 + toReal 0xbf800000) * (1 + δ) :=
  (C11_fma_std _ _ _ (by decide) (by decide) (by decide) (chk_fma_sound _ _ _ (by decide +kernel)).2.2.2).2

/-- `C11_round_f32_dot` applies to `⟨1+2^-23, 2, -1⟩ · ⟨1+2^-23, 3, 7⟩`: the first product rounds, the
second partial sum `(1 + 2^-22) + 6` rounds (to `7`), the last partial sum `7 + (-7)` is an exact zero;
the computed result is `+0.0`, the exact one `2^-22 + 2^-46`. -/
example :
    dotScalar f32Arith [0x3f800001, 0x40000000, 0xbf800000] [0x3f800001, 0x40400000, 0x40e00000] = 0 ∧
    |toReal (dotScalar f32Arith [0x3f800001, 0x40000000, 0xbf800000] [0x3f800001, 0x40400000, 0x40e00000])
      - (List.zipWith (fun a b => toReal a * toReal b)
          [0x3f800001, 0x40000000, 0xbf800000] [0x3f800001, 0x40400000, 0x40e00000]).sum|
      ≤ ((1 + u)^(3 + 1) - 1)
        * ((List.zipWith (fun a b => toReal a * toReal b)
            [0x3f800001, 0x40000000, 0xbf800000] [0x3f800001, 0x40400000, 0x40e00000]).map
              (fun t => |t|)).sum :=
  ⟨by decide +kernel,
   (C11_round_f32_dot _ _ 3 rfl rfl (by decide) (by decide)
    (fun p hp => (chk_mul_sound _ _ ((by decide +kernel : ∀ p ∈ List.zip [0x3f800001, 0x40000000, 0xbf800000]
      [0x3f800001, 0x40400000, 0x40e00000], f32Checks.mul p.1 p.2 = true) p hp)).2.2)
    (partialSumsOK_of_flag (fun a b h => (chk_add_sound a b h).2.2) _ (F32.negZero, true)
      (by decide +kernel)).2).2⟩

/-- The normal-range hypothesis cannot be dropped: `2^-126·(1 + 2^-23) · 0.5` is a tie in the subnormal
range and rounds to `2^-127`: `1 + δ = 2^23/(2^23 + 1)`, a relative error of about `2^-23 > u`. -/
example : ¬ ∃ δ : ℝ, |δ| ≤ u ∧
    toReal (F32.mul 0x00800001 0x3f000000) = toReal 0x00800001 * toReal 0x3f000000 * (1 + δ) := by
  have h1 : F32.mul 0x00800001 0x3f000000 = 0x00400000 := by decide +kernel
  have u1 : unpack f32 0x00800001 = .fin false 8388609 (-149) := unpack_eq_fin (by decide +kernel)
  have u2 : unpack f32 0x3f000000 = .fin false 8388608 (-24) := unpack_eq_fin (by decide +kernel)
  have u3 : unpack f32 0x00400000 = .fin false 4194304 (-149) := unpack_eq_fin (by decide +kernel)
  rintro ⟨δ, hδ, h⟩
  rw [h1, toReal_of_unpack u1, toReal_of_unpack u2, toReal_of_unpack u3] at h
  simp only [sgn, Bool.false_eq_true, if_false, one_mul, Nat.cast_ofNat] at h
  have hE : (2 : ℝ) ^ (-149 : ℤ) ≠ 0 := by positivity
  have h' : (4194304 : ℝ) = 8388609 * (8388608 * u) * (1 + δ) :=
    mul_right_cancel₀ hE (by rw [h]; unfold u; ring)
  have hu : u = 1 / 16777216 := by unfold u; norm_num
  rw [hu] at h' hδ
  linarith only [h', (abs_le.mp hδ).1]

/-- `C11_roundPack_real` with a set sticky bit: `2^24 + 1 + ½` rounds up to `2^24 + 2` (without the
sticky bit `2^24 + 1` is a tie and rounds down to `2^24`) -/
example : roundPack f32 false 16777217 0 true = 0x4b800001 ∧ roundPack f32 false 16777217 0 false = 0x4b800000 ∧
    ∃ δ : ℝ, |δ| ≤ u ∧ toReal (roundPack f32 false 16777217 0 true)
      = sgn false * ((((16777217 : ℕ) : ℝ) + 1 / 2) * (2 : ℝ) ^ (0 : ℤ)) * (1 + δ) :=
  ⟨by decide +kernel, by decide +kernel,
   (C11_roundPack_real false 16777217 0 true (1 / 2) (by decide) (by norm_num) (by norm_num)
    (fun h => by cases h) (fun _ => by decide) (by unfold NormalRange sgn; norm_num)).2⟩

private theorem ex_unpack_1 : unpack f32 0x3f800000 = .fin false 8388608 (-23) := unpack_eq_fin (by decide +kernel)

/-- `C11_div_std`: `1 / 3 = 0x3eaaaaab` (rounded up) -/
example : F32.div 0x3f800000 0x40400000 = 0x3eaaaaab ∧ ∃ δ : ℝ, |δ| ≤ u ∧
    toReal (F32.div 0x3f800000 0x40400000) = toReal 0x3f800000 / toReal 0x40400000 * (1 + δ) := by
  have h3 : toReal 0x40400000 = 3 := by
    rw [toReal_of_unpack ex_unpack_3]; unfold sgn; norm_num
  have h1 : toReal 0x3f800000 = 1 := by
    rw [toReal_of_unpack ex_unpack_1]; unfold sgn; norm_num
  refine ⟨by decide +kernel, (C11_div_std _ _ (by decide) (by decide) (by rw [h3]; norm_num) ?_).2⟩
  right
  rw [h1, h3]
  unfold NormalRange
  norm_num

/-- `C11_sqrt_std`: `√2 = 0x3fb504f3` -/
example : F32.sqrt 0x40000000 = 0x3fb504f3 ∧ ∃ δ : ℝ, |δ| ≤ u ∧
    toReal (F32.sqrt 0x40000000) = Real.sqrt (toReal 0x40000000) * (1 + δ) := by
  have h2 : toReal 0x40000000 = 2 := by
    rw [toReal_of_unpack ex_unpack_2]; unfold sgn; norm_num
  refine ⟨by decide +kernel, (C11_sqrt_std _ (by decide) (by rw [h2]; norm_num) ?_).2⟩
  right
  rw [h2]
  have hs0 := Real.sqrt_nonneg 2
  have hs1 : (1 : ℝ) ≤ Real.sqrt 2 := by
    rw [Real.le_sqrt (by norm_num) (by norm_num)]; norm_num
  have hs2 : Real.sqrt 2 ≤ 2 := by
    rw [Real.sqrt_le_left (by norm_num)]; norm_num
  unfold NormalRange
  rw [abs_of_nonneg hs0]
  constructor
  · have : (2 : ℝ) ^ (-126 : ℤ) ≤ 1 := by norm_num
    linarith
  · have : (2 : ℝ) < (2 : ℝ) ^ (128 : ℤ) * (1 - (2 : ℝ) ^ (-25 : ℤ)) := by norm_num
    linarith

/-- the hypothesis `sticky → 2^24 ≤ m` of `C11_roundPack_real` cannot be dropped: with at most 24
significant bits `roundPack` does not look at the sticky bit, so `(1 + ε)·2^0` is returned as `1.0`
(relative error up to `1/2`); `div` and `sqrt` always pass more than 24 bits -/
example : roundPack f32 false 1 0 true = 0x3f800000 ∧ roundPack f32 false 1 0 false = 0x3f800000 := by
  decide +kernel

/-- `C11_abs_exact` on `-1.0` -/
example : toReal (F32.abs 0xbf800000) = |toReal 0xbf800000| := (C11_abs_exact _ (by decide)).2

-- `(1+2^-23) - 3 = -(2 - 2^-23)` (exact), `2 - 0.3f` (rounds), their squares (both round), `|-(2 - 2^-23)|`
private theorem ex_unpack_d1 : unpack f32 3221225471 = .fin true 16777215 (-23) := unpack_eq_fin (by decide +kernel)
private theorem ex_unpack_d2 : unpack f32 1071225242 = .fin false 14260634 (-23) := unpack_eq_fin (by decide +kernel)
private theorem ex_unpack_q1 : unpack f32 1082130430 = .fin false 16777214 (-22) := unpack_eq_fin (by decide +kernel)
private theorem ex_unpack_q2 : unpack f32 1077474755 = .fin false 12121539 (-22) := unpack_eq_fin (by decide +kernel)
private theorem ex_unpack_ad1 : unpack f32 1073741823 = .fin false 16777215 (-23) := unpack_eq_fin (by decide +kernel)

private theorem ex_sub1 : F32.sub 0x3f800001 0x40400000 = 3221225471 := by decide +kernel
private theorem ex_sub2 : F32.sub 0x40000000 0x3e99999a = 1071225242 := by decide +kernel

private theorem ex_diff1 : NormalOrZero (toReal 0x3f800001 - toReal 0x40400000) :=
  (chk_sub_sound _ _ (by decide +kernel)).2.2
private theorem ex_diff2 : NormalOrZero (toReal 0x40000000 - toReal 0x3e99999a) :=
  (chk_sub_sound _ _ (by decide +kernel)).2.2

/-- `C11_round_f32_euclid` applies to `⟨1+2^-23, 2⟩`, `⟨3, 0.3f⟩` (three of the five operations round) -/
example :
    |toReal (euclidScalar f32Arith [0x3f800001, 0x40000000] [0x40400000, 0x3e99999a])
      - (List.zipWith (fun a b => (toReal a - toReal b) * (toReal a - toReal b))
          [0x3f800001, 0x40000000] [0x40400000, 0x3e99999a]).sum|
      ≤ ((1 + u)^(2 + 3) - 1)
        * ((List.zipWith (fun a b => (toReal a - toReal b) * (toReal a - toReal b))
            [0x3f800001, 0x40000000] [0x40400000, 0x3e99999a]).map (fun t => |t|)).sum :=
  (C11_round_f32_euclid _ _ 2 rfl rfl (by decide) (by decide)
    (fun p hp => ⟨(chk_sub_sound _ _ ((by decide +kernel : ∀ p ∈ List.zip [0x3f800001, 0x40000000]
        [0x40400000, 0x3e99999a], f32Checks.sub p.1 p.2 = true) p hp)).2.2,
      (chk_mul_sound _ _ ((by decide +kernel : ∀ p ∈ List.zip [0x3f800001, 0x40000000]
        [0x40400000, 0x3e99999a], f32Checks.mul (F32.sub p.1 p.2) (F32.sub p.1 p.2) = true) p hp)).2.2⟩)
    (partialSumsOK_of_flag (fun a b h => (chk_add_sound a b h).2.2) _ (F32.negZero, true)
      (by decide +kernel)).2).2

/-- `C11_round_f32_manhattan` applies to the same vectors -/
example :
    |toReal (manhattanDistance [0x3f800001, 0x40000000] [0x40400000, 0x3e99999a])
      - (List.zipWith (fun a b => |toReal a - toReal b|)
          [0x3f800001, 0x40000000] [0x40400000, 0x3e99999a]).sum|
      ≤ ((1 + u)^(2 + 1) - 1)
        * ((List.zipWith (fun a b => |toReal a - toReal b|)
            [0x3f800001, 0x40000000] [0x40400000, 0x3e99999a]).map (fun t => |t|)).sum := by
  refine (C11_round_f32_manhattan _ _ 2 rfl rfl (by decide) (by decide) ?_
    (partialSumsOK_of_flag (fun a b h => (chk_add_sound a b h).2.2) _ (F32.negZero, true)
      (by decide +kernel)).2).2
  intro p hp
  simp only [List.zip_cons_cons, List.zip_nil_right, List.mem_cons, List.not_mem_nil, or_false] at hp
  rcases hp with rfl | rfl
  · exact ex_diff1
  · exact ex_diff2

/-- 37 components (remainders 5 modulo 16 and 32) between `1.0` and `1.33`, resp. `2.0` and `71.7`;
none of the products is representable -/
def exX : List Nat := (List.range 37).map (fun i => 0x3f800001 + 74565 * i)
def exY : List Nat := (List.range 37).map (fun i => 0x40000003 + 1193046 * i)

/-- The instrumented runs on `exX`, `exY` (value and flag), each evaluated once: the three inner products
of the cosine formula on the AVX path (`Host` default) and on the SSE path, the squared distance on both
paths, the Manhattan sum.  The examples of the C11 files rewrite with these. -/
theorem exXY_dotG : dotProductG f32Chk {} (chkIn exX) (chkIn exY) = (1147702448, true) := by decide +kernel
theorem exXX_dotG : dotProductG f32Chk {} (chkIn exX) (chkIn exX) = (1112046413, true) := by decide +kernel
theorem exYY_dotG : dotProductG f32Chk {} (chkIn exY) (chkIn exY) = (1189217173, true) := by decide +kernel
theorem exXY_dotG_sse : dotProductG f32Chk { avx := false } (chkIn exX) (chkIn exY) = (1147702448, true) := by
  decide +kernel
theorem exXX_dotG_sse : dotProductG f32Chk { avx := false } (chkIn exX) (chkIn exX) = (1112046413, true) := by
  decide +kernel
theorem exYY_dotG_sse : dotProductG f32Chk { avx := false } (chkIn exY) (chkIn exY) = (1189217173, true) := by
  decide +kernel
theorem exXY_euclidG : euclideanDistanceG f32Chk {} (chkIn exX) (chkIn exY) = (1188290312, true) := by
  decide +kernel
theorem exXY_euclidG_sse : euclideanDistanceG f32Chk { avx := false } (chkIn exX) (chkIn exY) = (1188290310, true) := by
  decide +kernel
theorem exXY_manhattanG :
    manhattanWith f32Chk (fun c => (F32.abs c.1, c.2)) (chkIn exX) (chkIn exY) = (1144021966, true) := by
  decide +kernel

/-- the plain runs are the first components (`C11_f32_chk_fst`) -/
theorem exXY_dot : dotProduct {} exX exY = 1147702448 := by rw [← (C11_f32_chk_fst {} exX exY).1, exXY_dotG]
theorem exXX_dot : dotProduct {} exX exX = 1112046413 := by rw [← (C11_f32_chk_fst {} exX exX).1, exXX_dotG]
theorem exYY_dot : dotProduct {} exY exY = 1189217173 := by rw [← (C11_f32_chk_fst {} exY exY).1, exYY_dotG]
theorem exXY_dot_sse : dotProduct { avx := false } exX exY = 1147702448 := by
  rw [← (C11_f32_chk_fst { avx := false } exX exY).1, exXY_dotG_sse]
theorem exXX_dot_sse : dotProduct { avx := false } exX exX = 1112046413 := by
  rw [← (C11_f32_chk_fst { avx := false } exX exX).1, exXX_dotG_sse]
theorem exYY_dot_sse : dotProduct { avx := false } exY exY = 1189217173 := by
  rw [← (C11_f32_chk_fst { avx := false } exY exY).1, exYY_dotG_sse]
theorem exXY_euclid : euclideanDistance {} exX exY = 1188290312 := by
  rw [← (C11_f32_chk_fst {} exX exY).2, exXY_euclidG]
theorem exXY_euclid_sse : euclideanDistance { avx := false } exX exY = 1188290310 := by
  rw [← (C11_f32_chk_fst { avx := false } exX exY).2, exXY_euclidG_sse]
theorem exXY_manhattan : manhattanDistance exX exY = 1144021966 := by
  rw [← C11_f32_chk_fst_manhattan exX exY, exXY_manhattanG]

/-- the AVX dot product (`Host` default), the SSE one, and the scalar one of a 15-component prefix:
no check fails, so `C11_round_f32_dot_product` applies -/
example : (dotProductG f32Chk {} (chkIn exX) (chkIn exY)).2 = true := congrArg Prod.snd exXY_dotG
example : (dotProductG f32Chk { avx := false } (chkIn exX) (chkIn exY)).2 = true := congrArg Prod.snd exXY_dotG_sse
example : (dotProductG f32Chk {} (chkIn (exX.take 15)) (chkIn (exY.take 15))).2 = true := by
  decide +kernel
example : dotDepth {} 37 = 13 ∧ dotDepth { avx := false } 37 = 13 ∧ dotDepth {} 15 = 16 := by decide

example :
    |toReal (dotProduct {} exX exY) - (List.zipWith (fun a b => toReal a * toReal b) exX exY).sum|
      ≤ ((1 + u)^13 - 1)
        * ((List.zipWith (fun a b => toReal a * toReal b) exX exY).map (fun z => |z|)).sum :=
  (C11_round_f32_dot_product {} exX exY (by decide) (congrArg Prod.snd exXY_dotG)).1

/-- the code paths give different bit patterns for the Euclidean distance of these vectors (AVX with
FMA vs. SSE), all within the bound of the exact value -/
example : euclideanDistance {} exX exY = 1188290312 ∧
    euclideanDistance { avx := false } exX exY = 1188290310 := ⟨exXY_euclid, exXY_euclid_sse⟩

/-- Euclidean and Manhattan distance of the same vectors -/
example : (euclideanDistanceG f32Chk {} (chkIn exX) (chkIn exY)).2 = true := congrArg Prod.snd exXY_euclidG
example : (euclideanDistanceG f32Chk { avx := false } (chkIn exX) (chkIn exY)).2 = true :=
  congrArg Prod.snd exXY_euclidG_sse
example : (manhattanWith f32Chk (fun c => (F32.abs c.1, c.2)) (chkIn exX) (chkIn exY)).2 = true :=
  congrArg Prod.snd exXY_manhattanG
/-- the four vectorised kernels on the 37 components (the dispatch selects the AVX pair or the SSE pair) -/
example : (dotSse f32Chk (chkIn exX) (chkIn exY)).2 = true ∧ (dotAvx f32Chk (chkIn exX) (chkIn exY)).2 = true ∧
    (euclidSse f32Chk (chkIn exX) (chkIn exY)).2 = true ∧ (euclidAvx f32Chk (chkIn exX) (chkIn exY)).2 = true :=
  ⟨congrArg Prod.snd exXY_dotG_sse, congrArg Prod.snd exXY_dotG,
   congrArg Prod.snd exXY_euclidG_sse, congrArg Prod.snd exXY_euclidG⟩

/-- the flag is lowered by an underflow (the product of the counterexample above), an overflow
(`2^127 · 2`), and by a non-finite input -/
example : (dotProductG f32Chk {} (chkIn [0x00800001]) (chkIn [0x3f000000])).2 = false := by decide +kernel
example : (dotProductG f32Chk {} (chkIn [0x7f000000]) (chkIn [0x40000000])).2 = false := by decide +kernel
example : (dotProductG f32Chk {} (chkIn [0x7f800000]) (chkIn [0x3f800000])).2 = false := by decide +kernel

end examples

end Arroy.C11
