import ArroyProofs.Properties.C11
import ArroyProofs.Properties.C11Real
import ArroyProofs.ReportedReal
import ArroyProofs.ReportedFloat
/-! # C11 — rounding-error bounds for the REPORTED Euclidean and cosine distances

`C11Real.lean` bounds the dot product, the SQUARED Euclidean distance and the Manhattan distance.  The
reader reports `sqrt` of the squared distance, and for cosine `(1 − clamp(p·q / (‖p‖·‖q‖)))/2` with the norms
`sqrt(p·p)`, `sqrt(q·q)`: each further operation rounds once (`C11_sqrt_std`, `C11_mul_std`, …), and the
real-number cores (`ReportedReal.lean`) turn that into a relative bound for Euclidean and an absolute one
for cosine. -/
namespace Arroy.C11
open Arroy Kernel SF SFR KernelRound ReportedReal

/-- `sqrt` of a finite non-negative binary32 value rounds once and needs no range condition: the root
is zero or in `[2^-75, 2^64)` -/
theorem sqrt_f32_std {a : Nat} (fa : Finite a) (h0 : 0 ≤ toReal a) :
    Finite (F32.sqrt a) ∧ ∃ δ : ℝ, |δ| ≤ u ∧ toReal (F32.sqrt a) = √(toReal a) * (1 + δ) :=
  C11_sqrt_std a fa h0 (sqrt_normalOrZero fa h0)

/-- `(1+u)^K − 1 ≤ c·M·u` for `K ≤ M ≤ N`, as soon as `c·N ≤ (c − 1)·2^24`, that is `c·(1 − N·u) ≥ 1`
(`pow_sub_one_le`, and monotonicity in the exponent) -/
theorem pow_sub_one_le_nat {K M N : Nat} {c : ℝ} (hK : K ≤ M) (hM : M ≤ N) (hc : 1 ≤ c)
    (hN : c * (N : ℝ) ≤ (c - 1) * 16777216) : (1 + u) ^ K - 1 ≤ c * ((M : ℝ) * u) := by
  have hMr : (M : ℝ) ≤ N := by exact_mod_cast hM
  have h0 := le_trans (mul_le_mul_of_nonneg_left hMr (le_trans zero_le_one hc)) hN
  have hc1 : 1 ≤ c * (1 - (M : ℝ) * u) := by rw [u_eq]; linarith only [h0]
  have hk : 0 < 1 - (M : ℝ) * u :=
    (mul_pos_iff_of_pos_left (lt_of_lt_of_le one_pos hc)).1 (lt_of_lt_of_le one_pos hc1)
  exact le_trans (sub_le_sub_right (pow_le_pow_right₀ (le_add_of_nonneg_right u_nonneg) hK) 1)
    (pow_sub_one_le u_nonneg M hk hc1)

/-- `x = (1+u)^m − 1` for `m ≤ 2048`: `x ≤ (4096/4095)·2048·u = 1/8190`, hence `2x² ≤ u` -/
theorem pow_half_small {m : Nat} (hm : m ≤ 2048) :
    (1 + u) ^ m - 1 ≤ 1 / 4 ∧ 2 * (((1 + u) ^ m - 1) * ((1 + u) ^ m - 1)) ≤ u := by
  have hx : (1 + u) ^ m - 1 ≤ 4096 / 4095 * (((2048 : ℕ) : ℝ) * u) :=
    pow_sub_one_le_nat hm le_rfl (by norm_num) (by norm_num)
  have hx' : (1 + u) ^ m - 1 ≤ 1 / 8190 := le_trans hx (le_of_eq (by rw [u_eq]; norm_num))
  have hx0 : 0 ≤ (1 + u) ^ m - 1 := sub_nonneg.2 (one_le_pow₀ (le_add_of_nonneg_right u_nonneg))
  have hsq := mul_le_mul hx' hx' hx0 (by norm_num : (0 : ℝ) ≤ 1 / 8190)
  exact ⟨by linarith only [hx'], by linarith only [hsq, u_eq]⟩

/-- real-number core of the reported Euclidean distance: `f` within `((1+u)^K − 1)·S` of `S ≥ 0` and
`r = √f·(1+δ)`.  `W = (1+u)^⌈K/2⌉` satisfies `(1+u)^K ≤ W²`, the hypothesis of `sqrt_round_half`. -/
theorem sqrt_round_pow {S f r δ : ℝ} {K : Nat} (hS : 0 ≤ S) (hb : |f - S| ≤ ((1 + u) ^ K - 1) * S)
    (hδ : |δ| ≤ u) (hr : r = √f * (1 + δ)) :
    |r - √S| ≤ ((1 + u) ^ (K + 1) - 1) * √S ∧
    r - √S ≤ ((1 + u) ^ ((K + 1) / 2 + 1) - 1) * √S ∧
    (K ≤ 4095 → |r - √S| ≤ ((1 + u) ^ ((K + 1) / 2 + 2) - 1) * √S) := by
  have hu0 := u_nonneg
  have hu1 : u ≤ 1 := by rw [u_eq]; norm_num
  have h1u : (1 : ℝ) ≤ 1 + u := le_add_of_nonneg_right hu0
  have hWa : 1 + ((1 + u) ^ K - 1) ≤ (1 + u) ^ ((K + 1) / 2) * (1 + u) ^ ((K + 1) / 2) := by
    rw [add_sub_cancel, ← pow_add]
    exact pow_le_pow_right₀ h1u (by omega)
  obtain ⟨hup, hboth⟩ := sqrt_round_half hS hu0 hu1 (one_le_pow₀ h1u) hWa hb hδ hr
  refine ⟨?_, ?_, ?_⟩
  · have := sqrt_round hS (sub_nonneg.2 (one_le_pow₀ h1u)) hu0 hu1 hb hδ hr
    rwa [add_sub_cancel, ← pow_succ] at this
  · rwa [pow_succ]
  · intro hK
    obtain ⟨hx4, hxx⟩ := pow_half_small (show (K + 1) / 2 ≤ 2048 by omega)
    have := hboth hx4 hxx
    rwa [pow_succ, pow_succ, mul_assoc]

/-- **The reported Euclidean distance** `sqrt(fl(Σ(aᵢ−bᵢ)²))`.  Hypotheses: equal lengths, and no operation
of the instrumented run of the squared distance fails its check (exactly the hypotheses of
`C11_round_f32_euclidean_distance`).  Nothing else is needed for the square root: the flag implies that the
squared distance is finite, it is non-negative, and the square root of a finite non-negative binary32
value is zero or in the normal range.  The reported value is finite, and with `S = Σ(aᵢ−bᵢ)²` (real
numbers), `K = euclidDepth h n` (`≤ n + 3`):

* `|reported − √S| ≤ ((1+u)^(K+1) − 1)·√S` (no condition on `K`);
* `reported − √S ≤ ((1+u)^((K+1)/2 + 1) − 1)·√S` (upper side, no condition on `K`);
* for `K ≤ 4095`: `|reported − √S| ≤ ((1+u)^((K+1)/2 + 2) − 1)·√S`. -/
theorem C11_round_f32_reported_euclidean (h : Host) (hdrp hdrq x y : List Nat) (dims : Nat)
    (hl : x.length = y.length)
    (hrun : (euclideanDistanceG f32Chk h (chkIn x) (chkIn y)).2 = true) :
    Metric.normalizedDistance .euclidean (Metric.builtDistance .euclidean h hdrp x hdrq y) dims
      = F32.sqrt (euclideanDistance h x y) ∧
    Finite (F32.sqrt (euclideanDistance h x y)) ∧
    |toReal (F32.sqrt (euclideanDistance h x y))
        - √((List.zipWith (fun a b => (toReal a - toReal b) * (toReal a - toReal b)) x y).sum)|
      ≤ ((1 + u) ^ (euclidDepth h x.length + 1) - 1)
        * √((List.zipWith (fun a b => (toReal a - toReal b) * (toReal a - toReal b)) x y).sum) ∧
    toReal (F32.sqrt (euclideanDistance h x y))
        - √((List.zipWith (fun a b => (toReal a - toReal b) * (toReal a - toReal b)) x y).sum)
      ≤ ((1 + u) ^ ((euclidDepth h x.length + 1) / 2 + 1) - 1)
        * √((List.zipWith (fun a b => (toReal a - toReal b) * (toReal a - toReal b)) x y).sum) ∧
    (euclidDepth h x.length ≤ 4095 →
      |toReal (F32.sqrt (euclideanDistance h x y))
          - √((List.zipWith (fun a b => (toReal a - toReal b) * (toReal a - toReal b)) x y).sum)|
        ≤ ((1 + u) ^ ((euclidDepth h x.length + 1) / 2 + 2) - 1)
          * √((List.zipWith (fun a b => (toReal a - toReal b) * (toReal a - toReal b)) x y).sum)) ∧
    euclidDepth h x.length ≤ x.length + 3 := by
  obtain ⟨fd, d0⟩ := euclideanDistance_finite h x y hrun
  have hb := euclideanDistance_round h x y hl hrun
  rw [sq_terms_abs] at hb
  obtain ⟨fr, δ, hδ, hr⟩ := sqrt_f32_std fd d0
  obtain ⟨b1, b2, b3⟩ := sqrt_round_pow (sq_terms_sum_nonneg x y) hb hδ hr
  exact ⟨rfl, fr, b1, b2, b3, euclidDepth_le h x.length⟩

/-- the value reported for the cosine metric between two stored items (headers as the writer computes
them: `norm = sqrt(dot(v, v))`); `normalizedDistance .cosine` is the identity -/
theorem C11_cosine_reported_eq (h : Host) (p q : List Nat) (dims : Nat) :
    Metric.normalizedDistance .cosine (Metric.builtDistance .cosine h (Metric.newHeader .cosine h p) p
      (Metric.newHeader .cosine h q) q) dims
    = (if F32.gt (F32.mul (F32.sqrt (dotProduct h p p)) (F32.sqrt (dotProduct h q q))) F32.epsilon = true then
        F32.div (F32.sub F32.one (F32.clamp (F32.div (dotProduct h p q)
          (F32.mul (F32.sqrt (dotProduct h p p)) (F32.sqrt (dotProduct h q q)))) F32.negOne F32.one)) F32.two
      else F32.zero) := rfl

theorem sq_sum_nonneg (p : List Nat) : 0 ≤ (p.map (fun a => toReal a * toReal a)).sum :=
  List.sum_nonneg (by intro z hz; obtain ⟨w, _, rfl⟩ := List.mem_map.mp hz; exact mul_self_nonneg _)

/-- the squared norm `fl(p·p)` against `Σaᵢ²` -/
theorem dotProduct_self_round (h : Host) (p : List Nat)
    (hpp : (dotProductG f32Chk h (chkIn p) (chkIn p)).2 = true) :
    |toReal (dotProduct h p p) - (p.map (fun a => toReal a * toReal a)).sum|
      ≤ ((1 + u) ^ dotDepth h p.length - 1) * (p.map (fun a => toReal a * toReal a)).sum := by
  have b := dotProduct_round h p p rfl hpp
  rwa [(self_terms p).1, (self_terms p).2] at b

/-- `a = (1+u)^K − 1` for a summation depth `K ≤ 65536 = 2^-8/u` -/
theorem depth_err_bounds {K : Nat} (hK : K ≤ 65536) :
    0 ≤ (1 + u) ^ K - 1 ∧ (1 + u) ^ K - 1 ≤ 256 / 255 * ((K : ℝ) * u) ∧ (1 + u) ^ K - 1 ≤ 1 / 100 := by
  have ha : (1 + u) ^ K - 1 ≤ 256 / 255 * ((K : ℝ) * u) :=
    pow_sub_one_le_nat le_rfl hK (by norm_num) (by norm_num)
  have hKr : (K : ℝ) ≤ 65536 := by exact_mod_cast hK
  refine ⟨sub_nonneg.2 (one_le_pow₀ (le_add_of_nonneg_right u_nonneg)), ha, ?_⟩
  have hKu : (K : ℝ) * u ≤ 1 / 256 := by rw [u_eq]; linarith only [hKr]
  linarith only [ha, hKu]

theorem toReal_epsilon : toReal F32.epsilon = 1 / (2 : ℝ) ^ (23 : ℕ) := by
  rw [toReal_of_unpack unpack_epsilon]
  simp only [sgn, Bool.false_eq_true, if_false, one_mul]
  rw [show (-46 : ℤ) = -(46 : ℕ) by norm_num, zpow_neg, zpow_natCast]
  norm_num

/-- the test `x > f32::EPSILON` of the cosine formula, in real numbers -/
theorem gt_epsilon_iff {x : Nat} (fx : Finite x) :
    F32.gt x F32.epsilon = true ↔ 1 / (2 : ℝ) ^ (23 : ℕ) < toReal x := by
  rw [← toReal_epsilon]
  exact lt_iff_toReal _ _ (finite_of_unpack unpack_epsilon) fx

/-- the product of two computed norms `sqrt x · sqrt y`, under the check of the multiplication alone
(a finite root has a finite non-negative argument): three roundings -/
theorem norm_product_std {x y : Nat} (hmul : f32Checks.mul (F32.sqrt x) (F32.sqrt y) = true) :
    Finite (F32.mul (F32.sqrt x) (F32.sqrt y)) ∧ ∃ δ1 δ2 δ3 : ℝ, |δ1| ≤ u ∧ |δ2| ≤ u ∧ |δ3| ≤ u ∧
      toReal (F32.mul (F32.sqrt x) (F32.sqrt y))
        = √(toReal x) * (1 + δ1) * (√(toReal y) * (1 + δ2)) * (1 + δ3) := by
  obtain ⟨fxn, fyn, hN⟩ := chk_mul_sound _ _ hmul
  obtain ⟨fx, x0⟩ := finite_of_sqrt fxn
  obtain ⟨fy, y0⟩ := finite_of_sqrt fyn
  obtain ⟨-, δ1, h1, e1⟩ := sqrt_f32_std fx x0
  obtain ⟨-, δ2, h2, e2⟩ := sqrt_f32_std fy y0
  obtain ⟨fm, δ3, h3, e3⟩ := mul_std _ _ fxn fyn hN
  rw [e1, e2] at e3
  exact ⟨fm, δ1, δ2, δ3, h1, h2, h3, e3⟩

theorem normalOrZero_gap {t : ℝ} (ht : t = 0 ∨ u ≤ 64 * t) (h4 : t ≤ 4) : NormalOrZero t :=
  ht.imp id fun hg => normalRange_of_pos hg h4

/-- a real number that is zero or in `[2^-24, 2]`, rounded once (`|δ| ≤ u`) and halved, is zero or in the
normal range -/
theorem normalOrZero_gap_half {t δ : ℝ} (ht : t = 0 ∨ u ≤ t) (h2 : t ≤ 2) (hδ : |δ| ≤ u) :
    NormalOrZero (t * (1 + δ) / 2) := by
  rcases ht with hz | hg
  · exact Or.inl (by rw [hz]; simp)
  · obtain ⟨k1, k2⟩ := round_between u_nonneg hδ hg h2
    exact Or.inr (normalRange_of_pos (by linarith only [k1, two_uu_le, u_nonneg])
      (by linarith only [k2, two_u_le_one]))

/-- `(1 − clamp(x, −1, 1)) / 2` on a finite `x`: two roundings and no range condition, because
`1 − c` for a binary32 `c ≤ 1` is zero or at least `2^-24` (`one_sub_range`) -/
theorem one_sub_clamp_half_std {x : Nat} (fx : Finite x) :
    Finite (F32.div (F32.sub F32.one (F32.clamp x F32.negOne F32.one)) F32.two) ∧
    ∃ δ5 δ6 : ℝ, |δ5| ≤ u ∧ |δ6| ≤ u ∧
      toReal (F32.div (F32.sub F32.one (F32.clamp x F32.negOne F32.one)) F32.two)
        = (1 - max (-1) (min 1 (toReal x))) * (1 + δ5) / 2 * (1 + δ6) := by
  obtain ⟨fc, ec⟩ := clamp_real fx
  obtain ⟨f1, r1⟩ := toReal_one
  obtain ⟨f2, r2⟩ := toReal_two
  obtain ⟨m1, m2⟩ := clamp_mem (toReal x)
  rw [← ec] at m1 m2 ⊢
  generalize F32.clamp x F32.negOne F32.one = c at fc m1 m2 ⊢
  have hgap := one_sub_range fc m2
  have h2 : 1 - toReal c ≤ 2 := by linarith only [m1]
  obtain ⟨fs, δ5, h5, es⟩ := sub_std _ _ f1 fc
    (by
      rw [r1]
      exact normalOrZero_gap (hgap.imp_right fun hg => by linarith only [hg, u_nonneg]) (by linarith only [h2]))
  rw [r1] at es
  obtain ⟨fr, δ6, h6, er⟩ := div_std _ _ fs f2 (by rw [r2]; norm_num)
    (by rw [es, r2]; exact normalOrZero_gap_half hgap h2 h5)
  rw [r2, es] at er
  exact ⟨fr, δ5, δ6, h5, h6, er⟩

/-- **The cosine formula on three computed inner products**, however they were summed.  `dpp`, `dqq`,
`dpq` are bit patterns within relative error `a ≤ 1/100` of `A = Σaᵢ²`, `B = Σbᵢ²` and (relative to
`T = Σ|aᵢbᵢ| ≤ √A·√B`) of `D = Σaᵢbᵢ`; the product of the norms passes the check of the multiplication and
is above `f32::EPSILON`, the quotient is in range.  The six further operations (`sqrt`, `sqrt`, `·`, `/`,
`1 − ·`, `/2`) each round once, and `cosine_core` gives the absolute error `1.04·a + 4.15·u`. -/
theorem cosine_formula_round {dpp dqq dpq : Nat} {A B D T a : ℝ}
    (hA : 0 ≤ A) (hB : 0 ≤ B) (ha0 : 0 ≤ a) (ha1 : a ≤ 1 / 100) (hDT : |D| ≤ T) (hT : T ≤ √A * √B)
    (bpp : |toReal dpp - A| ≤ a * A) (bqq : |toReal dqq - B| ≤ a * B) (bpq : |toReal dpq - D| ≤ a * T)
    (hmul : f32Checks.mul (F32.sqrt dpp) (F32.sqrt dqq) = true)
    (hgt : F32.gt (F32.mul (F32.sqrt dpp) (F32.sqrt dqq)) F32.epsilon = true)
    (hdiv : divRange dpq (F32.mul (F32.sqrt dpp) (F32.sqrt dqq)) = true) :
    0 < √A * √B ∧
    Finite (F32.div (F32.sub F32.one (F32.clamp (F32.div dpq
      (F32.mul (F32.sqrt dpp) (F32.sqrt dqq))) F32.negOne F32.one)) F32.two) ∧
    |toReal (F32.div (F32.sub F32.one (F32.clamp (F32.div dpq
        (F32.mul (F32.sqrt dpp) (F32.sqrt dqq))) F32.negOne F32.one)) F32.two)
      - (1 - D / (√A * √B)) / 2| ≤ 26 / 25 * a + 83 / 20 * u := by
  obtain ⟨fn, δ1, δ2, δ3, h1, h2, h3, en⟩ := norm_product_std hmul
  have hpos : 0 < toReal (F32.mul (F32.sqrt dpp) (F32.sqrt dqq)) :=
    lt_trans (by positivity) ((gt_epsilon_iff fn).1 hgt)
  obtain ⟨fpq, -, hne, hNdiv⟩ := divRange_sound hdiv
  obtain ⟨fct, δ4, h4, ect⟩ := div_std _ _ fpq fn hne hNdiv
  obtain ⟨fr, δ5, δ6, h5, h6, er⟩ := one_sub_clamp_half_std fct
  have core := cosine_core hA hB ha0 ha1 u_nonneg (by rw [u_eq]; norm_num) hDT hT bpp bqq bpq
    h1 h2 h3 h4 h5 h6 rfl rfl en hpos ect rfl rfl er
  exact ⟨core.1, fr, core.2⟩

/-- **The reported cosine distance.**  `p`, `q` of equal length `n`, `K = dotDepth h n ≤ n + 1` at most
`65536`.  Decidable flags: no operation of the instrumented runs of the three dot products `p·p`, `q·q`,
`p·q` fails its check; the product of the two norms `sqrt(fl(p·p))·sqrt(fl(q·q))` passes the check of the
multiplication (finite operands, exact product zero or in the normal range) and is above `f32::EPSILON`
(so the formula branch is taken); the quotient `fl(p·q) / fl(‖p‖‖q‖)` is in the normal range or zero
(`divRange`).  Then, in real numbers, `√Σaᵢ²·√Σbᵢ² > 0`, the reported value is finite, and

`|reported − (1 − Σaᵢbᵢ / (√Σaᵢ²·√Σbᵢ²)) / 2| ≤ 1.05·(K + 4)·u`   (`u = 2^-24`, absolute error; first-order
term: `K·u` from the three dot products, `4·u` from `sqrt`, `sqrt`, `·`, `/`, `1 − ·`, `/2`: the first four act
on the cosine, of absolute value at most `1`, and are halved with it, the last two on the result, at most `1`). -/
theorem C11_round_f32_cosine (h : Host) (p q : List Nat) (hl : p.length = q.length)
    (hK : dotDepth h p.length ≤ 65536)
    (hpp : (dotProductG f32Chk h (chkIn p) (chkIn p)).2 = true)
    (hqq : (dotProductG f32Chk h (chkIn q) (chkIn q)).2 = true)
    (hpq : (dotProductG f32Chk h (chkIn p) (chkIn q)).2 = true)
    (hmul : f32Checks.mul (F32.sqrt (dotProduct h p p)) (F32.sqrt (dotProduct h q q)) = true)
    (hgt : F32.gt (F32.mul (F32.sqrt (dotProduct h p p)) (F32.sqrt (dotProduct h q q))) F32.epsilon = true)
    (hdiv : divRange (dotProduct h p q)
      (F32.mul (F32.sqrt (dotProduct h p p)) (F32.sqrt (dotProduct h q q))) = true) :
    0 < √((p.map (fun a => toReal a * toReal a)).sum) * √((q.map (fun b => toReal b * toReal b)).sum) ∧
    Finite (Metric.builtDistance .cosine h (Metric.newHeader .cosine h p) p (Metric.newHeader .cosine h q) q) ∧
    |toReal (Metric.builtDistance .cosine h (Metric.newHeader .cosine h p) p (Metric.newHeader .cosine h q) q)
        - (1 - (List.zipWith (fun a b => toReal a * toReal b) p q).sum
              / (√((p.map (fun a => toReal a * toReal a)).sum) * √((q.map (fun b => toReal b * toReal b)).sum))) / 2|
      ≤ 21 / 20 * ((dotDepth h p.length : ℝ) + 4) * u ∧
    dotDepth h p.length ≤ p.length + 1 := by
  rw [show Metric.builtDistance .cosine h (Metric.newHeader .cosine h p) p (Metric.newHeader .cosine h q) q
      = F32.div (F32.sub F32.one (F32.clamp (F32.div (dotProduct h p q)
          (F32.mul (F32.sqrt (dotProduct h p p)) (F32.sqrt (dotProduct h q q)))) F32.negOne F32.one)) F32.two
    from (C11_cosine_reported_eq h p q 0).trans (if_pos hgt)]
  have bqq := dotProduct_self_round h q hqq
  rw [← hl] at bqq
  obtain ⟨ha0, ha, ha1⟩ := depth_err_bounds hK
  obtain ⟨c1, cf, c2⟩ := cosine_formula_round (sq_sum_nonneg p) (sq_sum_nonneg q) ha0 ha1
    (abs_sum_le _) (cauchy_schwarz_f32 p q) (dotProduct_self_round h p hpp) bqq
    (dotProduct_round h p q hl hpq) hmul hgt hdiv
  have hKu0 : 0 ≤ (dotDepth h p.length : ℝ) * u := mul_nonneg (Nat.cast_nonneg _) u_nonneg
  exact ⟨c1, cf, by linarith only [c2, ha, hKu0, u_nonneg], dotDepth_le h p.length⟩

/-- the flags the combined Boolean `cosineChk` stands for -/
theorem cosineChk_sound {h : Host} {p q : List Nat} (hc : cosineChk h p q = true) :
    p.length = q.length ∧ dotDepth h p.length ≤ 65536 ∧
    (dotProductG f32Chk h (chkIn p) (chkIn p)).2 = true ∧ (dotProductG f32Chk h (chkIn q) (chkIn q)).2 = true ∧
    (dotProductG f32Chk h (chkIn p) (chkIn q)).2 = true ∧
    f32Checks.mul (F32.sqrt (dotProduct h p p)) (F32.sqrt (dotProduct h q q)) = true ∧
    F32.gt (F32.mul (F32.sqrt (dotProduct h p p)) (F32.sqrt (dotProduct h q q))) F32.epsilon = true ∧
    divRange (dotProduct h p q) (F32.mul (F32.sqrt (dotProduct h p p)) (F32.sqrt (dotProduct h q q))) = true := by
  unfold cosineChk at hc
  simp only [Bool.and_eq_true, decide_eq_true_eq] at hc
  obtain ⟨⟨⟨⟨⟨⟨⟨hl, hK⟩, hpp⟩, hqq⟩, hpq⟩, hmul⟩, hgt⟩, hdiv⟩ := hc
  exact ⟨hl, hK, hpp, hqq, hpq, hmul, hgt, hdiv⟩

/-- `C11_round_f32_cosine` under the single Boolean flag, with the bound in terms of the dimension:
`|reported − (1 − cos)/2| ≤ 1.05·(n + 5)·u`. -/
theorem C11_round_f32_cosine_chk (h : Host) (p q : List Nat) (hc : cosineChk h p q = true) :
    0 < √((p.map (fun a => toReal a * toReal a)).sum) * √((q.map (fun b => toReal b * toReal b)).sum) ∧
    Finite (Metric.builtDistance .cosine h (Metric.newHeader .cosine h p) p (Metric.newHeader .cosine h q) q) ∧
    |toReal (Metric.builtDistance .cosine h (Metric.newHeader .cosine h p) p (Metric.newHeader .cosine h q) q)
        - (1 - (List.zipWith (fun a b => toReal a * toReal b) p q).sum
              / (√((p.map (fun a => toReal a * toReal a)).sum) * √((q.map (fun b => toReal b * toReal b)).sum))) / 2|
      ≤ 21 / 20 * ((p.length : ℝ) + 5) * u := by
  obtain ⟨hl, hK, hpp, hqq, hpq, hmul, hgt, hdiv⟩ := cosineChk_sound hc
  obtain ⟨c1, cf, c2, c3⟩ := C11_round_f32_cosine h p q hl hK hpp hqq hpq hmul hgt hdiv
  refine ⟨c1, cf, le_trans c2 ?_⟩
  have hK' : (dotDepth h p.length : ℝ) ≤ (p.length : ℝ) + 1 := by exact_mod_cast c3
  exact mul_le_mul_of_nonneg_right
    (mul_le_mul_of_nonneg_left (by linarith only [hK']) (by norm_num)) u_nonneg

/-- **Zero norm.**  If every component of `p`, or every component of `q`, is `+0.0` or `-0.0`, the reported
cosine distance is exactly `+0.0` (bits `0`): the computed norm is `±0`, its product with the other norm
is `±0` or NaN, which is not above `f32::EPSILON`.  (Any lengths, any other vector — NaN and infinite
components included.) -/
theorem C11_cosine_zero_norm (h : Host) (p q : List Nat) (dims : Nat)
    (hz : (∀ x ∈ p, x = F32.zero ∨ x = F32.negZero) ∨ (∀ x ∈ q, x = F32.zero ∨ x = F32.negZero)) :
    Metric.builtDistance .cosine h (Metric.newHeader .cosine h p) p (Metric.newHeader .cosine h q) q = F32.zero ∧
    Metric.normalizedDistance .cosine (Metric.builtDistance .cosine h (Metric.newHeader .cosine h p) p
      (Metric.newHeader .cosine h q) q) dims = F32.zero := by
  have hg : ¬ F32.gt (F32.mul (F32.sqrt (dotProduct h p p)) (F32.sqrt (dotProduct h q q))) F32.epsilon = true := by
    rcases hz with hp | hq
    · rw [gt_mul_zero_left (isz_sqrt (dotProduct_isz h p p hp hp))]; simp
    · rw [gt_mul_zero_right (isz_sqrt (dotProduct_isz h q q hq hq))]; simp
  have e := C11_cosine_reported_eq h p q dims
  rw [if_neg hg] at e
  exact ⟨e, e⟩

/-- **Range, in real numbers**: whenever the cosine distance between two stored leaves (any headers) is
not NaN it is finite and `0 ≤ value ≤ 1`. -/
theorem C11_cosine_range_real (h : Host) (ph pv qh qv : List Nat)
    (hn : F32.isNaN (Metric.builtDistance .cosine h ph pv qh qv) = false) :
    Finite (Metric.builtDistance .cosine h ph pv qh qv) ∧
    0 ≤ toReal (Metric.builtDistance .cosine h ph pv qh qv) ∧
    toReal (Metric.builtDistance .cosine h ph pv qh qv) ≤ 1 := by
  have key : F32.le F32.zero (Metric.builtDistance .cosine h ph pv qh qv) = true ∧
      F32.le (Metric.builtDistance .cosine h ph pv qh qv) F32.one = true := by
    by_cases hq : F32.isNaN (F32.div (dotProduct h pv qv)
        (F32.mul (Metric.hdrNorm .cosine ph) (Metric.hdrNorm .cosine qh))) = true
    · by_cases hg : F32.gt (F32.mul (Metric.hdrNorm .cosine ph) (Metric.hdrNorm .cosine qh)) F32.epsilon = true
      · rw [C11_cosine_nan h ph pv qh qv hg hq] at hn
        exact absurd hn (by decide)
      · have e : Metric.builtDistance .cosine h ph pv qh qv = F32.zero := by
          simp only [Metric.builtDistance]
          rw [if_neg hg]
        rw [e]; decide
    · exact C11_cosine_range h ph pv qh qv (by simpa using hq)
  have hf := finite_of_le_le key.1 key.2
  have a := le_toReal key.1 finite_zero hf
  have b := le_toReal key.2 hf toReal_one.1
  rw [show toReal F32.zero = 0 from toReal_zero] at a
  rw [toReal_one.2] at b
  exact ⟨hf, a, b⟩

section examples

/-- `⟨1+2^-23, 2⟩`, `⟨3, 0.3f⟩` (scalar path): the flag of the squared distance holds, the reported value
is `0x4027fe0c ≈ 2.62488` (exact: `√6.89…`) -/
example : (euclideanDistanceG f32Chk {} (chkIn [0x3f800001, 0x40000000]) (chkIn [0x40400000, 0x3e99999a])).2 = true := by
  decide +kernel
example : Metric.normalizedDistance .euclidean
    (Metric.builtDistance .euclidean {} [] [0x3f800001, 0x40000000] [] [0x40400000, 0x3e99999a]) 2 = 0x4027fe0c := by
  decide +kernel

example :
    |toReal (F32.sqrt (euclideanDistance {} [0x3f800001, 0x40000000] [0x40400000, 0x3e99999a]))
        - √((List.zipWith (fun a b => (toReal a - toReal b) * (toReal a - toReal b))
            [0x3f800001, 0x40000000] [0x40400000, 0x3e99999a]).sum)|
      ≤ ((1 + u) ^ ((5 + 1) / 2 + 2) - 1)
        * √((List.zipWith (fun a b => (toReal a - toReal b) * (toReal a - toReal b))
            [0x3f800001, 0x40000000] [0x40400000, 0x3e99999a]).sum) :=
  (C11_round_f32_reported_euclidean {} [] [] [0x3f800001, 0x40000000] [0x40400000, 0x3e99999a] 2 rfl
    (by decide +kernel)).2.2.2.2.1 (by decide)

/-- the 37-component vectors of `C11Real.lean` (AVX path, depth `15`, so `K' = 10`; and the SSE path) -/
example : Finite (F32.sqrt (euclideanDistance {} exX exY)) ∧ euclidDepth {} 37 = 15 ∧
    (euclideanDistanceG f32Chk {} (chkIn exX) (chkIn exY)).2 = true ∧
    Finite (F32.sqrt (euclideanDistance { avx := false } exX exY)) ∧
    (euclideanDistanceG f32Chk { avx := false } (chkIn exX) (chkIn exY)).2 = true :=
  ⟨by rw [exXY_euclid]; decide +kernel, by decide, congrArg Prod.snd exXY_euclidG,
   by rw [exXY_euclid_sse]; decide +kernel, congrArg Prod.snd exXY_euclidG_sse⟩

/-- cosine: `⟨1+2^-23, 2, -1⟩`, `⟨1+2^-23, 3, 7⟩` (scalar path; the dot product cancels to `+0`) -/
theorem cosineChk_ex3 :
    cosineChk {} [0x3f800001, 0x40000000, 0xbf800000] [0x3f800001, 0x40400000, 0x40e00000] = true := by
  decide +kernel
example : cosineChk {} [0x3f800001, 0x40000000, 0xbf800000] [0x3f800001, 0x40400000, 0x40e00000] = true :=
  cosineChk_ex3

/-- … and `C11_round_f32_cosine` itself with its hypotheses spelled out (`K = dotDepth {} 3 = 4`) -/
example :
    |toReal (Metric.builtDistance .cosine {} (Metric.newHeader .cosine {} [0x3f800001, 0x40000000, 0xbf800000])
          [0x3f800001, 0x40000000, 0xbf800000] (Metric.newHeader .cosine {} [0x3f800001, 0x40400000, 0x40e00000])
          [0x3f800001, 0x40400000, 0x40e00000])
        - (1 - (List.zipWith (fun a b => toReal a * toReal b) [0x3f800001, 0x40000000, 0xbf800000]
                  [0x3f800001, 0x40400000, 0x40e00000]).sum
              / (√(([0x3f800001, 0x40000000, 0xbf800000].map (fun a => toReal a * toReal a)).sum)
                  * √(([0x3f800001, 0x40400000, 0x40e00000].map (fun b => toReal b * toReal b)).sum))) / 2|
      ≤ 21 / 20 * ((dotDepth {} [0x3f800001, 0x40000000, 0xbf800000].length : ℝ) + 4) * u := by
  obtain ⟨hl, hK, hpp, hqq, hpq, hmul, hgt, hdiv⟩ := cosineChk_sound cosineChk_ex3
  exact (C11_round_f32_cosine _ _ _ hl hK hpp hqq hpq hmul hgt hdiv).2.2.1

/-- the flags of the cosine formula on `exX`, `exY`, from the instrumented runs evaluated in `C11Real.lean`;
what is left to compute are the two square roots, their product, the two comparisons -/
theorem cosineChk_exXY : cosineChk {} exX exY = true := by
  unfold cosineChk
  rw [exXX_dotG, exYY_dotG, exXY_dotG, exXX_dot, exYY_dot, exXY_dot]
  decide +kernel
theorem cosineChk_exXY_sse : cosineChk { avx := false } exX exY = true := by
  unfold cosineChk
  rw [exXX_dotG_sse, exYY_dotG_sse, exXY_dotG_sse, exXX_dot_sse, exYY_dot_sse, exXY_dot_sse]
  decide +kernel

/-- … and the reported value (the same bit pattern on both paths: so are the three inner products) -/
theorem exXY_cosine : Metric.builtDistance .cosine {} (Metric.newHeader .cosine {} exX) exX
    (Metric.newHeader .cosine {} exY) exY = 1038677796 := by
  rw [show Metric.builtDistance .cosine {} (Metric.newHeader .cosine {} exX) exX (Metric.newHeader .cosine {} exY) exY
    = _ from C11_cosine_reported_eq {} exX exY 0, exXX_dot, exYY_dot, exXY_dot]
  decide +kernel
theorem exXY_cosine_sse : Metric.builtDistance .cosine { avx := false } (Metric.newHeader .cosine { avx := false } exX) exX
    (Metric.newHeader .cosine { avx := false } exY) exY = 1038677796 := by
  rw [show Metric.builtDistance .cosine { avx := false } (Metric.newHeader .cosine { avx := false } exX) exX
      (Metric.newHeader .cosine { avx := false } exY) exY
    = _ from C11_cosine_reported_eq { avx := false } exX exY 0, exXX_dot_sse, exYY_dot_sse, exXY_dot_sse]
  decide +kernel

/-- cosine of the 37-component vectors: all flags hold on the AVX, SSE and (for a 15-component prefix)
scalar paths -/
example : cosineChk {} exX exY = true ∧ cosineChk { avx := false } exX exY = true ∧
    cosineChk {} (exX.take 15) (exY.take 15) = true := ⟨cosineChk_exXY, cosineChk_exXY_sse, by decide +kernel⟩

example :
    |toReal (Metric.builtDistance .cosine {} (Metric.newHeader .cosine {} exX) exX (Metric.newHeader .cosine {} exY) exY)
        - (1 - (List.zipWith (fun a b => toReal a * toReal b) exX exY).sum
              / (√((exX.map (fun a => toReal a * toReal a)).sum) * √((exY.map (fun b => toReal b * toReal b)).sum))) / 2|
      ≤ 21 / 20 * ((exX.length : ℝ) + 5) * u :=
  (C11_round_f32_cosine_chk {} exX exY cosineChk_exXY).2.2

/-- orthogonal unit vectors: reported `0.5` exactly; the flags hold -/
example : cosineChk {} [F32.one, F32.zero] [F32.zero, F32.one] = true ∧
    Metric.builtDistance .cosine {} (Metric.newHeader .cosine {} [F32.one, F32.zero]) [F32.one, F32.zero]
      (Metric.newHeader .cosine {} [F32.zero, F32.one]) [F32.zero, F32.one] = 0x3f000000 := by decide +kernel

/-- the flags are lowered: by a zero vector (norm product not above `EPSILON`), by an overflow in `p·p`
(`2^127·2^127`), by a quotient that underflows (`p = ⟨1.4·2^63, 2^-63⟩`, `q = ⟨0, 1⟩`: the three dot
products and the norm product are fine, `p·q / (‖p‖‖q‖) = 2^-126/1.4` is subnormal — only `divRange` fails) -/
example : cosineChk {} [F32.zero, F32.negZero] [F32.one, F32.two] = false := by decide +kernel
example : cosineChk {} [0x7f000000] [F32.one] = false := by decide +kernel
example : cosineChk {} [0x5f333333, 0x20000000] [F32.zero, F32.one] = false ∧
    divRange (dotProduct {} [0x5f333333, 0x20000000] [F32.zero, F32.one])
      (F32.mul (F32.sqrt (dotProduct {} [0x5f333333, 0x20000000] [0x5f333333, 0x20000000]))
        (F32.sqrt (dotProduct {} [F32.zero, F32.one] [F32.zero, F32.one]))) = false ∧
    F32.div (dotProduct {} [0x5f333333, 0x20000000] [F32.zero, F32.one])
      (F32.mul (F32.sqrt (dotProduct {} [0x5f333333, 0x20000000] [0x5f333333, 0x20000000]))
        (F32.sqrt (dotProduct {} [F32.zero, F32.one] [F32.zero, F32.one]))) = 0x005b6db7 := by decide +kernel

/-- `C11_cosine_zero_norm`: `p = ⟨+0, -0, +0⟩` against a vector with an infinite and a NaN component -/
example : Metric.builtDistance .cosine {} (Metric.newHeader .cosine {} [F32.zero, F32.negZero, F32.zero])
      [F32.zero, F32.negZero, F32.zero] (Metric.newHeader .cosine {} [F32.inf, 0x7fc00000, F32.one])
      [F32.inf, 0x7fc00000, F32.one] = F32.zero :=
  (C11_cosine_zero_norm {} _ _ 3 (Or.inl (by decide))).1

/-- the hypothesis of `C11_cosine_range_real` holds on a concrete pair -/
example : F32.isNaN (Metric.builtDistance .cosine {} (Metric.newHeader .cosine {} [F32.one, F32.two])
    [F32.one, F32.two] (Metric.newHeader .cosine {} [F32.two, F32.one]) [F32.two, F32.one]) = false := by
  decide +kernel

/-- … and its hypothesis cannot be dropped: an infinite component makes the reported value NaN
(`inf / inf`); a NaN component, by contrast, makes the norm NaN, `NaN > EPSILON` is false, and `+0.0` is
reported -/
example : F32.isNaN (Metric.builtDistance .cosine {} (Metric.newHeader .cosine {} [F32.inf])
    [F32.inf] (Metric.newHeader .cosine {} [F32.one]) [F32.one]) = true := by
  decide +kernel
example : Metric.builtDistance .cosine {} (Metric.newHeader .cosine {} [0x7fc00000, F32.one])
    [0x7fc00000, F32.one] (Metric.newHeader .cosine {} [F32.two, F32.one]) [F32.two, F32.one] = F32.zero := by
  decide +kernel

end examples

end Arroy.C11
