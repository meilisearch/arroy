import ArroyProofs.Properties.C11Reported
/-! # C11 — the REPORTED Manhattan and dot-product values, symmetry and self distance of the reported values

The two remaining f32 metrics taken through `normalized_distance`: for Manhattan
`if d.is_nan() { d } else { d.max(0.0) }` is the identity because a sum of absolute values is NaN or `≥ 0`
on bit patterns; for the dot metric `-(-x)` is `x` bit for bit.  So the reported values are the kernels'
values and inherit their bounds. -/
namespace Arroy.C11
open Arroy Kernel SF SFR KernelRound ReportedReal

/-- bit patterns strictly between `+inf` and `2^31` are NaN -/
theorem isNaN_of_gt_inf {x : Nat} (h1 : 0x7f800000 < x) (h2 : x < 2 ^ 31) : F32.isNaN x = true := by
  have e1 : x / 2 ^ (F32.fmt.p - 1) % 2 ^ F32.fmt.ebits = F32.fmt.emaxField := by
    show x / 2 ^ 23 % 2 ^ 8 = 255
    omega
  have e2 : ¬ (x % 2 ^ (F32.fmt.p - 1) = 0) := by
    show ¬ (x % 2 ^ 23 = 0)
    omega
  unfold F32.isNaN SF.isNaN SF.unpack
  simp only [e1, beq_self_eq_true, if_true, beq_iff_eq, if_neg e2]

/-- `|x|` (clear bit 31) is NaN or a non-negative number, for every bit pattern -/
theorem nn_abs (a : Nat) : F32M.NN (F32.abs a) := by
  have hlt : F32.abs a < 2 ^ 31 := by
    show a % 2 ^ (F32.fmt.width - 1) < 2 ^ 31
    exact Nat.mod_lt _ (by decide)
  by_cases h : F32.abs a ≤ 0x7f800000
  · exact F32M.nn_of_le_inf h
  · exact Or.inl (isNaN_of_gt_inf (by omega) hlt)

/-- **the Manhattan kernel returns NaN or a non-negative number** (`-0.0` for empty input), all inputs -/
theorem manhattanDistance_nn (p q : List Nat) : F32M.NN (manhattanDistance p q) := by
  unfold manhattanDistance manhattanWith
  apply foldl_pred F32M.NN _ F32M.NN (fun x y hx hy => F32M.nn_add hx hy) _ _ F32M.nn_negZero
  intro x hx
  obtain ⟨a, b, rfl⟩ := F32M.exists_of_mem_zipWith _ p q x hx
  exact nn_abs _

/-- on a value that is NaN or `≥ 0`, `if d.is_nan() { d } else { d.max(0.0) }` returns `d` itself -/
theorem max_zero_of_nn {d : Nat} (h : F32M.NN d) :
    (if F32.isNaN d = true then d else F32.max d F32.zero) = d := by
  rcases h with h | h
  · rw [if_pos h]
  · have h' : (!(SF.isNaN F32.fmt F32.zero) && !(SF.isNaN F32.fmt d) && !(SF.lt F32.fmt d F32.zero)) = true := h
    simp only [Bool.and_eq_true, Bool.not_eq_true'] at h'
    obtain ⟨⟨h0, hd⟩, hlt⟩ := h'
    have hd' : F32.isNaN d = false := hd
    rw [if_neg (by rw [hd']; exact Bool.false_ne_true)]
    show SF.max F32.fmt d F32.zero = d
    unfold SF.max
    rw [hd, h0, hlt]
    simp

/-- **The reported Manhattan distance IS the kernel's value**, bit for bit, for all inputs (any lengths,
NaN and infinite components included): `normalized_distance` of the Manhattan metric
(`if d.is_nan() { d } else { d.max(0.0) }`) never changes the sum of absolute values. -/
theorem C11_reported_manhattan_eq (h : Host) (hp hq p q : List Nat) (dims : Nat) :
    Metric.normalizedDistance .manhattan (Metric.builtDistance .manhattan h hp p hq q) dims
      = manhattanDistance p q :=
  max_zero_of_nn (manhattanDistance_nn p q)

/-- the flag of `C11_round_f32_manhattan_distance` implies that the sum is finite and non-negative -/
theorem manhattanDistance_finite (x y : List Nat)
    (hrun : (manhattanWith f32Chk (fun c => (F32.abs c.1, c.2)) (chkIn x) (chkIn y)).2 = true) :
    Finite (manhattanDistance x y) ∧ 0 ≤ toReal (manhattanDistance x y) := by
  have hok : FinOK (manhattanWith f32Chk (fun c => (F32.abs c.1, c.2)) (chkIn x) (chkIn y)) := by
    unfold manhattanWith
    exact foldl_pred FinOK _ (fun _ => True) (fun a b _ _ => finok_add a b) _ _ finok_sumInit
      (fun _ _ => trivial)
  have hf := hok hrun
  rw [C11_f32_chk_fst_manhattan] at hf
  exact ⟨hf, toReal_nonneg_of_nn (manhattanDistance_nn x y) hf⟩

/-- the terms `|aᵢ−bᵢ|` are their own absolute values -/
theorem abs_terms_abs (x y : List Nat) :
    (List.zipWith (fun a b => |toReal a - toReal b|) x y).map (fun z => |z|)
      = List.zipWith (fun a b => |toReal a - toReal b|) x y := by
  rw [List.map_zipWith]
  congr 1
  funext a b
  exact abs_abs _

/-- **The reported Manhattan distance.**  Hypotheses: equal lengths, and no operation of the instrumented
run of the sum fails its check (exactly the hypotheses of `C11_round_f32_manhattan_distance`).  Then the
value the reader reports equals the kernel's sum (this part holds without the flag,
`C11_reported_manhattan_eq`), it is finite and non-negative, and with `n` the dimension

`|reported − Σ|aᵢ−bᵢ|| ≤ ((1+u)^(n+1) − 1)·Σ|aᵢ−bᵢ|`. -/
theorem C11_round_f32_reported_manhattan (h : Host) (hp hq p q : List Nat) (dims : Nat)
    (hl : p.length = q.length)
    (hrun : (manhattanWith f32Chk (fun c => (F32.abs c.1, c.2)) (chkIn p) (chkIn q)).2 = true) :
    Metric.normalizedDistance .manhattan (Metric.builtDistance .manhattan h hp p hq q) dims
      = manhattanDistance p q ∧
    Finite (Metric.normalizedDistance .manhattan (Metric.builtDistance .manhattan h hp p hq q) dims) ∧
    0 ≤ toReal (Metric.normalizedDistance .manhattan (Metric.builtDistance .manhattan h hp p hq q) dims) ∧
    |toReal (Metric.normalizedDistance .manhattan (Metric.builtDistance .manhattan h hp p hq q) dims)
        - (List.zipWith (fun a b => |toReal a - toReal b|) p q).sum|
      ≤ ((1 + u) ^ (p.length + 1) - 1) * (List.zipWith (fun a b => |toReal a - toReal b|) p q).sum := by
  have e := C11_reported_manhattan_eq h hp hq p q dims
  obtain ⟨hf, h0⟩ := manhattanDistance_finite p q hrun
  have hb := C11_round_f32_manhattan_distance p q hl hrun
  rw [abs_terms_abs] at hb
  rw [e]
  exact ⟨rfl, hf, h0, hb⟩

/-- **the model's `-(-x)` is `x`, bit for bit**, for every bit pattern (negation flips bit 31 and nothing
else: the sign of a zero, an infinity or a NaN is flipped back, payloads untouched) -/
theorem C11_neg_neg (x : Nat) : F32.neg (F32.neg x) = x := by
  unfold F32.neg SF.neg
  rw [show F32.fmt.width - 1 = 31 from rfl]
  simp only [beq_iff_eq]
  split <;> split <;> omega

/-- **The value reported for the dot-product metric is the inner product itself**, bit for bit, for all
inputs: `built_distance = -dot(p, q)`, `normalized_distance = -d`, and `-(-x) = x` in the model
(`C11_neg_neg`) — in particular the sign of a zero result is the one `dot_product` computed. -/
theorem C11_reported_dot_eq (h : Host) (hp hq p q : List Nat) (dims : Nat) :
    Metric.normalizedDistance .dot (Metric.builtDistance .dot h hp p hq q) dims = dotProduct h p q :=
  C11_neg_neg _

/-- **The reported dot-product value.**  Hypotheses: equal lengths, and no operation of the instrumented
run of the inner product fails its check (exactly the hypotheses of `C11_round_f32_dot_product`).  The
reported value is the inner product's bit pattern, it is finite, and with `K = dotDepth h n ≤ n + 1`

`|reported − Σ aᵢbᵢ| ≤ ((1+u)^K − 1)·Σ|aᵢbᵢ|`.

The reported value is a SIMILARITY: larger means nearer.  That is the `.dot` clause of
`C03.C03_reported_sorted` (`Properties/C03Sorted.lean`): along an answer the reported values of the dot
metric are ordered by `≥` (`nearer .dot r1 r2`), NaN values last. -/
theorem C11_round_f32_reported_dot (h : Host) (hp hq p q : List Nat) (dims : Nat)
    (hl : p.length = q.length)
    (hrun : (dotProductG f32Chk h (chkIn p) (chkIn q)).2 = true) :
    Metric.normalizedDistance .dot (Metric.builtDistance .dot h hp p hq q) dims = dotProduct h p q ∧
    Finite (Metric.normalizedDistance .dot (Metric.builtDistance .dot h hp p hq q) dims) ∧
    |toReal (Metric.normalizedDistance .dot (Metric.builtDistance .dot h hp p hq q) dims)
        - (List.zipWith (fun a b => toReal a * toReal b) p q).sum|
      ≤ ((1 + u) ^ (dotDepth h p.length) - 1)
        * ((List.zipWith (fun a b => toReal a * toReal b) p q).map (fun z => |z|)).sum ∧
    dotDepth h p.length ≤ p.length + 1 := by
  have e := C11_reported_dot_eq h hp hq p q dims
  obtain ⟨hb, hK⟩ := C11_round_f32_dot_product h p q hl hrun
  rw [e]
  exact ⟨rfl, dotProduct_finite h p q hrun, hb, hK⟩

/-- **The reported distance is symmetric, bit for bit** — every metric (the four f32 metrics and the three
quantised ones), any two stored leaves `(ph, pv)`, `(qh, qv)` with vectors of equal length (for a quantised
metric: the same number of words), whatever the headers. -/
theorem C11_reported_symm (m : Metric) (h : Host) (ph pv qh qv : List Nat) (dims : Nat)
    (hl : pv.length = qv.length) :
    Metric.normalizedDistance m (Metric.builtDistance m h ph pv qh qv) dims
      = Metric.normalizedDistance m (Metric.builtDistance m h qh qv ph pv) dims := by
  rw [C11_symm m h ph pv qh qv hl]

/-- … in particular for two vectors `p`, `q` of equal length stored under the four f32 metrics, with the
headers `newHeader` computes (`norm = sqrt(dot(v, v))` for cosine, `0` for the dot metric, none for
Euclidean and Manhattan) -/
theorem C11_reported_symm_stored (m : Metric)
    (_hm : m = .euclidean ∨ m = .manhattan ∨ m = .cosine ∨ m = .dot)
    (h : Host) (p q : List Nat) (dims : Nat) (hl : p.length = q.length) :
    Metric.normalizedDistance m
        (Metric.builtDistance m h (Metric.newHeader m h p) p (Metric.newHeader m h q) q) dims
      = Metric.normalizedDistance m
        (Metric.builtDistance m h (Metric.newHeader m h q) q (Metric.newHeader m h p) p) dims :=
  C11_reported_symm m h _ p _ q dims hl

/-- **Reported self distance**: for a non-empty vector of finite components, Euclidean and Manhattan
report exactly `+0.0` (bits `0`) for the vector against itself, with the headers `newHeader` computes (in
fact with any headers — `C11_self_zero_euclid`, `C11_self_zero_manhattan`).  Not claimed, because false:
cosine (`C11.lean`: the quotient can be `1 − 2⁻²⁴`) and dot (the reported value is `‖v‖²`). -/
theorem C11_reported_self_zero (h : Host) (v : List Nat) (dims : Nat) (hne : v ≠ [])
    (hfin : ∀ x ∈ v, KernelF32.finite x = true) :
    Metric.normalizedDistance .euclidean
        (Metric.builtDistance .euclidean h (Metric.newHeader .euclidean h v) v
          (Metric.newHeader .euclidean h v) v) dims = F32.zero ∧
    Metric.normalizedDistance .manhattan
        (Metric.builtDistance .manhattan h (Metric.newHeader .manhattan h v) v
          (Metric.newHeader .manhattan h v) v) dims = F32.zero :=
  ⟨(C11_self_zero_euclid h v _ _ dims hne hfin).2.2, (C11_self_zero_manhattan h v _ _ dims hne hfin).2.2⟩

section examples

/-- Manhattan: `⟨1+2^-23, 2, -1⟩` against `⟨3, 0.3f, 7⟩`: the flag holds, the reported value is the kernel's -/
example : (manhattanWith f32Chk (fun c => (F32.abs c.1, c.2)) (chkIn [0x3f800001, 0x40000000, 0xbf800000])
    (chkIn [0x40400000, 0x3e99999a, 0x40e00000])).2 = true := by decide +kernel

example : Metric.normalizedDistance .manhattan (Metric.builtDistance .manhattan {} []
      [0x3f800001, 0x40000000, 0xbf800000] [] [0x40400000, 0x3e99999a, 0x40e00000]) 3
    = manhattanDistance [0x3f800001, 0x40000000, 0xbf800000] [0x40400000, 0x3e99999a, 0x40e00000] ∧
    manhattanDistance [0x3f800001, 0x40000000, 0xbf800000] [0x40400000, 0x3e99999a, 0x40e00000]
      = 0x413b3333 := by decide +kernel

example :
    |toReal (Metric.normalizedDistance .manhattan (Metric.builtDistance .manhattan {} []
          [0x3f800001, 0x40000000, 0xbf800000] [] [0x40400000, 0x3e99999a, 0x40e00000]) 3)
        - (List.zipWith (fun a b => |toReal a - toReal b|) [0x3f800001, 0x40000000, 0xbf800000]
            [0x40400000, 0x3e99999a, 0x40e00000]).sum|
      ≤ ((1 + u) ^ (3 + 1) - 1)
        * (List.zipWith (fun a b => |toReal a - toReal b|) [0x3f800001, 0x40000000, 0xbf800000]
            [0x40400000, 0x3e99999a, 0x40e00000]).sum :=
  (C11_round_f32_reported_manhattan {} [] [] [0x3f800001, 0x40000000, 0xbf800000]
    [0x40400000, 0x3e99999a, 0x40e00000] 3 rfl (by decide +kernel)).2.2.2

/-- the 37-component vectors of `C11Real.lean`: the flag holds -/
example : (manhattanWith f32Chk (fun c => (F32.abs c.1, c.2)) (chkIn exX) (chkIn exY)).2 = true :=
  congrArg Prod.snd exXY_manhattanG

/-- `C11_reported_manhattan_eq` needs no flag: NaN stays the kernel's NaN, an infinite sum stays `+inf`,
and the empty sum `-0.0` is reported as `-0.0` (the model's `max(-0.0, +0.0)` keeps the first operand) -/
example : Metric.normalizedDistance .manhattan (Metric.builtDistance .manhattan {} [] [0x7fc00001] [] [F32.one]) 1
      = manhattanDistance [0x7fc00001] [F32.one] ∧
    F32.isNaN (manhattanDistance [0x7fc00001] [F32.one]) = true ∧
    Metric.normalizedDistance .manhattan (Metric.builtDistance .manhattan {} [] [F32.inf] [] [F32.one]) 1 = F32.inf ∧
    Metric.normalizedDistance .manhattan (Metric.builtDistance .manhattan {} [] [] [] []) 0 = F32.negZero := by
  decide +kernel

/-- the identity is NOT a property of `max · 0` alone: on a negative number it returns `+0.0` — it is the
non-negativity of the sum that makes it one -/
example : Metric.normalizedDistance .manhattan F32.negOne 1 = F32.zero := by decide +kernel

/-- dot: `⟨1+2^-23, 2, -1⟩·⟨1+2^-23, 3, 7⟩` cancels to `+0.0`; reported `+0.0`, NOT `-0.0`; and a `-0.0`
inner product (`⟨-0⟩·⟨1⟩` summed from `-0.0`) is reported as `-0.0` -/
example : (dotProductG f32Chk {} (chkIn [0x3f800001, 0x40000000, 0xbf800000])
    (chkIn [0x3f800001, 0x40400000, 0x40e00000])).2 = true := by decide +kernel

example : Metric.builtDistance .dot {} [F32.zero] [0x3f800001, 0x40000000, 0xbf800000] [F32.zero]
      [0x3f800001, 0x40400000, 0x40e00000] = 0x80000000 ∧
    Metric.normalizedDistance .dot (Metric.builtDistance .dot {} [F32.zero] [0x3f800001, 0x40000000, 0xbf800000]
      [F32.zero] [0x3f800001, 0x40400000, 0x40e00000]) 3 = 0 ∧
    Metric.normalizedDistance .dot (Metric.builtDistance .dot {} [F32.zero] [F32.negZero] [F32.zero] [F32.one]) 1
      = F32.negZero := by decide +kernel

example :
    |toReal (Metric.normalizedDistance .dot (Metric.builtDistance .dot {} [F32.zero]
          [0x3f800001, 0x40000000, 0x40400000] [F32.zero] [0x3f800001, 0x40400000, 0x40e00000]) 3)
        - (List.zipWith (fun a b => toReal a * toReal b) [0x3f800001, 0x40000000, 0x40400000]
            [0x3f800001, 0x40400000, 0x40e00000]).sum|
      ≤ ((1 + u) ^ (dotDepth {} [0x3f800001, 0x40000000, 0x40400000].length) - 1)
        * ((List.zipWith (fun a b => toReal a * toReal b) [0x3f800001, 0x40000000, 0x40400000]
            [0x3f800001, 0x40400000, 0x40e00000]).map (fun z => |z|)).sum :=
  (C11_round_f32_reported_dot {} [F32.zero] [F32.zero] [0x3f800001, 0x40000000, 0x40400000]
    [0x3f800001, 0x40400000, 0x40e00000] 3 rfl (by decide +kernel)).2.2.1

/-- the 37-component vectors (AVX and SSE paths): flag and reported value -/
example : (dotProductG f32Chk {} (chkIn exX) (chkIn exY)).2 = true ∧
    (dotProductG f32Chk { avx := false } (chkIn exX) (chkIn exY)).2 = true ∧
    Metric.normalizedDistance .dot (Metric.builtDistance .dot {} (Metric.newHeader .dot {} exX) exX
      (Metric.newHeader .dot {} exY) exY) 37 = dotProduct {} exX exY :=
  ⟨congrArg Prod.snd exXY_dotG, congrArg Prod.snd exXY_dotG_sse, C11_reported_dot_eq _ _ _ _ _ _⟩

/-- `-(-x) = x` on a signalling-NaN payload, on `-0.0`, and on a pattern above `2^32` -/
example : F32.neg (F32.neg 0x7f800001) = 0x7f800001 ∧ F32.neg (F32.neg F32.negZero) = F32.negZero ∧
    F32.neg (F32.neg 0x1ffffffff) = 0x1ffffffff := by decide +kernel

/-- symmetry of the reported value on a concrete pair, each f32 metric (cosine with its stored norms) -/
example : ∀ m ∈ [Metric.euclidean, .manhattan, .cosine, .dot],
    Metric.normalizedDistance m (Metric.builtDistance m {} (Metric.newHeader m {} [0x3f800001, 0x40000000])
        [0x3f800001, 0x40000000] (Metric.newHeader m {} [0x40400000, 0x3e99999a]) [0x40400000, 0x3e99999a]) 2
      = Metric.normalizedDistance m (Metric.builtDistance m {} (Metric.newHeader m {} [0x40400000, 0x3e99999a])
        [0x40400000, 0x3e99999a] (Metric.newHeader m {} [0x3f800001, 0x40000000]) [0x3f800001, 0x40000000]) 2 ∧
    F32.isNaN (Metric.normalizedDistance m (Metric.builtDistance m {} (Metric.newHeader m {} [0x3f800001, 0x40000000])
        [0x3f800001, 0x40000000] (Metric.newHeader m {} [0x40400000, 0x3e99999a]) [0x40400000, 0x3e99999a]) 2)
      = false := by decide +kernel

/-- `C11_reported_self_zero`: its hypotheses hold on `⟨1+2^-23, 2, -7⟩`, and both reported values are `+0.0` -/
example : (∀ x ∈ [0x3f800001, 0x40000000, 0xc0e00000], KernelF32.finite x = true) ∧
    Metric.normalizedDistance .euclidean (Metric.builtDistance .euclidean {}
      (Metric.newHeader .euclidean {} [0x3f800001, 0x40000000, 0xc0e00000]) [0x3f800001, 0x40000000, 0xc0e00000]
      (Metric.newHeader .euclidean {} [0x3f800001, 0x40000000, 0xc0e00000]) [0x3f800001, 0x40000000, 0xc0e00000]) 3
      = F32.zero ∧
    Metric.normalizedDistance .manhattan (Metric.builtDistance .manhattan {}
      (Metric.newHeader .manhattan {} [0x3f800001, 0x40000000, 0xc0e00000]) [0x3f800001, 0x40000000, 0xc0e00000]
      (Metric.newHeader .manhattan {} [0x3f800001, 0x40000000, 0xc0e00000]) [0x3f800001, 0x40000000, 0xc0e00000]) 3
      = F32.zero := by decide +kernel

/-- why `C11_reported_self_zero` asks for finite components and a non-empty vector: `inf − inf` is NaN, and
the empty Manhattan sum is `-0.0` -/
example : F32.isNaN (Metric.normalizedDistance .manhattan
      (Metric.builtDistance .manhattan {} [] [F32.inf] [] [F32.inf]) 1) = true ∧
    Metric.normalizedDistance .manhattan (Metric.builtDistance .manhattan {} [] [] [] []) 0 ≠ F32.zero := by
  decide +kernel

end examples

end Arroy.C11
