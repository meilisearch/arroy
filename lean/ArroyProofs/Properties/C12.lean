import ArroyProofs.BQCosine
/-! # C12 — binary quantisation keeps exactly the sign pattern and its Hamming geometry

All theorems are for **every** component value (any natural number taken as a bit pattern: `+0.0`,
`-0.0`, NaNs of both signs, infinities, subnormals are just values; no `x < 2^32` hypothesis is needed)
and for every dimension, except where a bound is stated: the cosine theorems need `64 w < 2^62` resp.
dimension `< 2^61`, `C12_strict_monotone` needs `4 h < 2^24`, `C12_cosine_exact` one, two or four words.
`host` (CPU features) is arbitrary everywhere. -/
namespace Arroy.C12
open Arroy Generated

/-- what a component reads back as: `+1.0` iff its sign bit is clear -/
def sgn (x : Nat) : Nat := if F32.signPositive x then F32.one else F32.negOne

/-- number of positions whose sign bits differ -/
def diffSigns (xs ys : List Nat) : Nat :=
  (xs.zip ys).countP (fun p => F32.signPositive p.1 != F32.signPositive p.2)

/-- the sign pattern of a vector -/
def signs (xs : List Nat) : List Bool := xs.map F32.signPositive

/-- the three binary-quantised metrics -/
def bqMetrics : List Metric := [.bqEuclidean, .bqManhattan, .bqCosine]

/-- the leaf header the writer stores next to a quantised vector -/
def hdr (m : Metric) (host : Host) (v : List Nat) : List Nat := m.newHeader host v

/-- built distance between two stored leaves (header computed by `new_header`) -/
def built (m : Metric) (host : Host) (u v : List Nat) : Nat :=
  m.builtDistance host (hdr m host u) u (hdr m host v) v

/-- the end-to-end distance of two input vectors: quantise, build headers, distance, normalise -/
def dist (m : Metric) (host : Host) (xs ys : List Nat) : Nat :=
  m.normalizedDistance (built m host (m.fromSlice xs) (m.fromSlice ys)) xs.length

/-- BQ-cosine built distance as a function of the two word counts and `h` only:
    `(1 − pq / sqrt(64 wu · 64 wv)) / 2` with `pq = 64·min wu wv − 2h`, all in binary32 -/
def cosineOf (wu wv h : Nat) : Nat := BQL.cosineOf wu wv h

theorem diffSigns_eq (xs ys : List Nat) : diffSigns xs ys = BQL.diffSigns xs ys :=
  (BQL.diffSigns_eq_countP xs ys).symm

/-- reading back a quantised vector, truncated to the declared dimension, gives the sign values -/
theorem C12_roundtrip (xs : List Nat) :
    (BQ.unpack (BQ.pack xs)).take xs.length = xs.map sgn := by
  rw [BQL.unpack_pack]
  have : xs.length = (xs.map BQL.sgn).length := by simp
  rw [this, List.take_left]; rfl

/-- the same through `UnalignedVector::from_slice` / `to_vec` of each quantised metric -/
theorem C12_roundtrip_metric (m : Metric) (hm : m ∈ bqMetrics) (xs : List Nat) :
    (m.toVec (m.fromSlice xs)).take xs.length = xs.map sgn := by
  have : m.isBq = true := by
    simp only [bqMetrics, List.mem_cons, List.not_mem_nil, or_false] at hm
    rcases hm with rfl | rfl | rfl <;> decide
  simp only [Metric.toVec, Metric.fromSlice, this, if_true]
  exact C12_roundtrip xs

/-- number of stored words -/
theorem C12_length (xs : List Nat) : (BQ.pack xs).length = (xs.length + 63) / 64 :=
  BQL.pack_length xs

/-- the untruncated vector has 64 components per word -/
theorem C12_unpack_length (xs : List Nat) :
    (BQ.unpack (BQ.pack xs)).length = 64 * ((xs.length + 63) / 64) := by
  rw [BQL.unpack_pack]
  simp only [List.length_append, List.length_map, List.length_replicate, BQL.padBits]
  omega

/-- padding: everything beyond the declared dimension reads back as `-1.0` (the bits are 0),
    and every stored word fits in 64 bits -/
theorem C12_padding (xs : List Nat) :
    (BQ.unpack (BQ.pack xs)).drop xs.length
        = List.replicate ((64 - xs.length % 64) % 64) F32.negOne
    ∧ (∀ y ∈ (BQ.unpack (BQ.pack xs)).drop xs.length, y = F32.negOne)
    ∧ (∀ w ∈ BQ.pack xs, w < 2 ^ 64) := by
  have h : (BQ.unpack (BQ.pack xs)).drop xs.length
      = List.replicate ((64 - xs.length % 64) % 64) F32.negOne := by
    rw [BQL.unpack_pack]
    have : xs.length = (xs.map BQL.sgn).length := by simp
    rw (occs := .pos [1]) [this]
    rw [List.drop_left]; rfl
  refine ⟨h, ?_, BQL.pack_lt xs⟩
  rw [h]; intro y hy; exact (List.mem_replicate.mp hy).2

/-- packing depends on the sign bits only -/
theorem C12_sign_only (xs ys : List Nat) (h : signs xs = signs ys) : BQ.pack xs = BQ.pack ys := by
  rw [BQL.pack_eq_packBits, BQL.pack_eq_packBits]
  unfold signs at h
  rw [h]

/-- popcount of the xor of the stored words = number of differing signs (padding bits agree) -/
theorem C12_hamming (xs ys : List Nat) (hl : xs.length = ys.length) :
    BQ.hamming (BQ.pack xs) (BQ.pack ys) = diffSigns xs ys := by
  rw [diffSigns_eq]; exact BQL.hamming_pack xs ys hl

theorem C12_hamming_symm (u v : List Nat) : BQ.hamming u v = BQ.hamming v u := BQL.hamming_comm u v

theorem C12_hamming_self (u : List Nat) : BQ.hamming u u = 0 := BQL.hamming_self u

theorem C12_hamming_le (xs ys : List Nat) (hl : xs.length = ys.length) :
    BQ.hamming (BQ.pack xs) (BQ.pack ys) ≤ xs.length := by
  rw [BQL.hamming_pack xs ys hl]; exact BQL.diffSigns_le xs ys

theorem C12_hamming_zero_iff (xs ys : List Nat) (hl : xs.length = ys.length) :
    BQ.hamming (BQ.pack xs) (BQ.pack ys) = 0 ↔ signs xs = signs ys := by
  rw [BQL.hamming_pack xs ys hl]; exact BQL.diffSigns_zero_iff xs ys hl

theorem C12_diffSigns_symm (xs ys : List Nat) : diffSigns xs ys = diffSigns ys xs := by
  rw [diffSigns_eq, diffSigns_eq]; exact BQL.diffSigns_comm xs ys

/-- `squared_euclidean_distance_binary_quantized`: `4 h` (any headers) -/
theorem C12_euclid (host : Host) (ph qh u v : List Nat) :
    Metric.builtDistance .bqEuclidean host ph u qh v = F32.ofNat (4 * BQ.hamming u v) := by
  simp only [Metric.builtDistance, Nat.mul_comm]

/-- `manhattan_distance_binary_quantized`: `2 h` (any headers) -/
theorem C12_manhattan (host : Host) (ph qh u v : List Nat) :
    Metric.builtDistance .bqManhattan host ph u qh v = F32.ofNat (2 * BQ.hamming u v) := by
  simp only [Metric.builtDistance, Nat.mul_comm]

/-- `dot_product_binary_quantized`: (agreeing bits) − (differing bits) over the stored words -/
theorem C12_dot (u v : List Nat) :
    BQ.dot u v = F32.ofInt ((64 * min u.length v.length : Nat) - 2 * (BQ.hamming u v : Nat)) := rfl

theorem C12_margin (m : Metric) (hm : m ∈ bqMetrics) (host : Host) (u v : List Nat) :
    m.margin host u v = F32.ofInt ((64 * min u.length v.length : Nat) - 2 * (BQ.hamming u v : Nat)) := by
  have : m.isBq = true := by
    simp only [bqMetrics, List.mem_cons, List.not_mem_nil, or_false] at hm
    rcases hm with rfl | rfl | rfl <;> decide
  simp only [Metric.margin, this, if_true]; rfl

/-- BQ-cosine between two stored leaves: a function of the word counts and `h` (any headers:
    since the repair the stored norms are not used) -/
theorem C12_cosine (host : Host) (ph qh u v : List Nat) :
    Metric.builtDistance .bqCosine host ph u qh v = cosineOf u.length v.length (BQ.hamming u v) :=
  BQL.built_cosine host ph qh u v

/-- for `w` words (`D = 64 w < 2^62`) the product of the norms `sqrt(D·D)` is exactly `D`, and the
    distance is `(1 − (D − 2h)/D) / 2` computed in binary32 -/
theorem C12_cosine_closed (w h : Nat) (hw : 0 < w) (hb : 64 * w < 2 ^ 62) :
    cosineOf w w h
      = F32.div (F32.sub F32.one
          (F32.div (F32.ofInt ((64 * w : Nat) - 2 * (h : Nat))) (F32.ofNat (64 * w)))) F32.two :=
  BQL.cosineOf_closed w h hw hb

/-- the exactness fact behind it: `sqrt((n as f32) * (n as f32)) = n as f32` for all `n < 2^62` -/
theorem C12_norm_product_exact (n : Nat) (hn : n < 2 ^ 62) :
    F32.sqrt (F32.mul (F32.ofNat n) (F32.ofNat n)) = F32.ofNat n :=
  F32L.sqrt_mul_ofNat n hn

/-- the three built distances of quantised inputs of equal dimension, in terms of `diffSigns` -/
theorem C12_built (host : Host) (xs ys : List Nat) (hl : xs.length = ys.length) :
    built .bqEuclidean host (BQ.pack xs) (BQ.pack ys) = F32.ofNat (4 * diffSigns xs ys)
    ∧ built .bqManhattan host (BQ.pack xs) (BQ.pack ys) = F32.ofNat (2 * diffSigns xs ys)
    ∧ built .bqCosine host (BQ.pack xs) (BQ.pack ys)
        = cosineOf ((xs.length + 63) / 64) ((xs.length + 63) / 64) (diffSigns xs ys) := by
  refine ⟨?_, ?_, ?_⟩
  · rw [built, C12_euclid, C12_hamming xs ys hl]
  · rw [built, C12_manhattan, C12_hamming xs ys hl]
  · rw [built, C12_cosine, C12_hamming xs ys hl, C12_length, C12_length, ← hl]

/-- end-to-end (normalised) distances: `4h/d`, `2h/d` and the cosine value, computed in binary32 -/
theorem C12_normalized (host : Host) (xs ys : List Nat) (hl : xs.length = ys.length) :
    dist .bqEuclidean host xs ys = F32.div (F32.ofNat (4 * diffSigns xs ys)) (F32.ofNat xs.length)
    ∧ dist .bqManhattan host xs ys = F32.div (F32.ofNat (2 * diffSigns xs ys)) (F32.ofNat xs.length)
    ∧ dist .bqCosine host xs ys
        = cosineOf ((xs.length + 63) / 64) ((xs.length + 63) / 64) (diffSigns xs ys) := by
  obtain ⟨h1, h2, h3⟩ := C12_built host xs ys hl
  refine ⟨?_, ?_, ?_⟩
  · show Metric.normalizedDistance .bqEuclidean (built .bqEuclidean host (BQ.pack xs) (BQ.pack ys)) _ = _
    rw [h1]; rfl
  · show Metric.normalizedDistance .bqManhattan (built .bqManhattan host (BQ.pack xs) (BQ.pack ys)) _ = _
    rw [h2]; simp only [Metric.normalizedDistance, F32L.max_ofNat_zero]
  · show Metric.normalizedDistance .bqCosine (built .bqCosine host (BQ.pack xs) (BQ.pack ys)) _ = _
    rw [h3]; rfl

/-- every distance is a function of the number of differing signs (and the dimension) only -/
theorem C12_depends_only_on_h (m : Metric) (hm : m ∈ bqMetrics) (host : Host)
    (xs ys xs' ys' : List Nat) (hl : xs.length = ys.length) (hl' : xs'.length = ys'.length)
    (hd : xs.length = xs'.length) (hh : diffSigns xs ys = diffSigns xs' ys') :
    built m host (m.fromSlice xs) (m.fromSlice ys) = built m host (m.fromSlice xs') (m.fromSlice ys')
    ∧ dist m host xs ys = dist m host xs' ys' := by
  obtain ⟨a1, a2, a3⟩ := C12_built host xs ys hl
  obtain ⟨b1, b2, b3⟩ := C12_built host xs' ys' hl'
  obtain ⟨c1, c2, c3⟩ := C12_normalized host xs ys hl
  obtain ⟨d1, d2, d3⟩ := C12_normalized host xs' ys' hl'
  simp only [bqMetrics, List.mem_cons, List.not_mem_nil, or_false] at hm
  rcases hm with rfl | rfl | rfl
  · exact ⟨by show built _ host (BQ.pack xs) (BQ.pack ys) = built _ host (BQ.pack xs') (BQ.pack ys')
              rw [a1, b1, hh], by rw [c1, d1, hh, hd]⟩
  · exact ⟨by show built _ host (BQ.pack xs) (BQ.pack ys) = built _ host (BQ.pack xs') (BQ.pack ys')
              rw [a2, b2, hh], by rw [c2, d2, hh, hd]⟩
  · exact ⟨by show built _ host (BQ.pack xs) (BQ.pack ys) = built _ host (BQ.pack xs') (BQ.pack ys')
              rw [a3, b3, hh, hd], by rw [c3, d3, hh, hd]⟩

/-- symmetry in the two leaves, for arbitrary stored vectors -/
theorem C12_symm (m : Metric) (hm : m ∈ bqMetrics) (host : Host) (u v : List Nat) :
    built m host u v = built m host v u := by
  simp only [bqMetrics, List.mem_cons, List.not_mem_nil, or_false] at hm
  rcases hm with rfl | rfl | rfl
  · rw [built, built, C12_euclid, C12_euclid, C12_hamming_symm]
  · rw [built, built, C12_manhattan, C12_manhattan, C12_hamming_symm]
  · rw [built, built, C12_cosine, C12_cosine, C12_hamming_symm]; exact BQL.cosineOf_comm _ _ _

/-- symmetry of the end-to-end distance -/
theorem C12_symm_dist (m : Metric) (hm : m ∈ bqMetrics) (host : Host) (xs ys : List Nat)
    (hl : xs.length = ys.length) : dist m host xs ys = dist m host ys xs := by
  unfold dist
  rw [C12_symm m hm host, hl]

/-- equal sign patterns: Euclidean and Manhattan distances are `+0.0`, built and normalised
    (normalised: for a non-empty vector; `0/0` is NaN for dimension 0) -/
theorem C12_zero (host : Host) (xs ys : List Nat) (hs : signs xs = signs ys) :
    built .bqEuclidean host (BQ.pack xs) (BQ.pack ys) = 0
    ∧ built .bqManhattan host (BQ.pack xs) (BQ.pack ys) = 0
    ∧ (0 < xs.length → dist .bqEuclidean host xs ys = 0 ∧ dist .bqManhattan host xs ys = 0) := by
  have hl : xs.length = ys.length := by
    have := congrArg List.length hs
    simpa [signs] using this
  have h0 : diffSigns xs ys = 0 := by
    rw [← C12_hamming xs ys hl]; exact (C12_hamming_zero_iff xs ys hl).mpr hs
  obtain ⟨a1, a2, -⟩ := C12_built host xs ys hl
  obtain ⟨c1, c2, -⟩ := C12_normalized host xs ys hl
  rw [h0] at a1 a2 c1 c2
  refine ⟨by rw [a1]; exact F32L.ofNat_zero, by rw [a2]; exact F32L.ofNat_zero, ?_⟩
  intro hd
  rw [c1, c2]
  exact ⟨F32L.zero_div_ofNat hd, F32L.zero_div_ofNat hd⟩

/-- BQ-cosine, equal sign patterns: the distance is `+0.0` at EVERY dimension below `2^61`
    (`cos = D/D = 1` exactly). The bound is needed: from `D = 2^64` on, `D·D` overflows binary32 and
    the distance is `0.5` (or NaN). -/
theorem C12_zero_cosine (host : Host) (xs ys : List Nat) (hs : signs xs = signs ys)
    (hd : xs.length < 2 ^ 61) :
    built .bqCosine host (BQ.pack xs) (BQ.pack ys) = 0 ∧ dist .bqCosine host xs ys = 0 := by
  have hl : xs.length = ys.length := by
    have := congrArg List.length hs
    simpa [signs] using this
  have h0 : diffSigns xs ys = 0 := by
    rw [← C12_hamming xs ys hl]; exact (C12_hamming_zero_iff xs ys hl).mpr hs
  obtain ⟨-, -, a3⟩ := C12_built host xs ys hl
  obtain ⟨-, -, c3⟩ := C12_normalized host xs ys hl
  rw [h0] at a3 c3
  rw [a3, c3]
  have hw : 64 * ((xs.length + 63) / 64) < 2 ^ 62 := by omega
  exact ⟨BQL.cosineOf_self_zero _ hw, BQL.cosineOf_self_zero _ hw⟩

/-- BQ-cosine is a number in `[0, 1]` (never negative, never NaN) for every dimension below `2^61`
    and every `h` up to the padded dimension: `(D − 2h)/D` rounds into `[-1, 1]`, `1 − c` into
    `[0, 2]`, halving into `[0, 1]` -/
theorem C12_cosine_nonneg (w h : Nat) (hw : 0 < w) (hb : 64 * w < 2 ^ 62) (hh : h ≤ 64 * w) :
    F32.le F32.zero (cosineOf w w h) = true ∧ F32.le (cosineOf w w h) F32.one = true := by
  rw [cosineOf, BQL.cosineOf_closed w h hw hb]
  obtain ⟨r1, r2⟩ := F32L.ofInt_div_range (64 * w) (by omega) hb
    (((64 * w : Nat) : Int) - 2 * ((h : Nat) : Int)) (by omega)
  exact SF.half_one_sub_range r1 r2

/-- the same on vectors: built and end-to-end BQ-cosine distances lie in `[0, 1]` -/
theorem C12_cosine_nonneg_dist (host : Host) (xs ys : List Nat) (hl : xs.length = ys.length)
    (h0 : 0 < xs.length) (hd : xs.length < 2 ^ 61) :
    F32.le F32.zero (dist .bqCosine host xs ys) = true
    ∧ F32.le (dist .bqCosine host xs ys) F32.one = true := by
  obtain ⟨-, -, c3⟩ := C12_normalized host xs ys hl
  rw [c3]
  apply C12_cosine_nonneg _ _ (by omega) (by omega)
  have := BQL.diffSigns_le xs ys
  rw [diffSigns_eq]
  omega

/-- History of the finding, machine-checked: the defect of the formula BEFORE the repair
    (`pnqn = p.norm * q.norm` with `norm = sqrt(dot(v, v))` stored in the headers), as plain binary32
    arithmetic. `sqrt(128)·sqrt(128) = 0x42ffffff`, one ulp below `128.0 = 0x43000000`, so
    `cos = 128/pnqn > 1` and the distance of any 65..=128-dimensional vector to itself was
    `(1 − cos)/2 = 0xb3800000 = −5.9604645e−8`: non-zero and negative. -/
theorem C12_old_formula_defect :
    F32.mul (F32.sqrt (F32.ofNat 128)) (F32.sqrt (F32.ofNat 128)) = 0x42ffffff
    ∧ F32.ofNat 128 = 0x43000000
    ∧ F32.div (F32.sub F32.one (F32.div (F32.ofNat 128)
        (F32.mul (F32.sqrt (F32.ofNat 128)) (F32.sqrt (F32.ofNat 128))))) F32.two = 0xb3800000
    ∧ F32.lt 0xb3800000 F32.zero = true := by
  decide +kernel

/-- Euclidean / Manhattan built distances are monotone in `h`, for all `h` (round-to-nearest-even
    conversion `u32 as f32` is monotone) -/
theorem C12_monotone (h1 h2 : Nat) (h : h1 ≤ h2) :
    F32.le (F32.ofNat (4 * h1)) (F32.ofNat (4 * h2)) = true
    ∧ F32.le (F32.ofNat (2 * h1)) (F32.ofNat (2 * h2)) = true :=
  ⟨F32L.ofNat_le (by omega), F32L.ofNat_le (by omega)⟩

/-- in the exact range (`4 h < 2^24`, i.e. dimension below 4 194 304) the order is strict:
    fewer differing signs means a strictly smaller distance -/
theorem C12_strict_monotone (h1 h2 : Nat) (h : h1 < h2) (hb : 4 * h2 < 2 ^ 24) :
    F32.lt (F32.ofNat (4 * h1)) (F32.ofNat (4 * h2)) = true
    ∧ F32.lt (F32.ofNat (2 * h1)) (F32.ofNat (2 * h2)) = true :=
  ⟨F32L.ofNat_lt (by omega) hb, F32L.ofNat_lt (by omega) (by omega)⟩

/-- the same, stated on vectors: the neighbour with fewer differing signs is closer -/
theorem C12_orders_neighbours (host : Host) (q xs ys : List Nat)
    (hx : q.length = xs.length) (hy : q.length = ys.length)
    (h : diffSigns q xs ≤ diffSigns q ys) :
    F32.le (built .bqEuclidean host (BQ.pack q) (BQ.pack xs))
        (built .bqEuclidean host (BQ.pack q) (BQ.pack ys)) = true
    ∧ F32.le (built .bqManhattan host (BQ.pack q) (BQ.pack xs))
        (built .bqManhattan host (BQ.pack q) (BQ.pack ys)) = true := by
  obtain ⟨a1, a2, -⟩ := C12_built host q xs hx
  obtain ⟨b1, b2, -⟩ := C12_built host q ys hy
  rw [a1, a2, b1, b2]
  exact C12_monotone _ _ h

/-- for one, two and four words (dimensions 1..=128 and 193..=256, `D` a power of two) the cosine
    distance is exactly `h / D`: `h` over the dimension rounded up to a multiple of 64 -/
theorem C12_cosine_exact (w h : Nat) (hw : w = 1 ∨ w = 2 ∨ w = 4) (hb : h ≤ 64 * w) :
    cosineOf w w h = F32.div (F32.ofNat h) (F32.ofNat (64 * w)) := by
  rw [cosineOf, BQL.cosineOf_closed w h (by omega) (by omega)]
  rcases hw with rfl | rfl | rfl
  · exact F32L.cosine_pow2 6 h (by decide) (by decide) hb
  · exact F32L.cosine_pow2 7 h (by decide) (by decide) hb
  · exact F32L.cosine_pow2 8 h (by decide) (by decide) hb

/-! ## non-vacuity: concrete vectors with `+0.0`, `-0.0`, NaNs of both signs, infinities, a subnormal -/

/-- `+0.0, -0.0, -NaN, +inf, +NaN, -inf, min subnormal, -1.5` -/
def exA : List Nat :=
  [0x00000000, 0x80000000, 0xffc00001, 0x7f800000, 0x7fc00000, 0xff800000, 0x00000001, 0xbfc00000]
/-- same signs as `exA`, different values: `1.0, -1.0, -0.0, +0.0, +inf, -NaN, 2.0, -inf` -/
def exA' : List Nat :=
  [0x3f800000, 0xbf800000, 0x80000000, 0x00000000, 0x7f800000, 0xffc00001, 0x40000000, 0xff800000]
/-- differs from `exA` in the signs of components 0, 1 and 7 -/
def exB : List Nat :=
  [0x80000000, 0x00000000, 0xffc00001, 0x7f800000, 0x7fc00000, 0xff800000, 0x00000001, 0x3fc00000]
/-- differs from `exA` in the signs of components 2, 3 and 4 -/
def exC : List Nat :=
  [0x00000000, 0x80000000, 0x7fc00001, 0xff800000, 0xffc00000, 0xff800000, 0x00000001, 0xbfc00000]

-- the stored word: bits 0, 3, 4, 6
example : BQ.pack exA = [0b01011001] := by decide +kernel
-- C12_roundtrip / C12_roundtrip_metric on `exA`: +0.0 ↦ 1.0, -0.0 ↦ -1.0, -NaN ↦ -1.0, +inf ↦ 1.0, …
example : (BQ.unpack (BQ.pack exA)).take exA.length
    = [F32.one, F32.negOne, F32.negOne, F32.one, F32.one, F32.negOne, F32.one, F32.negOne] := by
  decide +kernel
example : exA.map sgn
    = [F32.one, F32.negOne, F32.negOne, F32.one, F32.one, F32.negOne, F32.one, F32.negOne] := by
  decide +kernel
example : Metric.bqCosine ∈ bqMetrics := by decide
-- C12_padding / C12_length / C12_unpack_length: 56 padding components, one word
example : (BQ.unpack (BQ.pack exA)).drop exA.length = List.replicate 56 F32.negOne := by decide +kernel
example : (BQ.pack (List.replicate 65 F32.negZero)).length = 2 := by decide +kernel
example : (BQ.pack (List.replicate 65 F32.zero)) = [2 ^ 64 - 1, 1] := by decide +kernel
-- C12_sign_only / C12_zero / C12_hamming_zero_iff: hypotheses hold for two different vectors
example : signs exA = signs exA' ∧ exA ≠ exA' := by decide +kernel
example : BQ.pack exA = BQ.pack exA' := C12_sign_only _ _ (by decide +kernel)
example (host : Host) : dist .bqEuclidean host exA exA' = 0 ∧ dist .bqManhattan host exA exA' = 0 :=
  (C12_zero host exA exA' (by decide +kernel)).2.2 (by decide)
example (host : Host) : dist .bqCosine host exA exA' = 0 :=
  (C12_zero_cosine host exA exA' (by decide +kernel) (by decide)).2
-- C12_hamming / C12_built / C12_normalized: h = 3, d = 8: 12, 6; 1.5, 0.75; cosine 3/64
example : exA.length = exB.length ∧ diffSigns exA exB = 3 := by decide +kernel
example : BQ.hamming (BQ.pack exA) (BQ.pack exB) = 3 := by decide +kernel
example (host : Host) : built .bqEuclidean host (BQ.pack exA) (BQ.pack exB) = 0x41400000 := by
  rw [(C12_built host exA exB (by decide)).1]; decide +kernel
example (host : Host) : dist .bqEuclidean host exA exB = 0x3fc00000
    ∧ dist .bqManhattan host exA exB = 0x3f400000 ∧ dist .bqCosine host exA exB = 0x3d400000 := by
  obtain ⟨h1, h2, h3⟩ := C12_normalized host exA exB (by decide)
  rw [h1, h2, h3]; decide +kernel
-- C12_depends_only_on_h: two different pairs at the same Hamming distance
example : diffSigns exA exB = diffSigns exA exC ∧ signs exB ≠ signs exC := by decide +kernel
example (host : Host) : dist .bqCosine host exA exB = dist .bqCosine host exA exC :=
  (C12_depends_only_on_h .bqCosine (by decide) host exA exB exA exC (by decide) (by decide) rfl
    (by decide +kernel)).2
-- C12_symm
example (host : Host) : dist .bqManhattan host exA exB = dist .bqManhattan host exB exA :=
  C12_symm_dist _ (by decide) host _ _ (by decide)
-- C12_zero_cosine at the dimension where the old formula failed: a 65-dimensional vector of `+0.0`
example (host : Host) :
    dist .bqCosine host (List.replicate 65 F32.zero) (List.replicate 65 F32.negZero |>.map F32.neg) = 0 :=
  (C12_zero_cosine host _ _ (by decide +kernel) (by decide)).2
-- C12_cosine_nonneg: hypotheses hold (3 words, h = 5)
example : F32.le F32.zero (cosineOf 3 3 5) = true ∧ F32.le (cosineOf 3 3 5) F32.one = true :=
  C12_cosine_nonneg 3 5 (by decide) (by decide) (by decide)
example (host : Host) : F32.le F32.zero (dist .bqCosine host exA exB) = true :=
  (C12_cosine_nonneg_dist host exA exB (by decide) (by decide) (by decide)).1
-- C12_old_formula_defect is closed (no hypotheses): see the statement
-- C12_cosine_closed / C12_norm_product_exact: 3 words, D = 192 (not a perfect square)
example : cosineOf 3 3 5 = 0x3cd55550 ∧ F32.sqrt (F32.mul (F32.ofNat 192) (F32.ofNat 192)) = 0x43400000 := by
  decide +kernel
-- C12_monotone / C12_strict_monotone / C12_orders_neighbours
example : F32.lt (F32.ofNat (4 * 1)) (F32.ofNat (4 * 2)) = true :=
  (C12_strict_monotone 1 2 (by decide) (by decide)).1
example : F32.le (F32.ofNat (4 * 2 ^ 30)) (F32.ofNat (4 * (2 ^ 30 + 1))) = true :=
  (C12_monotone _ _ (by omega)).1
example (host : Host) :
    F32.le (built .bqEuclidean host (BQ.pack exA) (BQ.pack exA'))
      (built .bqEuclidean host (BQ.pack exA) (BQ.pack exB)) = true :=
  (C12_orders_neighbours host exA exA' exB (by decide) (by decide) (by decide +kernel)).1
example : cosineOf 1 1 16 = 0x3e800000 := by decide +kernel   -- 16/64 = 0.25

end Arroy.C12
