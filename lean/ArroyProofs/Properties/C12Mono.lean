import ArroyProofs.Properties.C12
import ArroyProofs.F32RealOrder
/-! C12 (continued) — binary-quantised cosine orders neighbours by the number of differing signs at
every dimension below `2^61`: each step of `(1 − (D − 2h)/D) / 2` is monotone because binary32 rounding
is (`ArroyProofs/F32Mono*.lean`). -/
namespace Arroy.C12
open Arroy Generated

/-- **BQ-cosine is monotone in the number of differing signs** for every `D = 64 w < 2^62`:
`h ↦ D − 2h` is antitone, `i ↦ i as f32`, `· / (D as f32)` and `· / 2.0` are monotone and `1.0 − ·` is
antitone. (The bound `h2 ≤ 64 w` of the statement is not needed by the proof.) -/
theorem C12_monotone_cosine (w h1 h2 : Nat) (hw : 0 < w) (hb : 64 * w < 2 ^ 62) (h : h1 ≤ h2)
    (_hh : h2 ≤ 64 * w) : F32.le (cosineOf w w h1) (cosineOf w w h2) = true := by
  rw [C12_cosine_closed w h1 hw hb, C12_cosine_closed w h2 hw hb]
  apply F32M.div_two_mono
  apply F32M.sub_antitone F32.one (by decide)
  apply F32M.div_ofNat_mono (64 * w) (by omega) (by omega)
  apply F32M.ofInt_mono
  omega

/-- the same on vectors: the neighbour with fewer differing signs is at least as near, built and
end-to-end, for every dimension below `2^61` -/
theorem C12_orders_neighbours_cosine (host : Host) (q xs ys : List Nat)
    (hx : q.length = xs.length) (hy : q.length = ys.length) (h0 : 0 < q.length) (hd : q.length < 2 ^ 61)
    (h : diffSigns q xs ≤ diffSigns q ys) :
    F32.le (built .bqCosine host (BQ.pack q) (BQ.pack xs))
        (built .bqCosine host (BQ.pack q) (BQ.pack ys)) = true
    ∧ F32.le (dist .bqCosine host q xs) (dist .bqCosine host q ys) = true := by
  obtain ⟨-, -, a3⟩ := C12_built host q xs hx
  obtain ⟨-, -, b3⟩ := C12_built host q ys hy
  obtain ⟨-, -, c3⟩ := C12_normalized host q xs hx
  obtain ⟨-, -, d3⟩ := C12_normalized host q ys hy
  have hle : diffSigns q ys ≤ 64 * ((q.length + 63) / 64) := by
    have := BQL.diffSigns_le q ys
    rw [diffSigns_eq]; omega
  have key := C12_monotone_cosine ((q.length + 63) / 64) _ _ (by omega) (by omega) h hle
  rw [a3, b3, c3, d3]
  exact ⟨key, key⟩

/-- end-to-end (normalised) BQ-Euclidean and BQ-Manhattan distances `4h/d`, `2h/d` order neighbours by
`h` as well, for every dimension `0 < d < 2^127` (the division by the dimension is monotone) -/
theorem C12_orders_neighbours_dist (host : Host) (q xs ys : List Nat)
    (hx : q.length = xs.length) (hy : q.length = ys.length) (h0 : 0 < q.length) (hd : q.length < 2 ^ 127)
    (h : diffSigns q xs ≤ diffSigns q ys) :
    F32.le (dist .bqEuclidean host q xs) (dist .bqEuclidean host q ys) = true
    ∧ F32.le (dist .bqManhattan host q xs) (dist .bqManhattan host q ys) = true := by
  obtain ⟨c1, c2, -⟩ := C12_normalized host q xs hx
  obtain ⟨d1, d2, -⟩ := C12_normalized host q ys hy
  obtain ⟨m1, m2⟩ := C12_monotone _ _ h
  rw [c1, c2, d1, d2]
  exact ⟨F32M.div_ofNat_mono _ h0 hd m1, F32M.div_ofNat_mono _ h0 hd m2⟩

/-- **strictly** monotone up to dimension `2^21 = 2 097 152` (`D = 64 w ≤ 2^21`): fewer differing signs
means a strictly smaller BQ-cosine distance. Two different `h` move the exact value `h/D` by at least
`1/D ≥ 8·2^-24`, more than the three roundings (relative error `2^-24` each, standard model of binary32
arithmetic in `ℝ`) can undo. For large dimensions strictness fails (see the example below: `D = 2^36`). -/
theorem C12_strict_monotone_cosine (w h1 h2 : Nat) (hw : 0 < w) (hb : 64 * w ≤ 2 ^ 21) (h : h1 < h2)
    (hh : h2 ≤ 64 * w) : F32.lt (cosineOf w w h1) (cosineOf w w h2) = true := by
  have hb' : 64 * w < 2 ^ 62 := by omega
  rcases Nat.eq_zero_or_pos h1 with h0 | h0
  · subst h0
    have e0 : cosineOf w w 0 = 0 := BQL.cosineOf_self_zero w hb'
    rw [e0, C12_cosine_closed w h2 hw hb']
    exact SFR.cosine_pos (64 * w) h2 (by omega) hb (by omega) hh
  · rw [C12_cosine_closed w h1 hw hb', C12_cosine_closed w h2 hw hb']
    exact SFR.cosine_strict (64 * w) h1 h2 (by omega) hb h0 h hh

/-- the instance `w ≤ 5` (dimension up to 320) of `C12_strict_monotone_cosine` -/
theorem C12_monotone_cosine_partial (w h1 h2 : Nat) (hw : 1 ≤ w ∧ w ≤ 5) (h : h1 < h2)
    (hb : h2 ≤ 64 * w) : F32.lt (cosineOf w w h1) (cosineOf w w h2) = true :=
  C12_strict_monotone_cosine w h1 h2 (by omega) (by omega) h hb

/-- the same on vectors of dimension up to `2^21`: strictly fewer differing signs, strictly nearer -/
theorem C12_orders_neighbours_cosine_strict (host : Host) (q xs ys : List Nat)
    (hx : q.length = xs.length) (hy : q.length = ys.length) (h0 : 0 < q.length) (hd : q.length ≤ 2 ^ 21)
    (h : diffSigns q xs < diffSigns q ys) :
    F32.lt (built .bqCosine host (BQ.pack q) (BQ.pack xs))
        (built .bqCosine host (BQ.pack q) (BQ.pack ys)) = true
    ∧ F32.lt (dist .bqCosine host q xs) (dist .bqCosine host q ys) = true := by
  obtain ⟨-, -, a3⟩ := C12_built host q xs hx
  obtain ⟨-, -, b3⟩ := C12_built host q ys hy
  obtain ⟨-, -, c3⟩ := C12_normalized host q xs hx
  obtain ⟨-, -, d3⟩ := C12_normalized host q ys hy
  have hle : diffSigns q ys ≤ 64 * ((q.length + 63) / 64) := by
    have := BQL.diffSigns_le q ys
    rw [diffSigns_eq]; omega
  have key := C12_strict_monotone_cosine ((q.length + 63) / 64) _ _ (by omega) (by omega) h hle
  rw [a3, b3, c3, d3]
  exact ⟨key, key⟩

/-! ## non-vacuity -/

-- 7 words (dimension 448), and `2^50` words
example : F32.le (cosineOf 7 7 3) (cosineOf 7 7 200) = true :=
  C12_monotone_cosine 7 3 200 (by decide) (by decide) (by decide) (by decide)
example : F32.le (cosineOf (2 ^ 50) (2 ^ 50) (2 ^ 40)) (cosineOf (2 ^ 50) (2 ^ 50) (2 ^ 40 + 1)) = true :=
  C12_monotone_cosine (2 ^ 50) (2 ^ 40) (2 ^ 40 + 1) (by decide) (by decide) (by omega) (by decide)
-- the statement is not strict for large dimensions: two different `h` with the same distance
example : cosineOf (2 ^ 30) (2 ^ 30) 1 = cosineOf (2 ^ 30) (2 ^ 30) 2 := by decide +kernel
-- strict: 2 words, and 1000 words (dimension 64 000)
example : F32.lt (cosineOf 2 2 0) (cosineOf 2 2 1) = true :=
  C12_monotone_cosine_partial 2 0 1 (by decide) (by decide) (by decide)
example : F32.lt (cosineOf 1000 1000 17) (cosineOf 1000 1000 18) = true :=
  C12_strict_monotone_cosine 1000 17 18 (by decide) (by decide) (by decide) (by decide)
example (host : Host) : F32.lt (dist .bqCosine host exA exA') (dist .bqCosine host exA exB) = true :=
  (C12_orders_neighbours_cosine_strict host exA exA' exB (by decide) (by decide) (by decide) (by decide)
    (by decide +kernel)).2
-- on vectors (`exA`, `exA'`, `exB` of `C12.lean`: 0 and 3 differing signs)
example (host : Host) :
    F32.le (dist .bqCosine host exA exA') (dist .bqCosine host exA exB) = true :=
  (C12_orders_neighbours_cosine host exA exA' exB (by decide) (by decide) (by decide) (by decide)
    (by decide +kernel)).2
example (host : Host) :
    F32.le (dist .bqEuclidean host exA exA') (dist .bqEuclidean host exA exB) = true :=
  (C12_orders_neighbours_dist host exA exA' exB (by decide) (by decide) (by decide) (by decide)
    (by decide +kernel)).1

end Arroy.C12
