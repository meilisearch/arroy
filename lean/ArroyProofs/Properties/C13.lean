import ArroyProofs.IdsLemmas
/-! # C13 — parallel tree updates never collide, whatever the thread schedule

`Arroy.Ids` (ArroyModel/Ids.lean) is `ConcurrentNodeIds` as a transition system with one step per
atomic operation of `next`. The theorems below hold for **every** set of ids in use (a strictly
increasing list of `u32`s), every number of threads, every request budget per thread and every
schedule (any list of thread numbers, of any length).

Boundary remark: `ConcurrentNodeIds::new` computes `last_id = max + 1` in `u32`; the model (like
`IdGen.new`) computes it in `Nat`. They agree unless `u32::MAX` itself is in use, where the code
overflows (debug: panic; release: `last_id = 0`, and ids in use would be handed out again). The
theorems below are about the model and hold up to and including that case (`x < 2^32`); they speak
about the code for `x < u32::MAX` (`C13_cells_u32`). -/
namespace Arroy.C13
open Arroy Arroy.Ids

/-- **No collision, under every interleaving.** The ids handed out are pairwise distinct (no id is
given to two requests, of the same or of different threads), none of them is in use, and all are
`u32`s. There is no side condition about wrap-around: `C13_full`/`C13_counter` show that the
counters are never observed after wrapping. -/
theorem C13_unique (usedIds : List Nat) (hsorted : usedIds.Pairwise (· < ·))
    (hu32 : ∀ x ∈ usedIds, x < 4294967296) (budgets : List (Option Nat)) (sched : List Nat) :
    (run (initWith usedIds budgets) sched).ids.Nodup ∧
    ∀ x ∈ (run (initWith usedIds budgets) sched).ids, x ∉ usedIds ∧ x < 4294967296 := by
  obtain ⟨s, h⟩ := inv_run (inv_init hsorted hu32 budgets) sched
  exact ⟨h.idsNodup, h.fresh⟩

/-- `C13_unique` for `nThreads` threads without request bound. -/
theorem C13_unique_init (usedIds : List Nat) (hsorted : usedIds.Pairwise (· < ·))
    (hu32 : ∀ x ∈ usedIds, x < 4294967296) (nThreads : Nat) (sched : List Nat) :
    (run (init usedIds nThreads) sched).ids.Nodup ∧
    ∀ x ∈ (run (init usedIds nThreads) sched).ids, x ∉ usedIds ∧ x < 4294967296 :=
  C13_unique usedIds hsorted hu32 _ sched

/-- The same, read off the log: two different entries of the log never carry the same id, whatever
threads they belong to. -/
theorem C13_unique_log (usedIds : List Nat) (hsorted : usedIds.Pairwise (· < ·))
    (hu32 : ∀ x ∈ usedIds, x < 4294967296) (budgets : List (Option Nat)) (sched : List Nat)
    (i j t₁ t₂ x : Nat)
    (hi : (run (initWith usedIds budgets) sched).log[i]? = some (t₁, .id x))
    (hj : (run (initWith usedIds budgets) sched).log[j]? = some (t₂, .id x)) : i = j :=
  idsOf_nodup_inj (C13_unique usedIds hsorted hu32 budgets sched).1 hi hj

/-- **`DatabaseFull` exactly when the id space is exhausted.** In every reachable configuration:
`used` counts the ids in use at the start plus every request started; the requests that passed the
`used` check (answered with an id, or still in flight) never outnumber the free `u32`s; a request
that starts now is refused (`used > u32::MAX`) exactly when all 2^32 ids are in use or reserved by a
request in flight; and no request was refused before that point. -/
theorem C13_full (usedIds : List Nat) (hsorted : usedIds.Pairwise (· < ·))
    (hu32 : ∀ x ∈ usedIds, x < 4294967296) (budgets : List (Option Nat)) (sched : List Nat) :
    let c := run (initWith usedIds budgets) sched
    c.g.used = usedIds.length + c.ids.length + c.inflight + c.fulls ∧
    usedIds.length + c.ids.length + c.inflight ≤ 4294967296 ∧
    (c.g.used > u32Max ↔ usedIds.length + c.ids.length + c.inflight = 4294967296) ∧
    (0 < c.fulls → usedIds.length + c.ids.length + c.inflight = 4294967296) := by
  obtain ⟨s, h⟩ := inv_run (inv_init hsorted hu32 budgets) sched
  generalize run (initWith usedIds budgets) sched = c at h ⊢
  dsimp only
  have h1 := h.usedEq
  have h2 := h.passLe
  have h3 := h.fullUsed
  have h4 := h.usedFull
  refine ⟨h1, h2, ?_, ?_⟩
  · show c.g.used > 4294967295 ↔ _
    constructor
    · intro hgt; exact h4 (by omega)
    · intro he; omega
  · intro hf
    apply h4
    by_cases hle : c.g.used ≤ 4294967296
    · have := h3 hle; omega
    · omega

/-- **A request is refused exactly when its `used.fetch_add` observed a value `> u32::MAX`** (in any
configuration whatsoever): the step of thread `t` returns `full` iff `t` is about to start a request
and `used > u32::MAX`; that step is the `used.fetch_add`. -/
theorem C13_full_step (c : Config) (t : Nat) (op : Op) :
    (stepCore c t).2 = some (op, some .full) ↔
      ∃ th, c.threads[t]? = some th ∧ th.pc = .idle ∧ th.enabled = true ∧ c.g.used > u32Max ∧
        op = .usedFetchAdd := by
  unfold stepCore
  cases hth : c.threads[t]? with
  | none => simp
  | some th =>
    obtain ⟨pc, rem⟩ := th
    by_cases hen : Thread.enabled ⟨pc, rem⟩ = true
    · simp only [hen, if_true]
      cases pc with
      | idle =>
        by_cases hu : c.g.used > u32Max
        · simp [stepPc, hu, hen]
          exact eq_comm
        · simp [stepPc, hu]
      | afterUsed => simp [stepPc]
      | afterLook b =>
        cases b with
        | true => cases hx : c.g.available[c.g.sel]? <;> simp [stepPc, hx]
        | false => simp [stepPc]
      | afterSel k => simp [stepPc]
      | afterStore => simp [stepPc]
    · simp [hen]

/-- **The counter is never observed after wrapping.** With `cnt` the number of ids handed out by the
counter path (the ids `≥ last`): `last + cnt ≤ 2^32`, and as long as `last + cnt` is a `u32` the cell
`current` holds exactly `last + cnt` (so `current.fetch_add` returns the true value, and the only
wrap to 0 is the one that follows handing out `u32::MAX`, after which every request is refused). -/
theorem C13_counter (usedIds : List Nat) (hsorted : usedIds.Pairwise (· < ·))
    (hu32 : ∀ x ∈ usedIds, x < 4294967296) (budgets : List (Option Nat)) (sched : List Nat) :
    let c := run (initWith usedIds budgets) sched
    let cnt := (c.ids.filter (fun x => decide (c.g.last ≤ x))).length
    c.g.last + cnt ≤ 4294967296 ∧
    (c.g.last + cnt < 4294967296 → c.g.current = c.g.last + cnt) := by
  intro c cnt
  obtain ⟨s, h⟩ := inv_run (inv_init hsorted hu32 budgets) sched
  exact ⟨h.curLe, h.curEq⟩

/-- **The `u32` cells hold `u32` values.** When `u32::MAX` itself is not in use (so that `id + 1` in
`ConcurrentNodeIds::new` does not overflow and the model's `new` is the code's `new`), `current` and
`select_in_bitmap` are `< 2^32` in every reachable configuration. -/
theorem C13_cells_u32 (usedIds : List Nat) (hmax : ∀ x ∈ usedIds, x < 4294967295)
    (budgets : List (Option Nat)) (sched : List Nat) :
    (run (initWith usedIds budgets) sched).g.current < 4294967296 ∧
    (run (initWith usedIds budgets) sched).g.sel < 4294967296 :=
  run_u32 _ sched ⟨lastOf_lt hmax, Nat.zero_lt_succ _⟩

/-- **One thread = the sequential generator.** The abstraction `abs` forgets threads and log. From
any configuration (no invariant needed) in which thread `t` is idle and allowed to start a request,
letting `t` run alone until its request returns is `IdGen.next` on the abstract state: same result,
same successor state (`IdGen.next` drops the state when it fails; the cells then only differ from
before by the incremented `used`). -/
theorem C13_sequential (c : Config) (t : Nat) (rem : Option Nat)
    (hth : c.threads[t]? = some ⟨.idle, rem⟩) (hrem : rem ≠ some 0) :
    match IdGen.next (abs c) with
    | .ok (id, g') =>
        (request c t).2 = some (.id id) ∧ abs (request c t).1 = g' ∧
        (request c t).1.log = (t, .id id) :: c.log ∧
        (request c t).1.threads = c.threads.set t ⟨.idle, rem.map (· - 1)⟩
    | .error e =>
        e = .dbFull ∧ (request c t).2 = some .full ∧
        abs (request c t).1 = { abs c with used := (abs c).used + 1 } ∧
        (request c t).1.log = (t, .full) :: c.log ∧
        (request c t).1.threads = c.threads.set t ⟨.idle, rem.map (· - 1)⟩ :=
  request_eq c t rem hth hrem

/-- `ConcurrentNodeIds::new`: the initial configuration stands for `IdGen.new`. -/
theorem C13_sequential_init (usedIds : List Nat) (budgets : List (Option Nat)) :
    abs (initWith usedIds budgets) = IdGen.new usedIds :=
  abs_initWith usedIds budgets

/-- **The sequential generator is a fresh supply.** `k` successive `IdGen.next` from
`IdGen.new usedIds` succeed exactly when `usedIds.length + k ≤ 2^32` (or `k = 0`), and the ids they
return are pairwise distinct, not in use, and `u32`s. -/
theorem C13_fresh_supply (usedIds : List Nat) (hsorted : usedIds.Pairwise (· < ·))
    (hu32 : ∀ x ∈ usedIds, x < 4294967296) (k : Nat) :
    ((∃ ids g', nextN k (IdGen.new usedIds) = .ok (ids, g')) ↔
        (k = 0 ∨ usedIds.length + k ≤ 4294967296)) ∧
    ∀ ids g', nextN k (IdGen.new usedIds) = .ok (ids, g') →
      ids.length = k ∧ ids.Nodup ∧ ∀ x ∈ ids, x ∉ usedIds ∧ x < 4294967296 := by
  refine ⟨nextN_ok_iff k (IdGen.new usedIds), ?_⟩
  intro ids g' e
  have hinv := inv_init hsorted hu32 [none]
  have hth : (initWith usedIds [none]).threads[0]? = some ⟨.idle, none⟩ := rfl
  rw [← abs_initWith usedIds [none]] at e
  obtain ⟨c', s', h', _, hids⟩ := nextN_simulated 0 k hinv hth e
  have hids' : c'.ids = ids.reverse := by rw [hids]; simp [Config.ids, initWith, idsOf]
  have hnd := h'.idsNodup
  have hfr := h'.fresh
  rw [hids'] at hnd hfr
  exact ⟨nextN_length k e, (List.pairwise_reverse.1 hnd).imp Ne.symm, fun x hx => hfr x (List.mem_reverse.2 hx)⟩

/-- `C13_fresh_supply` in the shape the build proofs consume (it is `FreshGen usedIds (IdGen.new usedIds)`,
`FreshGen` of `FreshGen.lean`; `freshGen_new` makes the link): whatever number of ids is drawn successfully,
they are distinct and not in use. -/
theorem C13_fresh_gen (usedIds : List Nat) (hsorted : usedIds.Pairwise (· < ·))
    (hu32 : ∀ x ∈ usedIds, x < 4294967296) :
    ∀ (k : Nat) (ids : List Nat) (g' : IdGen), nextN k (IdGen.new usedIds) = .ok (ids, g') →
      ids.Nodup ∧ ∀ i ∈ ids, i ∉ usedIds := by
  intro k ids g' e
  obtain ⟨_, hnd, hfr⟩ := (C13_fresh_supply usedIds hsorted hu32 k).2 ids g' e
  exact ⟨hnd, fun i hi => (hfr i hi).1⟩

/-! ## non-vacuity -/

/-- ids 0, 2, 5 in use: `available = {1, 3, 4}`, `last = 6`; two threads -/
theorem C13_init_example : init [0, 2, 5] 2 =
    { g := { available := [1, 3, 4], last := 6, current := 6, used := 3, sel := 0, look := true }
      threads := [⟨.idle, none⟩, ⟨.idle, none⟩], log := [] } := by
  simp [init, initWith, lastOf, diff, List.range, List.range.loop]

/-- the hypotheses of `C13_unique`, `C13_full`, `C13_counter`, `C13_fresh_supply` -/
example : [0, 2, 5].Pairwise (· < ·) ∧ ∀ x ∈ [0, 2, 5], x < 4294967296 := by decide

/-- a schedule of two threads living through the moment the recycled ids run out -/
def schedExhaust : List Nat :=
  [0, 1, 0, 1, 0, 1,    -- both: used.fetch_add, load (true), select: thread 0 gets 1, thread 1 gets 3
   0, 0, 1, 1,          -- both: used.fetch_add, load (true)
   0,                   -- thread 0: select(2) = 4, the last recycled id
   1,                   -- thread 1: select(3) = None
   0, 0, 0,             -- thread 0, new request: used.fetch_add, load (still true), select(4) = None
   1, 0,                -- both: store(false)
   1, 0,                -- both: current.fetch_add: thread 1 gets 6, thread 0 gets 7
   0, 0, 0]             -- thread 0, new request: used.fetch_add, load (false), current.fetch_add = 8

example : run (init [0, 2, 5] 2) schedExhaust =
    { g := { available := [1, 3, 4], last := 6, current := 9, used := 9, sel := 5, look := false }
      threads := [⟨.idle, none⟩, ⟨.idle, none⟩]
      log := [(0, .id 8), (0, .id 7), (1, .id 6), (0, .id 4), (1, .id 3), (0, .id 1)] } := by
  rw [C13_init_example]; decide

/-- in the middle of it: both threads have found the bitmap exhausted and neither has stored yet -/
example : (run (init [0, 2, 5] 2) (schedExhaust.take 15)).threads =
      [⟨.afterSel 4, none⟩, ⟨.afterSel 3, none⟩] ∧
    (run (init [0, 2, 5] 2) (schedExhaust.take 15)).g.look = true := by
  rw [C13_init_example]; decide

/-- request budgets: a thread with no request left does not move -/
example : (run (initWith [] [some 1]) [0, 0, 0, 0, 0, 0, 0]).log = [(0, .id 0)] := by
  have e : initWith [] [some 1] =
      { g := { available := [], last := 0, current := 0, used := 0, sel := 0, look := false }
        threads := [⟨.idle, some 1⟩], log := [] } := by
    simp [initWith, lastOf, diff, List.range, List.range.loop]
  rw [e]; decide

/-- the boundary (a hand-made configuration: every id but `u32::MAX` in use): the request that
observes `used = u32::MAX` is served `u32::MAX` and `current` wraps to 0; the request that observes
`used = 2^32` is refused. -/
example : run { g := { available := [], last := 4294967295, current := 4294967295, used := 4294967295,
                       sel := 0, look := false }
                threads := [⟨.idle, none⟩, ⟨.idle, none⟩], log := [] } [0, 1, 0, 0] =
    { g := { available := [], last := 4294967295, current := 0, used := 4294967297, sel := 0, look := false }
      threads := [⟨.idle, none⟩, ⟨.idle, none⟩]
      log := [(0, .id 4294967295), (1, .full)] } := by decide

/-- `C13_sequential` applies to the initial configuration (thread 1 idle, unbounded) -/
example : (init [0, 2, 5] 2).threads[1]? = some ⟨.idle, none⟩ ∧ (none : Option Nat) ≠ some 0 := by
  rw [C13_init_example]; decide

/-- the sequential generator on the same set: the three recycled ids, then the counter -/
example : nextN 5 (IdGen.new [0, 2, 5]) = .ok ([1, 3, 4, 6, 7],
    { available := [1, 3, 4], sel := 4, look := false, current := 8, used := 8 }) := by
  have e : initWith [0, 2, 5] [none] =
      { g := { available := [1, 3, 4], last := 6, current := 6, used := 3, sel := 0, look := true }
        threads := [⟨.idle, none⟩], log := [] } := by
    simp [initWith, lastOf, diff, List.range, List.range.loop]
  rw [← C13_sequential_init [0, 2, 5] [none], e]
  rfl

end Arroy.C13
