import ArroyProofs.IndexInvOps
import ArroyProofs.OfSeq
import ArroyProofs.FreshSupplyProof
import ArroyProofs.Properties.C13
import ArroyProofs.Properties.C01Checker
import ArroyProofs.Properties.C01Examples
/-! # C13, second sentence — the build yields a valid forest for EVERY fresh id supply

"As a result a build yields a forest satisfying C01 for every thread-pool size, not only for the single
thread the tests use."

The parallel tasks of `Writer::build` read an immutable snapshot, stage their writes privately and share
exactly one thing: `ConcurrentNodeIds::next`. A thread schedule therefore changes only WHICH fresh ids each
task receives. The build model consumes ids in program order, so the outcome of a schedule in which the
tasks received the ids `a₀, a₁, …` (listed in program order) is the sequential model run with a generator that
hands out `a₀, a₁, …`.

* `Build.buildWith mk` (ArroyProofs/TransparentBuild.lean) is the text of `Build.build` with the generator
  `mk used` in place of `IdGen.new used`; `Build.buildWith_new : buildWith IdGen.new = build`.
* `C13_build_any_supply`: the conclusion of `C01_build` holds of `buildWith mk` for every `mk` that is a fresh
  supply (`GenOK used (mk used)`: the ids drawn are pairwise distinct, not in use, and `u32`s) — the forest theorem
  does not depend on which fresh ids are drawn.
* `IdGen.ofSeq seq next` (ArroyProofs/OfSeq.lean) hands out ANY finite sequence `seq`, then `next, next+1, …`
  (`C13_ofSeq_draws`), and is a fresh supply whenever `seq` is duplicate-free, unused, and `next` lies above
  everything (`C13_ofSeq_fresh`).
* `C13_build_every_supply`: hence the build consuming any such sequence leaves a valid forest;
  `C13_build_every_schedule`: in particular for every arrangement of the ids that `ConcurrentNodeIds` hands out
  under any schedule of any number of threads (`Arroy.Ids`, duplicate-free and unused by `C13_unique`).

What is NOT modelled here: the tasks themselves run sequentially in the model (they share nothing but the id
generator, and their writes are staged per task and applied in task order by the single writer thread — that part is
the sequential model already); the theorem is about the set of outcomes, indexed by the ids received. -/
namespace Arroy.C13
open Arroy Generated Transp

/-- everything the C01 proof establishes about a successful build (`BuildOut`: metadata, forest, untouched item
    vectors and other indexes, number of trees, routing, capacity — the source of the C04/C15 build theorems),
    for an arbitrary fresh supply -/
theorem C13_build_out_any_supply (mk : List Nat → IdGen)
    (hmk : ∀ used : List Nat, IdSet.Sorted used → (∀ i ∈ used, i < 4294967296) → GenOK used (mk used))
    (c : Cfg) (o : BuildOpts) (fuel : Nat) (st st' : BState) (roots0 items0 : List Nat) (ts0 : List T)
    (hi : c.index < 65536) (hcap : 1 ≤ Build.cap c o)
    (hs : Store.Sorted st.store) (hw : Store.WF st.store) (old : Old c st.store roots0 items0 ts0)
    (h : Build.buildWith mk c o fuel st = .ok ((), st')) :
    ∃ roots' ts', BuildOut c o st.store st'.store roots0 ts0 roots' ts' :=
  buildWith_out mk c o fuel st st' roots0 items0 ts0 hi hcap hmk hs hw old h

/-- **C01 for every fresh id supply** (the conclusion of `C01_build`): from a state satisfying the index
    invariant, under any options, oracle streams, fuel and cancellation schedule, a successful build that draws its
    node ids from `mk used` leaves metadata listing exactly the stored items, a valid forest over them, at least one
    tree if there is an item, no updated mark, and the invariant again. -/
theorem C13_build_any_supply (mk : List Nat → IdGen)
    (hmk : ∀ used : List Nat, IdSet.Sorted used → (∀ i ∈ used, i < 4294967296) → GenOK used (mk used))
    (c : Cfg) (o : BuildOpts) (fuel : Nat) (st st' : BState)
    (hi : c.index < 65536) (hcap : 1 ≤ Build.cap c o) (hn : o.nTrees ≠ some 0)
    (hinv : IndexInv c st.store) (h : Build.buildWith mk c o fuel st = .ok ((), st')) :
    ∃ roots ts,
      Store.get st'.store c.metaKey =
        some (.metadata c.metric.nameBytes c.dims (st.store.keysOf c.index modeItem) roots) ∧
      Forest c st'.store roots (st.store.keysOf c.index modeItem) ts ∧
      (st.store.keysOf c.index modeItem ≠ [] → roots ≠ []) ∧
      (∀ id, Store.get st'.store (c.updatedKey id) = none) ∧
      IndexInv c st'.store := by
  obtain ⟨_, _, _, roots', ts', _, b⟩ := buildWith_out_of_inv mk c o fuel st st' hi hcap hmk hinv.1 h
  exact ⟨roots', ts', b.metadata, b.forest, b.rootsNonempty hn, b.no_marks,
    b.inv hinv.sorted hinv.wf hinv.leaves hi hn⟩

/-- the same without the clause on the number of trees (any `n_trees`, even 0; `IndexInvW` instead of `IndexInv`) -/
theorem C13_build_any_supply_any (mk : List Nat → IdGen)
    (hmk : ∀ used : List Nat, IdSet.Sorted used → (∀ i ∈ used, i < 4294967296) → GenOK used (mk used))
    (c : Cfg) (o : BuildOpts) (fuel : Nat) (st st' : BState)
    (hi : c.index < 65536) (hcap : 1 ≤ Build.cap c o)
    (hinv : IndexInvW c st.store) (h : Build.buildWith mk c o fuel st = .ok ((), st')) :
    ∃ roots ts,
      Store.get st'.store c.metaKey =
        some (.metadata c.metric.nameBytes c.dims (st.store.keysOf c.index modeItem) roots) ∧
      Forest c st'.store roots (st.store.keysOf c.index modeItem) ts ∧
      (∀ id, Store.get st'.store (c.updatedKey id) = none) ∧
      IndexInvW c st'.store := by
  obtain ⟨_, _, _, roots', ts', _, b⟩ := buildWith_out_of_inv mk c o fuel st st' hi hcap hmk hinv h
  exact ⟨roots', ts', b.metadata, b.forest, b.no_marks, b.invW hinv.sorted hinv.wf hinv.leaves hi⟩

/-- the executable checker's verdict (`Check.forestValid`, the one the differential runs use) after a
    successful build with any fresh supply: nothing to report (`C01_checker_build`) -/
theorem C13_checker_any_supply (mk : List Nat → IdGen)
    (hmk : ∀ used : List Nat, IdSet.Sorted used → (∀ i ∈ used, i < 4294967296) → GenOK used (mk used))
    (c : Cfg) (o : BuildOpts) (fuel : Nat) (st st' : BState)
    (hi : c.index < 65536) (hcap : 1 ≤ Build.cap c o)
    (hinv : IndexInvW c st.store) (h : Build.buildWith mk c o fuel st = .ok ((), st')) :
    Check.forestValid c st'.store = [] := by
  obtain ⟨_, _, _, _, _, _, b⟩ := buildWith_out_of_inv mk c o fuel st st' hi hcap hmk hinv h
  exact b.forestValid hinv hi

/-- `C01_build` is the instance `mk := IdGen.new` (the fresh-supply hypothesis is `freshSupply`, i.e. C13 for
    one thread) -/
theorem C13_build_sequential (c : Cfg) (o : BuildOpts) (fuel : Nat) (st st' : BState)
    (hi : c.index < 65536) (hcap : 1 ≤ Build.cap c o) (hn : o.nTrees ≠ some 0)
    (hinv : IndexInv c st.store) (h : Build.build c o fuel st = .ok ((), st')) :
    ∃ roots ts,
      Store.get st'.store c.metaKey =
        some (.metadata c.metric.nameBytes c.dims (st.store.keysOf c.index modeItem) roots) ∧
      Forest c st'.store roots (st.store.keysOf c.index modeItem) ts ∧
      (st.store.keysOf c.index modeItem ≠ [] → roots ≠ []) ∧
      (∀ id, Store.get st'.store (c.updatedKey id) = none) ∧
      IndexInv c st'.store :=
  C13_build_any_supply IdGen.new freshSupply c o fuel st st' hi hcap hn hinv h

/-! ## a generator for any sequence of ids -/

/-- **the draws of `IdGen.ofSeq seq next`** (`available := seq`, `sel := 0`, `look := true`, `current := next`,
    `used := next - seq.length`), when `seq` is not longer than `next`: `k` successive `IdGen.next` succeed exactly
    when the request counter stays a `u32`, and they return `seq` in order, then `next, next+1, …`. -/
theorem C13_ofSeq_draws (seq : List Nat) (next : Nat) (hlen : seq.length ≤ next) (k : Nat) :
    ((∃ ids g', nextN k (IdGen.ofSeq seq next) = .ok (ids, g')) ↔
        (k = 0 ∨ next - seq.length + k ≤ 4294967296)) ∧
    ∀ ids g', nextN k (IdGen.ofSeq seq next) = .ok (ids, g') →
      ids = (seq ++ List.range' next (k - seq.length)).take k :=
  ⟨ofSeq_nextN_ok_iff seq next k, fun _ _ h => ofSeq_nextN hlen h⟩

/-- **`IdGen.ofSeq seq next` is a fresh supply**: if `seq` is duplicate-free, disjoint from the ids in use and made
    of `u32`s, and `next` lies above every id in use and every id of `seq`, then whatever number of ids is drawn,
    they are pairwise distinct, not in use, and `u32`s (`GenOK`, the hypothesis of the forest chain); and the ids
    drawn are `seq` in order, then `next, next+1, …`. No bound on `next` is needed: the generator reports
    `DatabaseFull` before the counter leaves the `u32` range. -/
theorem C13_ofSeq_fresh (used seq : List Nat) (next : Nat) (hnd : seq.Nodup) (hdisj : ∀ x ∈ seq, x ∉ used)
    (hu32 : ∀ x ∈ seq, x < 4294967296) (hseq : ∀ x ∈ seq, x < next) (hused : ∀ x ∈ used, x < next) :
    GenOK used (IdGen.ofSeq seq next) ∧
    ∀ k ids g', nextN k (IdGen.ofSeq seq next) = .ok (ids, g') →
      ids = (seq ++ List.range' next (k - seq.length)).take k ∧
      ids.Nodup ∧ ∀ i ∈ ids, i ∉ used ∧ i < 4294967296 := by
  have hg := genOK_ofSeq hnd hdisj hu32 hseq hused
  refine ⟨hg, fun k ids g' e => ⟨ofSeq_nextN (length_le_of_nodup_lt hnd hseq) e, (hg.1 k ids g' e).1, fun i hi => ⟨(hg.1 k ids g' e).2 i hi, hg.2 k ids g' e i hi⟩⟩⟩

/-- **the build is valid for every supply of fresh ids.** Let the ids the build consumes, in program order, be
    `seqOf used` followed by `nextOf used, nextOf used + 1, …` (`used`: the tree ids in use when the generator is
    created), where `seqOf used` is ANY duplicate-free sequence of unused `u32`s and `nextOf used` lies above every
    id in use and every id of the sequence. Then a successful build leaves a valid forest. -/
theorem C13_build_every_supply (seqOf : List Nat → List Nat) (nextOf : List Nat → Nat)
    (hseq : ∀ used : List Nat, IdSet.Sorted used → (∀ i ∈ used, i < 4294967296) →
      (seqOf used).Nodup ∧ ∀ x ∈ seqOf used, x ∉ used ∧ x < 4294967296)
    (hnext : ∀ used : List Nat, IdSet.Sorted used → (∀ i ∈ used, i < 4294967296) →
      ∀ x, x ∈ used ∨ x ∈ seqOf used → x < nextOf used)
    (c : Cfg) (o : BuildOpts) (fuel : Nat) (st st' : BState)
    (hi : c.index < 65536) (hcap : 1 ≤ Build.cap c o) (hn : o.nTrees ≠ some 0)
    (hinv : IndexInv c st.store)
    (h : Build.buildWith (fun used => IdGen.ofSeq (seqOf used) (nextOf used)) c o fuel st = .ok ((), st')) :
    ∃ roots ts,
      Store.get st'.store c.metaKey =
        some (.metadata c.metric.nameBytes c.dims (st.store.keysOf c.index modeItem) roots) ∧
      Forest c st'.store roots (st.store.keysOf c.index modeItem) ts ∧
      (st.store.keysOf c.index modeItem ≠ [] → roots ≠ []) ∧
      (∀ id, Store.get st'.store (c.updatedKey id) = none) ∧
      IndexInv c st'.store := by
  refine C13_build_any_supply _ ?_ c o fuel st st' hi hcap hn hinv h
  intro used hs hu
  obtain ⟨h1, h2⟩ := hseq used hs hu
  exact genOK_ofSeq h1 (fun x hx => (h2 x hx).1) (fun x hx => (h2 x hx).2)
    (fun x hx => hnext used hs hu x (Or.inr hx)) (fun x hx => hnext used hs hu x (Or.inl hx))

/-- **the build is valid under every thread schedule of the id generator.** Take any number of threads
    (`budgets`, with or without request bounds) and any schedule `sched` of the atomic operations of
    `ConcurrentNodeIds::next` (`Arroy.Ids`), started on the tree ids in use. Let the build consume, in program order,
    ANY duplicate-free arrangement `seqOf used` of (some of) the ids handed out under that schedule — whichever task
    received whichever id —, followed by a counter `nextOf used` above them. Then a successful build leaves a valid
    forest: metadata listing the stored items, `Forest` (C01), at least one tree, no mark, the invariant again. -/
theorem C13_build_every_schedule (budgets : List (Option Nat)) (sched : List Nat)
    (seqOf : List Nat → List Nat) (nextOf : List Nat → Nat)
    (hseq : ∀ used : List Nat, IdSet.Sorted used → (∀ i ∈ used, i < 4294967296) →
      (seqOf used).Nodup ∧ ∀ x ∈ seqOf used, x ∈ (Ids.run (Ids.initWith used budgets) sched).ids)
    (hnext : ∀ used : List Nat, IdSet.Sorted used → (∀ i ∈ used, i < 4294967296) →
      ∀ x, x ∈ used ∨ x ∈ seqOf used → x < nextOf used)
    (c : Cfg) (o : BuildOpts) (fuel : Nat) (st st' : BState)
    (hi : c.index < 65536) (hcap : 1 ≤ Build.cap c o) (hn : o.nTrees ≠ some 0)
    (hinv : IndexInv c st.store)
    (h : Build.buildWith (fun used => IdGen.ofSeq (seqOf used) (nextOf used)) c o fuel st = .ok ((), st')) :
    ∃ roots ts,
      Store.get st'.store c.metaKey =
        some (.metadata c.metric.nameBytes c.dims (st.store.keysOf c.index modeItem) roots) ∧
      Forest c st'.store roots (st.store.keysOf c.index modeItem) ts ∧
      (st.store.keysOf c.index modeItem ≠ [] → roots ≠ []) ∧
      (∀ id, Store.get st'.store (c.updatedKey id) = none) ∧
      IndexInv c st'.store := by
  refine C13_build_every_supply seqOf nextOf ?_ hnext c o fuel st st' hi hcap hn hinv h
  intro used hs hu
  obtain ⟨h1, h2⟩ := hseq used hs hu
  have huniq := C13_unique used ((IdSet.sorted_iff_pairwise).1 hs) hu budgets sched
  exact ⟨h1, fun x hx => huniq.2 x (h2 x hx)⟩

/-- the instance of `C13_build_every_schedule` closest to the code: the build consumes the ids of the schedule in
    the arrangement `arrange` (any function that permutes or thins out a duplicate-free list), and the counter goes
    on right above the largest id seen -/
theorem C13_build_every_schedule_max (budgets : List (Option Nat)) (sched : List Nat)
    (arrange : List Nat → List Nat)
    (harr : ∀ l : List Nat, l.Nodup → (arrange l).Nodup ∧ ∀ x ∈ arrange l, x ∈ l)
    (c : Cfg) (o : BuildOpts) (fuel : Nat) (st st' : BState)
    (hi : c.index < 65536) (hcap : 1 ≤ Build.cap c o) (hn : o.nTrees ≠ some 0)
    (hinv : IndexInv c st.store)
    (h : Build.buildWith (fun used =>
        IdGen.ofSeq (arrange (Ids.run (Ids.initWith used budgets) sched).ids)
          (supNext (used ++ (Ids.run (Ids.initWith used budgets) sched).ids))) c o fuel st = .ok ((), st')) :
    ∃ roots ts,
      Store.get st'.store c.metaKey =
        some (.metadata c.metric.nameBytes c.dims (st.store.keysOf c.index modeItem) roots) ∧
      Forest c st'.store roots (st.store.keysOf c.index modeItem) ts ∧
      (st.store.keysOf c.index modeItem ≠ [] → roots ≠ []) ∧
      (∀ id, Store.get st'.store (c.updatedKey id) = none) ∧
      IndexInv c st'.store := by
  refine C13_build_every_schedule budgets sched _ _ ?_ ?_ c o fuel st st' hi hcap hn hinv h
  · intro used hs hu
    exact harr _ (C13_unique used ((IdSet.sorted_iff_pairwise).1 hs) hu budgets sched).1
  · intro used hs hu x hx
    apply lt_supNext
    rcases hx with hx | hx
    · exact List.mem_append_left _ hx
    · exact List.mem_append_right _
        ((harr _ (C13_unique used ((IdSet.sorted_iff_pairwise).1 hs) hu budgets sched).1).2 x hx)


/-! ## non-vacuity: the second build of `C01Examples` (items 1..5, tree ids 0..3 in use, one bucket re-split: two ids
are drawn — the new bucket, then the root of the new subtree, which is remapped onto the old bucket id) with a
permuted supply -/
namespace Ex
open C01 C01.Ex Ids

-- the concrete history is only used through `run_ops2`
attribute [local irreducible] C01.run

/-- a supply that hands out the two ids right above the ids in use in the opposite order (`m+1`, `m`, then the
    counter from `m+2`; the code's own generator where that would leave the `u32` range) -/
def mkSwap (used : List Nat) : IdGen :=
  if supNext used + 2 ≤ 4294967296 then IdGen.ofSeq [supNext used + 1, supNext used] (supNext used + 2)
  else IdGen.new used

/-- it satisfies the hypothesis of `C13_build_any_supply` -/
theorem mkSwap_fresh (used : List Nat) (hs : IdSet.Sorted used) (hu : ∀ i ∈ used, i < 4294967296) :
    GenOK used (mkSwap used) := by
  unfold mkSwap
  split
  · apply genOK_ofSeq
    · simp
    · intro x hx hin
      have := lt_supNext hin
      simp only [List.mem_cons, List.not_mem_nil, or_false] at hx
      omega
    · intro x hx
      simp only [List.mem_cons, List.not_mem_nil, or_false] at hx
      omega
    · intro x hx
      simp only [List.mem_cons, List.not_mem_nil, or_false] at hx
      omega
    · intro x hx
      have := lt_supNext hx
      omega
  · exact freshSupply used hs hu

def treesOf : Except Err (Unit × BState) → List T
  | .ok (_, st') => Check.trees cEx st'.store
  | .error _ => []

def treeKeysOf : Except Err (Unit × BState) → List Nat
  | .ok (_, st') => st'.store.keysOf cEx.index modeTree
  | .error _ => []

/-- the sequential build: the new bucket gets id 4 (the second id, 5, is remapped onto the re-split bucket 2) -/
theorem seq_trees : treesOf (Build.build cEx oEx 5 { env2 with store := C01.run ops2 }) =
      [.node 0 [f1, 0] (.bucket 1 [1]) (.node 3 [0, f1] (.leaf 2) (.node 2 [f1, fm15] (.leaf 5) (.bucket 4 [3, 4])))] ∧
    treeKeysOf (Build.build cEx oEx 5 { env2 with store := C01.run ops2 }) = [0, 1, 2, 3, 4] := by
  obtain ⟨st', h, hs⟩ := build2_store
  rw [h]
  show Check.trees cEx st'.store = _ ∧ st'.store.keysOf cEx.index modeTree = _
  rw [hs]
  decide +kernel

/-- the build with the permuted supply: the new bucket gets id 5, and id 4 stays free -/
theorem swap_trees : treesOf (Build.buildWith mkSwap cEx oEx 5 { env2 with store := C01.run ops2 }) =
      [.node 0 [f1, 0] (.bucket 1 [1]) (.node 3 [0, f1] (.leaf 2) (.node 2 [f1, fm15] (.leaf 5) (.bucket 5 [3, 4])))] ∧
    treeKeysOf (Build.buildWith mkSwap cEx oEx 5 { env2 with store := C01.run ops2 }) = [0, 1, 2, 3, 5] := by
  rw [run_ops2]
  decide +kernel

/-- thread 0 (the task that comes first in program order) starts its request; thread 1 overtakes it: -/
def sched2 : List Nat :=
  [0,          -- thread 0: used.fetch_add
   1, 1, 1,    -- thread 1: used.fetch_add, load (false: no recycled id), current.fetch_add = 4
   0, 0]       -- thread 0: load (false), current.fetch_add = 5

/-- the supply of `C13_build_every_schedule_max` for two threads under `sched2`, ids in the order of the log -/
def mkSched2 (used : List Nat) : IdGen :=
  IdGen.ofSeq (id (Ids.run (Ids.initWith used [none, none]) sched2).ids)
    (supNext (used ++ (Ids.run (Ids.initWith used [none, none]) sched2).ids))

/-- on the example it is the generator "5, 4, then 6, 7, …" -/
example : mkSched2 [0, 1, 2, 3] = IdGen.ofSeq [5, 4] 6 := by decide +kernel

theorem sched2_trees : treesOf (Build.buildWith mkSched2 cEx oEx 5 { env2 with store := C01.run ops2 }) =
      [.node 0 [f1, 0] (.bucket 1 [1]) (.node 3 [0, f1] (.leaf 2) (.node 2 [f1, fm15] (.leaf 5) (.bucket 5 [3, 4])))] := by
  rw [run_ops2]
  decide +kernel

theorem inv2 : IndexInv cEx (C01.run ops2) := C01_history_inv freshSupply ops2 ops2_wf cEx build2_wf.1

/-- `C13_build_any_supply` (and `_any`, `C13_checker_any_supply`, `C13_build_out_any_supply`) applies: the
    hypotheses hold on an incremental build with deletion, insertion and re-split, run under a cancellation
    schedule, and the forest it certifies is NOT the one of the sequential build. -/
example : ∃ st' roots ts,
    Build.buildWith mkSwap cEx oEx 5 { env2 with store := C01.run ops2 } = .ok ((), st') ∧
    Forest cEx st'.store roots [1, 2, 3, 4, 5] ts ∧ roots ≠ [] ∧ IndexInv cEx st'.store ∧
    Check.forestValid cEx st'.store = [] ∧
    Check.trees cEx st'.store =
      [.node 0 [f1, 0] (.bucket 1 [1]) (.node 3 [0, f1] (.leaf 2) (.node 2 [f1, fm15] (.leaf 5) (.bucket 5 [3, 4])))] ∧
    Check.trees cEx st'.store ≠ treesOf (Build.build cEx oEx 5 { env2 with store := C01.run ops2 }) := by
  have ht := swap_trees.1
  cases hb : Build.buildWith mkSwap cEx oEx 5 { env2 with store := C01.run ops2 } with
  | error e => rw [hb] at ht; cases ht
  | ok r =>
    obtain ⟨⟨⟩, st'⟩ := r
    rw [hb] at ht
    obtain ⟨roots, ts, _, hf, hne, _, hinv'⟩ :=
      C13_build_any_supply mkSwap mkSwap_fresh cEx oEx 5 _ st' build2_wf.1 build2_wf.2.1 build2_wf.2.2 inv2 hb
    have hchk := C13_checker_any_supply mkSwap mkSwap_fresh cEx oEx 5 _ st' build2_wf.1 build2_wf.2.1 inv2.1 hb
    have hitems : (C01.run ops2).keysOf cEx.index modeItem = [1, 2, 3, 4, 5] := before2.1
    simp only [hitems] at hf hne
    refine ⟨st', roots, ts, rfl, hf, hne (by simp), hinv', hchk, ht, ?_⟩
    have ht' : Check.trees cEx st'.store = _ := ht
    rw [ht', seq_trees.1]
    decide

/-- `C13_ofSeq_fresh` / `C13_ofSeq_draws`: ids 0, 2, 5 in use, the supply 4, 1, 3 (the recycled ids in another
    order), then the counter from 6 -/
example : [4, 1, 3].Nodup ∧ (∀ x ∈ [4, 1, 3], x ∉ [0, 2, 5]) ∧ (∀ x ∈ [4, 1, 3], x < 4294967296) ∧
    (∀ x ∈ [4, 1, 3], x < 6) ∧ (∀ x ∈ [0, 2, 5], x < 6) := by decide

example : nextN 5 (IdGen.ofSeq [4, 1, 3] 6) = .ok ([4, 1, 3, 6, 7],
    { available := [4, 1, 3], sel := 4, look := false, current := 8, used := 8 }) := rfl

/-- the sequential generator on the same set hands out 1, 3, 4, 6, 7 (see C13.lean) -/
example : (([4, 1, 3] : List Nat) ++ List.range' 6 (5 - 3)).take 5 = [4, 1, 3, 6, 7] := by decide

/-- `C13_build_every_supply`: its hypotheses hold of the sequence "the two ids above the ids in use, swapped"
    (empty where that would leave the `u32` range), and the build above is of that form -/
example : ∃ (seqOf : List Nat → List Nat) (nextOf : List Nat → Nat),
    (∀ used : List Nat, IdSet.Sorted used → (∀ i ∈ used, i < 4294967296) →
      (seqOf used).Nodup ∧ ∀ x ∈ seqOf used, x ∉ used ∧ x < 4294967296) ∧
    (∀ used : List Nat, IdSet.Sorted used → (∀ i ∈ used, i < 4294967296) →
      ∀ x, x ∈ used ∨ x ∈ seqOf used → x < nextOf used) ∧
    seqOf [0, 1, 2, 3] = [5, 4] ∧ nextOf [0, 1, 2, 3] = 6 := by
  refine ⟨fun used => if supNext used + 2 ≤ 4294967296 then [supNext used + 1, supNext used] else [],
    fun used => supNext used + 2, ?_, ?_, by decide, by decide⟩
  · intro used _ _
    dsimp only
    split
    · refine ⟨by simp, ?_⟩
      intro x hx
      simp only [List.mem_cons, List.not_mem_nil, or_false] at hx
      refine ⟨fun hin => ?_, by omega⟩
      have := lt_supNext hin
      omega
    · exact ⟨List.nodup_nil, fun x hx => by cases hx⟩
  · intro used _ _ x hx
    dsimp only at hx ⊢
    rcases hx with hx | hx
    · have := lt_supNext hx; omega
    · split at hx
      · simp only [List.mem_cons, List.not_mem_nil, or_false] at hx
        omega
      · cases hx

/-! ### a two-thread schedule that produces the permuted supply -/

/-- thread 0 received 5 and thread 1 received 4 -/
example : (Ids.run (Ids.initWith [0, 1, 2, 3] [none, none]) sched2).log = [(0, .id 5), (1, .id 4)] ∧
    (Ids.run (Ids.initWith [0, 1, 2, 3] [none, none]) sched2).ids = [5, 4] := by decide +kernel

/-- the hypotheses of `C13_build_every_schedule` hold for every number of threads and every schedule, e.g. for the
    ids in the order of the log (newest first) or in chronological order, with the counter stopped (`2^32`: the build
    gets the ids of the schedule and no others) -/
example (budgets : List (Option Nat)) (sched : List Nat) (rev : Bool) :
    let seqOf := fun used =>
      if rev then (Ids.run (Ids.initWith used budgets) sched).ids.reverse else (Ids.run (Ids.initWith used budgets) sched).ids
    (∀ used : List Nat, IdSet.Sorted used → (∀ i ∈ used, i < 4294967296) →
      (seqOf used).Nodup ∧ ∀ x ∈ seqOf used, x ∈ (Ids.run (Ids.initWith used budgets) sched).ids) ∧
    (∀ used : List Nat, IdSet.Sorted used → (∀ i ∈ used, i < 4294967296) →
      ∀ x, x ∈ used ∨ x ∈ seqOf used → x < (fun _ => 4294967296) used) := by
  intro seqOf
  have hsub : ∀ used, ∀ x ∈ seqOf used, x ∈ (Ids.run (Ids.initWith used budgets) sched).ids := by
    intro used x hx
    simp only [seqOf] at hx
    split at hx
    · exact List.mem_reverse.1 hx
    · exact hx
  refine ⟨fun used hs hu => ⟨?_, hsub used⟩, fun used hs hu x hx => ?_⟩
  · have := (C13_unique used ((IdSet.sorted_iff_pairwise).1 hs) hu budgets sched).1
    simp only [seqOf]
    split
    · exact List.pairwise_reverse.2 (this.imp Ne.symm)
    · exact this
  · rcases hx with hx | hx
    · exact hu x hx
    · exact ((C13_unique used ((IdSet.sorted_iff_pairwise).1 hs) hu budgets sched).2 x (hsub used x hx)).2

/-- `C13_build_every_schedule_max` (hence `C13_build_every_schedule`) applies to the build that consumes the ids
    of this two-thread schedule, and certifies the forest with bucket 5 -/
example : ∃ st' roots ts,
    Build.buildWith mkSched2 cEx oEx 5 { env2 with store := C01.run ops2 } = .ok ((), st') ∧
    Forest cEx st'.store roots [1, 2, 3, 4, 5] ts ∧ roots ≠ [] ∧ IndexInv cEx st'.store ∧
    Check.trees cEx st'.store =
      [.node 0 [f1, 0] (.bucket 1 [1]) (.node 3 [0, f1] (.leaf 2) (.node 2 [f1, fm15] (.leaf 5) (.bucket 5 [3, 4])))] := by
  have ht := sched2_trees
  cases hb : Build.buildWith mkSched2 cEx oEx 5 { env2 with store := C01.run ops2 } with
  | error e => rw [hb] at ht; cases ht
  | ok r =>
    obtain ⟨⟨⟩, st'⟩ := r
    rw [hb] at ht
    obtain ⟨roots, ts, _, hf, hne, _, hinv'⟩ :=
      C13_build_every_schedule_max [none, none] sched2 id (fun l hl => ⟨hl, fun x hx => hx⟩)
        cEx oEx 5 _ st' build2_wf.1 build2_wf.2.1 build2_wf.2.2 inv2 hb
    have hitems : (C01.run ops2).keysOf cEx.index modeItem = [1, 2, 3, 4, 5] := before2.1
    simp only [hitems] at hf hne
    exact ⟨st', roots, ts, rfl, hf, hne (by simp), hinv', ht⟩

end Ex

end Arroy.C13
