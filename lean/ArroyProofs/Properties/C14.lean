import ArroyProofs.NoFuel
import ArroyProofs.NoFuelBuild
import ArroyProofs.ForestExample
import ArroyProofs.Properties.C10
/-! C14 — the memory hint changes how a build proceeds, never what it produces: the termination half.

The model's bounded loops carry fuel.  This file shows that the fuel the model itself passes is never
the reason of a failure (so the loops terminate for every batch schedule the `available_memory` hint may
induce), with one exception which is real: the re-split loop `incremental_index_large_descendants`
terminates only with probability one in the implementation, and its budget `loopFuel` is a parameter of
`Build.build`.  For that loop the deterministic progress facts are proved, and the livelock of the
formula before repair G is kept as a theorem. -/
namespace Arroy
open BuildM Generated

open IdSet in
theorem union_take_drop (ids : List Nat) (k : Nat) (hs : Sorted ids) :
    IdSet.union (ids.take k) (ids.drop k) = ids := by
  apply sorted_ext (sorted_union (hs.sublist (List.take_sublist _ _)) (hs.sublist (List.drop_sublist _ _))) hs
  intro x
  rw [mem_union, ← List.mem_append, List.take_append_drop]


/-- `makeT` on a batch that fits (and is not a single item) makes one bucket -/
theorem makeT_fitting (cx : TreeCtx) (fuel : Nat) (items : List Nat) (g g' : IdGen) (id : Nat)
    (normals : List (List Nat)) (rs : List Bool) (hne : ∀ x, items ≠ [x])
    (hfit : fits cx.cap items.length = true) (hn : g.next = .ok (id, g')) :
    makeT cx (fuel + 1) items g normals rs =
      .ok ⟨.bucket id items, [(id, .desc items)], g', normals, rs, 1, 1⟩ := by
  rcases items with _ | ⟨x, _ | ⟨y, ys⟩⟩
  · simp only [makeT, hfit, hn, if_true]
  · exact absurd rfl (hne x)
  · simp only [makeT, hfit, hn, if_true]


/-! ## `BuildOpts.availableMemory` is never read -/

section memory
variable (c : Cfg) (o : BuildOpts) (m : Option Nat)

theorem deleteLoop_mem (D : List Nat) (s : Store) (roots : List Nat) :
    Build.deleteLoop c { o with availableMemory := m } D s roots = Build.deleteLoop c o D s roots := by
  induction roots with
  | nil => rfl
  | cons r rest ih => simp only [Build.deleteLoop, ih]; rfl

theorem insertRoots_mem (snap : Store) (batch roots : List Nat) (g : IdGen) :
    Build.insertRoots c { o with availableMemory := m } snap batch roots g =
      Build.insertRoots c o snap batch roots g := by
  induction roots generalizing g with
  | nil => rfl
  | cons r rest ih => simp only [Build.insertRoots, ih]; rfl

theorem insertItemsInCurrentTrees_mem (roots : List Nat) (fuel : Nat) (toInsert : List Nat) (g : IdGen) :
    Build.insertItemsInCurrentTrees c { o with availableMemory := m } roots fuel toInsert g =
      Build.insertItemsInCurrentTrees c o roots fuel toInsert g := by
  induction fuel generalizing toInsert g with
  | zero => rfl
  | succ fuel ih => simp only [Build.insertItemsInCurrentTrees, ih, insertRoots_mem]

theorem incrementalIndexLargeDescendants_mem (fuel : Nat) (large : List Nat) (g : IdGen) :
    Build.incrementalIndexLargeDescendants c { o with availableMemory := m } fuel large g =
      Build.incrementalIndexLargeDescendants c o fuel large g := by
  induction fuel generalizing large g with
  | zero => rfl
  | succ fuel ih =>
    cases large with
    | nil => rfl
    | cons b large' => simp only [Build.incrementalIndexLargeDescendants, ih, insertItemsInCurrentTrees_mem]; rfl

end memory

end Arroy

namespace Arroy.C14
open Arroy BuildM Generated IdSet

/-! ## 1. the bounded loops never run out of the model's own fuel -/

/-- **C14 (tree routines)**: `insert_items_in_file`, `D::side` splitting and the attempt loop of
`make_tree_in_file` are structurally recursive: they never report `.fuel` (`delT`, `randomSplit` are pure) -/
theorem C14_tree_routines_no_fuel (cx : TreeCtx) :
    (∀ t ins g rs, NoFuelE (insertT cx t ins g rs)) ∧
    (∀ n xs rs, NoFuelE (sideSplit cx n xs rs)) ∧
    (∀ items attempts normals rs polls, NoFuelE (chooseSplit cx items attempts normals rs polls)) ∧
    (∀ g : IdGen, NoFuelE g.next) :=
  ⟨insertT_noFuel cx, sideSplit_noFuel cx, chooseSplit_noFuel cx, IdGen.next_noFuel⟩

/-- **C14 (batch loop)**: `insert_items_in_current_trees` never fails with `.fuel` when its fuel exceeds the
number of items to insert, whatever the batch lengths the oracle (the memory hint) dictates: each pass
consumes `k ≥ 1` items (`k = 0` is rejected as an oracle error: `ImmutableLeafs::new` always maps at
least one item). -/
theorem C14_insert_terminates (c : Cfg) (o : BuildOpts) (roots : List Nat) (fuel : Nat) (toInsert : List Nat)
    (g : IdGen) (hf : toInsert.length < fuel) :
    NoFuelErr (Build.insertItemsInCurrentTrees c o roots fuel toInsert g) :=
  insertItemsInCurrentTrees_noFuel c o roots fuel toInsert g hf

/-- the two call sites: `build` passes `toInsert.length + 1`, the re-split loop `rest.length + 1` -/
theorem C14_insert_terminates_callsites (c : Cfg) (o : BuildOpts) (roots toInsert : List Nat) (g : IdGen)
    (st : BState) (w : String) :
    Build.insertItemsInCurrentTrees c o roots (toInsert.length + 1) toInsert g st ≠ .error (.fuel w) :=
  C14_insert_terminates c o roots _ toInsert g (Nat.lt_succ_self _) st w

/-- **C14 (`make_tree_in_file`, oracle accounting)**: every split node of the tree made has consumed at
least one normal of the oracle stream -/
theorem C14_makeT_normals (cx : TreeCtx) (fuel : Nat) (items : List Nat) (g : IdGen) (normals : List (List Nat))
    (rs : List Bool) (r : MakeRes) (h : makeT cx fuel items g normals rs = .ok r) :
    r.normals.length + r.tree.splits ≤ normals.length ∧ r.tree.depth ≤ normals.length + 1 := by
  have h1 := makeT_normals_splits cx fuel items g normals rs r h
  have h2 := T.depth_le_splits r.tree
  exact ⟨h1, by omega⟩

/-- **C14 (`make_tree_in_file`, fuel)**: with a fuel larger than the number of normals left, `makeT` never
reports `.fuel`; in particular not with the fuel `normals.length + 2` the re-split loop passes -/
theorem C14_makeT_fuel (cx : TreeCtx) (items : List Nat) (g : IdGen) (normals : List (List Nat)) (rs : List Bool) :
    (∀ fuel, normals.length < fuel → NoFuelE (makeT cx fuel items g normals rs)) ∧
    NoFuelE (makeT cx (normals.length + 2) items g normals rs) :=
  ⟨fun fuel hf => makeT_noFuel cx fuel items g normals rs hf,
   makeT_noFuel cx _ items g normals rs (by omega)⟩

/-- **C14 (`reify`)**: reading a tree the store holds, with pairwise distinct node ids, with the fuel
`s.length + 1` the model uses, succeeds: neither `.fuel` nor `.panic` -/
theorem C14_reify_total (c : Cfg) (s : Store) (t : T) (root : Nat) (h : Holds c s t) (hnd : t.ids.Nodup)
    (hr : t.ref = NodeId.mkTree root) (st : BState) :
    reify c s (s.length + 1) t.ref = some t ∧ Build.reifyRoot c s root st = .ok (t, st) :=
  ⟨reify_of_holds_nodup c s t h hnd, reifyRoot_ok_of_holds c s t root h hnd hr st⟩

/-- **C14 (`delete_tree`)**: deleting a tree the store holds, with pairwise distinct node ids, with the fuel
`s.length + 1` that `delete_extra_trees` passes, succeeds; it erases the node ids of the tree and nothing
else -/
theorem C14_deleteTree_total (c : Cfg) (s : Store) (t : T) (h : Holds c s t) (hnd : t.ids.Nodup) :
    ∃ s', Build.deleteTree c (s.length + 1) t.ref s = .ok s' ∧
      (∀ i ∈ t.ids, Store.get s' (c.treeKey i) = none) ∧
      (∀ k, (∀ i ∈ t.ids, k ≠ c.treeKey i) → Store.get s' k = Store.get s k) :=
  deleteTree_ok_of_holds_nodup c s t h hnd

/-- **C14 (re-split loop, inner loops)**: whatever `incremental_index_large_descendants` does, the only
fuel it can report exhausted is its own budget: `makeT` (fuel `normals.length + 2`) and the batch loop (fuel
`rest.length + 1`) inside it never are -/
theorem C14_resplit_inner_loops_terminate (c : Cfg) (o : BuildOpts) (fuel : Nat) (large : List Nat) (g : IdGen)
    (st : BState) (w : String)
    (h : Build.incrementalIndexLargeDescendants c o fuel large g st = .error (.fuel w)) :
    w = "incremental_index_large_descendants" :=
  incrementalIndexLargeDescendants_fuelOnly c o fuel large g st w h

/-- **C14 (whole build)**: for every store, options, oracle streams (hence every memory hint) and cancel
schedule, the only loops of `build` that can report exhausted fuel are the re-split loop (budget
`loopFuel`) and `delete_tree` (which cannot on a held tree: `C14_deleteTree_total`) -/
theorem C14_build_fuel_labels (c : Cfg) (o : BuildOpts) (loopFuel : Nat) (st : BState) (w : String)
    (h : Build.build c o loopFuel st = .error (.fuel w)) :
    w = "incremental_index_large_descendants" ∨ w = "delete_tree" :=
  build_fuelOnly c o loopFuel st w h

/-- **C14 (whole build, on a forest)**: if the metadata roots of the store are the roots of trees the store
holds, with pairwise distinct node ids (inside and across trees) — what every committed build leaves — then
`delete_tree` never runs out of its fuel either: the ONLY fuel `build` can report exhausted is the budget
`loopFuel` of the re-split loop, for every option, oracle stream (memory hint) and cancel schedule -/
theorem C14_build_fuel_forest (c : Cfg) (o : BuildOpts) (loopFuel : Nat) (st : BState) (ts : List T)
    (hrefs : ts.map T.ref = (Transp.rootsOf c st.store).map NodeId.mkTree)
    (hholds : ∀ t ∈ ts, Holds c st.store t) (hnd : (ts.flatMap T.ids).Nodup)
    (w : String) (h : Build.build c o loopFuel st = .error (.fuel w)) :
    w = "incremental_index_large_descendants" :=
  build_fuelOnly_of_forest c o loopFuel st (deletableRoots_of_forest c st.store _ ts hrefs hholds hnd) w h

/-! ## 2. the re-split loop: deterministic progress, and the livelock before repair G -/

/-- **C14 (progress)**: in one round on an over-full bucket, a batch of `k > cap` items (repair G guarantees
`k ≥ min(ids.length, max(200, cap + 1))`) makes `makeT` return a split node — never a bucket — whose two
subtrees partition the batch, and every bucket below it fits -/
theorem C14_resplit_makes_node (c : Cfg) (o : BuildOpts) (s : Store) (ids : List Nat) (k : Nat) (g : IdGen)
    (normals : List (List Nat)) (rs : List Bool) (r : MakeRes)
    (hcap : 1 ≤ Build.cap c o) (hk : Build.cap c o < k) (hkl : k ≤ ids.length)
    (h : makeT (Build.treeCtx c o s) (normals.length + 2) (ids.take k) g normals rs = .ok r) :
    ∃ id n l r', r.tree = .node id n l r' ∧
      (l.items ++ r'.items).Perm (ids.take k) ∧
      (∀ b ∈ r.tree.buckets, b.2.length ≤ Build.cap c o) ∧
      r.normals.length < normals.length := by
  have hlen : (ids.take k).length = k := by rw [List.length_take]; omega
  obtain ⟨id, n, l, r', e⟩ := makeT_shape_node _ _ _ _ _ _ r h hcap (by
    show Build.cap c o < (ids.take k).length
    omega)
  refine ⟨id, n, l, r', e, ?_, makeT_capacity _ _ _ _ _ _ r h, ?_⟩
  · have := (makeT_items _ _ _ _ _ _ r h).1
    rw [e] at this
    exact this
  · have := makeT_normals_splits _ _ _ _ _ _ r h
    rw [e] at this
    simp only [T.splits] at this
    omega

/-- **C14 (the livelock that repair G removed)**: with a batch that FITS (`k ≤ cap < ids.length`, `k ≠ 1`),
`makeT` returns one bucket holding the batch; re-inserting the rest into that bucket (remapped onto the id `b`
of the over-full bucket) gives the bucket with all the items again, which is reported `large` again: the
round is a fixed point, whatever the oracle streams -/
theorem C14_livelock_before_fix (cx : TreeCtx) (ids : List Nat) (k b : Nat) (g g' : IdGen) (id : Nat)
    (normals : List (List Nat)) (rs : List Bool)
    (hs : Sorted ids) (hk : k ≤ cx.cap) (hk1 : k ≠ 1) (hcap : cx.cap < ids.length)
    (hn : g.next = .ok (id, g')) :
    makeT cx (normals.length + 2) (ids.take k) g normals rs =
        .ok ⟨.bucket id (ids.take k), [(id, .desc (ids.take k))], g', normals, rs, 1, 1⟩ ∧
    ∀ g2 rs2, insertT cx (.bucket b (ids.take k)) (ids.drop k) g2 rs2 =
        .ok ⟨.bucket b ids, [(b, .desc ids)], [b], g2, rs2, 1⟩ := by
  have hlen : (ids.take k).length = k := by rw [List.length_take]; omega
  constructor
  · have hne : ∀ x, ids.take k ≠ [x] := by
      intro x e
      rw [e] at hlen
      exact hk1 hlen.symm
    have hfit : fits cx.cap (ids.take k).length = true := by simp [fits, hlen, hk]
    exact makeT_fitting cx _ _ g g' id normals rs hne hfit hn
  · intro g2 rs2
    have hnf : fits cx.cap ids.length = false := by simp [fits]; omega
    simp only [insertT, union_take_drop ids k hs, hnf, hlen]
    have : k ≠ ids.length := by omega
    simp [this]

/-- the same fixed point for a batch of one item: `makeT` returns the item itself, nothing is written, and
re-inserting the rest into the untouched over-full bucket reports it `large` again -/
theorem C14_livelock_before_fix_single (cx : TreeCtx) (x : Nat) (rest : List Nat) (b : Nat) (g : IdGen)
    (normals : List (List Nat)) (rs : List Bool) (hs : Sorted (x :: rest)) (hcap : cx.cap < (x :: rest).length) :
    makeT cx (normals.length + 2) ((x :: rest).take 1) g normals rs = .ok ⟨.leaf x, [], g, normals, rs, 1, 0⟩ ∧
    ∀ g2 rs2, insertT cx (.bucket b (x :: rest)) ((x :: rest).drop 1) g2 rs2 =
        .ok ⟨.bucket b (x :: rest), [], [b], g2, rs2, 1⟩ := by
  constructor
  · rfl
  · intro g2 rs2
    have hu : IdSet.union (x :: rest) rest = x :: rest := by
      apply sorted_ext (sorted_union hs hs.tail) hs
      intro y
      rw [mem_union]
      constructor
      · rintro (h | h)
        · exact h
        · exact List.mem_cons_of_mem _ h
      · exact Or.inl
    have hnf : fits cx.cap (x :: rest).length = false := by simp [fits]; simpa using hcap
    simp only [insertT, List.drop_one, List.tail_cons, hu, hnf]
    simp

/-! ## 3. `available_memory` enters the model through the `batches` oracle stream only -/

/-- **C14 (any memory hint)**: `BuildOpts.availableMemory` is never read by `Build.build`: the hint acts only
through the `batches` oracle stream of the state.  Hence every theorem about `Build.build` quantified
over all states `st` covers every value of `available_memory` (0, a few pages, ample, unset). -/
theorem C14_any_memory (c : Cfg) (o : BuildOpts) (m : Option Nat) (fuel : Nat) (st : BState) :
    Build.build c { o with availableMemory := m } fuel st = Build.build c o fuel st := by
  have e : Build.build c { o with availableMemory := m } fuel = Build.build c o fuel := by
    unfold Build.build Build.deleteItemsFromTrees
    simp only [deleteLoop_mem, insertItemsInCurrentTrees_mem, incrementalIndexLargeDescendants_mem]
    rfl
  rw [e]

/-! ## non-vacuity -/
namespace Examples

def isOk {α : Type} : Except Err α → Bool | .ok _ => true | .error _ => false
def isFuel {α : Type} : Except Err α → Bool | .error (.fuel _) => true | _ => false

def c : Cfg := { index := 0, metric := .euclidean, dims := 2 }
def o : BuildOpts := { splitAfter := some 2 }
/-- the index of `ForestExample` — (0,0), (1,0), (0,2) under the tree `0 = split(1 = {0, 1}, item 2)` — with two
more stored items (1,1) and (2,0) which no tree reaches yet -/
def s : Store :=
  Store.put (Store.put ForestExample.s (c.itemKey 3) (.leaf [F32.zero] [F32.one, F32.one]))
    (c.itemKey 4) (.leaf [F32.zero] [F32.two, F32.zero])
def g : IdGen := IdGen.new [0, 1]
/-- the same with bucket `1` over-full (capacity 2): `{0, 1, 3}` -/
def sLarge : Store := Store.put s (c.treeKey 1) (.desc [0, 1, 3])

/-- `C14_insert_terminates`: two items, fuel 3, two batches of one item: the loop succeeds ... -/
example : isOk (Build.insertItemsInCurrentTrees c o [0] 3 [3, 4] g
    { store := s, batches := [1, 1], rands := [true] }) = true := by decide +kernel
/-- ... and the hypothesis `toInsert.length < fuel` is sharp: with fuel 2 the model reports `.fuel` -/
example : isFuel (Build.insertItemsInCurrentTrees c o [0] 2 [3, 4] g
    { store := s, batches := [1, 1], rands := [true] }) = true := by decide +kernel

/-- `C14_makeT_fuel` / `C14_makeT_normals`: the run of `MakeTExample` (two normals, fuel `2 + 2`) succeeds with
two split nodes and depth 3; with fuel 2 the same call reports `.fuel` (three levels are needed) -/
example : (makeT InsTExample.cx ([[7], [8]].length + 2) [1, 2, 3, 4, 5] InsTExample.g [[7], [8]]
      [true, true, false, true]).toOption.map (fun r => (r.tree.splits, r.tree.depth, r.normals.length)) =
    some (2, 3, 0) := by decide +kernel
example : isFuel (makeT InsTExample.cx 2 [1, 2, 3, 4, 5] InsTExample.g [[7], [8]] [true, true, false, true]) = true := by
  decide +kernel

/-- `C14_reify_total`, `C14_deleteTree_total`: the tree of `ForestExample` -/
example : Holds ForestExample.c ForestExample.s ForestExample.tree ∧ ForestExample.tree.ids.Nodup ∧
    ForestExample.tree.ref = NodeId.mkTree 0 :=
  ⟨ForestExample.forestWith.holds _ (by simp), by decide, rfl⟩

/-- `C14_build_fuel_forest`: the built index of the C10 examples (metadata root 0 = the bucket `{0, 1, 2}`) -/
example : [T.bucket 0 [0, 1, 2]].map T.ref = (Transp.rootsOf C10.cEx C10.sBuilt).map NodeId.mkTree ∧
    (∀ t ∈ [T.bucket 0 [0, 1, 2]], Holds C10.cEx C10.sBuilt t) ∧ ([T.bucket 0 [0, 1, 2]].flatMap T.ids).Nodup := by
  refine ⟨by decide, ?_, by decide⟩
  intro t ht
  simp only [List.mem_singleton] at ht
  subst ht
  unfold Holds
  decide

/-- `C14_resplit_makes_node`: capacity 2, the over-full bucket `{0, 1, 3}`, a batch of all 3 items -/
example : 1 ≤ Build.cap c o ∧ Build.cap c o < 3 ∧ 3 ≤ [0, 1, 3].length ∧
    (makeT (Build.treeCtx c o sLarge) ([[F32.one, F32.zero]].length + 2) ([0, 1, 3].take 3) g [[F32.one, F32.zero]]
      [true, false, true, true]).toOption.map (·.tree) =
    some (.node 3 [F32.one, F32.zero] (.leaf 0) (.bucket 2 [1, 3])) := by
  decide +kernel

/-- the whole round on that bucket: it succeeds and empties the `large` list within a budget of 2 rounds -/
example : isOk (Build.incrementalIndexLargeDescendants c o 2 [1] g
    { store := sLarge, batches := [3], rands := [true, false, true, true], normals := [[F32.one, F32.zero]] }) = true := by
  decide +kernel

/-- `C14_livelock_before_fix` at the level of the loop: batches that fit (2 ≤ capacity 2 < 3 items, then the
1 remaining item) reproduce the over-full bucket, round after round, until the budget is exhausted -/
example : isFuel (Build.incrementalIndexLargeDescendants c o 3 [1] g
    { store := sLarge, batches := [2, 1, 2, 1, 2, 1] }) = true := by
  decide +kernel
example : Sorted [0, 1, 3] ∧ 2 ≤ (Build.treeCtx c o sLarge).cap ∧ (2 : Nat) ≠ 1 ∧
    (Build.treeCtx c o sLarge).cap < [0, 1, 3].length ∧ isOk g.next = true := by decide +kernel

/-- `C14_any_memory`: a hint of zero bytes -/
example (fuel : Nat) (st : BState) :
    Build.build c { o with availableMemory := some 0 } fuel st = Build.build c o fuel st :=
  C14_any_memory c o (some 0) fuel st

end Examples

end Arroy.C14
