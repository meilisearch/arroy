import ArroyProofs.ResplitFairBound
import ArroyProofs.Properties.C14FairBuild
/-! C14 — a closed-form loop budget for the whole build.

`C14_build_terminates_above_cap` needs `buildLoopMeasure c o st < loopFuel`, where the measure is read off the state
the prefix of the build leaves.  Here the measure is bounded by the input alone: with

* `n` = the number of stored items, `(st.store.keysOf c.index modeItem).length`,
* `T` = the number of trees the build aims at, `Build.targetNTrees o c.dims n r` where `r` is the number of roots
  recorded in the metadata, `(rootsOf c st.store).length` (this IS the number of roots at loop entry),

the measure is at most `T * (n - 1) ≤ T * n`.  `T` is the requested count when `o.nTrees = some t`, and at most
`max r (max 1 n)` (`max r c.dims` when `0 < c.dims`) when `o.nTrees = none`. -/
namespace Arroy.C14
open Arroy BuildM Generated IdSet Transp

/-- **C14 (the measure of the queue at loop entry, sharp form)**: at most `T * (n - 1)`: every queued id with a
non-zero size is a bucket of one of the `T` trees at loop entry, the queue is duplicate-free, and the buckets of one
tree hold `Σ (size - 1) ≤ n - 1` -/
theorem C14_loop_measure_bound_sharp (c : Cfg) (o : BuildOpts) (st : BState)
    (hi : c.index < 65536) (hcap : 1 ≤ Build.cap c o) (hinv : IndexInvW c st.store) (hnone : st.cancelAt = none) :
    buildLoopMeasure c o st ≤
      Build.targetNTrees o c.dims (st.store.keysOf c.index modeItem).length (rootsOf c st.store).length *
        ((st.store.keysOf c.index modeItem).length - 1) := by
  obtain ⟨roots0, items0, ts0, old⟩ := Old.of_inv hinv hi
  unfold buildLoopMeasure
  split
  · rename_i items roots large g st1 hp
    obtain ⟨ts, inUse, f, _, _, _, _, hitems, hlen, hsorted⟩ :=
      buildPrefix_spec c o st st1 roots0 items0 ts0 items roots large g hi hcap hinv.sorted hinv.wf old hnone
        freshSupply hp
    have hnd : items.Nodup := by
      rw [hitems]
      exact (Store.keysOf_sorted hinv.sorted hinv.wf _ _ hi (by decide)).nodup
    have := forest_loopMeasure_le f hnd large hsorted.nodup
    rw [hlen, hitems] at this
    exact this
  · exact Nat.zero_le _

/-- **C14 (the measure of the queue at loop entry)**: at most `T * n`, `T` the number of trees the build aims at
and `n` the number of stored items -/
theorem C14_loop_measure_bound (c : Cfg) (o : BuildOpts) (st : BState)
    (hi : c.index < 65536) (hcap : 1 ≤ Build.cap c o) (hinv : IndexInvW c st.store) (hnone : st.cancelAt = none) :
    buildLoopMeasure c o st ≤
      Build.targetNTrees o c.dims (st.store.keysOf c.index modeItem).length (rootsOf c st.store).length *
        (st.store.keysOf c.index modeItem).length :=
  Nat.le_trans (C14_loop_measure_bound_sharp c o st hi hcap hinv hnone) (Nat.mul_le_mul_left _ (Nat.sub_le _ _))

/-- **C14 (the number of trees aimed at, requested)**: the requested count -/
theorem C14_target_trees_some (o : BuildOpts) (dims n r t : Nat) (h : o.nTrees = some t) :
    Build.targetNTrees o dims n r = t := by
  simp only [Build.targetNTrees, h]

/-- without a requested count, `target_n_trees` is the number of recorded roots or `max (n / (n / dims + 1)) 1` -/
theorem targetNTrees_none_le (o : BuildOpts) (dims n r b : Nat) (h : o.nTrees = none)
    (hnb : Nat.max (n / (n / dims + 1)) 1 ≤ b) : Build.targetNTrees o dims n r ≤ max r b := by
  simp only [Build.targetNTrees, h]
  generalize Nat.max (n / (n / dims + 1)) 1 = nb at hnb ⊢
  split
  · split <;> omega
  · omega

/-- **C14 (the number of trees aimed at, default)**: at most the number of recorded roots, or of items, or 1 -/
theorem C14_target_trees_none_le (o : BuildOpts) (dims n r : Nat) (h : o.nTrees = none) :
    Build.targetNTrees o dims n r ≤ max r (max 1 n) := by
  apply targetNTrees_none_le o dims n r _ h
  have := Nat.div_le_self n (n / dims + 1)
  show max (n / (n / dims + 1)) 1 ≤ max 1 n
  omega

/-- **C14 (the number of trees aimed at, default, by the dimension)**: at most the number of recorded roots or the
dimension -/
theorem C14_target_trees_none_le_dims (o : BuildOpts) (dims n r : Nat) (h : o.nTrees = none) (hd : 0 < dims) :
    Build.targetNTrees o dims n r ≤ max r dims := by
  apply targetNTrees_none_le o dims n r _ h
  have h1 : n / (n / dims + 1) < dims := by
    rw [Nat.div_lt_iff_lt_mul (Nat.succ_pos _)]
    have h2 := Nat.div_add_mod n dims
    have h3 := Nat.mod_lt n hd
    have h4 : dims * (n / dims + 1) = dims * (n / dims) + dims := by rw [Nat.mul_add, Nat.mul_one]
    show n < dims * (n / dims + 1)
    omega
  show max (n / (n / dims + 1)) 1 ≤ dims
  omega

/-- **C14 (a build terminates within an explicit budget)**: on a store satisfying the index invariant, without
cancellation schedule, for every option and oracle stream (hence every memory hint): if the loop budget exceeds
`T * n` (`T` the number of trees aimed at, `n` the number of stored items — both read off the input) and every round
this very run goes through (`buildTrace c o loopFuel st`) has a batch longer than the capacity, this run does not
report any exhausted fuel -/
theorem C14_build_terminates_explicit (c : Cfg) (o : BuildOpts) (loopFuel : Nat) (st : BState)
    (hi : c.index < 65536) (hcap : 1 ≤ Build.cap c o) (hinv : IndexInvW c st.store) (hnone : st.cancelAt = none)
    (hfuel : Build.targetNTrees o c.dims (st.store.keysOf c.index modeItem).length (rootsOf c st.store).length *
      (st.store.keysOf c.index modeItem).length < loopFuel)
    (hbatch : ∀ f ∈ buildTrace c o loopFuel st, Build.cap c o < f.batch) (w : String) :
    Build.build c o loopFuel st ≠ .error (.fuel w) :=
  C14_build_terminates_above_cap c o loopFuel st hi hcap hinv hnone
    (Nat.lt_of_le_of_lt (C14_loop_measure_bound c o st hi hcap hinv hnone) hfuel) hbatch w

/-- **C14 (the same with the sharp budget)** `T * (n - 1) < loopFuel` -/
theorem C14_build_terminates_explicit_sharp (c : Cfg) (o : BuildOpts) (loopFuel : Nat) (st : BState)
    (hi : c.index < 65536) (hcap : 1 ≤ Build.cap c o) (hinv : IndexInvW c st.store) (hnone : st.cancelAt = none)
    (hfuel : Build.targetNTrees o c.dims (st.store.keysOf c.index modeItem).length (rootsOf c st.store).length *
      ((st.store.keysOf c.index modeItem).length - 1) < loopFuel)
    (hbatch : ∀ f ∈ buildTrace c o loopFuel st, Build.cap c o < f.batch) (w : String) :
    Build.build c o loopFuel st ≠ .error (.fuel w) :=
  C14_build_terminates_above_cap c o loopFuel st hi hcap hinv hnone
    (Nat.lt_of_le_of_lt (C14_loop_measure_bound_sharp c o st hi hcap hinv hnone) hfuel) hbatch w

/-- **C14 (explicit budget, any upper bound of the number of trees)** -/
theorem C14_build_terminates_trees_le (c : Cfg) (o : BuildOpts) (loopFuel : Nat) (st : BState) (T : Nat)
    (hi : c.index < 65536) (hcap : 1 ≤ Build.cap c o) (hinv : IndexInvW c st.store) (hnone : st.cancelAt = none)
    (hT : Build.targetNTrees o c.dims (st.store.keysOf c.index modeItem).length (rootsOf c st.store).length ≤ T)
    (hfuel : T * (st.store.keysOf c.index modeItem).length < loopFuel)
    (hbatch : ∀ f ∈ buildTrace c o loopFuel st, Build.cap c o < f.batch) (w : String) :
    Build.build c o loopFuel st ≠ .error (.fuel w) :=
  C14_build_terminates_explicit c o loopFuel st hi hcap hinv hnone
    (Nat.lt_of_le_of_lt (Nat.mul_le_mul_right _ hT) hfuel) hbatch w

/-- **C14 (explicit budget, requested number of trees)**: with `o.nTrees = some t`, a loop budget above `t * n` -/
theorem C14_build_terminates_ntrees (c : Cfg) (o : BuildOpts) (loopFuel : Nat) (st : BState) (t : Nat)
    (hi : c.index < 65536) (hcap : 1 ≤ Build.cap c o) (hinv : IndexInvW c st.store) (hnone : st.cancelAt = none)
    (ht : o.nTrees = some t)
    (hfuel : t * (st.store.keysOf c.index modeItem).length < loopFuel)
    (hbatch : ∀ f ∈ buildTrace c o loopFuel st, Build.cap c o < f.batch) (w : String) :
    Build.build c o loopFuel st ≠ .error (.fuel w) :=
  C14_build_terminates_trees_le c o loopFuel st t hi hcap hinv hnone
    (Nat.le_of_eq (C14_target_trees_some o _ _ _ t ht)) hfuel hbatch w

/-- **C14 (explicit budget, default number of trees)**: with `o.nTrees = none`, a loop budget above
`max r (max 1 n) * n`, `r` the number of recorded roots -/
theorem C14_build_terminates_default (c : Cfg) (o : BuildOpts) (loopFuel : Nat) (st : BState)
    (hi : c.index < 65536) (hcap : 1 ≤ Build.cap c o) (hinv : IndexInvW c st.store) (hnone : st.cancelAt = none)
    (ht : o.nTrees = none)
    (hfuel : max (rootsOf c st.store).length (max 1 (st.store.keysOf c.index modeItem).length) *
      (st.store.keysOf c.index modeItem).length < loopFuel)
    (hbatch : ∀ f ∈ buildTrace c o loopFuel st, Build.cap c o < f.batch) (w : String) :
    Build.build c o loopFuel st ≠ .error (.fuel w) :=
  C14_build_terminates_trees_le c o loopFuel st _ hi hcap hinv hnone
    (C14_target_trees_none_le o _ _ _ ht) hfuel hbatch w

/-- **C14 (explicit budget, default number of trees, by the dimension)**: with `o.nTrees = none` and a positive
dimension, a loop budget above `max r dims * n` -/
theorem C14_build_terminates_default_dims (c : Cfg) (o : BuildOpts) (loopFuel : Nat) (st : BState)
    (hi : c.index < 65536) (hcap : 1 ≤ Build.cap c o) (hinv : IndexInvW c st.store) (hnone : st.cancelAt = none)
    (ht : o.nTrees = none) (hd : 0 < c.dims)
    (hfuel : max (rootsOf c st.store).length c.dims * (st.store.keysOf c.index modeItem).length < loopFuel)
    (hbatch : ∀ f ∈ buildTrace c o loopFuel st, Build.cap c o < f.batch) (w : String) :
    Build.build c o loopFuel st ≠ .error (.fuel w) :=
  C14_build_terminates_trees_le c o loopFuel st _ hi hcap hinv hnone
    (C14_target_trees_none_le_dims o _ _ _ ht hd) hfuel hbatch w

/-- **C14 (explicit budget, fair rounds)**: the same when every round of the loop is fair -/
theorem C14_build_terminates_fair_explicit (c : Cfg) (o : BuildOpts) (loopFuel : Nat) (st : BState)
    (hi : c.index < 65536) (hcap : 1 ≤ Build.cap c o) (hinv : IndexInvW c st.store) (hnone : st.cancelAt = none)
    (hfuel : Build.targetNTrees o c.dims (st.store.keysOf c.index modeItem).length (rootsOf c st.store).length *
      (st.store.keysOf c.index modeItem).length < loopFuel)
    (hfair : ∀ f ∈ buildTrace c o loopFuel st, f.fair) (w : String) :
    Build.build c o loopFuel st ≠ .error (.fuel w) :=
  C14_build_terminates_fair c o loopFuel st hi hcap hinv hnone
    (Nat.lt_of_le_of_lt (C14_loop_measure_bound c o st hi hcap hinv hnone) hfuel) hfair w

/-! ## non-vacuity: the second build of the history of `C01Examples` (`FairExamples.st2`: 5 stored items, one
recorded root, `nTrees = some 1`), with loop budgets 6 (`> T * n = 5`) and 5 (`> T * (n - 1) = 4`) -/
namespace BoundExamples
open C01 C01.Ex FairExamples

/-- the input: 5 stored items, 1 recorded root, 1 tree aimed at; the measure of the queue is 2; with the budget 6
the loop is the one round of `build2_trace` -/
theorem st2_facts :
    (st2.store.keysOf cEx.index modeItem).length = 5 ∧ (rootsOf cEx st2.store).length = 1 ∧
    Build.targetNTrees oEx cEx.dims 5 1 = 1 ∧ buildTrace cEx oEx 6 st2 = [⟨2, 3, 3, 1, 2, []⟩] := by
  unfold st2; rw [C01.Ex.run_ops2]; decide +kernel

/-- the same build with the default number of trees (`nTrees = none`: `5 / (5 / 2 + 1) = 1` tree) -/
def oDef : BuildOpts := { splitAfter := some 2 }

theorem st2_facts_default :
    Build.targetNTrees oDef cEx.dims 5 1 = 1 ∧ buildTrace cEx oDef 26 st2 = [⟨2, 3, 3, 1, 2, []⟩] ∧
    buildLoopMeasure cEx oDef st2 = 2 := by
  unfold st2; rw [C01.Ex.run_ops2]; decide +kernel

-- from here on the concrete history is only used through the facts above
attribute [local irreducible] run

/-- the bound is not vacuous: measure `2 ≤ 1 * (5 - 1) ≤ 1 * 5` -/
example : buildLoopMeasure cEx oEx st2 = 2 ∧
    Build.targetNTrees oEx cEx.dims (st2.store.keysOf cEx.index modeItem).length (rootsOf cEx st2.store).length *
      ((st2.store.keysOf cEx.index modeItem).length - 1) = 4 := by
  refine ⟨build2_trace.2, ?_⟩
  rw [st2_facts.1, st2_facts.2.1, st2_facts.2.2.1]

example : buildLoopMeasure cEx oEx st2 ≤
    Build.targetNTrees oEx cEx.dims (st2.store.keysOf cEx.index modeItem).length (rootsOf cEx st2.store).length *
      (st2.store.keysOf cEx.index modeItem).length :=
  C14_loop_measure_bound cEx oEx st2 (by decide) (by decide) st2_inv rfl

/-- the hypotheses of `C14_build_terminates_explicit` (and of its `nTrees = some t` corollary) hold on `st2` with
the budget 6 -/
example : cEx.index < 65536 ∧ 1 ≤ Build.cap cEx oEx ∧ IndexInvW cEx st2.store ∧ st2.cancelAt = none ∧
    oEx.nTrees = some 1 ∧
    Build.targetNTrees oEx cEx.dims (st2.store.keysOf cEx.index modeItem).length (rootsOf cEx st2.store).length *
      (st2.store.keysOf cEx.index modeItem).length < 6 ∧
    1 * (st2.store.keysOf cEx.index modeItem).length < 6 ∧
    (∀ f ∈ buildTrace cEx oEx 6 st2, Build.cap cEx oEx < f.batch) ∧ (∀ f ∈ buildTrace cEx oEx 6 st2, f.fair) := by
  refine ⟨by decide, by decide, st2_inv, rfl, rfl, ?_, ?_, ?_, ?_⟩
  · rw [st2_facts.1, st2_facts.2.1, st2_facts.2.2.1]; decide
  · rw [st2_facts.1]; decide
  · rw [st2_facts.2.2.2]; decide
  · rw [st2_facts.2.2.2]; decide

example (w : String) : Build.build cEx oEx 6 st2 ≠ .error (.fuel w) :=
  C14_build_terminates_explicit cEx oEx 6 st2 (by decide) (by decide) st2_inv rfl
    (by rw [st2_facts.1, st2_facts.2.1, st2_facts.2.2.1]; decide)
    (by rw [st2_facts.2.2.2]; decide) w

example (w : String) : Build.build cEx oEx 6 st2 ≠ .error (.fuel w) :=
  C14_build_terminates_ntrees cEx oEx 6 st2 1 (by decide) (by decide) st2_inv rfl rfl
    (by rw [st2_facts.1]; decide) (by rw [st2_facts.2.2.2]; decide) w

/-- with the sharp budget the loop budget 5 of the original history is enough: `1 * (5 - 1) < 5` -/
example (w : String) : Build.build cEx oEx 5 st2 ≠ .error (.fuel w) :=
  C14_build_terminates_explicit_sharp cEx oEx 5 st2 (by decide) (by decide) st2_inv rfl
    (by rw [st2_facts.1, st2_facts.2.1, st2_facts.2.2.1]; decide)
    (by rw [build2_trace.1]; decide) w

/-- the hypotheses of the `nTrees = none` corollaries hold on `st2` with the budget 26:
`max 1 (max 1 5) * 5 = 25 < 26` and `max 1 2 * 5 = 10 < 26` -/
example : oDef.nTrees = none ∧ 0 < cEx.dims ∧ 1 ≤ Build.cap cEx oDef ∧
    max (rootsOf cEx st2.store).length (max 1 (st2.store.keysOf cEx.index modeItem).length) *
      (st2.store.keysOf cEx.index modeItem).length < 26 ∧
    max (rootsOf cEx st2.store).length cEx.dims * (st2.store.keysOf cEx.index modeItem).length < 26 ∧
    (∀ f ∈ buildTrace cEx oDef 26 st2, Build.cap cEx oDef < f.batch) := by
  refine ⟨rfl, by decide, by decide, ?_, ?_, ?_⟩
  · rw [st2_facts.1, st2_facts.2.1]; decide
  · rw [st2_facts.1, st2_facts.2.1]; decide
  · rw [st2_facts_default.2.1]; decide

example (w : String) : Build.build cEx oDef 26 st2 ≠ .error (.fuel w) :=
  C14_build_terminates_default cEx oDef 26 st2 (by decide) (by decide) st2_inv rfl rfl
    (by rw [st2_facts.1, st2_facts.2.1]; decide) (by rw [st2_facts_default.2.1]; decide) w

example (w : String) : Build.build cEx oDef 26 st2 ≠ .error (.fuel w) :=
  C14_build_terminates_default_dims cEx oDef 26 st2 (by decide) (by decide) st2_inv rfl rfl (by decide)
    (by rw [st2_facts.1, st2_facts.2.1]; decide) (by rw [st2_facts_default.2.1]; decide) w

end BoundExamples

end Arroy.C14
