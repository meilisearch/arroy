import ArroyProofs.ResplitFairLoop
import ArroyProofs.FreshSupplyProof
import ArroyProofs.Properties.C14
/-! C14 / C20 — the re-split loop `incremental_index_large_descendants` terminates under fair splits.

In the implementation the loop terminates with probability one only: a split search may send every item of a
batch to one side, the other child is then an empty bucket and the recursion goes on with the same set.  A round
is FAIR when the tree `make_tree_in_file` built from the batch has a root split with two non-empty sides
(`RoundFact.fair`; this forces the batch to be longer than the capacity: `C14_fair_batch_above_cap`).

* `C14_fair_round_decreases`: one fair round, stated on the model's own functions: `b` becomes a split node, and
  every bucket below it afterwards — in particular every queued one — holds strictly fewer items than `b` held,
  all of them items of `b`; the queued ids are exactly the over-full buckets below `b`.
* `C14_fair_round_measure`: the measure `Σ (size - 1)` of the queue decreases.
* `C14_traced_loop`: the instrumented loop (`loopTraced`, which also returns the facts of the rounds it ran)
  is the model loop.
* `C14_fair_terminates` / `C14_fuel_needs_unfair_round`: with more fuel than the measure of the queue, a run
  that ends in `.fuel` had an unfair round.
* Stronger, and what the proofs actually use: fairness of the ROOT split is not needed.  A round that succeeds
  with a batch longer than the capacity already decreases the measure (`C14_round_above_cap_decreases`,
  `C14_round_measure`), because `make_tree_in_file` only returns buckets within the capacity: an unfair root
  split is followed, inside the same call, by further splits of the same set.  Hence
  `C14_terminates_above_cap` / `C14_fuel_needs_small_batch`: a run that ends in `.fuel` had a round with a batch
  `k ≤ cap` (the livelock repair G removed); the probabilistic part of the termination sits in the recursion of
  `make_tree_in_file`, bounded in the model by the finite `normals` oracle.

Hypotheses: the store holds a forest (`Forest`), the id generator is fresh for the node ids in use (`GenOK`),
keys are well formed, the queued ids are in use — what `Build.build` establishes before the loop
(`buildPrefix_spec`) — and `1 ≤ cap`. -/
namespace Arroy.C14
open Arroy BuildM Generated IdSet

/-- **C14 (a fair round makes progress)**: one round of the loop (the `fuel + 1`, `b :: large'` branch, step by
step) on the over-full bucket `b` holding `ids`, for every oracle, poll and cancel state, assuming every step
succeeds.  If the tree made from the batch is a split node with two non-empty sides then: the loop continues
with the queue `large' ∪ large''`; the batch was longer than the capacity; after the round `b` is a split node
with the same normal; every bucket of the subtree `u'` below `b` is stored, holds only items of `ids` and
strictly fewer than `ids.length`; the over-full ones are queued, and `large''` consists of over-full buckets of
`u'` only. -/
theorem C14_fair_round_decreases (c : Cfg) (o : BuildOpts) (roots items : List Nat) (ts : List T) (inUse : List Nat)
    (b : Nat) (ids : List Nat) (k : Nat) (g g' : IdGen) (r : MakeRes) (st st1 st2 st3 st4 st' : BState)
    (large'' : List Nat) (id : Nat) (n : List Nat) (ta tb : T)
    (hi : c.index < 65536) (hcap : 1 ≤ Build.cap c o)
    -- the index before the round
    (f : Forest c st.store roots items ts) (hin : ∀ i ∈ ts.flatMap T.ids, i ∈ inUse) (hg : GenOK inUse g)
    (hw : Store.WF st.store)
    -- the round
    (hget : Store.get st.store (c.treeKey b) = some (.desc ids))
    (hpoll : poll st = .ok ((), st1))
    (hbatch : nextBatch st1 = .ok (k, st2))
    (hrange : ¬ (k = 0 ∨ k > ids.length))
    (hmake : makeT (Build.treeCtx c o st.store) (st2.normals.length + 2) (ids.take k) g st2.normals st2.rands = .ok r)
    (hpolls : pollN r.polls { st2 with normals := r.normals, rands := r.rands } = .ok ((), st3))
    (hwrite : Build.writeBack c [] r.puts (fun i => if i = r.tree.ref.item then b else i) st3 = .ok ((), st4))
    (hins : Build.insertItemsInCurrentTrees c o [b] ((ids.drop k).length + 1) (ids.drop k) r.gen st4 =
      .ok ((large'', g'), st'))
    -- it is fair
    (hnode : r.tree = .node id n ta tb) (ha : ta.items ≠ []) (hb : tb.items ≠ []) :
    (∀ fuel large', Build.incrementalIndexLargeDescendants c o (fuel + 1) (b :: large') g st =
        Build.incrementalIndexLargeDescendants c o fuel (IdSet.union large' large'') g' st') ∧
    Build.cap c o < k ∧
    ∃ u' l' r', reify c st'.store (st'.store.length + 1) (NodeId.mkTree b) = some u' ∧ u' = .node b n l' r' ∧
      Store.get st'.store (c.treeKey b) = some (.split l'.ref r'.ref n) ∧
      l'.items ≠ [] ∧ r'.items ≠ [] ∧ l'.items.length + r'.items.length = ids.length ∧
      (∀ p ∈ u'.buckets, Store.get st'.store (c.treeKey p.1) = some (.desc p.2) ∧
        p.2.length < ids.length ∧ (∀ x ∈ p.2, x ∈ ids) ∧ (Build.cap c o < p.2.length → p.1 ∈ large'')) ∧
      (∀ i ∈ large'', ∃ s, (i, s) ∈ u'.buckets ∧ Build.cap c o < s.length) := by
  have steps : RoundSteps c o b g st ids k r st1 st2 st3 st4 st' large'' g' :=
    ⟨hget, hpoll, hbatch, hrange, hmake, hpolls, hwrite, hins⟩
  have hk : Build.cap c o < k := by
    have : Build.cap c o < (ids.take k).length := makeT_node_batch hmake hnode
    rw [List.length_take] at this
    omega
  obtain ⟨id', n', a0, b0, u', inUse', ert, hp, out'⟩ := steps.out hi hcap f hin hg hw hk
  rw [hnode] at ert
  cases ert
  obtain ⟨l', r', h1, e, h2, ga, gb, hlen, h3, h4⟩ := out'.progress hp
  refine ⟨fun fuel large' => loop_succ_cons_ok c o fuel b large' g (resplitRound_ok_of_steps steps), hk,
    u', l', r', h1, e, h2, ?_, ?_, hlen, h3, h4⟩
  · obtain ⟨x, hx⟩ := List.exists_mem_of_ne_nil _ ha
    exact List.ne_nil_of_mem (ga.items x hx)
  · obtain ⟨x, hx⟩ := List.exists_mem_of_ne_nil _ hb
    exact List.ne_nil_of_mem (gb.items x hx)

/-- **C14 (a round with a batch above the capacity makes progress)**: the same without fairness of the root
split: a round that succeeds with `cap < k` turns `b` into a split node, and every bucket below it afterwards
holds strictly fewer items than `b` held, all of them items of `b`; the queued ids are exactly the over-full
ones.  (An unfair root split is followed, inside the same `make_tree_in_file` call, by further splits of the
same set: the made tree has buckets within the capacity only, hence at least two non-empty parts.) -/
theorem C14_round_above_cap_decreases (c : Cfg) (o : BuildOpts) (roots items : List Nat) (ts : List T)
    (inUse : List Nat) (b : Nat) (ids : List Nat) (k : Nat) (g g' : IdGen) (r : MakeRes)
    (st st1 st2 st3 st4 st' : BState) (large'' : List Nat)
    (hi : c.index < 65536) (hcap : 1 ≤ Build.cap c o)
    (f : Forest c st.store roots items ts) (hin : ∀ i ∈ ts.flatMap T.ids, i ∈ inUse) (hg : GenOK inUse g)
    (hw : Store.WF st.store)
    (hget : Store.get st.store (c.treeKey b) = some (.desc ids))
    (hpoll : poll st = .ok ((), st1))
    (hbatch : nextBatch st1 = .ok (k, st2))
    (hrange : ¬ (k = 0 ∨ k > ids.length))
    (hmake : makeT (Build.treeCtx c o st.store) (st2.normals.length + 2) (ids.take k) g st2.normals st2.rands = .ok r)
    (hpolls : pollN r.polls { st2 with normals := r.normals, rands := r.rands } = .ok ((), st3))
    (hwrite : Build.writeBack c [] r.puts (fun i => if i = r.tree.ref.item then b else i) st3 = .ok ((), st4))
    (hins : Build.insertItemsInCurrentTrees c o [b] ((ids.drop k).length + 1) (ids.drop k) r.gen st4 =
      .ok ((large'', g'), st'))
    (hk : Build.cap c o < k) :
    (∀ fuel large', Build.incrementalIndexLargeDescendants c o (fuel + 1) (b :: large') g st =
        Build.incrementalIndexLargeDescendants c o fuel (IdSet.union large' large'') g' st') ∧
    ∃ u' n l' r', reify c st'.store (st'.store.length + 1) (NodeId.mkTree b) = some u' ∧ u' = .node b n l' r' ∧
      Store.get st'.store (c.treeKey b) = some (.split l'.ref r'.ref n) ∧
      l'.items.length + r'.items.length = ids.length ∧
      (∀ p ∈ u'.buckets, Store.get st'.store (c.treeKey p.1) = some (.desc p.2) ∧
        p.2.length < ids.length ∧ (∀ x ∈ p.2, x ∈ ids) ∧ (Build.cap c o < p.2.length → p.1 ∈ large'')) ∧
      (∀ i ∈ large'', ∃ s, (i, s) ∈ u'.buckets ∧ Build.cap c o < s.length) := by
  have steps : RoundSteps c o b g st ids k r st1 st2 st3 st4 st' large'' g' :=
    ⟨hget, hpoll, hbatch, hrange, hmake, hpolls, hwrite, hins⟩
  obtain ⟨id, n, a0, b0, u', inUse', _, hp, out'⟩ := steps.out hi hcap f hin hg hw hk
  obtain ⟨l', r', h1, e, h2, _, _, hlen, h3, h4⟩ := out'.progress hp
  exact ⟨fun fuel large' => loop_succ_cons_ok c o fuel b large' g (resplitRound_ok_of_steps steps),
    u', n, l', r', h1, e, h2, hlen, h3, h4⟩

/-- **C14 (the measure of a round, batch above the capacity)**: fairness of the root split is not even needed
for the measure: a round that succeeds with a batch longer than the capacity strictly decreases the measure
`Σ (size - 1)` of the queue (`loopMeasure`; sizes read in the store, before and after), provided the other queued
ids are in use.  (`make_tree_in_file` returns buckets within the capacity only: an unfair root split is followed,
inside the same call, by further splits of the same set until one separates it; a split search that never
separates shows as an exhausted `normals` stream, an `.oracle` error, not as a further round.) -/
theorem C14_round_measure (c : Cfg) (o : BuildOpts) (roots items : List Nat) (ts : List T) (inUse : List Nat)
    (b : Nat) (g g' : IdGen) (st st' : BState) (fact : RoundFact) (large' large'' : List Nat)
    (hi : c.index < 65536) (hcap : 1 ≤ Build.cap c o)
    (f : Forest c st.store roots items ts) (hin : ∀ i ∈ ts.flatMap T.ids, i ∈ inUse) (hg : GenOK inUse g)
    (hw : Store.WF st.store) (hl : ∀ i ∈ large', i ∈ inUse)
    (hround : resplitRound c o b g st = .ok ((fact, large'', g'), st')) (hk : Build.cap c o < fact.batch) :
    loopMeasure c st'.store (IdSet.union large' large'') < loopMeasure c st.store (b :: large') := by
  obtain ⟨ids, k, r, st1, st2, st3, st4, steps, rfl⟩ := resplitRound_ok_inv hround
  obtain ⟨id, n, a0, b0, u', inUse', _, hp, out'⟩ := steps.out hi hcap f hin hg hw hk
  exact out'.measure_step hp steps.get large' hl

/-- **C14 (the measure of a fair round)**: in particular a fair round strictly decreases the measure -/
theorem C14_fair_round_measure (c : Cfg) (o : BuildOpts) (roots items : List Nat) (ts : List T) (inUse : List Nat)
    (b : Nat) (g g' : IdGen) (st st' : BState) (fact : RoundFact) (large' large'' : List Nat)
    (hi : c.index < 65536) (hcap : 1 ≤ Build.cap c o)
    (f : Forest c st.store roots items ts) (hin : ∀ i ∈ ts.flatMap T.ids, i ∈ inUse) (hg : GenOK inUse g)
    (hw : Store.WF st.store) (hl : ∀ i ∈ large', i ∈ inUse)
    (hround : resplitRound c o b g st = .ok ((fact, large'', g'), st')) (hfair : fact.fair) :
    loopMeasure c st'.store (IdSet.union large' large'') < loopMeasure c st.store (b :: large') :=
  C14_round_measure c o roots items ts inUse b g g' st st' fact large' large'' hi hcap f hin hg hw hl hround
    (resplitRound_fair_batch hround hfair).1

/-- **C14 (the instrumented loop)**: `loopTraced` — the loop made of `resplitRound` (a literal copy of the body
of the model loop that also returns the facts of the round) — computes the model loop: same final state, same
error, for every fuel, queue, generator and state; and the model loop unfolds into `resplitRound` -/
theorem C14_traced_loop (c : Cfg) (o : BuildOpts) (fuel : Nat) (large : List Nat) (g : IdGen) (st : BState) :
    (loopTraced c o fuel large g st).2 = Build.incrementalIndexLargeDescendants c o fuel large g st ∧
    (∀ b large', Build.incrementalIndexLargeDescendants c o (fuel + 1) (b :: large') g =
      bind' (resplitRound c o b g)
        (fun x => Build.incrementalIndexLargeDescendants c o fuel (IdSet.union large' x.2.1) x.2.2)) :=
  ⟨loopTraced_snd c o fuel large g st, fun b large' => loop_succ_cons c o fuel b large' g⟩

/-- **C14 (a fair round has a batch above the capacity)**: in every recorded round whose made root has two
non-empty sides, the batch was longer than the capacity (repair G) and within the bucket -/
theorem C14_fair_batch_above_cap (c : Cfg) (o : BuildOpts) (fuel : Nat) (large : List Nat) (g : IdGen) (st : BState)
    (f : RoundFact) (hf : f ∈ (loopTraced c o fuel large g st).1) (hfair : f.fair) :
    Build.cap c o < f.batch ∧ f.batch ≤ f.size :=
  loopTraced_fair_batch c o fuel large g st f hf hfair

/-- **C14 (termination, batches above the capacity)**: on a forest, with the queued ids in use, a run of the
re-split loop whose fuel exceeds the measure `Σ_{b ∈ large} (size b - 1)` of its queue and all of whose rounds
have a batch longer than the capacity (what repair G guarantees) does not exhaust its fuel — for every oracle
stream (hence every memory hint), poll and cancel state -/
theorem C14_terminates_above_cap (c : Cfg) (o : BuildOpts) (roots items : List Nat) (ts : List T) (inUse : List Nat)
    (fuel : Nat) (large : List Nat) (g : IdGen) (st : BState)
    (hi : c.index < 65536) (hcap : 1 ≤ Build.cap c o)
    (f : Forest c st.store roots items ts) (hin : ∀ i ∈ ts.flatMap T.ids, i ∈ inUse) (hg : GenOK inUse g)
    (hw : Store.WF st.store) (hl : ∀ i ∈ large, i ∈ inUse)
    (hfuel : loopMeasure c st.store large < fuel)
    (hbatch : ∀ f ∈ (loopTraced c o fuel large g st).1, Build.cap c o < f.batch) (w : String) :
    Build.incrementalIndexLargeDescendants c o fuel large g st ≠ .error (.fuel w) :=
  loop_aboveCap_noFuel c o roots items hi hcap fuel large ts g inUse st f hin hg hw hl hfuel hbatch w

/-- **C14 (fuel exhaustion needs a batch within the capacity)**: read the other way: if the loop, run with more
fuel than the measure of its queue, fails with `.fuel`, then some round of that run had a batch `k ≤ cap` — the
livelock `C14_livelock_before_fix` is the only way to exhaust the budget -/
theorem C14_fuel_needs_small_batch (c : Cfg) (o : BuildOpts) (roots items : List Nat) (ts : List T)
    (inUse : List Nat) (fuel : Nat) (large : List Nat) (g : IdGen) (st : BState)
    (hi : c.index < 65536) (hcap : 1 ≤ Build.cap c o)
    (f : Forest c st.store roots items ts) (hin : ∀ i ∈ ts.flatMap T.ids, i ∈ inUse) (hg : GenOK inUse g)
    (hw : Store.WF st.store) (hl : ∀ i ∈ large, i ∈ inUse)
    (hfuel : loopMeasure c st.store large < fuel) (w : String)
    (h : Build.incrementalIndexLargeDescendants c o fuel large g st = .error (.fuel w)) :
    ∃ f ∈ (loopTraced c o fuel large g st).1, f.batch ≤ Build.cap c o := by
  apply Classical.byContradiction
  intro hno
  apply loop_aboveCap_noFuel c o roots items hi hcap fuel large ts g inUse st f hin hg hw hl hfuel _ w h
  intro f' hf'
  apply Classical.byContradiction
  intro hnf
  exact hno ⟨f', hf', by omega⟩

/-- **C14 (termination under fair splits)**: on a forest, with the queued ids in use, a run of the re-split loop
whose fuel exceeds the measure `Σ_{b ∈ large} (size b - 1)` of its queue and all of whose rounds are fair does
not exhaust its fuel — for every oracle stream (hence every memory hint), poll and cancel state.  (Fairness is
a condition on the trace of the very run with that fuel: it does not presuppose termination.) -/
theorem C14_fair_terminates (c : Cfg) (o : BuildOpts) (roots items : List Nat) (ts : List T) (inUse : List Nat)
    (fuel : Nat) (large : List Nat) (g : IdGen) (st : BState)
    (hi : c.index < 65536) (hcap : 1 ≤ Build.cap c o)
    (f : Forest c st.store roots items ts) (hin : ∀ i ∈ ts.flatMap T.ids, i ∈ inUse) (hg : GenOK inUse g)
    (hw : Store.WF st.store) (hl : ∀ i ∈ large, i ∈ inUse)
    (hfuel : loopMeasure c st.store large < fuel)
    (hfair : ∀ f ∈ (loopTraced c o fuel large g st).1, f.fair) (w : String) :
    Build.incrementalIndexLargeDescendants c o fuel large g st ≠ .error (.fuel w) :=
  loop_fair_noFuel c o roots items hi hcap fuel large ts g inUse st f hin hg hw hl hfuel hfair w

/-- **C14 (fuel exhaustion needs an unfair round)**: the same, read the other way: if the loop, run with more
fuel than the measure of its queue, fails with `.fuel`, then the label is the loop's own and some round of
that run was unfair — a fortiori: was unfair or had a batch `k ≤ cap` -/
theorem C14_fuel_needs_unfair_round (c : Cfg) (o : BuildOpts) (roots items : List Nat) (ts : List T)
    (inUse : List Nat) (fuel : Nat) (large : List Nat) (g : IdGen) (st : BState)
    (hi : c.index < 65536) (hcap : 1 ≤ Build.cap c o)
    (f : Forest c st.store roots items ts) (hin : ∀ i ∈ ts.flatMap T.ids, i ∈ inUse) (hg : GenOK inUse g)
    (hw : Store.WF st.store) (hl : ∀ i ∈ large, i ∈ inUse)
    (hfuel : loopMeasure c st.store large < fuel) (w : String)
    (h : Build.incrementalIndexLargeDescendants c o fuel large g st = .error (.fuel w)) :
    w = "incremental_index_large_descendants" ∧
    (∃ f ∈ (loopTraced c o fuel large g st).1, ¬ f.fair) ∧
    (∃ f ∈ (loopTraced c o fuel large g st).1, ¬ f.fair ∨ f.batch ≤ Build.cap c o) := by
  have hex : ∃ f ∈ (loopTraced c o fuel large g st).1, ¬ f.fair := by
    apply Classical.byContradiction
    intro hno
    apply loop_fair_noFuel c o roots items hi hcap fuel large ts g inUse st f hin hg hw hl hfuel _ w h
    intro f' hf'
    apply Classical.byContradiction
    intro hnf
    exact hno ⟨f', hf', hnf⟩
  refine ⟨incrementalIndexLargeDescendants_fuelOnly c o fuel large g st w h, hex, ?_⟩
  obtain ⟨f', hf', hnf⟩ := hex
  exact ⟨f', hf', Or.inl hnf⟩

/-- **C14 (the bound in terms of the bucket sizes)**: if the queued ids are non-empty buckets (they are over-full
ones in a build), the fuel `Σ_{b ∈ large} size b` is enough -/
theorem C14_fair_terminates_sizes (c : Cfg) (o : BuildOpts) (roots items : List Nat) (ts : List T)
    (inUse : List Nat) (fuel : Nat) (large : List Nat) (g : IdGen) (st : BState)
    (hi : c.index < 65536) (hcap : 1 ≤ Build.cap c o)
    (f : Forest c st.store roots items ts) (hin : ∀ i ∈ ts.flatMap T.ids, i ∈ inUse) (hg : GenOK inUse g)
    (hw : Store.WF st.store) (hl : ∀ i ∈ large, i ∈ inUse)
    (hne : ∀ i ∈ large, 0 < bucketSize c st.store i)
    (hfuel : (large.map (bucketSize c st.store)).sum ≤ fuel)
    (hfair : ∀ f ∈ (loopTraced c o fuel large g st).1, f.fair) (w : String) :
    Build.incrementalIndexLargeDescendants c o fuel large g st ≠ .error (.fuel w) := by
  cases large with
  | nil => exact loop_nil_noFuel c o fuel g st w
  | cons b l =>
    have := loopMeasure_lt_sizes c st.store b l hne
    exact loop_fair_noFuel c o roots items hi hcap fuel (b :: l) ts g inUse st f hin hg hw hl (by omega) hfair w

/-! ## non-vacuity -/
namespace FairExamples
open Examples

/-- the tree of the store `Examples.sLarge`: `0 = split(1 = {0, 1, 3}, item 2)`; bucket `1` is over-full for the
capacity 2 of `Examples.o` -/
def tree : T := .node 0 [F32.zero, F32.one] (.bucket 1 [0, 1, 3]) (.leaf 2)

theorem sLarge_wf : Store.WF sLarge := by
  unfold Store.WF
  decide +kernel

theorem sLarge_treeKeys : sLarge.keysOf 0 modeTree = [0, 1] := by decide +kernel

/-- the store `sLarge` holds a forest: the one tree above, reaching the items 0, 1, 2, 3 -/
theorem forest : Forest c sLarge [0] [0, 1, 2, 3] [tree] where
  refs := by decide
  holds := by
    intro t ht
    simp only [List.mem_singleton] at ht
    subst ht
    intro cell hc
    simp only [tree, T.cells, T.ref, List.mem_cons, List.append_nil, List.not_mem_nil, or_false] at hc
    rcases hc with rfl | rfl <;> decide +kernel
  ids_nodup := by decide
  cover := by
    intro id
    have h := Store.mem_keysOf_iff sLarge_wf 0 modeTree id (by decide) (by decide)
    rw [sLarge_treeKeys] at h
    have e : c.treeKey id = ⟨0, modeTree, id⟩ := rfl
    rw [e]
    simp only [tree, List.flatMap_cons, List.flatMap_nil, T.ids, List.append_nil]
    exact h.symm
  wf := by
    intro t ht
    simp only [List.mem_singleton] at ht
    subst ht
    decide
  items_nodup := by
    intro t ht
    simp only [List.mem_singleton] at ht
    subst ht
    decide
  reach := by
    intro t ht x
    simp only [List.mem_singleton] at ht
    subst ht
    simp only [tree, T.items, List.cons_append, List.nil_append, List.mem_cons, List.not_mem_nil, or_false]
    omega

theorem genOK : GenOK [0, 1] g := freshSupply [0, 1] (by decide) (by decide)

/-- the state of the run: the batch of all 3 items, one normal, four random bits -/
def st0 : BState :=
  { store := sLarge, batches := [3], rands := [true, false, true, true], normals := [[F32.one, F32.zero]] }

/-- the run of the instrumented loop with fuel 3 on the queue `[1]`: one round, on bucket 1 (3 items), batch 3,
sides of 1 and 2 items, nothing queued; the loop then ends -/
theorem trace : (loopTraced c o 3 [1] g st0).1 = [⟨1, 3, 3, 1, 2, []⟩] ∧
    isOk (loopTraced c o 3 [1] g st0).2 = true := by
  decide +kernel

/-- the hypotheses of `C14_fair_terminates`, `C14_terminates_above_cap`, `C14_fair_terminates_sizes` hold on this
run: forest, ids in use, fresh generator, well-formed keys, the queue in use, measure 2 < fuel 3 (sizes 3 ≤ 3),
every round fair with a batch above the capacity 2 -/
example : c.index < 65536 ∧ 1 ≤ Build.cap c o ∧ Forest c st0.store [0] [0, 1, 2, 3] [tree] ∧
    (∀ i ∈ [tree].flatMap T.ids, i ∈ [0, 1]) ∧ GenOK [0, 1] g ∧ Store.WF st0.store ∧ (∀ i ∈ [1], i ∈ [0, 1]) ∧
    loopMeasure c st0.store [1] < 3 ∧ (∀ i ∈ [1], 0 < bucketSize c st0.store i) ∧
    ([1].map (bucketSize c st0.store)).sum ≤ 3 ∧
    (∀ f ∈ (loopTraced c o 3 [1] g st0).1, f.fair) ∧
    (∀ f ∈ (loopTraced c o 3 [1] g st0).1, Build.cap c o < f.batch) := by
  refine ⟨by decide, by decide, forest, by decide, genOK, sLarge_wf, by decide, by decide +kernel,
    by decide +kernel, by decide +kernel, ?_, ?_⟩
  · rw [trace.1]; decide
  · rw [trace.1]; decide

/-- and the conclusion, obtained from the theorem (the run indeed succeeds: `trace`) -/
example (w : String) : Build.incrementalIndexLargeDescendants c o 3 [1] g st0 ≠ .error (.fuel w) :=
  C14_fair_terminates c o [0] [0, 1, 2, 3] [tree] [0, 1] 3 [1] g st0 (by decide) (by decide) forest (by decide)
    genOK sLarge_wf (by decide) (by decide +kernel) (by rw [trace.1]; decide) w

/-- `C14_fair_round_decreases`, `C14_round_above_cap_decreases`, `C14_fair_round_measure`, `C14_round_measure`: the
round of that run succeeds and is fair -/
example : ∃ fact large'' g' st', resplitRound c o 1 g st0 = .ok ((fact, large'', g'), st') ∧ fact.fair ∧
    Build.cap c o < fact.batch ∧
    loopMeasure c st'.store (IdSet.union [] large'') < loopMeasure c st0.store [1] := by
  have h : isOk (loopTraced c o 3 [1] g st0).2 = true := trace.2
  cases hr : resplitRound c o 1 g st0 with
  | error e => simp [loopTraced, hr, isOk] at h
  | ok x =>
    obtain ⟨⟨fact, large'', g'⟩, st'⟩ := x
    have ht := trace.1
    rw [loopTraced_fst_cons c o 2 1 [] g hr] at ht
    have hf : fact = ⟨1, 3, 3, 1, 2, []⟩ := (List.cons.inj ht).1
    have hfair : fact.fair := by rw [hf]; decide
    have hk : Build.cap c o < fact.batch := by rw [hf]; decide
    exact ⟨fact, large'', g', st', rfl, hfair, hk,
      C14_fair_round_measure c o [0] [0, 1, 2, 3] [tree] [0, 1] 1 g g' st0 st' fact [] large'' (by decide) (by decide)
        forest (by decide) genOK sLarge_wf (by simp) hr hfair⟩

/-- the livelock before repair G (`C14_livelock_before_fix`) seen by the instrumented loop: the fuel 3 exceeds the
measure 2, the run ends in `.fuel`, and — as `C14_fuel_needs_small_batch` / `C14_fuel_needs_unfair_round` say — its
rounds have batches within the capacity (2 ≤ 2) and are unfair -/
example : loopMeasure c sLarge [1] < 3 ∧
    isFuel (loopTraced c o 3 [1] g { store := sLarge, batches := [2, 1, 2, 1, 2, 1] }).2 = true ∧
    (loopTraced c o 3 [1] g { store := sLarge, batches := [2, 1, 2, 1, 2, 1] }).1.map
      (fun f => (f.batch, f.left, f.right, f.queued)) = [(2, 0, 0, [(1, 3)]), (2, 0, 0, [(1, 3)]), (2, 0, 0, [(1, 3)])] := by
  decide +kernel

end FairExamples

end Arroy.C14

