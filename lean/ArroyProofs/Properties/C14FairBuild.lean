import ArroyProofs.ResplitFairBuild
import ArroyProofs.FreshSupplyProof
import ArroyProofs.Properties.C14Fair
import ArroyProofs.Properties.C01Examples
/-! C14 / C20 — termination of the re-split loop, lifted to `Build.build`.

`buildPrefix c o` is `Build.build` up to the loop (it does not depend on the loop budget), `buildTrace c o loopFuel st`
the facts of the rounds of the loop of the build started in `st`, `buildLoopMeasure c o st` the measure
`Σ (size - 1)` of the queue the loop starts with (`ArroyProofs/ResplitFairBuild.lean`). -/
namespace Arroy.C14
open Arroy BuildM Generated IdSet Transp

/-- **C14 (the build around its loop)**: `Build.build` is its prefix, then the re-split loop, then the metadata
write; the prefix does not depend on the loop budget -/
theorem C14_build_prefix (c : Cfg) (o : BuildOpts) (loopFuel : Nat) :
    Build.build c o loopFuel = bind' (buildPrefix c o) (buildSuffix c o loopFuel) ∧
    (∀ items roots large g, buildSuffix c o loopFuel (some (items, roots, large, g)) =
      bind' (Build.incrementalIndexLargeDescendants c o loopFuel large g) (fun _ => Build.writeMetadata c items roots)) :=
  ⟨build_eq_prefix c o loopFuel, fun _ _ _ _ => rfl⟩

/-- **C14 (a build terminates when its batches exceed the capacity)**: on a store satisfying the index invariant
(what every history of `add | append | del | clear | prepare | build` leaves), without cancellation schedule
(`hnone`), for every option and oracle stream (hence every memory hint): if the loop budget exceeds the measure of
the queue the loop starts with and every round that this very run, with this budget, goes through (`buildTrace c o
loopFuel st`) has a batch longer than the capacity (repair G), this run does not report any exhausted fuel -/
theorem C14_build_terminates_above_cap (c : Cfg) (o : BuildOpts) (loopFuel : Nat) (st : BState)
    (hi : c.index < 65536) (hcap : 1 ≤ Build.cap c o) (hinv : IndexInvW c st.store) (hnone : st.cancelAt = none)
    (hfuel : buildLoopMeasure c o st < loopFuel)
    (hbatch : ∀ f ∈ buildTrace c o loopFuel st, Build.cap c o < f.batch) (w : String) :
    Build.build c o loopFuel st ≠ .error (.fuel w) := by
  intro h
  obtain ⟨roots0, items0, ts0, old⟩ := Old.of_inv hinv hi
  have hw' : w = "incremental_index_large_descendants" :=
    C14_build_fuel_forest c o loopFuel st ts0 (by rw [old.forest.refs, old.roots_eq]) old.forest.holds
      old.forest.ids_nodup w h
  subst hw'
  exact build_aboveCap_noLoopFuel c o loopFuel st roots0 items0 ts0 hi hcap hinv.sorted hinv.wf old hnone freshSupply
    hfuel hbatch h

/-- **C14 (a build terminates under fair splits)**: the same when every round of the loop of the build is fair
(a fair round has a batch longer than the capacity) -/
theorem C14_build_terminates_fair (c : Cfg) (o : BuildOpts) (loopFuel : Nat) (st : BState)
    (hi : c.index < 65536) (hcap : 1 ≤ Build.cap c o) (hinv : IndexInvW c st.store) (hnone : st.cancelAt = none)
    (hfuel : buildLoopMeasure c o st < loopFuel)
    (hfair : ∀ f ∈ buildTrace c o loopFuel st, f.fair) (w : String) :
    Build.build c o loopFuel st ≠ .error (.fuel w) := by
  apply C14_build_terminates_above_cap c o loopFuel st hi hcap hinv hnone hfuel
  intro f hf
  have hfr := hfair f hf
  unfold buildTrace at hf
  split at hf
  · exact (loopTraced_fair_batch c o loopFuel _ _ _ f hf hfr).1
  · cases hf

/-! ## non-vacuity: the second build of the history of `C01Examples` (an incremental build that re-splits an
over-full bucket), run without cancellation schedule -/
namespace FairExamples
open C01 C01.Ex

def st2 : BState := { env2 with store := run ops2, cancelAt := none }

/-- the loop of that build: one round, on bucket 2 holding 3 items, a batch of 3, sides of 1 and 2 items, nothing
queued; the measure of the queue is 2 and the budget 5 -/
theorem build2_trace : buildTrace cEx oEx 5 st2 = [⟨2, 3, 3, 1, 2, []⟩] ∧ buildLoopMeasure cEx oEx st2 = 2 := by
  unfold st2; rw [C01.Ex.run_ops2]; decide +kernel

-- from here on the concrete history is only used through the facts above
attribute [local irreducible] run

theorem st2_inv : IndexInvW cEx st2.store :=
  (C01_history_inv freshSupply ops2 ops2_wf cEx (by decide)).1

example : cEx.index < 65536 ∧ 1 ≤ Build.cap cEx oEx ∧ IndexInvW cEx st2.store ∧ st2.cancelAt = none ∧
    buildLoopMeasure cEx oEx st2 < 5 ∧ (∀ f ∈ buildTrace cEx oEx 5 st2, f.fair) ∧
    (∀ f ∈ buildTrace cEx oEx 5 st2, Build.cap cEx oEx < f.batch) := by
  refine ⟨by decide, by decide, st2_inv, rfl, ?_, ?_, ?_⟩
  · rw [build2_trace.2]; decide
  · rw [build2_trace.1]; decide
  · rw [build2_trace.1]; decide

example (w : String) : Build.build cEx oEx 5 st2 ≠ .error (.fuel w) :=
  C14_build_terminates_fair cEx oEx 5 st2 (by decide) (by decide) st2_inv rfl (by rw [build2_trace.2]; decide)
    (by rw [build2_trace.1]; decide) w

end FairExamples

end Arroy.C14

