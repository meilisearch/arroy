import ArroyModel.Build
/-! # C15 — build options are honoured: tree count and bucket capacity

Arithmetic of the tree-count decision (`target_n_trees`), for all inputs. The statements about
the forest a build produces (number of roots = target, bucket sizes ≤ capacity) are in
`ArroyProofs/Properties/C15Build.lean` and are evaluated on every implementation dump by
`Check.capacityOk` and the post-build checks of the driver. -/
namespace Arroy.C15
open Arroy Build

/-- a requested number of trees is the target, whatever the index looks like -/
theorem C15_requested (o : BuildOpts) (t dims nItems nRoots : Nat) (h : o.nTrees = some t) :
    targetNTrees o dims nItems nRoots = t := by
  simp [targetNTrees, h]

/-- left to arroy, the target is at least one tree — for every dimension (including 1, where
    `n / (n / 1 + 1) = 0`), every item count and every current forest -/
theorem C15_auto (o : BuildOpts) (dims nItems nRoots : Nat) (h : o.nTrees = none) :
    1 ≤ targetNTrees o dims nItems nRoots := by
  simp only [targetNTrees, h]
  have h1 : 1 ≤ Nat.max (nItems / (nItems / dims + 1)) 1 := Nat.le_max_right _ _
  split
  · split
    · rename_i hgt _
      exact Nat.le_trans h1 (Nat.le_of_lt hgt)
    · exact h1
  · exact h1

/-- the automatic target is either the current count (kept by the hysteresis) or the fresh estimate -/
theorem C15_auto_cases (o : BuildOpts) (dims nItems nRoots : Nat) (h : o.nTrees = none) :
    targetNTrees o dims nItems nRoots = nRoots ∨
    targetNTrees o dims nItems nRoots = Nat.max (nItems / (nItems / dims + 1)) 1 := by
  simp only [targetNTrees, h]
  split
  · split
    · exact Or.inl rfl
    · exact Or.inr rfl
  · exact Or.inr rfl

/-- the pinned tree's behaviour that repair C removed: without the `max 1` the estimate is 0 for
    one-dimensional vectors (kept as a witness of the defect, evaluated by the kernel) -/
theorem C15_estimate_zero_without_max : (3 / (3 / 1 + 1) : Nat) = 0 := by decide

/-- the capacity a build uses: `split_after`, by default the dimension (the definition of `cap`, `rfl`) -/
theorem C15_cap (c : Cfg) (o : BuildOpts) : cap c o = o.splitAfter.getD c.dims := rfl

/-- the root list the single-bucket path writes, `if items.isEmpty then [] else [0]`, has one element or none
    (about that literal only; that a fitting index takes this path is `C15_single`, C15Build.lean) -/
theorem C15_single_roots (items : List Nat) :
    (if items.isEmpty then ([] : List Nat) else [0]).length = if items.isEmpty then 0 else 1 := by
  split <;> rfl

example : targetNTrees {} 1 3 0 = 1 ∧ targetNTrees { nTrees := some 7 } 1 3 0 = 7 ∧ targetNTrees {} 10 1000 3 = 9 := by
  decide

end Arroy.C15
