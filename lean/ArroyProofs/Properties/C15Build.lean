import ArroyProofs.Properties.C01
import ArroyProofs.ForestUnique
/-! # C15 — the build honours the tree count and the bucket capacity

Corollaries of `C01.C01_build_out`. `rootsOf c s` are the roots listed in the metadata (what
`Reader::n_trees` reports), `Check.trees c s` the trees read at those roots. -/
namespace Arroy.C15
open Arroy Generated Transp Build

/-- more items than one bucket holds: the new forest has exactly `targetNTrees` trees (the requested
    number, or the automatic one), whatever the old number of trees was; at least one unless 0 trees
    were requested -/
theorem C15_root_count (c : Cfg) (o : BuildOpts) (fuel : Nat) (st st' : BState)
    (hi : c.index < 65536) (hcap : 1 ≤ cap c o) (hfresh : FreshSupply)
    (hinv : IndexInvW c st.store) (h : build c o fuel st = .ok ((), st'))
    (hbig : fits (cap c o) (st.store.keysOf c.index modeItem).length = false) :
    (rootsOf c st'.store).length =
      targetNTrees o c.dims (st.store.keysOf c.index modeItem).length (rootsOf c st.store).length ∧
    (o.nTrees ≠ some 0 → 1 ≤ (rootsOf c st'.store).length) ∧
    (∀ n, o.nTrees = some n → (rootsOf c st'.store).length = n) := by
  obtain ⟨roots0, items0, ts0, roots', ts', old, b⟩ := C01.C01_build_out_of_inv c o fuel st st' hi hcap hfresh hinv h
  rw [b.rootsOf, old.roots_eq]
  refine ⟨b.count hbig, ?_, ?_⟩
  · intro hn
    have := b.rootsNonempty hn (by
      intro e
      rw [e] at hbig
      simp only [List.length_nil, fits, Nat.zero_le, decide_true] at hbig
      cases hbig)
    cases hr : roots' with
    | nil => exact absurd hr this
    | cons a l => simp
  · intro n hn
    rw [b.count hbig, C15_requested o n _ _ _ hn]

/-- the index fits in one bucket: exactly one tree (the bucket `0`), none if the index is empty -/
theorem C15_single (c : Cfg) (o : BuildOpts) (fuel : Nat) (st st' : BState)
    (hi : c.index < 65536) (hcap : 1 ≤ cap c o) (hfresh : FreshSupply)
    (hinv : IndexInvW c st.store) (h : build c o fuel st = .ok ((), st'))
    (hfit : fits (cap c o) (st.store.keysOf c.index modeItem).length = true) :
    rootsOf c st'.store = (if (st.store.keysOf c.index modeItem).isEmpty then [] else [0]) ∧
    Check.trees c st'.store =
      (if (st.store.keysOf c.index modeItem).isEmpty then [] else [.bucket 0 (st.store.keysOf c.index modeItem)]) := by
  obtain ⟨roots0, items0, ts0, roots', ts', old, b⟩ := C01.C01_build_out_of_inv c o fuel st st' hi hcap hfresh hinv h
  obtain ⟨hr, ht⟩ := b.single hfit
  exact ⟨by rw [b.rootsOf, hr], by rw [b.trees, ht]⟩

/-- constant capacity: if no bucket of the old forest holds more than `cap` items, no bucket of the
    new forest does (every over-full bucket met or created by the build is queued and re-split, and
    the re-split loop only ends when its queue is empty) -/
theorem C15_capacity (c : Cfg) (o : BuildOpts) (fuel : Nat) (st st' : BState)
    (hi : c.index < 65536) (hcap : 1 ≤ cap c o) (hfresh : FreshSupply)
    (hinv : IndexInvW c st.store) (h : build c o fuel st = .ok ((), st'))
    (hold : ∀ t ∈ Check.trees c st.store, ∀ bk ∈ t.buckets, bk.2.length ≤ cap c o) :
    ∀ t ∈ Check.trees c st'.store, ∀ bk ∈ t.buckets, bk.2.length ≤ cap c o := by
  obtain ⟨roots0, items0, ts0, roots', ts', old, b⟩ := C01.C01_build_out_of_inv c o fuel st st' hi hcap hfresh hinv h
  rw [b.trees]
  rw [Check.trees_of_old old] at hold
  exact b.capacity hold

theorem capacityOk_nil_iff (c : Cfg) (s : Store) (k : Nat) :
    Check.capacityOk c s k = [] ↔ ∀ t ∈ Check.trees c s, ∀ bk ∈ t.buckets, bk.2.length ≤ k := by
  unfold Check.capacityOk
  simp only [List.flatMap_eq_nil_iff, List.filterMap_eq_nil_iff]
  constructor
  · intro h t ht bk hbk
    have := h t ht bk hbk
    obtain ⟨id, its⟩ := bk
    simp only at this
    split at this
    · assumption
    · cases this
  · intro h t ht bk hbk
    obtain ⟨id, its⟩ := bk
    simp only
    rw [if_pos (h t ht (id, its) hbk)]

/-- the same, as the verdict of the executable checker -/
theorem C15_capacity_checker (c : Cfg) (o : BuildOpts) (fuel : Nat) (st st' : BState)
    (hi : c.index < 65536) (hcap : 1 ≤ cap c o) (hfresh : FreshSupply)
    (hinv : IndexInvW c st.store) (h : build c o fuel st = .ok ((), st'))
    (hold : Check.capacityOk c st.store (cap c o) = []) : Check.capacityOk c st'.store (cap c o) = [] := by
  rw [capacityOk_nil_iff] at hold ⊢
  exact C15_capacity c o fuel st st' hi hcap hfresh hinv h hold

/-- a first build (no metadata yet) yields a forest within capacity, whatever was requested -/
theorem C15_capacity_first (c : Cfg) (o : BuildOpts) (fuel : Nat) (st st' : BState)
    (hi : c.index < 65536) (hcap : 1 ≤ cap c o) (hfresh : FreshSupply)
    (hinv : IndexInvW c st.store) (hm : Store.get st.store c.metaKey = none)
    (h : build c o fuel st = .ok ((), st')) :
    ∀ t ∈ Check.trees c st'.store, ∀ bk ∈ t.buckets, bk.2.length ≤ cap c o := by
  apply C15_capacity c o fuel st st' hi hcap hfresh hinv h
  intro t ht
  rw [Check.trees_of_noMeta hm] at ht
  cases ht

/-- every build of index `c` in the history uses the capacity `K` -/
def capIs (c : Cfg) (K : Nat) : C01.Op → Prop
  | .build c' o _ _ => c'.index = c.index → cap c' o = K
  | _ => True

/-- **C15, capacity**: in every state of a history whose builds of the index all use the bucket
    capacity `K` (≥ 1), no bucket of the forest holds more than `K` items -/
theorem C15_capacity_history (hfresh : FreshSupply) (c : Cfg) (hi : c.index < 65536) (K : Nat)
    (ops : List C01.Op) (hops : ∀ op ∈ ops, op.wf) (hK : ∀ op ∈ ops, capIs c K op) :
    ∀ t ∈ Check.trees c (C01.run ops), ∀ bk ∈ t.buckets, bk.2.length ≤ K := by
  apply C01.C01_history_induction hfresh c hi
    (fun s => ∀ t ∈ Check.trees c s, ∀ bk ∈ t.buckets, bk.2.length ≤ K) (capIs c K) _ _ _ _ _ ops hops hK
  · intro t ht
    cases ht
  · intro s s' hinv _ m hP
    rw [Check.trees_mutate hinv.1 hi m]
    exact hP
  · intro s c' _ he _ t ht
    rw [Check.trees_of_noMeta (Writer.get_clear_same c' s _ he.symm)] at ht
    cases ht
  · intro s c' o fuel env st' roots0 items0 ts0 roots' ts' _ he hwf hq old b _ hP
    have hcap : cap c' o = K := hq he
    rw [← Check.trees_congr_index he, b.trees]
    rw [← Check.trees_congr_index he, Check.trees_of_old old] at hP
    rw [← hcap] at hP ⊢
    exact b.capacity hP
  · intro s c' m' s' _ _ _ _ _ _ hu _ t ht
    rw [Check.trees_of_noMeta hu.1] at ht
    cases ht

theorem C15_capacity_history_checker (hfresh : FreshSupply) (c : Cfg) (hi : c.index < 65536) (K : Nat)
    (ops : List C01.Op) (hops : ∀ op ∈ ops, op.wf) (hK : ∀ op ∈ ops, capIs c K op) :
    Check.capacityOk c (C01.run ops) K = [] :=
  (capacityOk_nil_iff c _ K).2 (C15_capacity_history hfresh c hi K ops hops hK)

end Arroy.C15
