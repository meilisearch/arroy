import ArroyProofs.Properties.C05History
import ArroyProofs.NnsNonempty
/-! # C15 over histories — the tree count, the non-empty answers and the capacity, as the READER reports them

The arithmetic of the tree-count decision is in `C15.lean`, the statements about one build from a state
satisfying the index invariant in `C15Build.lean`. Here they are composed with the history theorems
(`C01_reader_reachable`, `C05_history_presence`, `C15_capacity_all_histories`) so that no invariant is left as a
hypothesis: the statements are about a well-formed history `ops` (`C01.Op`: add / append / del / clear / build /
prepare on any indexes, failed operations being no-ops), a successful last `Build.build`, and what
`Reader.open` / `nnsByLeaf` then return.

`n` is the number of items of the abstract item map `C05.spec c.index ops` (the items added and not since
deleted or cleared — by `C05_history_presence` these are the stored ids, and `Reader.open` reports exactly them),
`cap = Build.cap c o` the bucket capacity of the last build (`split_after`, by default the dimension). -/
namespace Arroy.C15
open Arroy Generated Transp Build Reader

theorem keysOf_length_eq_spec (ops : List C01.Op) (hops : ∀ op ∈ ops, op.wf) (c : Cfg) (hi : c.index < 65536) :
    ((C01.run ops).keysOf c.index modeItem).length = (C05.spec c.index ops).length := by
  rw [C05.keysOf_run ops hops c hi, List.length_map]

/-- **C15 over histories, tree count**: after every well-formed history `ops` and a successful build of index
    `c` (well-formed: index < 65536, capacity ≥ 1, `n_trees ≠ Some(0)`; any oracle streams, fuel, cancellation
    schedule), `Reader::open` succeeds with the declared dimension, exactly the ids of the abstract item map,
    and the roots of the metadata, whose number is:
    * `0` for an empty index;
    * `1` for an index that fits in one bucket (`0 < n ≤ cap`);
    * `Build.targetNTrees o c.dims n (number of roots before)` for a bigger one — that is the requested number
      `t` when `n_trees = Some(t)`, whatever the number of trees before (growing or shrinking), and at least one
      when the choice is left to arroy. -/
theorem C15_history (ops : List C01.Op) (hops : ∀ op ∈ ops, op.wf)
    (c : Cfg) (o : BuildOpts) (fuel : Nat) (env st' : BState) (hwf : (C01.Op.build c o fuel env).wf)
    (h : Build.build c o fuel { env with store := C01.run ops } = .ok ((), st')) :
    ∃ roots,
      Reader.open c st'.store = .ok ⟨roots, c.dims, (C05.spec c.index ops).map (·.1)⟩ ∧
      roots = rootsOf c st'.store ∧
      ((C05.spec c.index ops).length = 0 → roots = []) ∧
      (0 < (C05.spec c.index ops).length → (C05.spec c.index ops).length ≤ cap c o → roots.length = 1) ∧
      (cap c o < (C05.spec c.index ops).length →
        roots.length =
          targetNTrees o c.dims (C05.spec c.index ops).length (rootsOf c (C01.run ops)).length) ∧
      (cap c o < (C05.spec c.index ops).length → ∀ t, o.nTrees = some t → roots.length = t) ∧
      (cap c o < (C05.spec c.index ops).length → o.nTrees = none → 1 ≤ roots.length) := by
  obtain ⟨hi, hcap, hn⟩ := hwf
  have hwf' : (C01.Op.build c o fuel env).wf := ⟨hi, hcap, hn⟩
  have hinv : IndexInvW c (C01.run ops) := (C01.C01_invariant ops hops c hi).1
  have hkeys := C05.keysOf_run ops hops c hi
  have hlen := keysOf_length_eq_spec ops hops c hi
  obtain ⟨roots, hopen, _⟩ := C01.C01_reader_reachable ops hops c o fuel env st' hwf' h
  have hroots : roots = rootsOf c st'.store := open_roots hopen
  rw [hkeys] at hopen
  -- the two paths of `build`, on the state `{ env with store := run ops }`
  have hsingle := C15_single c o fuel { env with store := C01.run ops } st' hi hcap freshSupply hinv h
  have hcount := C15_root_count c o fuel { env with store := C01.run ops } st' hi hcap freshSupply hinv h
  simp only [hlen] at hsingle hcount
  have hempty : ((C01.run ops).keysOf c.index modeItem).isEmpty = true ↔ (C05.spec c.index ops).length = 0 := by
    rw [← hlen, List.isEmpty_iff, List.length_eq_zero_iff]
  refine ⟨roots, hopen, hroots, ?_, ?_, ?_, ?_, ?_⟩
  · intro h0
    have hr := (hsingle (by simp [fits, h0])).1
    rw [if_pos (hempty.2 h0)] at hr
    rw [hroots, hr]
  · intro hpos hle
    have hr := (hsingle (by simp [fits, hle])).1
    rw [if_neg (fun e => by have := hempty.1 e; omega)] at hr
    rw [hroots, hr]; rfl
  · intro hbig
    rw [hroots]
    exact (hcount (by simp [fits]; omega)).1
  · intro hbig t ht
    rw [hroots]
    exact (hcount (by simp [fits]; omega)).2.2 t ht
  · intro hbig hnone
    rw [hroots]
    exact (hcount (by simp [fits]; omega)).2.1 hn

/-- the automatic choice, spelled out: either the number of trees the index had, or the fresh estimate
    `max (n / (n / dims + 1)) 1` (`C15_auto_cases`) — in both cases at least one -/
theorem C15_history_auto (ops : List C01.Op) (hops : ∀ op ∈ ops, op.wf)
    (c : Cfg) (o : BuildOpts) (fuel : Nat) (env st' : BState) (hwf : (C01.Op.build c o fuel env).wf)
    (h : Build.build c o fuel { env with store := C01.run ops } = .ok ((), st'))
    (hbig : cap c o < (C05.spec c.index ops).length) (hnone : o.nTrees = none) :
    ∃ roots,
      Reader.open c st'.store = .ok ⟨roots, c.dims, (C05.spec c.index ops).map (·.1)⟩ ∧
      1 ≤ roots.length ∧
      (roots.length = (rootsOf c (C01.run ops)).length ∨
       roots.length = Nat.max ((C05.spec c.index ops).length / ((C05.spec c.index ops).length / c.dims + 1)) 1) := by
  obtain ⟨roots, hopen, _, _, _, hc, _, ha⟩ := C15_history ops hops c o fuel env st' hwf h
  refine ⟨roots, hopen, ha hbig hnone, ?_⟩
  rw [hc hbig]
  exact C15_auto_cases o _ _ _ hnone

/-- the previous number of trees, in the reader's terms: if a reader could be opened on the state before the
    build, the `rootsOf c (run ops)` of `C15_history` is what it held -/
theorem C15_history_previous_roots (ops : List C01.Op) (c : Cfg) (rd : ReaderState)
    (h : Reader.open c (C01.run ops) = .ok rd) : rootsOf c (C01.run ops) = rd.roots :=
  (open_roots h).symm

/-- the single-bucket path in full: one tree, the bucket `0` holding every item; none for an empty index -/
theorem C15_history_single (ops : List C01.Op) (hops : ∀ op ∈ ops, op.wf)
    (c : Cfg) (o : BuildOpts) (fuel : Nat) (env st' : BState) (hwf : (C01.Op.build c o fuel env).wf)
    (h : Build.build c o fuel { env with store := C01.run ops } = .ok ((), st'))
    (hfit : (C05.spec c.index ops).length ≤ cap c o) :
    Reader.open c st'.store =
      .ok ⟨if (C05.spec c.index ops).isEmpty then [] else [0], c.dims, (C05.spec c.index ops).map (·.1)⟩ ∧
    Check.trees c st'.store =
      (if (C05.spec c.index ops).isEmpty then [] else [.bucket 0 ((C05.spec c.index ops).map (·.1))]) := by
  obtain ⟨hi, hcap, hn⟩ := hwf
  have hinv : IndexInvW c (C01.run ops) := (C01.C01_invariant ops hops c hi).1
  have hkeys := C05.keysOf_run ops hops c hi
  obtain ⟨roots, hopen, _, _, _, _, _, _⟩ := C15_history ops hops c o fuel env st' ⟨hi, hcap, hn⟩ h
  have hsingle := C15_single c o fuel { env with store := C01.run ops } st' hi hcap freshSupply hinv h
    (by simp only [fits, decide_eq_true_eq]; rw [keysOf_length_eq_spec ops hops c hi]; exact hfit)
  simp only [hkeys, List.isEmpty_map] at hsingle
  have hr : roots = rootsOf c st'.store := open_roots hopen
  rw [hsingle.1] at hr
  rw [hr] at hopen
  exact ⟨hopen, hsingle.2⟩

/-! ## searches on a non-empty index return results -/

/-- **C15 over histories, searches on a non-empty index return results**: in the situation of `C15_history`,
    if the index holds at least one item, every unfiltered query with `count ≥ 1` and a budget of at least one
    candidate (ANY `search_k ≠ 0` and oversampling ≠ 0, or both unset: second clause) succeeds with a NON-EMPTY
    answer — for any budget, however small, not only the unlimited one. -/
theorem C15_history_search_nonempty (ops : List C01.Op) (hops : ∀ op ∈ ops, op.wf)
    (c : Cfg) (o : BuildOpts) (fuel : Nat) (env st' : BState) (hwf : (C01.Op.build c o fuel env).wf)
    (h : Build.build c o fuel { env with store := C01.run ops } = .ok ((), st'))
    (hpos : 0 < (C05.spec c.index ops).length) :
    ∃ roots,
      Reader.open c st'.store = .ok ⟨roots, c.dims, (C05.spec c.index ops).map (·.1)⟩ ∧
      1 ≤ roots.length ∧
      (∀ (qh qv : List Nat) (q : QueryOpts), q.candidates = none → 1 ≤ q.count →
        1 ≤ budget c.metric roots.length q →
        ∃ ans, nnsByLeaf c st'.store ⟨roots, c.dims, (C05.spec c.index ops).map (·.1)⟩ qh qv q = .ok ans ∧
          1 ≤ ans.length) ∧
      (∀ (qh qv : List Nat) (q : QueryOpts), q.candidates = none → 1 ≤ q.count →
        q.searchK ≠ some 0 → q.oversampling ≠ some 0 →
        ∃ ans, nnsByLeaf c st'.store ⟨roots, c.dims, (C05.spec c.index ops).map (·.1)⟩ qh qv q = .ok ans ∧
          1 ≤ ans.length) := by
  have hkeys := C05.keysOf_run ops hops c hwf.1
  obtain ⟨roots, hopen, hF, _⟩ := C01.C01_forestOK_reachable ops hops c o fuel env st' hwf h
  rw [hkeys] at hopen hF
  have hne : (⟨roots, c.dims, (C05.spec c.index ops).map (·.1)⟩ : ReaderState).items ≠ [] := by
    intro e
    have := congrArg List.length e
    simp only [List.length_map, List.length_nil] at this
    omega
  have hr : 1 ≤ roots.length := by
    obtain ⟨ts, F⟩ := hF
    have := F.roots_ne hne
    cases hrr : roots with
    | nil => exact absurd hrr this
    | cons a l => simp
  have key : ∀ (qh qv : List Nat) (q : QueryOpts), q.candidates = none → 1 ≤ q.count →
      1 ≤ budget c.metric roots.length q →
      ∃ ans, nnsByLeaf c st'.store ⟨roots, c.dims, (C05.spec c.index ops).map (·.1)⟩ qh qv q = .ok ans ∧
        1 ≤ ans.length :=
    fun qh qv q hq hc hb => nnsByLeaf_nonempty hF hne qh qv q hq hc hb
  exact ⟨roots, hopen, hr, key,
    fun qh qv q hq hc hk ho => key qh qv q hq hc (budget_pos _ _ q hr hc hk ho)⟩

/-! ## constant capacity -/

/-- **C15 over histories, capacity, in the reader's terms**: if every build of index `c` in the history used the
    bucket capacity `K` (`capIs`; the other operations — item operations, clears, metric changes
    (`prepare` leaves the index without any tree), builds of other indexes — are unconstrained) and so does the
    last build, then on the state the reader opens:
    * the trees read at the reader's roots (`Check.trees`: they are held by the store, one per root) have no
      bucket of more than `K` items;
    * no descendants node stored under ANY tree key of the index — whatever the traversal can pop — lists more
      than `K` items;
    * the executable checker `Check.capacityOk` accepts the state. -/
theorem C15_history_capacity (ops : List C01.Op) (hops : ∀ op ∈ ops, op.wf)
    (c : Cfg) (o : BuildOpts) (fuel : Nat) (env st' : BState) (hwf : (C01.Op.build c o fuel env).wf)
    (h : Build.build c o fuel { env with store := C01.run ops } = .ok ((), st'))
    (K : Nat) (hK : ∀ op ∈ ops, capIs c K op) (hlast : cap c o = K) :
    ∃ roots,
      Reader.open c st'.store = .ok ⟨roots, c.dims, (C05.spec c.index ops).map (·.1)⟩ ∧
      (Check.trees c st'.store).map (·.ref) = roots.map NodeId.mkTree ∧
      (∀ t ∈ Check.trees c st'.store, Holds c st'.store t) ∧
      (∀ t ∈ Check.trees c st'.store, ∀ bk ∈ t.buckets, bk.2.length ≤ K) ∧
      (∀ id ids, Store.get st'.store (c.treeKey id) = some (.desc ids) → ids.length ≤ K) ∧
      Check.capacityOk c st'.store K = [] := by
  have hkeys := C05.keysOf_run ops hops c hwf.1
  obtain ⟨hrun, roots', ts, hm, hf, _, _⟩ := C01.C01_forest ops hops c o fuel env st' hwf h
  obtain ⟨roots, hopen, hFW, _⟩ := C01.C01_reader_reachable ops hops c o fuel env st' hwf h
  rw [hkeys] at hopen
  have htrees : Check.trees c st'.store = ts := Check.trees_of_forest hf (by simp [rootsOf, hm])
  have hbk : ∀ t ∈ Check.trees c st'.store, ∀ bk ∈ t.buckets, bk.2.length ≤ K := by
    rw [← hrun]
    exact C15_capacity_all_histories c hwf.1 K _ (C01.forall_snoc hops hwf) (C01.forall_snoc hK fun _ => hlast)
  refine ⟨roots, hopen, hFW.refs, hFW.holds, hbk, ?_, (capacityOk_nil_iff c _ K).2 hbk⟩
  intro id ids hg
  obtain ⟨t, ht, hb⟩ := hf.desc_is_bucket hg
  exact hbk t (htrees ▸ ht) (id, ids) hb

/-! ## non-vacuity: the concrete histories of `C01Examples.lean`

`ops2` (Euclidean, dimension 2): five items built into ONE tree with capacity 2, then an insertion and a deletion;
the stored items are `1 … 5`. On it: a build asking for 3 trees (grow 1 → 3), then one asking for 1 tree
(shrink 3 → 1), one leaving the choice to arroy; a build with capacity 10 (single bucket); a build after a clear
(empty index). Every build below really succeeds in the model (`decide +kernel`). -/
namespace Ex
open C01 C01.Ex

def o3 : BuildOpts := { nTrees := some 3, splitAfter := some 2 }
def oAuto : BuildOpts := { splitAfter := some 2 }
/-- oracle streams of the growing build: one batch for the inserted item, one for the over-full bucket of the old
    tree, one for each of the two new trees -/
def env3 : BState :=
  { store := [], normals := [[f1, fm15], [f1, 0], [0, f1], [f1, fm15], [f1, 0], [0, f1], [f1, fm15]],
    batches := [1, 3, 5, 5] }
def e0 : BState := { store := [] }
/-- `ops2` followed by the build that grows the forest to 3 trees -/
def ops3 : List Op := ops2 ++ [.build cEx o3 10 env3]
/-- `ops2` followed by a clear of the index -/
def opsC : List Op := ops2 ++ [.clear cEx]

theorem ops3_wf : ∀ op ∈ ops3, op.wf := by decide
theorem opsC_wf : ∀ op ∈ opsC, op.wf := by decide

/-- the builds succeed; the states before them hold what is said -/
theorem grow_ok : isOk (Build.build cEx o3 10 { env3 with store := run ops2 }) = true := by
  rw [run_ops2]
  decide +kernel
theorem ops3_facts : ((run ops3).keysOf 0 modeItem = [1, 2, 3, 4, 5] ∧ rootsOf cEx (run ops3) = [0, 4, 5]) ∧
    isOk (Build.build cEx oEx 10 { e0 with store := run ops3 }) = true ∧
    isOk (Build.build cEx oAuto 10 { e0 with store := run ops3 }) = true := by
  rw [show run ops3 = step (run ops2) (.build cEx o3 10 env3) from run_snoc _ _, run_ops2]
  decide +kernel
theorem before3 : (run ops3).keysOf 0 modeItem = [1, 2, 3, 4, 5] ∧ rootsOf cEx (run ops3) = [0, 4, 5] :=
  ops3_facts.1
theorem shrink_ok : isOk (Build.build cEx oEx 10 { e0 with store := run ops3 }) = true ∧
    isOk (Build.build cEx oAuto 10 { e0 with store := run ops3 }) = true := ops3_facts.2
theorem beforeC : (run opsC).keysOf 0 modeItem = [] ∧
    isOk (Build.build cEx oEx 10 { e0 with store := run opsC }) = true := by
  rw [show run opsC = step (run ops2) (.clear cEx) from run_snoc _ _, run_ops2]
  decide +kernel

theorem ok_of_isOk {r : Except Err (Unit × BState)} (h : isOk r = true) : ∃ st', r = .ok ((), st') :=
  C01.Ex.ok_of_isOk h

-- from here on the concrete histories are only used through the facts above
attribute [local irreducible] run

theorem spec2_length : (C05.spec cEx.index ops2).length = 5 := by
  rw [← keysOf_length_eq_spec ops2 ops2_wf cEx (by decide)]
  exact congrArg List.length before2.1

theorem spec3_length : (C05.spec cEx.index ops3).length = 5 := by
  rw [← keysOf_length_eq_spec ops3 ops3_wf cEx (by decide)]
  exact congrArg List.length before3.1

theorem specC_length : (C05.spec cEx.index opsC).length = 0 := by
  rw [← keysOf_length_eq_spec opsC opsC_wf cEx (by decide)]
  exact congrArg List.length beforeC.1

/-- `C15_history`, growing: the index had 1 tree, 3 are requested, the reader reports 3 (5 items > capacity 2) -/
example : ∃ st' roots, Build.build cEx o3 10 { env3 with store := run ops2 } = .ok ((), st') ∧
    Reader.open cEx st'.store = .ok ⟨roots, 2, (C05.spec 0 ops2).map (·.1)⟩ ∧
    (rootsOf cEx (run ops2)).length = 1 ∧ roots.length = 3 := by
  obtain ⟨st', h⟩ := ok_of_isOk grow_ok
  obtain ⟨roots, hopen, _, _, _, _, hreq, _⟩ := C15_history ops2 ops2_wf cEx o3 10 env3 st' (by decide) h
  exact ⟨st', roots, h, hopen, by rw [before2.2.2.2]; rfl,
    hreq (by rw [spec2_length]; decide) 3 rfl⟩

/-- `C15_history`, shrinking: the index had 3 trees, 1 is requested, the reader reports 1 -/
example : ∃ st' roots, Build.build cEx oEx 10 { e0 with store := run ops3 } = .ok ((), st') ∧
    Reader.open cEx st'.store = .ok ⟨roots, 2, (C05.spec 0 ops3).map (·.1)⟩ ∧
    (rootsOf cEx (run ops3)).length = 3 ∧ roots.length = 1 := by
  obtain ⟨st', h⟩ := ok_of_isOk shrink_ok.1
  obtain ⟨roots, hopen, _, _, _, _, hreq, _⟩ := C15_history ops3 ops3_wf cEx oEx 10 e0 st' (by decide) h
  exact ⟨st', roots, h, hopen, by rw [before3.2]; rfl,
    hreq (by rw [spec3_length]; decide) 1 rfl⟩

/-- `C15_history` / `C15_history_auto`, the choice left to arroy (3 trees before, 5 items of dimension 2):
    at least one tree, and exactly `targetNTrees` -/
example : ∃ st' roots, Build.build cEx oAuto 10 { e0 with store := run ops3 } = .ok ((), st') ∧
    Reader.open cEx st'.store = .ok ⟨roots, 2, (C05.spec 0 ops3).map (·.1)⟩ ∧
    1 ≤ roots.length ∧ roots.length = targetNTrees oAuto 2 5 3 := by
  obtain ⟨st', h⟩ := ok_of_isOk shrink_ok.2
  obtain ⟨roots, hopen, _, _, _, hcount, _, hauto⟩ := C15_history ops3 ops3_wf cEx oAuto 10 e0 st' (by decide) h
  have hbig : cap cEx oAuto < (C05.spec cEx.index ops3).length := by rw [spec3_length]; decide
  refine ⟨st', roots, h, hopen, hauto hbig rfl, ?_⟩
  have := hcount hbig
  rw [spec3_length, before3.2] at this
  exact this

/-- `C15_history` / `C15_history_single`, single bucket: with capacity 10 the five items fit one bucket — one tree -/
example : ∃ st', Build.build cEx oLeaf 0 { e0 with store := run ops2 } = .ok ((), st') ∧
    Reader.open cEx st'.store = .ok ⟨[0], 2, (C05.spec 0 ops2).map (·.1)⟩ ∧
    Check.trees cEx st'.store = [.bucket 0 ((C05.spec 0 ops2).map (·.1))] := by
  obtain ⟨st', h⟩ := ok_of_isOk (r := Build.build cEx oLeaf 0 { e0 with store := run ops2 }) single_ok.1
  have hne : (C05.spec cEx.index ops2).isEmpty = false := by
    cases hs : C05.spec cEx.index ops2 with
    | nil => have := spec2_length; rw [hs] at this; cases this
    | cons a l => rfl
  have := C15_history_single ops2 ops2_wf cEx oLeaf 0 e0 st' (by decide) h (by rw [spec2_length]; decide)
  simp only [hne, Bool.false_eq_true, if_false] at this
  exact ⟨st', h, this.1, this.2⟩

example : ∃ st' roots, Build.build cEx oLeaf 0 { e0 with store := run ops2 } = .ok ((), st') ∧
    Reader.open cEx st'.store = .ok ⟨roots, 2, (C05.spec 0 ops2).map (·.1)⟩ ∧ roots.length = 1 := by
  obtain ⟨st', h⟩ := ok_of_isOk (r := Build.build cEx oLeaf 0 { e0 with store := run ops2 }) single_ok.1
  obtain ⟨roots, hopen, _, _, hone, _⟩ := C15_history ops2 ops2_wf cEx oLeaf 0 e0 st' (by decide) h
  exact ⟨st', roots, h, hopen, hone (by rw [spec2_length]; decide) (by rw [spec2_length]; decide)⟩

/-- `C15_history`, empty index (a built index, cleared, built again): no tree -/
example : ∃ st', Build.build cEx oEx 10 { e0 with store := run opsC } = .ok ((), st') ∧
    Reader.open cEx st'.store = .ok ⟨[], 2, (C05.spec 0 opsC).map (·.1)⟩ := by
  obtain ⟨st', h⟩ := ok_of_isOk beforeC.2
  obtain ⟨roots, hopen, _, hzero, _⟩ := C15_history opsC opsC_wf cEx oEx 10 e0 st' (by decide) h
  rw [hzero specC_length] at hopen
  exact ⟨st', h, hopen⟩

/-- `C15_history_search_nonempty`: on the 3-tree state, the smallest query (`count = 1`, `search_k = 1`)
    has an answer -/
example : ∃ st' roots ans, Build.build cEx o3 10 { env3 with store := run ops2 } = .ok ((), st') ∧
    Reader.open cEx st'.store = .ok ⟨roots, 2, (C05.spec 0 ops2).map (·.1)⟩ ∧
    nnsByLeaf cEx st'.store ⟨roots, 2, (C05.spec 0 ops2).map (·.1)⟩ [] [f1, f1] { count := 1, searchK := some 1 } =
      .ok ans ∧ 1 ≤ ans.length := by
  obtain ⟨st', h⟩ := ok_of_isOk grow_ok
  obtain ⟨roots, hopen, _, _, hq⟩ := C15_history_search_nonempty ops2 ops2_wf cEx o3 10 env3 st' (by decide) h
    (by rw [spec2_length]; decide)
  obtain ⟨ans, ha, hl⟩ := hq [] [f1, f1] { count := 1, searchK := some 1 } rfl (by decide) (by decide) (by decide)
  exact ⟨st', roots, ans, h, hopen, ha, hl⟩

/-- `C15_history_capacity`: every build of `ops3` (the first one, the growing one) and the shrinking build use
    the capacity 2 -/
theorem ops3_cap : ∀ op ∈ ops3, capIs cEx 2 op :=
  C01.forall_snoc (fun op hop => C01.Ex.ops2_cap op (List.mem_append_left _ hop)) fun _ => rfl

example : ∃ st', Build.build cEx oEx 10 { e0 with store := run ops3 } = .ok ((), st') ∧
    Check.capacityOk cEx st'.store 2 = [] ∧
    ∀ id ids, Store.get st'.store (cEx.treeKey id) = some (.desc ids) → ids.length ≤ 2 := by
  obtain ⟨st', h⟩ := ok_of_isOk shrink_ok.1
  obtain ⟨roots, _, _, _, _, hdesc, hchk⟩ :=
    C15_history_capacity ops3 ops3_wf cEx oEx 10 e0 st' (by decide) h 2 ops3_cap rfl
  exact ⟨st', h, hchk, hdesc⟩

end Ex

end Arroy.C15
