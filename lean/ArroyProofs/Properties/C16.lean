import ArroyProofs.KeyLemmas
import ArroyModel.Codec
/-! # C16 — the on-disk format stays readable

Key layout theorems for all well-formed keys (`Key.wf`: the fields fit their widths), and the obligation tying the layout extracted from the
current sources (`Generated`) to the reference layout of DESIGN.md Appendix A. -/
namespace Arroy.C16
open Arroy Generated

/-- The reference layout (what the pinned reference version writes). -/
structure Layout where
  modes : List Nat
  metadataKey : Nat × Nat
  versionKey : Nat × Nat
  nodeId : Nat × Bool × Bool × Bool
  keyFields : List (KeyField × Bool)
  keyPadding : Nat
  codecsMatch : List Bool
  tags : List Nat
  metadataLayout : List MetaField
  versionLayout : List (VerField × Bool)
  names : List (List Nat)
  headers : List (List HeaderField)
  isBq : List Bool
  wordBits : Nat
  oldModes : List Nat
  deriving DecidableEq

def reference : Layout where
  modes := [0, 1, 2, 3]
  metadataKey := (0, 0)
  versionKey := (0, 1)
  nodeId := (5, true, true, true)
  keyFields := [(.index, true), (.mode, true), (.item, true), (.padding, true)]
  keyPadding := 0
  codecsMatch := [true, true, true, true, true, true, true, true]
  tags := [0, 1, 2]
  metadataLayout := [.name, .nul, .dimsBe32, .itemsSizeBe32, .itemsRoaring, .rootsNative32]
  versionLayout := [(.major, true), (.minor, true), (.patch, true)]
  -- the ASCII bytes of: euclidean, manhattan, cosine, dot-product, binary quantized euclidean,
  -- binary quantized manhattan, binary quantized cosine
  names := [[101, 117, 99, 108, 105, 100, 101, 97, 110],
    [109, 97, 110, 104, 97, 116, 116, 97, 110],
    [99, 111, 115, 105, 110, 101],
    [100, 111, 116, 45, 112, 114, 111, 100, 117, 99, 116],
    [98, 105, 110, 97, 114, 121, 32, 113, 117, 97, 110, 116, 105, 122, 101, 100, 32, 101, 117, 99, 108, 105, 100, 101, 97, 110],
    [98, 105, 110, 97, 114, 121, 32, 113, 117, 97, 110, 116, 105, 122, 101, 100, 32, 109, 97, 110, 104, 97, 116, 116, 97, 110],
    [98, 105, 110, 97, 114, 121, 32, 113, 117, 97, 110, 116, 105, 122, 101, 100, 32, 99, 111, 115, 105, 110, 101]]
  headers := [[.bias], [.bias], [.norm], [.extraDim, .norm], [.bias], [.bias], [.norm]]
  isBq := [false, false, false, false, true, true, true]
  wordBits := 64
  oldModes := [0, 1, 2]

/-- The layout the current sources implement, as extracted on this run. -/
def current : Layout where
  modes := [modeMetadata, modeUpdated, modeTree, modeItem]
  metadataKey := (metadataKeyMode, metadataKeyItem)
  versionKey := (versionKeyMode, versionKeyItem)
  nodeId := (nodeIdLen, nodeIdModeFirst, nodeIdItemBigEndian, nodeIdDecoderMatches)
  keyFields := Generated.keyFields
  keyPadding := Generated.keyPadding
  codecsMatch := [modeDecoderTotal, keyDecoderMatches, prefixCodecMatches, prefixCtorsMatch, keyCtorsMatch,
    nodeIdCtorsMatch, nodeEncoderMatches, nodeDecoderMatches]
  tags := [leafTag, descendantsTag, splitTag]
  metadataLayout := Generated.metadataLayout
  versionLayout := Generated.versionLayout
  names := metricNameBytes
  headers := metricHeaders
  isBq := metricIsBq
  wordBits := quantizedWordBits
  oldModes := [oldModeItem, oldModeTree, oldModeMetadata]

/-- **Obligation**: the sources still implement the reference layout (tags, discriminants,
    field order, endianness, metric names, header shapes, codec structure). A consistent change of
    encoder and decoder breaks this theorem. -/
theorem C16_layout : current = reference := by decide

theorem encodeKey_eq (k : Key) : encodeKey k = be 2 k.index ++ (be 1 k.mode ++ (be 4 k.item ++ [0])) := by
  simp [encodeKey, Generated.keyFields, keyFieldBytes, encInt, Generated.keyPadding, be]

theorem C16_key_len (k : Key) : (encodeKey k).length = 8 := by
  simp [encodeKey_eq, be_length]

/-- byte order of the encoded keys = (index, kind, id) order, for **all** well-formed keys -/
theorem C16_key_order (a b : Key) (ha : a.wf) (hb : b.wf) :
    lexLt (encodeKey a) (encodeKey b) = a.lt b := by
  obtain ⟨a1, a2, a3⟩ := ha
  obtain ⟨b1, b2, b3⟩ := hb
  rw [encodeKey_eq, encodeKey_eq]
  unfold Key.lt
  rw [lexLt_append (by simp [be_length]), lexLt_append (by simp [be_length]), lexLt_append (by simp [be_length])]
  rw [be_lt 2 _ _ a1 b1, be_lt 1 _ _ a2 b2, be_lt 4 _ _ a3 b3, beq_be 2 _ _ a1 b1, beq_be 1 _ _ a2 b2]
  rw [lexLt_irrefl, Bool.and_false, Bool.or_false]

/-- kinds sort as metadata < updated < tree < item -/
theorem C16_kind_order : modeMetadata < modeUpdated ∧ modeUpdated < modeTree ∧ modeTree < modeItem := by decide

def validMode (m : Nat) : Prop := m = modeMetadata ∨ m = modeUpdated ∨ m = modeTree ∨ m = modeItem

/-- decoding an encoded key gives the key back, for all well-formed keys of one of the four kinds -/
theorem C16_key_roundtrip (k : Key) (h : k.wf) (hm : validMode k.mode) : decodeKey (encodeKey k) = some k := by
  obtain ⟨h1, h2, h3⟩ := h
  have hl : (encodeKey k).length = 8 := C16_key_len k
  unfold decodeKey
  rw [encodeKey_eq] at *
  have e1 : (be 2 k.index ++ (be 1 k.mode ++ (be 4 k.item ++ [0]))).take 2 = be 2 k.index :=
    List.take_left' (be_length _ _)
  have e2 : (be 2 k.index ++ (be 1 k.mode ++ (be 4 k.item ++ [0]))).getD 2 0 = k.mode := by
    rw [be_one (by simpa using h2)]
    have hb : (be 2 k.index).length = 2 := be_length _ _
    match hbe : be 2 k.index, hb with
    | [x, y], _ => simp
  have e3 : ((be 2 k.index ++ (be 1 k.mode ++ (be 4 k.item ++ [0]))).drop 3).take 4 = be 4 k.item := by
    have : (be 2 k.index ++ (be 1 k.mode ++ (be 4 k.item ++ [0]))) = (be 2 k.index ++ be 1 k.mode) ++ (be 4 k.item ++ [0]) := by
      simp
    rw [this, List.drop_left' (by simp [be_length]), List.take_left' (be_length _ _)]
  simp only [hl, e1, e2, e3]
  rw [ofBe_be 2 _ h1, ofBe_be 4 _ h3]
  have hm' : k.mode = modeMetadata ∨ k.mode = modeUpdated ∨ k.mode = modeTree ∨ k.mode = modeItem := hm
  simp [hm']

/-- the encoding is injective on well-formed keys: distinct keys never collide -/
theorem C16_key_inj (a b : Key) (ha : a.wf) (hb : b.wf) (h : encodeKey a = encodeKey b) : a = b := by
  have h1 := C16_key_order a b ha hb
  have h2 := C16_key_order b a hb ha
  rw [h, lexLt_irrefl] at h1
  rw [← h, lexLt_irrefl] at h2
  unfold Key.lt at h1 h2
  have : a.index = b.index ∧ a.mode = b.mode ∧ a.item = b.item := by
    simp only [Bool.false_eq, Bool.or_eq_false_iff, Bool.and_eq_false_iff, decide_eq_false_iff_not,
      beq_eq_false_iff_ne] at h1 h2
    omega
  cases a; cases b; simp_all

/-- node ids inside split nodes: 5 bytes, kind then big-endian id, and back -/
theorem C16_nodeid_roundtrip (n : NodeId) (h1 : n.mode < 256) (h3 : n.item < 256^4) (hm : validMode n.mode)
    (rest : Bytes) : decodeNodeId (encodeNodeId n ++ rest) = some (n, rest) := by
  unfold decodeNodeId encodeNodeId
  have hb1 : be 1 n.mode = [n.mode] := be_one h1
  have hl : (be 1 n.mode ++ be 4 n.item ++ rest).length = 5 + rest.length := by simp [be_length]; omega
  have e3 : ((be 1 n.mode ++ be 4 n.item ++ rest).drop 1).take 4 = be 4 n.item := by
    rw [hb1]; simp only [List.cons_append, List.nil_append, List.drop_succ_cons, List.drop_zero]
    exact List.take_left' (be_length _ _)
  have e5 : (be 1 n.mode ++ be 4 n.item ++ rest).drop 5 = rest := by
    have : be 1 n.mode ++ be 4 n.item ++ rest = (be 1 n.mode ++ be 4 n.item) ++ rest := by simp
    rw [this]; exact List.drop_left' (by simp [be_length])
  have e0 : (be 1 n.mode ++ be 4 n.item ++ rest).getD 0 0 = n.mode := by rw [hb1]; simp
  simp only [hl, e0, e3, e5, ofBe_be 4 _ h3]
  have hm' : n.mode = modeMetadata ∨ n.mode = modeUpdated ∨ n.mode = modeTree ∨ n.mode = modeItem := hm
  have : ¬ (5 + rest.length < 5) := by omega
  simp [hm', this]

/-- version records: three big-endian u32, and back; the encoding does not depend on the metric -/
theorem C16_version_roundtrip_any (m : Metric) (a b c : Nat) (ha : a < 256^4) (hb : b < 256^4) (hc : c < 256^4) :
    decodeVersion (encodeVal m (.version a b c)) = some (.version a b c) := by
  have e : encodeVal m (.version a b c) = be 4 a ++ (be 4 b ++ be 4 c) := by
    simp [encodeVal, Generated.versionLayout, verFieldBytes, encInt]
  rw [e]
  unfold decodeVersion
  have hl : (be 4 a ++ (be 4 b ++ be 4 c)).length = 12 := by simp [be_length]
  have e1 : (be 4 a ++ (be 4 b ++ be 4 c)).take 4 = be 4 a := List.take_left' (be_length _ _)
  have e2 : ((be 4 a ++ (be 4 b ++ be 4 c)).drop 4).take 4 = be 4 b := by
    rw [List.drop_left' (be_length _ _), List.take_left' (be_length _ _)]
  have e3 : ((be 4 a ++ (be 4 b ++ be 4 c)).drop 8).take 4 = be 4 c := by
    have : be 4 a ++ (be 4 b ++ be 4 c) = (be 4 a ++ be 4 b) ++ be 4 c := by simp
    rw [this, List.drop_left' (by simp [be_length])]
    have := List.take_left' (l₂ := []) (be_length 4 c)
    simpa using this
  simp [hl, e1, e2, e3, ofBe_be 4 _ ha, ofBe_be 4 _ hb, ofBe_be 4 _ hc]

theorem C16_version_roundtrip (a b c : Nat) (ha : a < 256^4) (hb : b < 256^4) (hc : c < 256^4) :
    decodeVersion (encodeVal .euclidean (.version a b c)) = some (.version a b c) :=
  C16_version_roundtrip_any .euclidean a b c ha hb hc

/-- non-vacuity: a concrete key at the edge of every field meets the hypotheses -/
example : (⟨65535, modeItem, 4294967295⟩ : Key).wf ∧ validMode (⟨65535, modeItem, 4294967295⟩ : Key).mode := by
  refine ⟨by decide, ?_⟩
  right; right; right; rfl

end Arroy.C16
