import ArroyProofs.CodecLemmas
/-! # C16 — the value codecs round-trip

`Properties/C16.lean` fixes the key layout and ties the extracted layout constants to the reference.
This file proves that the *decoders* of the model read back exactly what the *encoders* write, for
**all** well-formed values: the portable roaring serialisation (array and bitmap containers, as
roaring-rs 0.10 writes it, no run containers), vectors, leaf / descendants / split nodes, metadata
records, and the dispatch on the key kind (`decodeVal`). -/
namespace Arroy.C16
open Arroy Generated IdSet

/-! ## well-formedness of stored values (all decidable) -/

/-- an id set as stored: strictly increasing `u32`s -/
def IdsOk (s : List Nat) : Prop := Sorted s ∧ ∀ x ∈ s, x < 2 ^ 32
instance (s : List Nat) : Decidable (IdsOk s) := by unfold IdsOk; infer_instance

/-- vector words fit the word size of the metric's vector codec (4 bytes `f32`, 8 bytes sign words) -/
def VecOk (m : Metric) (v : List Nat) : Prop := ∀ x ∈ v, x < 256 ^ m.wordBytes
instance (m : Metric) (v : List Nat) : Decidable (VecOk m v) := by unfold VecOk; infer_instance

instance (n : Nat) : Decidable (validMode n) := by unfold validMode; infer_instance

/-- a child pointer of a split node: one of the four kinds, `u32` id -/
def NodeIdOk (n : NodeId) : Prop := validMode n.mode ∧ n.item < 2 ^ 32
instance (n : NodeId) : Decidable (NodeIdOk n) := by unfold NodeIdOk; infer_instance

/-- well-formed fields of a stored value -/
def ValOk (m : Metric) : Val → Prop
  | .leaf hdr vec => hdr.length = m.header.length ∧ (∀ x ∈ hdr, x < 2 ^ 32) ∧ VecOk m vec
  | .desc ids => IdsOk ids
  | .split l r n => NodeIdOk l ∧ NodeIdOk r ∧ VecOk m n
  | .metadata name dims items roots =>
      (∀ b ∈ name, b ≠ 0) ∧ dims < 2 ^ 32 ∧ IdsOk items ∧ ∀ r ∈ roots, r < 2 ^ 32
  | .version a b c => a < 2 ^ 32 ∧ b < 2 ^ 32 ∧ c < 2 ^ 32
  | .unit => True
  | .raw _ => False

instance (m : Metric) (v : Val) : Decidable (ValOk m v) := by
  cases v <;> unfold ValOk <;> infer_instance

/-- the three node kinds (what `NodeCodec` handles) -/
def IsNode : Val → Prop
  | .leaf _ _ => True
  | .desc _ => True
  | .split _ _ _ => True
  | _ => False

instance (v : Val) : Decidable (IsNode v) := by
  cases v <;> unfold IsNode <;> infer_instance

/-- `v` is the kind of value stored under key `k` -/
def Holds (k : Key) : Val → Prop
  | .leaf _ _ => k.mode = modeItem ∨ k.mode = modeTree
  | .desc _ => k.mode = modeItem ∨ k.mode = modeTree
  | .split _ _ _ => k.mode = modeItem ∨ k.mode = modeTree
  | .unit => k.mode = modeUpdated
  | .metadata _ _ _ _ => k.mode = metadataKeyMode ∧ k.item = metadataKeyItem
  | .version _ _ _ => k.mode = versionKeyMode ∧ k.item = versionKeyItem
  | .raw _ => False

instance (k : Key) (v : Val) : Decidable (Holds k v) := by
  cases v <;> unfold Holds <;> infer_instance

/-- **structure of the container list**: `containers s` groups `s` by `x / 65536`; flattening gives `s`
back; keys are strictly increasing 16-bit values; every container is a non-empty strictly increasing
list of 16-bit lows. -/
theorem C16_roaring_containers (s : List Nat) (h : IdsOk s) :
    Roaring.unflat (Roaring.containers s) = s
    ∧ Sorted ((Roaring.containers s).map (·.1))
    ∧ ∀ c ∈ Roaring.containers s, c.1 < 65536 ∧ Sorted c.2 ∧ (∀ v ∈ c.2, v < 65536) ∧ c.2 ≠ [] := by
  obtain ⟨hw, hk⟩ := Roaring.containers_wf s h.1 h.2
  exact ⟨Roaring.unflat_containers s, hk, fun c hc => ⟨(hw c hc).key_lt, (hw c hc).sorted,
    (hw c hc).low_lt, (hw c hc).ne⟩⟩

/-- **bitmap containers**: the 1024 words written for a container are 64-bit values, and reading
their set bits (`wordBits`) gives the lows back. -/
theorem C16_bitmap_words (lows : List Nat) (hs : Sorted lows) (hb : ∀ v ∈ lows, v < 65536) :
    (Roaring.bitmapWords lows).length = 1024
    ∧ (∀ w ∈ Roaring.bitmapWords lows, w < 2 ^ 64)
    ∧ ((List.range 1024).zip (Roaring.bitmapWords lows)).flatMap
        (fun (w, word) => Roaring.wordBits w word) = lows :=
  ⟨Roaring.bitmapWords_length lows, Roaring.bitmapWords_lt lows hs,
    Roaring.wordBits_bitmapWords lows hs hb⟩

/-- **one container** of either kind (array: cardinality ≤ 4096, bitmap beyond) decodes back and the
decoder consumes exactly its bytes. -/
theorem C16_container_roundtrip (key : Nat) (lows : List Nat) (hk : key < 65536) (hs : Sorted lows)
    (hb : ∀ v ∈ lows, v < 65536) (hne : lows ≠ []) (more : Bytes) :
    Roaring.decodeContainer key lows.length (Roaring.containerData lows ++ more)
      = some (lows.map (fun v => key * 65536 + v), more) :=
  Roaring.decodeContainer_containerData (key, lows) ⟨hk, hs, hb, hne⟩ more

/-- **roaring round trip**, both container kinds: every strictly increasing list of `u32`s decodes
back from its serialisation, and the decoder stops exactly at the end of the bitmap. -/
theorem C16_roaring_roundtrip (s : List Nat) (h : IdsOk s) (rest : Bytes) :
    Roaring.decode (Roaring.encode s ++ rest) = some (s, rest) :=
  Roaring.decode_encode s h.1 h.2 rest

theorem C16_roaring_roundtrip_nil (s : List Nat) (h : IdsOk s) :
    Roaring.decode (Roaring.encode s) = some (s, []) := by
  have := C16_roaring_roundtrip s h []
  rwa [List.append_nil] at this

/-- the serialised length is `serializedSize` (what `MetadataCodec` writes in front of the bitmap);
holds for every list -/
theorem C16_roaring_size (s : List Nat) : (Roaring.encode s).length = Roaring.serializedSize s :=
  Roaring.encode_length s

/-- the size fits the `u32` the metadata codec stores it in -/
theorem C16_roaring_size_lt (s : List Nat) (h : IdsOk s) : Roaring.serializedSize s < 2 ^ 32 :=
  Roaring.serializedSize_lt s h.1 h.2

/-- **offset header**: the `i`-th `u32` of the offset header (at byte `8 + 4 n + 4 i`, `n` the number
of containers) is the byte position at which the data of container `i` starts: from there on the
serialisation consists of the data of containers `i, i+1, …`. -/
theorem C16_roaring_offsets (s : List Nat) (h : IdsOk s) (i : Nat) (hi : i < (Roaring.containers s).length) :
    (Roaring.encode s).drop
        (ofLe (((Roaring.encode s).drop (8 + 4 * (Roaring.containers s).length + 4 * i)).take 4))
      = ((Roaring.containers s).drop i).flatMap (fun c => Roaring.containerData c.2) := by
  have hi' : i < (Roaring.offsets (8 + 8 * (Roaring.containers s).length) (Roaring.containers s)).length := by
    rw [Roaring.offsets_length]; exact hi
  rw [Roaring.header_offset s i hi', ofLe_le 4]
  · exact Roaring.drop_offset s i hi'
  · have h1 := Roaring.offsets_getElem_le s i hi'
    have h2 := C16_roaring_size_lt s h
    have : (256 : Nat) ^ 4 = 2 ^ 32 := by decide
    omega

/-- vectors: `f32` words (4 bytes) or binary-quantised sign words (8 bytes) -/
theorem C16_vec_roundtrip (m : Metric) (v : List Nat) (h : VecOk m v) :
    decodeVec m (encodeVec m v) = some v :=
  CodecL.decodeVec_encodeVec m v h

/-- leaf, descendants and split nodes -/
theorem C16_node_roundtrip (m : Metric) (v : Val) (hn : IsNode v) (h : ValOk m v) :
    decodeNode m (encodeVal m v) = some v := by
  cases v with
  | leaf hdr vec => exact CodecL.decodeNode_leaf m hdr vec h.1 h.2.1 h.2.2
  | desc ids => exact CodecL.decodeNode_desc m ids h.1 h.2
  | split l r n =>
    obtain ⟨⟨hl1, hl2⟩, ⟨hr1, hr2⟩, hv⟩ := h
    exact CodecL.decodeNode_split m l r n hl2 hl1 hr2 hr1 hv
  | metadata _ _ _ _ => exact absurd hn (by simp [IsNode])
  | version _ _ _ => exact absurd hn (by simp [IsNode])
  | unit => exact absurd hn (by simp [IsNode])
  | raw _ => exact absurd hn (by simp [IsNode])

/-- metadata records: name, NUL, dimensions, bitmap size, item bitmap, roots -/
theorem C16_meta_roundtrip (m : Metric) (name : Bytes) (dims : Nat) (items roots : List Nat)
    (h : ValOk m (.metadata name dims items roots)) :
    decodeMeta (encodeVal m (.metadata name dims items roots))
      = some (.metadata name dims items roots) :=
  CodecL.decodeMeta_encode m name dims items roots h.1 h.2.1 h.2.2.1.1 h.2.2.1.2 h.2.2.2

/-- **every stored value**: decoding, under the key that holds it, what the encoder wrote gives the
value back (never the `.raw` fallback). -/
theorem C16_val_roundtrip (m : Metric) (k : Key) (v : Val) (hk : Holds k v) (h : ValOk m v) :
    decodeVal m k (encodeVal m v) = v := by
  have node : ∀ v, IsNode v → ValOk m v → (k.mode = modeItem ∨ k.mode = modeTree) →
      decodeVal m k (encodeVal m v) = v := by
    intro v hn hv hm
    unfold decodeVal
    simp only [hm, if_true]
    rw [C16_node_roundtrip m v hn hv]; rfl
  cases v with
  | leaf hdr vec => exact node _ trivial h hk
  | desc ids => exact node _ trivial h hk
  | split l r n => exact node _ trivial h hk
  | metadata name dims items roots =>
    obtain ⟨h1, h2⟩ := hk
    unfold decodeVal
    rw [h1, h2]
    have e1 : ¬ (metadataKeyMode = modeItem ∨ metadataKeyMode = modeTree) := by decide
    have e2 : ¬ (metadataKeyMode = modeUpdated) := by decide
    simp only [e1, e2, and_self, if_true, if_false]
    rw [C16_meta_roundtrip m name dims items roots h]; rfl
  | version a b c =>
    obtain ⟨h1, h2⟩ := hk
    unfold decodeVal
    rw [h1, h2]
    have e1 : ¬ (versionKeyMode = modeItem ∨ versionKeyMode = modeTree) := by decide
    have e2 : ¬ (versionKeyMode = modeUpdated) := by decide
    have e3 : ¬ (versionKeyMode = metadataKeyMode ∧ versionKeyItem = metadataKeyItem) := by decide
    simp only [e1, e2, e3, and_self, if_true, if_false]
    rw [C16_version_roundtrip_any m a b c h.1 h.2.1 h.2.2]; rfl
  | unit =>
    have h1 : k.mode = modeUpdated := hk
    unfold decodeVal
    rw [h1]
    have e1 : ¬ (modeUpdated = modeItem ∨ modeUpdated = modeTree) := by decide
    simp only [e1, if_true, if_false]
    rfl
  | raw bs => exact absurd h (by simp [ValOk])

/-! ## non-vacuity

`Roaring.decode`, `decodeVec`, … go through `chunks`, which is defined by well-founded recursion and
therefore does not reduce in the kernel: a direct `decide` of a concrete round trip is not possible at
any size. The examples below check that concrete values meet every hypothesis (including a set whose
single container holds 5000 ids, i.e. a *bitmap* container), evaluate the *encoder* on them, and
instantiate the theorems. -/

theorem idsOk_range' (a n : Nat) (h : a + n ≤ 2 ^ 32) : IdsOk (List.range' a n) := by
  refine ⟨sorted_iff_pairwise.2 List.pairwise_lt_range', fun x hx => ?_⟩
  have := (List.mem_range'_1.1 hx).2
  omega

/-- 5000 consecutive ids inside one 2^16 block: one bitmap container -/
def bigSet : List Nat := List.range' 70000 5000

theorem bigSet_ok : IdsOk bigSet := idsOk_range' 70000 5000 (by decide)

theorem containers_bigSet : Roaring.containers bigSet = [(1, bigSet.map (· % 65536))] :=
  Roaring.containers_of_block (mt List.range'_eq_nil_iff.1 (by decide)) fun x hx => by
    have := List.mem_range'_1.1 hx
    omega

set_option maxRecDepth 200000 in
/-- it is a single container of cardinality 5000 > `arrayLimit` -/
example : (Roaring.containers bigSet).map (fun c => (c.1, c.2.length)) = [(1, 5000)]
    ∧ Roaring.arrayLimit < 5000 := by
  rw [containers_bigSet]
  exact ⟨by simp only [List.map_cons, List.map_nil, List.length_map, bigSet, List.length_range'], by decide⟩

set_option maxRecDepth 1000000 in
/-- the encoder on it: cookie 12346, one container, key 1, cardinality-1 = 4999, offset 16, then 8192 bytes
of bitmap whose word 69 has bits 48..63 set (ids 70000.. start at low 4464 = 69*64 + 48) -/
example : (Roaring.encode bigSet).length = 8208
    ∧ (Roaring.encode bigSet).take 16 = [58, 48, 0, 0, 1, 0, 0, 0, 1, 0, 135, 19, 16, 0, 0, 0]
    ∧ ((Roaring.encode bigSet).drop (16 + 69 * 8)).take 16
        = [0, 0, 0, 0, 0, 0, 255, 255, 255, 255, 255, 255, 255, 255, 255, 255] := by
  refine ⟨?_, ?_⟩
  · rw [C16_roaring_size, Roaring.serializedSize, containers_bigSet]
    simp only [List.map_cons, List.map_nil, Roaring.containerSize, List.length_map, bigSet, List.length_range']
    decide
  · rw [Roaring.encode_eq, containers_bigSet]
    decide +kernel

example : Roaring.decode (Roaring.encode bigSet ++ [1, 2, 3]) = some (bigSet, [1, 2, 3]) :=
  C16_roaring_roundtrip bigSet bigSet_ok [1, 2, 3]

/-- array containers, at the edges of the key and low ranges -/
def edgeSet : List Nat := [0, 1, 65535, 65536, 131071, 4294901760, 4294967295]

theorem edgeSet_ok : IdsOk edgeSet := by decide

example : Roaring.containers edgeSet
    = [(0, [0, 1, 65535]), (1, [0, 65535]), (65535, [0, 65535])] := by decide

example : Roaring.decode (Roaring.encode edgeSet) = some (edgeSet, []) :=
  C16_roaring_roundtrip_nil edgeSet edgeSet_ok

example : (Roaring.encode edgeSet).drop
    (ofLe (((Roaring.encode edgeSet).drop (8 + 4 * 3 + 4 * 2)).take 4)) = [0, 0, 255, 255] := by
  have := C16_roaring_offsets edgeSet edgeSet_ok 2 (by decide)
  rw [show (Roaring.containers edgeSet).length = 3 by decide] at this
  rw [this]; decide

/-- vectors: `f32` bit patterns (NaN, -0.0, max) and 64-bit sign words -/
example : VecOk .euclidean [0x7fc00000, 0x80000000, 0xffffffff, 0]
    ∧ VecOk .bqCosine [0xffffffffffffffff, 0, 0x8000000000000001] := by decide

/-- a leaf of the dot-product metric (two header words), a split with a tree and an item child,
a bucket with a bitmap container -/
def exLeaf : Val := .leaf [0x3f800000, 0x40490fdb] [0x3f800000, 0xbf800000, 0x7f7fffff]
def exSplit : Val := .split (NodeId.mkTree 4294967295) (NodeId.mkItem 0) [0x3f800000, 0x80000000]
def exDesc : Val := .desc bigSet
def exMeta : Val := .metadata Metric.bqEuclidean.nameBytes 768 bigSet [0, 17, 4294967295]

example : IsNode exLeaf ∧ ValOk .dot exLeaf ∧ Holds (Key.mkItem 65535 7) exLeaf := by decide
example : IsNode exSplit ∧ ValOk .cosine exSplit ∧ Holds (Key.mkTree 0 4294967295) exSplit := by decide
set_option maxRecDepth 200000 in
example : IsNode exDesc ∧ ValOk .bqManhattan exDesc ∧ Holds (Key.mkTree 3 9) exDesc :=
  ⟨trivial, bigSet_ok, by decide⟩
theorem exMeta_ok : ValOk .bqEuclidean exMeta ∧ Holds (Key.mkMetadata 12) exMeta :=
  ⟨⟨by decide, by decide, bigSet_ok, by decide⟩, by decide⟩
example : ValOk .euclidean (.version 0 6 1) ∧ Holds (Key.mkVersion 12) (.version 0 6 1) := by decide
example : ValOk .euclidean .unit ∧ Holds (Key.mkUpdated 1 42) .unit := by decide

example : decodeVal .bqEuclidean (Key.mkMetadata 12) (encodeVal .bqEuclidean exMeta) = exMeta :=
  C16_val_roundtrip _ _ _ exMeta_ok.2 exMeta_ok.1

end Arroy.C16
