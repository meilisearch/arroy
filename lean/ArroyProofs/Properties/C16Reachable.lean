import ArroyProofs.CodecReach
import ArroyProofs.Properties.C01Examples
/-! # C16 over reachable states — every entry of a reachable database round-trips through the byte codec

`Properties/C16.lean` and `C16Codec.lean` prove the codec theorems for WELL-FORMED keys and values. Here: every
entry of the store `C01.run ops` reached by a well-formed history meets their hypotheses, so that the bytes the
model writes (and, by the dump comparison of the differential runs, the crate) decode back to the same entry and
sort in key order.

* `C16_reachable_keys` (no side condition): every key of a reachable store is well-formed, of one of the four
  kinds, 8 bytes long, decodes back; the store is sorted and the ENCODED keys are strictly increasing in byte order.
* `C16_reachable_values`: under the decidable side condition `CodecTyped i m0 ops` (index `i` is added to, changed
  and built by writers of the metric it has at that point; `f32` components and oracle normals are 32-bit
  patterns / words of the word size; the dimension of a build fits a `u32`), every entry of index `i` is a
  well-formed value (`ValOk`) of the kind its key announces (`Holds`) and `decodeVal` of its encoding is the entry —
  for the metric the index has at the end of the history (`C05.metricOf`).
* `C16_reachable_dump`: the byte dump of the whole store decodes back entry by entry and is sorted in byte order.

The only part that is a hypothesis on the oracle is the word range of the normals supplied to the builds
(`∀ n ∈ env.normals, VecOk m n` in `opCodec`): the model takes split normals from the oracle stream as they are
(cf. `ArroyProofs/NormalLen.lean` for their length). Everything else is derived: `IndexInv` gives the bucket id
sets, child pointers, item set and roots; `ArroyProofs/StoreOkBuild.lean` carries leaf shapes and normal ranges
through `Writer::build`; `ArroyProofs/F32Width.lean` bounds the header words. (Helper lemmas:
`ArroyProofs/CodecReach.lean`.) -/
namespace Arroy.C16
open Arroy Generated C01

/-- **the keys of a reachable store**: index `u16`, one of the four kinds, id `u32`; the key codec round-trips on
    them and writes 8 bytes; the store is sorted by `(index, kind, id)` and the encoded keys are strictly increasing
    in LMDB's byte order (`lexLt`) — in particular pairwise distinct. -/
theorem C16_reachable_keys (ops : List Op) (hops : ∀ op ∈ ops, op.wf) :
    (∀ kv ∈ run ops, kv.1.index < 65536 ∧ validMode kv.1.mode ∧ kv.1.item < 2 ^ 32 ∧
      decodeKey (encodeKey kv.1) = some kv.1 ∧ (encodeKey kv.1).length = 8) ∧
    Store.Sorted (run ops) ∧
    ((run ops).map (fun kv => encodeKey kv.1)).Pairwise (fun a b => lexLt a b = true) := by
  have hs : Store.Sorted (run ops) := C19.run_sorted ops hops
  have hw : Store.WF (run ops) := C19.run_wf ops hops
  refine ⟨?_, hs, ?_⟩
  · intro kv hkv
    obtain ⟨k, v⟩ := kv
    have hk : k.wf := hw _ hkv
    have hg : Store.get (run ops) k = some v := (Store.get_eq_some_iff hs k v).2 hkv
    have hm : validMode k.mode := by
      rcases C17.C17_reachable_entries ops hops k v hg with h | h | ⟨h, _⟩ | ⟨h, _⟩ | ⟨h, _⟩
      · exact Or.inr (Or.inr (Or.inr h))
      · exact Or.inr (Or.inr (Or.inl h))
      · exact Or.inr (Or.inl h)
      · exact Or.inl (congrArg Key.mode h)
      · exact Or.inl (congrArg Key.mode h)
    exact ⟨hk.1, hm, by have := hk.2.2; rwa [pow_256_4] at this, C16_key_roundtrip k hk hm, C16_key_len k⟩
  · rw [List.pairwise_map]
    refine List.Pairwise.imp_of_mem ?_ ((Store.sorted_iff_pairwise _).1 hs)
    intro a b ha hb hab
    rw [C16_key_order a.1 b.1 (hw _ ha) (hw _ hb)]
    exact hab

/-- **the values of a reachable store**: for an index `i` meeting the side condition `CodecTyped i m0 ops`, with
    `m` the metric the index has at the end of the history, every entry `(k, v)` of the index is a value of the kind
    its key announces, all its fields are in range (`ValOk m v`: leaf headers of the length of the metric and 32-bit,
    vector and normal words of the word size, bucket and item sets strictly increasing `u32`s, child pointers and
    roots `u32` node ids, a metric name without NUL, a `u32` dimension, `u32` version fields), and decoding under
    `k` the bytes written for `v` gives `v` back (never the `.raw` fallback). -/
theorem C16_reachable_values (ops : List Op) (hops : ∀ op ∈ ops, op.wf) (i : Nat) (m0 : Metric)
    (ht : CodecTyped i m0 ops) :
    ∀ kv ∈ run ops, kv.1.index = i →
      Holds kv.1 kv.2 ∧ ValOk (C05.metricOf i m0 ops) kv.2 ∧
      decodeVal (C05.metricOf i m0 ops) kv.1 (encodeVal (C05.metricOf i m0 ops) kv.2) = kv.2 := by
  intro kv hkv hidx
  obtain ⟨h1, h2⟩ := reachable_valOk ops hops i m0 ht kv.1 kv.2 hkv hidx
  exact ⟨h1, h2, C16_val_roundtrip _ _ _ h1 h2⟩

/-- **buckets and updated marks need no side condition**: in the store reached by ANY well-formed history (writers
    of any metrics on the same index, arbitrary vector words and oracle normals), every updated mark and every
    descendants node sits under a key of its kind, is well-formed, and round-trips under the codec of every metric
    (the mark is the empty value; a bucket is a portable roaring bitmap of a strictly increasing `u32` list). -/
theorem C16_reachable_buckets_marks (ops : List Op) (hops : ∀ op ∈ ops, op.wf) (m : Metric) :
    ∀ kv ∈ run ops, (kv.2 = .unit ∨ ∃ ids, kv.2 = .desc ids) →
      Holds kv.1 kv.2 ∧ ValOk m kv.2 ∧ decodeVal m kv.1 (encodeVal m kv.2) = kv.2 := by
  intro kv hkv hv
  obtain ⟨k, v⟩ := kv
  obtain ⟨h1, h2⟩ := reachable_holds ops hops k v hkv
  have hE : EntryOk m k v := by
    rcases hv with rfl | ⟨ids, rfl⟩
    · exact EntryOk.unit m k
    · exact EntryOk.desc m k ids
  exact ⟨h1, h2 m hE, C16_val_roundtrip _ _ _ h1 (h2 m hE)⟩

/-- one entry of the byte dump: the key, and the value under the codec of the metric of its index -/
def encodeEntry (mt : Nat → Metric) (kv : Key × Val) : Bytes × Bytes :=
  (encodeKey kv.1, encodeVal (mt kv.1.index) kv.2)

/-- the dump decoder on one entry: the key first, then the value under that key -/
def decodeEntry (mt : Nat → Metric) (e : Bytes × Bytes) : Option (Key × Val) :=
  (decodeKey e.1).map (fun k => (k, decodeVal (mt k.index) k e.2))

/-- **the byte dump of a reachable store decodes back to the store, entry by entry, and is sorted in byte
    order.** `M0 i` is the metric index `i` starts with, `mt i` the one it has at the end (`hmt`; for a history in which
    every index keeps one metric `m`, `mt = fun _ => m`: `C16_reachable_dump_const`). -/
theorem C16_reachable_dump (ops : List Op) (hops : ∀ op ∈ ops, op.wf) (M0 : Nat → Metric)
    (ht : CodecTypedAll M0 ops) (mt : Nat → Metric) (hmt : ∀ i < 65536, mt i = C05.metricOf i (M0 i) ops) :
    ((run ops).map (encodeEntry mt)).map (decodeEntry mt) = (run ops).map some ∧
    (((run ops).map (encodeEntry mt)).map (·.1)).Pairwise (fun a b => lexLt a b = true) := by
  obtain ⟨hkeys, _, hpw⟩ := C16_reachable_keys ops hops
  refine ⟨?_, ?_⟩
  · rw [List.map_map]
    apply List.map_congr_left
    intro kv hkv
    obtain ⟨hi, _, _, hdec, _⟩ := hkeys kv hkv
    have hv := (C16_reachable_values ops hops kv.1.index (M0 kv.1.index) (ht.at _) kv hkv rfl).2.2
    rw [← hmt _ hi] at hv
    show (decodeKey (encodeKey kv.1)).map (fun k => (k, decodeVal (mt k.index) k (encodeVal (mt kv.1.index) kv.2))) = some kv
    rw [hdec]
    show some (kv.1, decodeVal (mt kv.1.index) kv.1 (encodeVal (mt kv.1.index) kv.2)) = some kv
    rw [hv]
  · rw [List.map_map]
    exact hpw

/-- the dump under one metric `m`, for a history all of whose indexes are written under `m` from start to end -/
theorem C16_reachable_dump_const (ops : List Op) (hops : ∀ op ∈ ops, op.wf) (m : Metric)
    (ht : CodecTypedAll (fun _ => m) ops) (hm : ∀ i ∈ ops.map opIndex, C05.metricOf i m ops = m) :
    ((run ops).map (fun kv => (encodeKey kv.1, encodeVal m kv.2))).map
        (fun e => (decodeKey e.1).map (fun k => (k, decodeVal m k e.2))) = (run ops).map some ∧
    (((run ops).map (fun kv => (encodeKey kv.1, encodeVal m kv.2))).map (·.1)).Pairwise
        (fun a b => lexLt a b = true) := by
  have hmt : ∀ i < 65536, (fun _ : Nat => m) i = C05.metricOf i ((fun _ => m) i) ops := by
    intro i _
    by_cases hi : i ∈ ops.map opIndex
    · exact (hm i hi).symm
    · exact (metricOf_of_not_mem i ops (fun op hop e => hi (List.mem_map.2 ⟨op, hop, e⟩)) m).symm
  exact C16_reachable_dump ops hops (fun _ => m) ht (fun _ => m) hmt

/-! ## non-vacuity

Concrete histories whose stores are computed by the kernel (`decide +kernel`: the builds really run). The byte
DECODERS go through `chunks` (well-founded recursion, does not reduce in the kernel), so the round trips themselves
are obtained by instantiating the theorems; the hypotheses, the stores and the ENCODED bytes are evaluated. -/
namespace Ex
open C01.Ex C17.Ex

/-- the two-round Euclidean history of `C01Examples.lean` (second build under a cancellation schedule) -/
def opsE : List Op := ops2 ++ [.build cEx oEx 5 env2]

theorem opsE_wf : ∀ op ∈ opsE, op.wf := by decide

/-- `C16_reachable_keys` on it: ten entries (metadata, four tree nodes, five items), whose encoded keys are … -/
example : ((run opsE).map (fun kv => encodeKey kv.1)) =
    [[0, 0, 0, 0, 0, 0, 0, 0],
     [0, 0, 2, 0, 0, 0, 0, 0], [0, 0, 2, 0, 0, 0, 1, 0], [0, 0, 2, 0, 0, 0, 2, 0], [0, 0, 2, 0, 0, 0, 3, 0],
     [0, 0, 2, 0, 0, 0, 4, 0],
     [0, 0, 3, 0, 0, 0, 1, 0], [0, 0, 3, 0, 0, 0, 2, 0], [0, 0, 3, 0, 0, 0, 3, 0], [0, 0, 3, 0, 0, 0, 4, 0],
     [0, 0, 3, 0, 0, 0, 5, 0]] := by decide +kernel

example : ∀ kv ∈ run opsE, decodeKey (encodeKey kv.1) = some kv.1 :=
  fun kv h => ((C16_reachable_keys opsE opsE_wf).1 kv h).2.2.2.1

/-- the side condition holds for it (index 0, Euclidean from start to end; the oracle normals are `f32` patterns) -/
theorem opsE_typed : CodecTypedAll (fun _ => .euclidean) opsE ∧
    ∀ i ∈ opsE.map opIndex, C05.metricOf i .euclidean opsE = .euclidean := by decide +kernel

example : ((run opsE).map (fun kv => (encodeKey kv.1, encodeVal .euclidean kv.2))).map
    (fun e => (decodeKey e.1).map (fun k => (k, decodeVal .euclidean k e.2))) = (run opsE).map some :=
  (C16_reachable_dump_const opsE opsE_wf .euclidean opsE_typed.1 opsE_typed.2).1

/-- the two-index cosine history of `C17Reachable.lean`: every kind of entry occurs (metadata and version records,
    an updated mark, buckets, split nodes with a tree and an item child, leaves with a norm header) -/
def opsK : List Op := opsC ++ [.build cC oEx 5 env2]

theorem opsK_wf : ∀ op ∈ opsK, op.wf := by decide

theorem opsK_typed : CodecTypedAll (fun _ => .cosine) opsK ∧
    ∀ i ∈ opsK.map opIndex, C05.metricOf i .cosine opsK = .cosine := by decide +kernel

/-- `C16_reachable_dump_const` on it (`run opsK` is `C17.Ex.sC`, listed in `C17.Ex.sC_eq`: 17 entries) -/
example : ((sC.map (fun kv => (encodeKey kv.1, encodeVal .cosine kv.2))).map
      (fun e => (decodeKey e.1).map (fun k => (k, decodeVal .cosine k e.2))) = sC.map some) ∧
    sC.length = 17 :=
  ⟨(C16_reachable_dump_const opsK opsK_wf .cosine opsK_typed.1 opsK_typed.2).1, by rw [sC_eq]; rfl⟩

/-- some of the bytes of that dump: the root split node (tag 2, two 5-byte node ids, two little-endian `f32`),
    the version record of index 3 (three big-endian `u32`), the updated mark (empty), a leaf (tag 0, norm, vector) -/
example : Store.get sC ⟨0, 2, 0⟩ = some (.split ⟨2, 1⟩ ⟨2, 3⟩ [f1, 0]) ∧
    encodeVal .cosine (.split ⟨2, 1⟩ ⟨2, 3⟩ [f1, 0]) = [2, 2, 0, 0, 0, 1, 2, 0, 0, 0, 3, 0, 0, 128, 63, 0, 0, 0, 0] ∧
    encodeVal .cosine (.version 0 6 1) = [0, 0, 0, 0, 0, 0, 0, 6, 0, 0, 0, 1] ∧
    encodeVal .cosine .unit = [] ∧
    encodeVal .cosine (.leaf [1065353216] [fm1, 0]) = [0, 0, 0, 128, 63, 0, 0, 128, 191, 0, 0, 0, 0] := by
  refine ⟨by rw [sC_eq]; decide, by decide, by decide, by decide, by decide⟩

/-- `C16_reachable_values` on it: the root split node of index 0 and the version record of index 3 -/
example : decodeVal .cosine ⟨0, 2, 0⟩ (encodeVal .cosine (.split ⟨2, 1⟩ ⟨2, 3⟩ [f1, 0])) = .split ⟨2, 1⟩ ⟨2, 3⟩ [f1, 0] ∧
    decodeVal .cosine ⟨3, 0, 1⟩ (encodeVal .cosine (.version 0 6 1)) = .version 0 6 1 := by
  have h0 := C16_reachable_values opsK opsK_wf 0 .cosine (opsK_typed.1.at 0)
  have h3 := C16_reachable_values opsK opsK_wf 3 .cosine (opsK_typed.1.at 3)
  rw [opsK_typed.2 0 (by decide)] at h0
  rw [opsK_typed.2 3 (by decide)] at h3
  have hs : run opsK = sC := rfl
  rw [hs, sC_eq] at h0 h3
  exact ⟨(h0 (⟨0, 2, 0⟩, .split ⟨2, 1⟩ ⟨2, 3⟩ [f1, 0]) (by decide) rfl).2.2,
    (h3 (⟨3, 0, 1⟩, .version 0 6 1) (by decide) rfl).2.2⟩

/-- `C16_reachable_buckets_marks` on it: the mark of item 8 of index 3 and a bucket of index 0, under any metric -/
example (m : Metric) : decodeVal m ⟨3, 1, 8⟩ (encodeVal m .unit) = .unit ∧
    decodeVal m ⟨0, 2, 4⟩ (encodeVal m (.desc [3, 4])) = .desc [3, 4] := by
  have h := C16_reachable_buckets_marks opsK opsK_wf m
  have hs : run opsK = sC := rfl
  rw [hs, sC_eq] at h
  exact ⟨(h (⟨3, 1, 8⟩, .unit) (by decide) (Or.inl rfl)).2.2,
    (h (⟨0, 2, 4⟩, .desc [3, 4]) (by decide) (Or.inr ⟨_, rfl⟩)).2.2⟩

/-- a history with metric changes (`C05History.lean`): index 0 goes Euclidean → quantised → Euclidean; after the
    change to the quantised metric its leaves hold one 64-bit sign word each, and they round-trip under the
    quantised codec (8 bytes per word) -/
theorem hBq_typed : CodecTyped 0 .euclidean C05.Ex.hBqAdd ∧ C05.metricOf 0 .euclidean C05.Ex.hBqAdd = .bqEuclidean ∧
    (⟨0, 3, 4⟩, Val.leaf [0] [2]) ∈ run C05.Ex.hBqAdd ∧
    CodecTyped 0 .euclidean C05.Ex.hist ∧ C05.metricOf 0 .euclidean C05.Ex.hist = .euclidean ∧
    CodecTyped 1 .cosine C05.Ex.hist := by decide +kernel

example : decodeVal .bqEuclidean ⟨0, 3, 4⟩ (encodeVal .bqEuclidean (.leaf [0] [2])) = .leaf [0] [2] ∧
    encodeVal .bqEuclidean (.leaf [0] [2]) = [0, 0, 0, 0, 0, 2, 0, 0, 0, 0, 0, 0, 0] := by
  have hwf : ∀ op ∈ C05.Ex.hBqAdd, op.wf := by decide
  have h := C16_reachable_values C05.Ex.hBqAdd hwf 0 .euclidean hBq_typed.1 _ hBq_typed.2.2.1 rfl
  rw [hBq_typed.2.1] at h
  exact ⟨h.2.2, by decide⟩

/-! ### the side conditions cannot be dropped

An `f32` component that is not a 32-bit pattern (the model's vectors are lists of naturals), or such a word in a
normal supplied by the oracle, is stored as it is and truncated by the encoder: two different reachable stores
then have the same dump. -/

/-- a vector component `2^32`: the history is well-formed, not `CodecTyped`, the stored leaf is not `ValOk`, and its
    bytes are those of the leaf with component `0` -/
example : (∀ op ∈ [Op.add cEx 0 [2 ^ 32, 0]], op.wf) ∧ ¬ CodecTyped 0 .euclidean [Op.add cEx 0 [2 ^ 32, 0]] ∧
    run [Op.add cEx 0 [2 ^ 32, 0]] = [(⟨0, 1, 0⟩, .unit), (⟨0, 3, 0⟩, .leaf [0] [2 ^ 32, 0])] ∧
    ¬ ValOk .euclidean (.leaf [0] [2 ^ 32, 0]) ∧
    encodeVal .euclidean (.leaf [0] [2 ^ 32, 0]) = encodeVal .euclidean (.leaf [0] [0, 0]) := by decide +kernel

/-- an oracle normal with the word `f1 + 2^32`: the build of `ops1` succeeds as with `f1` (the soft-float reads
    words modulo `2^32`), the root split node stores the word, and its bytes are those of the node with `f1` -/
def envBad : BState := { env1 with normals := [[f1 + 2 ^ 32, 0], [0, f1]] }
def opsBad : List Op :=
  [.add cEx 0 [fm2, 0], .add cEx 1 [fm1, 0], .add cEx 2 [f1, fm1], .add cEx 3 [f2, f1], .add cEx 4 [f3, f1],
   .build cEx oEx 5 envBad]

example : (∀ op ∈ opsBad, op.wf) ∧ ¬ CodecTyped 0 .euclidean opsBad ∧
    Store.get (run opsBad) ⟨0, 2, 0⟩ = some (.split ⟨2, 1⟩ ⟨2, 3⟩ [f1 + 2 ^ 32, 0]) ∧
    Store.get (run ops1) ⟨0, 2, 0⟩ = some (.split ⟨2, 1⟩ ⟨2, 3⟩ [f1, 0]) ∧
    ¬ ValOk .euclidean (.split ⟨2, 1⟩ ⟨2, 3⟩ [f1 + 2 ^ 32, 0]) ∧
    encodeVal .euclidean (.split ⟨2, 1⟩ ⟨2, 3⟩ [f1 + 2 ^ 32, 0]) = encodeVal .euclidean (.split ⟨2, 1⟩ ⟨2, 3⟩ [f1, 0]) := by
  decide +kernel

end Ex

end Arroy.C16
