import ArroyProofs.UpgradeWF
import ArroyProofs.WriterLaws
/-! # C17 — upgrading an old database preserves its whole content

`Upgrade.down` produces the v0.4 layout of a current-layout database (kinds renumbered in keys and in split
nodes, the updated marks folded into one bitmap per index, no version record, any metric name).
`Upgrade.up04to05` (`cosine_from_0_4_to_0_5`) brings it back key for key and value for value;
`Upgrade.stamp05to06` (`from_0_5_to_0_6`) adds a version record exactly where metadata exists. -/
namespace Arroy.C17
open Arroy Generated Store Upgrade

/-- what the decidable checker `WellFormedDB` checks: sorted by key; every key fits its fields; item keys hold
    leaves; tree keys hold descendants or split nodes whose children are tree nodes or items; updated keys hold
    the unit value; keys of the metadata kind are the metadata record (a cosine metadata) or the version record -/
theorem C17_wellFormed_iff (s : Store) :
    WellFormedDB s ↔ Sorted s ∧ ∀ kv ∈ s, EntrySpec kv.1 kv.2 := wellFormedDB_iff s

/-- **up ∘ down, literally**: the upgraded database *is* `s` without its version records (same list): both are
sorted and hold the same value under every key (`get_upgraded`) -/
theorem C17_up_down_eq (oldName : Bytes) (s : Store) (hw : WellFormedDB s) :
    up04to05 (down oldName s) =
      .ok (s.filter (fun kv => !(kv.1.mode == versionKeyMode && kv.1.item == versionKeyItem))) := by
  rw [up_down_ok oldName hw]
  congr 1
  apply ext_of_sorted (putAll_sorted sorted_nil _) (filter_sorted hw.sorted _)
  intro k
  exact (get_upgraded oldName hw k).trans (get_filter_key s notVersion k).symm

/-- **up ∘ down, key for key**: the upgrade of the old layout of `s` succeeds, and under every key — every item,
    every tree node with the kinds of its children, the metadata (metric name `cosine`, whatever the old name
    was), one updated mark per id of the old pending-updates bitmap — it holds exactly what `s` holds, except
    that there is no version record. -/
theorem C17_up_down (oldName : Bytes) (s : Store) (hw : WellFormedDB s) :
    ∃ s', up04to05 (down oldName s) = .ok s' ∧
      ∀ k, Store.get s' k =
        Store.get (s.filter (fun kv => !(kv.1.mode == versionKeyMode && kv.1.item == versionKeyItem))) k :=
  ⟨_, C17_up_down_eq oldName s hw, fun _ => rfl⟩

/-- the old metric name is irrelevant; the upgraded metadata always says `cosine` -/
theorem C17_up_down_metadata (oldName : Bytes) (s : Store) (hw : WellFormedDB s) (i : Nat) (s' : Store)
    (h : up04to05 (down oldName s) = .ok s') :
    Store.get s' (Key.mkMetadata i) = Store.get s (Key.mkMetadata i) ∧
    (∀ v, Store.get s' (Key.mkMetadata i) = some v → ∃ d it r, v = .metadata cosineName d it r) ∧
    Store.get s' (Key.mkVersion i) = none := by
  rw [up_down_ok oldName hw] at h
  cases h
  rw [get_upgraded oldName hw, get_upgraded oldName hw]
  refine ⟨rfl, ?_, rfl⟩
  intro v hv
  rw [if_pos (show notVersion (Key.mkMetadata i) = true from rfl)] at hv
  rcases entryOk_meta (hw.get hv) rfl with ⟨_, h⟩ | ⟨e, _⟩
  · exact h
  · exact absurd e (show ¬ metadataKeyItem = versionKeyItem by decide)

/-- the upgraded database opens (or demands a build) exactly as the original does -/
theorem C17_up_down_open (oldName : Bytes) (s : Store) (hw : WellFormedDB s) (c : Cfg) (hi : c.index < 65536)
    (s' : Store) (h : up04to05 (down oldName s) = .ok s') :
    Reader.open c s' = Reader.open c s ∧ Writer.needBuild c s' = Writer.needBuild c s := by
  rw [C17_up_down_eq oldName s hw] at h
  cases h
  have hm := prefixIter_filter_key hw.wf notVersion c.index modeUpdated hi (by decide)
    (fun k _ h2 => by unfold notVersion; rw [h2]; rfl)
  have hg := (get_filter_key s notVersion c.metaKey).trans (if_pos rfl)
  exact ⟨Writer.open_congr hm hg, Writer.needBuild_congr hm hg⟩

/-- the pending-updates bitmap of the old database is expanded into one updated mark per id, and nothing else -/
theorem C17_updated_marks (oldName : Bytes) (s : Store) (hw : WellFormedDB s) (i : Nat) (s' : Store)
    (h : up04to05 (down oldName s) = .ok s') :
    (∀ ids, Store.get (down oldName s) ⟨i, oldModeMetadata, 1⟩ = some (.desc ids) →
      IdSet.Sorted ids ∧ ∀ id, Store.get s' (Key.mkUpdated i id) = if id ∈ ids then some .unit else none) ∧
    (Store.get (down oldName s) ⟨i, oldModeMetadata, 1⟩ = none → ∀ id, Store.get s' (Key.mkUpdated i id) = none) ∧
    (∀ v, Store.get (down oldName s) ⟨i, oldModeMetadata, 1⟩ = some v → ∃ ids, v = .desc ids ∧ ids ≠ []) := by
  rw [up_down_ok oldName hw] at h
  cases h
  have hmk : ∀ id, Store.get (upgraded oldName s) (Key.mkUpdated i id) =
      if id ∈ marks i s then some .unit else none := by
    intro id
    rw [get_upgraded oldName hw, if_pos (show notVersion (Key.mkUpdated i id) = true from rfl)]
    by_cases hid : id ∈ marks i s
    · rw [if_pos hid]
      obtain ⟨v0, hv0⟩ := mem_marks_iff.1 hid
      have hg := (get_eq_some_iff hw.sorted _ _).2 hv0
      rw [entryOk_updated (hw.get hg) rfl] at hg
      exact hg
    · rw [if_neg hid]
      cases hg : Store.get s (Key.mkUpdated i id) with
      | none => rfl
      | some v => exact absurd (mem_marks_iff.2 ⟨v, mem_of_get hg⟩) hid
  have hins : ∀ id, id ∈ insertAll (marks i s) [] ↔ id ∈ marks i s := fun id => by
    rw [mem_insertAll]; simp
  rw [show (⟨i, oldModeMetadata, 1⟩ : Key) = bitmapKey i from rfl, get_down_bitmap]
  by_cases hm : marks i s = []
  · rw [if_pos hm]
    refine ⟨fun ids hg => (by cases hg), fun _ id => ?_, fun v hg => (by cases hg)⟩
    rw [hmk, hm]; rfl
  · rw [if_neg hm]
    refine ⟨fun ids hg => ?_, fun hg => (by cases hg), fun v hg => ?_⟩
    · cases hg
      refine ⟨sorted_insertAll IdSet.sorted_nil, fun id => ?_⟩
      rw [hmk]
      simp only [hins]
    · cases hg
      refine ⟨_, rfl, fun e => hm ?_⟩
      apply List.eq_nil_iff_forall_not_mem.2
      intro id hid
      have := (hins id).2 hid
      rw [e] at this
      cases this

/-- the upgrade of *any* old-layout database whose entries are acceptable is the list of its writes, applied in
    key order to an empty database (items and tree nodes re-keyed, children of split nodes re-tagged, metadata
    renamed, bitmaps expanded) -/
theorem C17_up_writes (old : List (Key × Val)) (h : ∀ kv ∈ old, UpGood kv) :
    up04to05 old = .ok (putAll [] (old.flatMap upWrites)) := up04to05_good old h

/-- **v0.5 → v0.6, any read and write database**: keys that are not version records are untouched; the version
    record of index `i` becomes the crate version iff the read database has a metadata record for `i` -/
theorem C17_stamp_general (read write : Store) :
    (∀ k, ¬ (k.mode = versionKeyMode ∧ k.item = versionKeyItem) →
      Store.get (stamp05to06 read write) k = Store.get write k) ∧
    (∀ i, Store.get (stamp05to06 read write) (Key.mkVersion i) =
      if (Store.get read (Key.mkMetadata i)).isSome = true
      then some (.version crateVersion.1 crateVersion.2.1 crateVersion.2.2)
      else Store.get write (Key.mkVersion i)) := by
  rw [stamp_eq]
  constructor
  · intro k hk
    apply get_putAll_of_not_mem
    intro w hw e
    obtain ⟨_, _, hw'⟩ := mem_stampWrites hw
    apply hk
    rw [← e, hw']
    exact ⟨rfl, rfl⟩
  · intro i
    have hf : Functional (read.flatMap stampWrites) := by
      intro a ha b hb _
      obtain ⟨_, _, ha'⟩ := mem_stampWrites ha
      obtain ⟨_, _, hb'⟩ := mem_stampWrites hb
      rw [ha', hb']
    by_cases hm : (Store.get read (Key.mkMetadata i)).isSome = true
    · rw [if_pos hm, get_putAll hf]
      left
      obtain ⟨v, hv⟩ := (get_isSome_iff read _).1 hm
      rw [List.mem_flatMap]
      refine ⟨_, hv, ?_⟩
      unfold stampWrites
      rw [if_pos ⟨rfl, rfl⟩]
      exact List.mem_singleton.2 rfl
    · rw [if_neg hm]
      apply get_putAll_of_not_mem
      intro w hw e
      obtain ⟨v, hv, _⟩ := mem_stampWrites hw
      apply hm
      rw [get_isSome_iff]
      have : w.1.index = i := congrArg Key.index e
      rw [this] at hv
      exact ⟨v, hv⟩

/-- **v0.5 → v0.6 in place**: a version record `crateVersion` exactly for the indexes that have a metadata
    record, every other key unchanged (an older version record of an index without metadata stays as it is) -/
theorem C17_stamp (s : Store) :
    (∀ k, ¬ (k.mode = versionKeyMode ∧ k.item = versionKeyItem) →
      Store.get (stamp05to06 s s) k = Store.get s k) ∧
    (∀ i, Store.get (stamp05to06 s s) (Key.mkVersion i) =
      if (Store.get s (Key.mkMetadata i)).isSome = true
      then some (.version crateVersion.1 crateVersion.2.1 crateVersion.2.2)
      else Store.get s (Key.mkVersion i)) := C17_stamp_general s s

theorem C17_stamp_sorted (s : Store) (hs : Sorted s) : Sorted (stamp05to06 s s) := by
  rw [stamp_eq]; exact putAll_sorted hs _

/-- `remapMode` inverts `unmapMode` on the three kinds of the old layout (and conversely); it fails exactly on
    the bytes that are none of the three old kinds -/
theorem C17_remap_inverse :
    (∀ m, m = modeItem ∨ m = modeTree ∨ m = modeMetadata → (unmapMode m).bind remapMode = some m) ∧
    (∀ b, b = oldModeItem ∨ b = oldModeTree ∨ b = oldModeMetadata → (remapMode b).bind unmapMode = some b) ∧
    (∀ b, remapMode b = none ↔ (b ≠ oldModeItem ∧ b ≠ oldModeTree ∧ b ≠ oldModeMetadata)) := by
  refine ⟨?_, ?_, ?_⟩
  · rintro m (h | h | h) <;> subst h <;> decide
  · rintro b (h | h | h) <;> subst h <;> decide
  · intro b
    unfold remapMode
    constructor
    · intro h
      split at h
      · cases h
      · split at h
        · cases h
        · split at h
          · cases h
          · rename_i h1 h2 h3; exact ⟨h1, h2, h3⟩
    · rintro ⟨h1, h2, h3⟩
      rw [if_neg h1, if_neg h2, if_neg h3]

/-- a key whose kind is none of the three old kinds makes the upgrade fail with `CannotDecodeKeyMode`
    carrying that byte -/
theorem C17_cannot_decode_key (acc : Store) (k : Key) (v : Val) (h : remapMode k.mode = none) :
    upEntry acc (k, v) = .error (.cannotDecodeKeyMode k.mode) := by
  obtain ⟨h1, h2, h3⟩ := (C17_remap_inverse.2.2 k.mode).1 h
  unfold upEntry
  simp only
  rw [if_neg h1, if_neg h2, if_neg h3]

/-- … and so does a split node with a child of unknown kind (left child checked first) -/
theorem C17_cannot_decode_child (acc : Store) (k : Key) (l r : NodeId) (n : List Nat) (hk : k.mode = oldModeTree) :
    (remapMode l.mode = none → upEntry acc (k, .split l r n) = .error (.cannotDecodeKeyMode l.mode)) ∧
    (remapMode l.mode ≠ none → remapMode r.mode = none →
      upEntry acc (k, .split l r n) = .error (.cannotDecodeKeyMode r.mode)) := by
  rw [upEntry_split acc l r n hk]
  constructor
  · intro hl; rw [hl]
  · intro hl hr
    obtain ⟨a, ha⟩ := Option.ne_none_iff_exists'.1 hl
    rw [ha, hr]

/-- conversely `CannotDecodeKeyMode` is raised only on a byte that is none of the three old kinds: the kind of
the key, or of a child of a split node under a tree key; item and metadata keys fail with `panic` or not at all -/
theorem C17_cannot_decode_only (acc : Store) (k : Key) (v : Val) (m : Nat)
    (h : upEntry acc (k, v) = .error (.cannotDecodeKeyMode m)) : remapMode m = none := by
  by_cases h1 : k.mode = oldModeItem
  · rw [upEntry_item acc v h1] at h; cases h
  by_cases h2 : k.mode = oldModeTree
  · cases v with
    | split l r n =>
      rw [upEntry_split acc l r n h2] at h
      cases hl : remapMode l.mode with
      | none => rw [hl] at h; cases h; exact hl
      | some a =>
        cases hr : remapMode r.mode with
        | none => rw [hl, hr] at h; cases h; exact hr
        | some b => rw [hl, hr] at h; cases h
    | _ => rw [upEntry_tree acc _ h2] at h; cases h
  by_cases h3 : k.mode = oldModeMetadata
  · rw [upEntry_meta acc v h3] at h
    split at h
    · split at h <;> cases h
    · split at h
      · split at h <;> cases h
      · cases h
  · have hk := (C17_remap_inverse.2.2 k.mode).2 ⟨h1, h2, h3⟩
    rw [C17_cannot_decode_key acc k v hk] at h
    cases h; exact hk

/-! ## non-vacuity: a two-index database with split nodes having an item child on either side,
pending updates in index 0, none in index 5, a version record in index 0 only -/

def exDB : Store :=
  [ (⟨0, 0, 0⟩, .metadata cosineName 2 [1, 2, 3, 4] [0]),
    (⟨0, 0, 1⟩, .version 0 5 0),
    (⟨0, 1, 2⟩, .unit),
    (⟨0, 1, 7⟩, .unit),
    (⟨0, 2, 0⟩, .split ⟨3, 1⟩ ⟨2, 1⟩ [5, 6]),
    (⟨0, 2, 1⟩, .split ⟨2, 2⟩ ⟨3, 4⟩ [7, 8]),
    (⟨0, 2, 2⟩, .desc [2, 3]),
    (⟨0, 3, 1⟩, .leaf [9] [10, 11]),
    (⟨0, 3, 2⟩, .leaf [9] [12, 13]),
    (⟨0, 3, 3⟩, .leaf [9] [14, 15]),
    (⟨0, 3, 4⟩, .leaf [9] [16, 17]),
    (⟨5, 0, 0⟩, .metadata cosineName 2 [8, 9] [3]),
    (⟨5, 2, 3⟩, .split ⟨3, 8⟩ ⟨3, 9⟩ [1, 1]),
    (⟨5, 3, 8⟩, .leaf [9] [1, 2]),
    (⟨5, 3, 9⟩, .leaf [9] [3, 4]) ]

example : WellFormedDB exDB := by decide

/-- the old layout of the example: kinds renumbered (also inside the split nodes), one bitmap `[2, 7]` -/
example : down [111, 108, 100] exDB =
  [ (⟨0, 0, 1⟩, .leaf [9] [10, 11]),
    (⟨0, 0, 2⟩, .leaf [9] [12, 13]),
    (⟨0, 0, 3⟩, .leaf [9] [14, 15]),
    (⟨0, 0, 4⟩, .leaf [9] [16, 17]),
    (⟨0, 1, 0⟩, .split ⟨0, 1⟩ ⟨1, 1⟩ [5, 6]),
    (⟨0, 1, 1⟩, .split ⟨1, 2⟩ ⟨0, 4⟩ [7, 8]),
    (⟨0, 1, 2⟩, .desc [2, 3]),
    (⟨0, 2, 0⟩, .metadata [111, 108, 100] 2 [1, 2, 3, 4] [0]),
    (⟨0, 2, 1⟩, .desc [2, 7]),
    (⟨5, 0, 8⟩, .leaf [9] [1, 2]),
    (⟨5, 0, 9⟩, .leaf [9] [3, 4]),
    (⟨5, 1, 3⟩, .split ⟨0, 8⟩ ⟨0, 9⟩ [1, 1]),
    (⟨5, 2, 0⟩, .metadata [111, 108, 100] 2 [8, 9] [3]) ] := by decide

/-- the upgrade gives the example back, without its version record (what `C17_up_down_eq` says) -/
example : up04to05 (down [111, 108, 100] exDB) = .ok (exDB.erase ⟨0, 0, 1⟩) := rfl
example : exDB.filter (fun kv => !(kv.1.mode == versionKeyMode && kv.1.item == versionKeyItem)) =
    exDB.erase ⟨0, 0, 1⟩ := by decide

/-- the stamp adds the version record to both indexes (and overwrites the older one) -/
example : stamp05to06 exDB exDB =
    (exDB.put ⟨0, 0, 1⟩ (.version 0 6 1)).put ⟨5, 0, 1⟩ (.version 0 6 1) := by decide

/-- an unknown kind in a key or in a split node is refused -/
example : up04to05 [(⟨0, 3, 1⟩, .unit)] = .error (.cannotDecodeKeyMode 3) := rfl
example : up04to05 [(⟨0, 1, 1⟩, .split ⟨0, 1⟩ ⟨3, 1⟩ [])] = .error (.cannotDecodeKeyMode 3) := rfl

end Arroy.C17
