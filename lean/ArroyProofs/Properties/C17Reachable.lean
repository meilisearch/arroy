import ArroyProofs.UpgradeReach
/-! # C17 over reachable states — the upgraded database is a valid, searchable index

`C17_up_down_eq` is about every `WellFormedDB`; the C01/C02 theorems are about the stores `C01.run ops` of
well-formed histories. Here the two are composed:

* `C17_reachable_entries`: what every reachable store holds under the keys the index invariant does not describe
  (updated marks, keys of the metadata kind), and that there is no other kind of key;
* `C17_reachable_wellFormed(_iff)`: a reachable store is a `WellFormedDB` exactly when all its metadata records
  carry the cosine name — in particular when every build of the history was made by a cosine writer;
* `C17_upgrade_reachable`: the old layout of the store reached by a history ending in a successful cosine build,
  run through `cosine_from_0_4_to_0_5` and `from_0_5_to_0_6`, is a database that opens, holds a valid forest
  (`Forest`, `ForestWith`, `Check.forestValid = []`, `IndexInv`), answers unlimited-budget queries exactly,
  treats every other index as the original does, and has a version record exactly where there is metadata.

(Helper lemmas: `ArroyProofs/UpgradeReach.lean`.) -/
namespace Arroy.C17
open Arroy Generated Store Upgrade C01 Reader

/-- the build was made by a cosine writer (builds are the only operations that write a metadata record; the
    metric of the writers that add, delete, clear or change the distance is irrelevant) -/
def cosineBuild : Op → Prop
  | .build c _ _ _ => c.metric = .cosine
  | _ => True

instance (op : Op) : Decidable (cosineBuild op) := by
  cases op <;> unfold cosineBuild <;> infer_instance

/-- **the entries of a reachable store**: every key has one of the four kinds; an updated mark holds the unit
    value; a key of the metadata kind is the metadata record (id 0, a metadata value) or the version record
    (id 1, a version value). (Item keys hold leaves and tree keys hold the nodes of a forest: `C01_invariant`.) -/
theorem C17_reachable_entries (ops : List Op) (hops : ∀ op ∈ ops, op.wf) (k : Key) (v : Val)
    (hg : Store.get (run ops) k = some v) :
    k.mode = modeItem ∨ k.mode = modeTree ∨ (k.mode = modeUpdated ∧ v = .unit) ∨
    (k = Key.mkMetadata k.index ∧ ∃ nm d i r, v = .metadata nm d i r) ∨
    (k = Key.mkVersion k.index ∧ ∃ a b c, v = .version a b c) := by
  simpa only [miscOk, and_true] using
    miscG_run (fun _ => True) ops hops (fun op _ => by cases op <;> trivial) (k, v) (Store.mem_of_get hg)

/-- the metadata record of a well-formed cosine database carries the cosine name -/
theorem WellFormedDB.metadata {s : Store} (hw : WellFormedDB s) {k : Key} {v : Val}
    (hm : k.mode = metadataKeyMode) (hi : k.item = metadataKeyItem) (hg : Store.get s k = some v) :
    ∃ d it r, v = .metadata cosineName d it r := by
  rcases entryOk_meta (hw.get hg) hm with ⟨_, h⟩ | ⟨e, _⟩
  · exact h
  · exact absurd (hi.symm.trans e) (by decide)

/-- **a reachable store is a well-formed cosine database iff its metadata records are named `cosine`** -/
theorem C17_reachable_wellFormed_iff (ops : List Op) (hops : ∀ op ∈ ops, op.wf) :
    WellFormedDB (run ops) ↔
      ∀ i nm d it r, Store.get (run ops) (Key.mkMetadata i) = some (.metadata nm d it r) → nm = cosineName := by
  constructor
  · intro hw i nm d it r hg
    obtain ⟨_, _, _, e⟩ := hw.metadata rfl rfl hg
    cases e; rfl
  · intro hnm
    have hs : Store.Sorted (run ops) := (C01_invariant ops hops ⟨0, .cosine, 0, {}⟩ (by decide)).sorted
    exact wellFormed_of_inv _ (C01_invariant ops hops)
      ((miscG_run (fun _ => True) ops hops (fun op _ => by cases op <;> trivial)).of_meta
        (fun i nm d it r h => hnm i nm d it r (Frame.get_of_mem_sorted hs h)))

/-- **every store reached by a well-formed history whose builds are all made by cosine writers is a
    `WellFormedDB`**: `C17_up_down_eq` and the other C17 theorems apply to it -/
theorem C17_reachable_wellFormed (ops : List Op) (hops : ∀ op ∈ ops, op.wf)
    (hcos : ∀ op ∈ ops, cosineBuild op) : WellFormedDB (run ops) := by
  apply wellFormed_of_inv _ (C01_invariant ops hops)
  apply miscG_run _ ops hops
  intro op hop
  have := hcos op hop
  cases op with
  | build c o fuel env =>
    show c.metric.nameBytes = cosineName
    have hc : c.metric = .cosine := this
    rw [hc]; rfl
  | _ => trivial

theorem exactOver_congr (c : Cfg) {s s' : Store}
    (h : ∀ id, Store.get s' (c.itemKey id) = Store.get s (c.itemKey id)) (dims : Nat) (qh qv : List Nat)
    (count : Nat) (ids : List Nat) : exactOver c s' dims qh qv count ids = exactOver c s dims qh qv count ids := by
  have : ∀ id, scoreOf c s' qh qv id = scoreOf c s qh qv id := fun id => by simp only [scoreOf, h]
  simp only [exactOver, sortedScored, scored, this]

/-- **the upgrade path on a reachable built cosine index.**
    `s`: the store after a well-formed history with cosine builds, ending in a successful build of the cosine
    index `c`; `down oldName s`: its v0.4 layout (any old metric name); `s05`: what `cosine_from_0_4_to_0_5` makes
    of it; `s06`: `s05` stamped in place by `from_0_5_to_0_6`. Then
    1. the first step succeeds and `s05` is `s` without its version records (literally);
    2. `s06` agrees with `s` under every key that is not a version record, is sorted and well-formed;
    3. `Reader::open` succeeds on `s06` with exactly the stored item ids (those of `s06`, of `s`, of the state
       before the build);
    4. `s06` holds a valid forest over them: `Forest`, the reader-side `ForestWith` on the trees the checker reads,
       sorted buckets, `Check.forestValid = []`, and the index invariant;
    5. an unlimited-budget query on `s06` is exact, and its answer is the exact answer on `s`;
    6. every index (any configuration `c'`) opens / needs a build in `s06` exactly as in `s`: one with pending marks
       needs a build and is refused with `NeedBuild`, one without marks and with a metadata record opens with what
       the record says, one without metadata is refused with `MissingMetadata`;
    7. `s06` has a version record — the crate version — exactly for the indexes with a metadata record. -/
theorem C17_upgrade_reachable (ops : List Op) (hops : ∀ op ∈ ops, op.wf) (hcos : ∀ op ∈ ops, cosineBuild op)
    (c : Cfg) (hc : c.metric = .cosine) (o : BuildOpts) (fuel : Nat) (env st' : BState)
    (hwf : (Op.build c o fuel env).wf)
    (h : Build.build c o fuel { env with store := run ops } = .ok ((), st'))
    (oldName : Bytes) (s : Store) (hs : s = run (ops ++ [.build c o fuel env])) :
    ∃ s05 s06 roots,
      -- 1
      up04to05 (down oldName s) = .ok s05 ∧
      s05 = s.filter (fun kv => !(kv.1.mode == versionKeyMode && kv.1.item == versionKeyItem)) ∧
      s06 = stamp05to06 s05 s05 ∧
      -- 2
      (∀ k : Key, ¬ (k.mode = versionKeyMode ∧ k.item = versionKeyItem) → Store.get s06 k = Store.get s k) ∧
      Store.Sorted s06 ∧ Store.WF s06 ∧
      -- 3
      Reader.open c s06 = .ok ⟨roots, c.dims, (run ops).keysOf c.index modeItem⟩ ∧
      s06.keysOf c.index modeItem = (run ops).keysOf c.index modeItem ∧
      s.keysOf c.index modeItem = (run ops).keysOf c.index modeItem ∧
      -- 4
      (∃ ts, Forest c s06 roots ((run ops).keysOf c.index modeItem) ts) ∧
      ForestWith c s06 ⟨roots, c.dims, (run ops).keysOf c.index modeItem⟩ (Check.trees c s06) ∧
      DescSorted c s06 ∧ Check.forestValid c s06 = [] ∧ IndexInv c s06 ∧
      -- 5
      (∀ (qh qv : List Nat) (q : QueryOpts), q.candidates = none → q.searchK = some usizeMax →
        q.oversampling ≠ some 0 → roots.length * ((run ops).keysOf c.index modeItem).length ≤ usizeMax →
        nnsByLeaf c s06 ⟨roots, c.dims, (run ops).keysOf c.index modeItem⟩ qh qv q =
          .ok (exactOver c s06 c.dims qh qv q.count ((run ops).keysOf c.index modeItem)) ∧
        exactOver c s06 c.dims qh qv q.count ((run ops).keysOf c.index modeItem) =
          exactOver c s c.dims qh qv q.count ((run ops).keysOf c.index modeItem)) ∧
      -- 6
      (∀ c' : Cfg, c'.index < 65536 →
        Reader.open c' s06 = Reader.open c' s ∧ Writer.needBuild c' s06 = Writer.needBuild c' s ∧
        (C06.HasMark c' s → Writer.needBuild c' s06 = true ∧
          (c'.metric = .cosine → (Store.get s c'.metaKey).isSome = true →
            Reader.open c' s06 = .error (.needBuild c'.index))) ∧
        (¬ C06.HasMark c' s → ∀ nm dims items roots',
          Store.get s c'.metaKey = some (.metadata nm dims items roots') → c'.metric = .cosine →
          Writer.needBuild c' s06 = false ∧ Reader.open c' s06 = .ok ⟨roots', dims, items⟩) ∧
        (Store.get s c'.metaKey = none →
          Writer.needBuild c' s06 = true ∧ Reader.open c' s06 = .error (.missingMetadata c'.index))) ∧
      -- 7
      (∀ i, Store.get s06 (Key.mkVersion i) =
        if (Store.get s (Key.mkMetadata i)).isSome = true
        then some (.version crateVersion.1 crateVersion.2.1 crateVersion.2.2) else none) := by
  -- the history including the last build
  have hops' : ∀ op ∈ ops ++ [Op.build c o fuel env], op.wf :=
    List.forall_mem_append.2 ⟨hops, List.forall_mem_singleton.2 hwf⟩
  have hcos' : ∀ op ∈ ops ++ [Op.build c o fuel env], cosineBuild op :=
    List.forall_mem_append.2 ⟨hcos, List.forall_mem_singleton.2 hc⟩
  have hi : c.index < 65536 := hwf.1
  have hwfdb : WellFormedDB s := hs ▸ C17_reachable_wellFormed _ hops' hcos'
  have hinvAll : ∀ c' : Cfg, c'.index < 65536 → IndexInv c' s := fun c' hi' => hs ▸ C01_invariant _ hops' c' hi'
  have hss : Store.Sorted s := hwfdb.sorted
  have hsw : Store.WF s := hwfdb.wf
  -- what C01 says of `s`
  obtain ⟨hrun, roots, ts, hmeta, hforest, hne, hnomarks⟩ := C01_forest ops hops c o fuel env st' hwf h
  rw [← hrun, ← hs] at hmeta hforest hnomarks
  -- the upgraded database
  have hag : AgreeNV s (stamped s) := stamped_agree s
  have hs6 : Store.Sorted (stamped s) := stamped_sorted hss
  have hw6 : Store.WF (stamped s) := stamped_wf hsw
  have hinv6 : IndexInv c (stamped s) := hag.indexInv hs6 hw6 (hinvAll c hi)
  have hmeta6 : Store.get (stamped s) c.metaKey =
      some (.metadata c.metric.nameBytes c.dims ((run ops).keysOf c.index modeItem) roots) := by
    rw [hag.get_meta c]; exact hmeta
  have hitem6 : ∀ id, Store.get (stamped s) (c.itemKey id) = Store.get s (c.itemKey id) :=
    fun id => hag.get_of_mode (show modeItem ≠ versionKeyMode by decide)
  have hnomarks6 : ∀ id, Store.get (stamped s) (c.updatedKey id) = none := by
    intro id
    rw [hag.get_of_mode (show modeUpdated ≠ versionKeyMode by decide)]; exact hnomarks id
  have hkeys6 : (stamped s).keysOf c.index modeItem = (run ops).keysOf c.index modeItem :=
    items_eq_keysOf_of_inv hinv6 hi hmeta6 hnomarks6
  have hfw6 := forestWith_trees_of_inv hinv6 hmeta6 hnomarks6
  have hforest6 : Forest c (stamped s) roots ((run ops).keysOf c.index modeItem) ts :=
    hforest.frame (fun i => hag.get_of_mode (show modeTree ≠ versionKeyMode by decide))
  refine ⟨noVer s, stamped s, roots, C17_up_down_eq oldName s hwfdb, rfl, rfl, hag, hs6, hw6,
    open_of_inv hinv6 hi hmeta6 hnomarks6, hkeys6, items_eq_keysOf_of_inv (hinvAll c hi) hi hmeta hnomarks,
    ⟨ts, hforest6⟩, hfw6, hforest6.descSorted, ?_, hinv6, ?_, ?_, stamped_version s⟩
  · exact C01_checker_sound c (stamped s) _ _ _ roots ts hi hs6 hw6 hmeta6 hforest6 hkeys6.symm
  · intro qh qv q hq hk ho hsz
    exact ⟨C02.C02_exact_usizeMax ⟨_, hfw6⟩ qh qv q hq hk ho hsz, exactOver_congr c hitem6 _ _ _ _ _⟩
  · intro c' hi'
    obtain ⟨e1, e2⟩ := hag.open_eq hss hs6 hsw hw6 c' hi'
    refine ⟨e1, e2, ?_, ?_, ?_⟩
    · intro hmark
      refine ⟨by rw [e2]; exact (C06.C06_needBuild_char c' s hsw hi').2 (Or.inl hmark), ?_⟩
      intro hc' hsome
      rw [e1]
      cases hg : Store.get s c'.metaKey with
      | none => rw [hg] at hsome; cases hsome
      | some v =>
        obtain ⟨d, it, r, rfl⟩ := hwfdb.metadata rfl rfl hg
        have hn : cosineName = c'.metric.nameBytes := by rw [hc']; rfl
        exact (((C06.C06_open_char c' s hsw hi').2 _ d it r hg).2 hn).1.2 hmark
    · intro hnomark nm dims items roots' hg hc'
      have hn : nm = c'.metric.nameBytes := by
        obtain ⟨_, _, _, e⟩ := hwfdb.metadata rfl rfl hg
        cases e; rw [hc']; rfl
      have hopen := (((C06.C06_open_char c' s hsw hi').2 _ dims items roots' hg).2 hn).2.1 hnomark
      subst hn
      exact ⟨by rw [e2]; exact (C06.C06_needBuild_vs_open c' s hsw hi' dims items roots' hg).2 hopen,
        by rw [e1]; exact hopen⟩
    · intro hnone
      exact ⟨by rw [e2]; exact (C06.C06_needBuild_char c' s hsw hi').2 (Or.inr hnone),
        by rw [e1]; exact (C06.C06_open_char c' s hsw hi').1.2 hnone⟩

/-! ## non-vacuity: a concrete two-index cosine history

Index 0 (cosine, dimension 2, `n_trees = 1`, `split_after = 2`): five items, a build (two splits), one item added,
one deleted, a second build on the main path (re-split of an overflowing bucket, under a cancellation schedule).
Index 3 (cosine): one item, a build through the single-bucket shortcut (which writes a version record), then one
more item — so index 3 has metadata, a version record and a pending mark. -/
namespace Ex
open C01.Ex

def cC : Cfg := { index := 0, metric := .cosine, dims := 2 }
def cD : Cfg := { index := 3, metric := .cosine, dims := 2 }
def opsC : List Op :=
  [.add cC 0 [fm2, 0], .add cC 1 [fm1, 0], .add cC 2 [f1, fm1], .add cC 3 [f2, f1], .add cC 4 [f3, f1],
   .build cC oEx 5 env1,
   .add cD 7 [f1, f2], .build cD oLeaf 0 { store := [] },
   .add cC 5 [f25, f2], .del cC 0, .add cD 8 [f2, f2]]
/-- the store after the last build of index 0 -/
def sC : Store := run (opsC ++ [.build cC oEx 5 env2])

theorem opsC_wf : ∀ op ∈ opsC, op.wf := by decide
theorem opsC_cos : ∀ op ∈ opsC, cosineBuild op := by decide
theorem lastC_wf : (Op.build cC oEx 5 env2).wf := by decide
theorem lastC_ok : isOk (Build.build cC oEx 5 { env2 with store := run opsC }) = true := by decide +kernel

/-- the reached store: both indexes have metadata, index 3 a version record and the mark of item 8 -/
theorem sC_eq : sC =
  [ (⟨0, 0, 0⟩, .metadata cosineName 2 [1, 2, 3, 4, 5] [0]),
    (⟨0, 2, 0⟩, .split ⟨2, 1⟩ ⟨2, 3⟩ [f1, 0]),
    (⟨0, 2, 1⟩, .desc [1]),
    (⟨0, 2, 2⟩, .split ⟨3, 5⟩ ⟨2, 4⟩ [f1, fm15]),
    (⟨0, 2, 3⟩, .split ⟨3, 2⟩ ⟨2, 2⟩ [0, f1]),
    (⟨0, 2, 4⟩, .desc [3, 4]),
    (⟨0, 3, 1⟩, .leaf [1065353216] [fm1, 0]),
    (⟨0, 3, 2⟩, .leaf [1068827891] [f1, fm1]),
    (⟨0, 3, 3⟩, .leaf [1074731965] [f2, f1]),
    (⟨0, 3, 4⟩, .leaf [1078616770] [f3, f1]),
    (⟨0, 3, 5⟩, .leaf [1078781541] [f25, f2]),
    (⟨3, 0, 0⟩, .metadata cosineName 2 [7] [0]),
    (⟨3, 0, 1⟩, .version 0 6 1),
    (⟨3, 1, 8⟩, .unit),
    (⟨3, 2, 0⟩, .desc [7]),
    (⟨3, 3, 7⟩, .leaf [1074731965] [f1, f2]),
    (⟨3, 3, 8⟩, .leaf [1077216499] [f2, f2]) ] := by decide +kernel

/-- `C17_reachable_wellFormed` on it, and the checker agrees -/
example : WellFormedDB sC := C17_reachable_wellFormed _
  (by decide : ∀ op ∈ opsC ++ [.build cC oEx 5 env2], op.wf)
  (by decide : ∀ op ∈ opsC ++ [.build cC oEx 5 env2], cosineBuild op)
example : WellFormedDB sC := by rw [sC_eq]; decide +kernel

/-- the old layout: kinds renumbered, one bitmap `[8]` for index 3, the old metric name, no version record -/
example : down [111, 108, 100] sC =
  [ (⟨0, 0, 1⟩, .leaf [1065353216] [fm1, 0]),
    (⟨0, 0, 2⟩, .leaf [1068827891] [f1, fm1]),
    (⟨0, 0, 3⟩, .leaf [1074731965] [f2, f1]),
    (⟨0, 0, 4⟩, .leaf [1078616770] [f3, f1]),
    (⟨0, 0, 5⟩, .leaf [1078781541] [f25, f2]),
    (⟨0, 1, 0⟩, .split ⟨1, 1⟩ ⟨1, 3⟩ [f1, 0]),
    (⟨0, 1, 1⟩, .desc [1]),
    (⟨0, 1, 2⟩, .split ⟨0, 5⟩ ⟨1, 4⟩ [f1, fm15]),
    (⟨0, 1, 3⟩, .split ⟨0, 2⟩ ⟨1, 2⟩ [0, f1]),
    (⟨0, 1, 4⟩, .desc [3, 4]),
    (⟨0, 2, 0⟩, .metadata [111, 108, 100] 2 [1, 2, 3, 4, 5] [0]),
    (⟨3, 0, 7⟩, .leaf [1074731965] [f1, f2]),
    (⟨3, 0, 8⟩, .leaf [1077216499] [f2, f2]),
    (⟨3, 1, 0⟩, .desc [7]),
    (⟨3, 2, 0⟩, .metadata [111, 108, 100] 2 [7] [0]),
    (⟨3, 2, 1⟩, .desc [8]) ] := by rw [sC_eq]; decide +kernel

/-- the two upgrade steps, computed: `s05` is `sC` without the version record of index 3; the stamp gives both
    indexes a version record, i.e. `s06` is `sC` plus a version record for index 0 -/
example : up04to05 (down [111, 108, 100] sC) = .ok (sC.erase ⟨3, 0, 1⟩) := by rw [sC_eq]; decide +kernel
example : noVer sC = sC.erase ⟨3, 0, 1⟩ := by rw [sC_eq]; decide +kernel
example : stamped sC = sC.put ⟨0, 0, 1⟩ (.version 0 6 1) := by rw [sC_eq]; decide +kernel

/-- … on which index 0 opens with the five stored items and index 3 demands a build -/
example : Reader.open cC (stamped sC) = .ok ⟨[0], 2, [1, 2, 3, 4, 5]⟩ ∧
    Reader.open cD (stamped sC) = .error (.needBuild 3) ∧ Writer.needBuild cD (stamped sC) = true ∧
    Writer.needBuild cC (stamped sC) = false := by rw [sC_eq]; decide +kernel

/-- … and whose trees are those of the state before the downgrade -/
example : Check.trees cC (stamped sC) =
    [.node 0 [f1, 0] (.bucket 1 [1]) (.node 3 [0, f1] (.leaf 2) (.node 2 [f1, fm15] (.leaf 5) (.bucket 4 [3, 4])))] := by
  rw [sC_eq]; decide +kernel

-- from here on the concrete history is only used through the facts above
attribute [local irreducible] run

/-- **`C17_upgrade_reachable` applies to it**: its hypotheses are satisfiable on an incremental cosine build next to
    an index with pending marks; the conclusions instantiate to the concrete facts above -/
example : ∃ s05 s06 roots,
    up04to05 (down [111, 108, 100] sC) = .ok s05 ∧ s06 = stamp05to06 s05 s05 ∧
    Reader.open cC s06 = .ok ⟨roots, 2, (run opsC).keysOf 0 modeItem⟩ ∧
    Check.forestValid cC s06 = [] ∧ IndexInv cC s06 ∧
    Reader.open cD s06 = .error (.needBuild 3) ∧
    Store.get s06 (Key.mkVersion 0) = some (.version 0 6 1) ∧ Store.get s06 (Key.mkVersion 3) = some (.version 0 6 1) ∧
    Store.get s06 (Key.mkVersion 1) = none := by
  have hok := lastC_ok
  cases hb : Build.build cC oEx 5 { env2 with store := run opsC } with
  | error e => rw [hb] at hok; cases hok
  | ok r =>
    obtain ⟨u, st'⟩ := r
    obtain ⟨s05, s06, roots, h1, _, h3, _, _, _, h7, _, _, _, _, _, h12, h13, _, h15, h16⟩ :=
      C17_upgrade_reachable opsC opsC_wf opsC_cos cC rfl oEx 5 env2 st' lastC_wf hb [111, 108, 100] sC rfl
    have hmark : C06.HasMark cD sC := ⟨8, by rw [sC_eq]; decide⟩
    have hmeta : (Store.get sC cD.metaKey).isSome = true := by rw [sC_eq]; decide
    refine ⟨s05, s06, roots, h1, h3, h7, h12, h13, ((h15 cD (by decide)).2.2.1 hmark).2 rfl hmeta, ?_, ?_, ?_⟩
    · rw [h16 0, sC_eq]; decide
    · rw [h16 3, sC_eq]; decide
    · rw [h16 1, sC_eq]; decide

/-! ### the side condition of `C17_reachable_wellFormed` cannot be dropped

The Euclidean history of `C01Examples.lean` reaches a store that is not a `WellFormedDB` (its metadata says
`euclidean`), and on which `up ∘ down` is **not** the identity: `cosine_from_0_4_to_0_5` renames the metric. -/
example : (∀ op ∈ ops1, op.wf) ∧ ¬ (∀ op ∈ ops1, cosineBuild op) := by decide

example : ¬ WellFormedDB (C01.run ops1) ∧
    up04to05 (down [111, 108, 100] (C01.run ops1)) ≠ .ok (noVer (C01.run ops1)) ∧
    (∃ s', up04to05 (down [111, 108, 100] (C01.run ops1)) = .ok s' ∧
      Reader.open cEx s' = .error (.unmatchingDistance cosineName Metric.euclidean.nameBytes)) := by
  -- one evaluation of the history for the three facts
  have key : ¬ WellFormedDB (C01.run ops1) ∧
      up04to05 (down [111, 108, 100] (C01.run ops1)) ≠ .ok (noVer (C01.run ops1)) ∧
      (up04to05 (down [111, 108, 100] (C01.run ops1))).toOption.map (Reader.open cEx) =
        some (.error (.unmatchingDistance cosineName Metric.euclidean.nameBytes)) := by decide +kernel
  obtain ⟨hnwf, hne, key⟩ := key
  refine ⟨hnwf, hne, ?_⟩
  cases hu : up04to05 (down [111, 108, 100] (C01.run ops1)) with
  | error e => rw [hu] at key; cases key
  | ok s' =>
    rw [hu] at key
    exact ⟨s', rfl, Option.some.inj key⟩

end Ex

end Arroy.C17
