import ArroyProofs.ChangeDistance
import ArroyProofs.BuildMeta
import ArroyProofs.Properties.C06
/-! # C18 — changing the metric keeps the items and forces a rebuild

`Writer.prepareChangingDistance` (`Writer::prepare_changing_distance`): same metric — nothing happens; another
metric — the forest and the metadata record of the index go away, every leaf is re-encoded from its `f32` view at
the declared dimension, nothing else in the database moves. -/
namespace Arroy.C18
open Arroy Generated Store Writer

/-- **same metric**: nothing changes -/
theorem C18_same (c : Cfg) (s : Store) : Writer.prepareChangingDistance c c.metric s = .ok s := prepare_same c s

/-- **another metric**: the call succeeds, and
  (i) no tree node and no metadata record of the index is left, so a build is needed and no reader opens;
  (ii) the item ids are the same;
  (iii) every item is the leaf of the new metric built from the old f32 view at the declared dimension;
  (iv) the keys of the other indexes, and the updated marks and the version record of this one, are untouched;
  the result is again sorted, well-formed, with leaves under the item keys. -/
theorem C18_change (c : Cfg) (m' : Metric) (s : Store) (hne : m' ≠ c.metric) (hw : Store.WF s)
    (hs : Store.Sorted s) (hi : c.index < 65536) (hl : C05.ItemsAreLeaves c s) :
    ∃ s', Writer.prepareChangingDistance c m' s = .ok s' ∧
      ((∀ id, Store.get s' (c.treeKey id) = none) ∧ Store.get s' c.metaKey = none ∧
        (∀ c' : Cfg, c'.index = c.index →
          Writer.needBuild c' s' = true ∧ Reader.open c' s' = .error (.missingMetadata c'.index))) ∧
      (∀ id, (Store.get s' (c.itemKey id)).isSome = (Store.get s (c.itemKey id)).isSome) ∧
      (∀ id h v, Store.get s (c.itemKey id) = some (.leaf h v) →
        Store.get s' (c.itemKey id) = some (({ c with metric := m' } : Cfg).mkLeaf ((c.metric.toVec v).take c.dims))) ∧
      (∀ k, (k.index ≠ c.index ∨ k.mode = modeUpdated ∨ (k.mode = versionKeyMode ∧ k.item = versionKeyItem)) →
        Store.get s' k = Store.get s k) ∧
      Store.Sorted s' ∧ Store.WF s' ∧ C05.ItemsAreLeaves { c with metric := m' } s' := by
  have hm : Store.get (changed c m' s) c.metaKey = none := by
    rw [get_changed, get_clearTreeNodes]
    split
    · rfl
    · rw [if_pos rfl]; rfl
  refine ⟨changed c m' s, prepare_ok c m' s hne hw hi hl, ⟨?_, hm, ?_⟩, ?_, ?_, ?_, ?_, ?_, ?_⟩
  · intro id
    have hp : isPrefixOf (encodePrefix c.index (some modeTree)) (encodeKey (c.treeKey id)) = true :=
      isPrefixOf_kind_self (c.treeKey id)
    rw [get_changed, get_clearTreeNodes, if_pos hp]; rfl
  · intro c' hc'
    have hm' : Store.get (changed c m' s) c'.metaKey = none := by
      have : c'.metaKey = c.metaKey := by unfold Cfg.metaKey; rw [hc']
      rw [this, hm]
    exact ⟨Writer.needBuild_of_noMeta hm', Reader.open_of_noMeta hm'⟩
  · intro id
    rw [get_changed_item c m' s hw hi, Option.isSome_map]
  · intro id h v hg
    rw [get_changed_item c m' s hw hi, hg]
    rfl
  · intro k hk
    rw [get_changed_full c m' s hw hi]
    have n1 : ¬ (k.index = c.index ∧ k.mode = modeTree) := by
      rintro ⟨a, b⟩
      rcases hk with h | h | h
      · exact h a
      · rw [b] at h; exact absurd h (by decide)
      · rw [b] at h; exact absurd h.1 (by decide)
    have n2 : ¬ k = c.metaKey := by
      intro e
      rcases hk with h | h | h
      · exact h (by rw [e]; rfl)
      · rw [e] at h; exact absurd (show metadataKeyMode = modeUpdated from h) (by decide)
      · rw [e] at h; exact absurd (show metadataKeyItem = versionKeyItem from h.2) (by decide)
    have n3 : ¬ (k.index = c.index ∧ k.mode = modeItem) := by
      rintro ⟨a, b⟩
      rcases hk with h | h | h
      · exact h a
      · rw [b] at h; exact absurd h (by decide)
      · rw [b] at h; exact absurd h.1 (by decide)
    rw [if_neg n1, if_neg n2, if_neg n3]
  · exact map_val_sorted (clearTreeNodes_sorted hs) _
  · exact map_val_wf (clearTreeNodes_wf hw) _
  · intro kv hkv hidx hmode
    obtain ⟨⟨k, v⟩, hy, rfl⟩ := List.mem_map.1 hkv
    have hm := mem_clearTreeNodes hy
    simp only at hidx hmode ⊢
    have hidx' : k.index = c.index := hidx
    have hv := hl (k, v) hm hidx' hmode
    obtain ⟨hd, vec, rfl⟩ := (C05.isLeaf_iff v).1 hv
    have hp : underItems c k = true := (underItems_iff c k (hw _ hm) hi).2 ⟨hidx', hmode⟩
    simp only [reencAt, hp, if_true, reencVal]
    rfl

/-- without the invariant the model reports the `unreachable!` of the real code as an error -/
theorem C18_change_panics (c : Cfg) (m' : Metric) (s : Store) (hne : m' ≠ c.metric) (id : Nat) (v : Val)
    (hg : Store.get s (c.itemKey id) = some v) (hv : C05.isLeaf v = false) :
    ∃ e, Writer.prepareChangingDistance c m' s = .error e := by
  unfold Writer.prepareChangingDistance
  rw [if_neg hne]
  apply reencode_err
  refine ⟨(c.itemKey id, v), ?_, underItems_itemKey c id, hv⟩
  apply mem_of_get
  rw [get_clearTreeNodes]
  have h1 : ¬ isPrefixOf (encodePrefix c.index (some modeTree)) (encodeKey (c.itemKey id)) = true := by
    rw [isPrefixOf_kind_all]
    exact fun h => absurd (show modeItem % 256 = modeTree % 256 from h.2) (by decide)
  rw [if_neg h1, if_neg (fun h => Cfg.metaKey_ne_itemKey c c id h.symm)]
  exact hg

/-! ## what "re-encoded" means, by kind of metric -/

/-- **f32 → f32**: the stored words of a vector of the declared dimension are kept bit for bit
    (only the header is recomputed for the new metric) -/
theorem C18_f32_to_f32 (c : Cfg) (m' : Metric) (v : List Nat) (h1 : c.metric.isBq = false) (h2 : m'.isBq = false)
    (hv : v.length = c.dims) :
    ({ c with metric := m' } : Cfg).mkLeaf ((c.metric.toVec v).take c.dims) = .leaf (m'.newHeader c.host v) v := by
  have : (c.metric.toVec v).take c.dims = v := by
    unfold Metric.toVec
    rw [h1, ← hv]
    simp
  rw [this]
  unfold Cfg.mkLeaf Metric.fromSlice
  simp only [h2]
  rfl

/-- **into a quantised metric**: the stored words are the sign bits of the f32 view, packed 64 per word -/
theorem C18_to_bq (c : Cfg) (m' : Metric) (v : List Nat) (h2 : m'.isBq = true) :
    ({ c with metric := m' } : Cfg).mkLeaf ((c.metric.toVec v).take c.dims) =
      .leaf (m'.newHeader c.host (BQ.pack ((c.metric.toVec v).take c.dims))) (BQ.pack ((c.metric.toVec v).take c.dims)) := by
  unfold Cfg.mkLeaf Metric.fromSlice
  simp only [h2]
  rfl

/-- **out of a quantised metric**: the f32 view is the first `dims` sign bits as ±1.0 — exactly the declared
    dimension when the stored words cover it, never the padding of the last word (repair F) -/
theorem C18_from_bq (c : Cfg) (v : List Nat) (h1 : c.metric.isBq = true) :
    (c.metric.toVec v).take c.dims = (BQ.unpack v).take c.dims ∧
    ((c.metric.toVec v).take c.dims).length = min c.dims (64 * v.length) ∧
    (∀ x ∈ (c.metric.toVec v).take c.dims, x = F32.one ∨ x = F32.negOne) := by
  have e : c.metric.toVec v = BQ.unpack v := by unfold Metric.toVec; rw [h1]; rfl
  rw [e]
  refine ⟨rfl, ?_, ?_⟩
  · rw [List.length_take, bqUnpack_length]; rfl
  · intro x hx
    exact mem_bqUnpack (List.mem_of_mem_take hx)

/-- the stored words after a change between two quantised metrics: re-packed from the unpacked view -/
theorem C18_bq_to_bq (c : Cfg) (m' : Metric) (v : List Nat) (h1 : c.metric.isBq = true) (h2 : m'.isBq = true) :
    ({ c with metric := m' } : Cfg).mkLeaf ((c.metric.toVec v).take c.dims) =
      .leaf (m'.newHeader c.host (BQ.pack ((BQ.unpack v).take c.dims))) (BQ.pack ((BQ.unpack v).take c.dims)) := by
  rw [C18_to_bq c m' v h2, (C18_from_bq c v h1).1]

/-- **after a later build under the new metric** (which writes the metadata with the new metric's name), the
    index refuses to open under the old metric — with the distance error, before any other check -/
theorem C18_old_metric_refused (c : Cfg) (m' : Metric) (s : Store) (dims : Nat) (items roots : List Nat)
    (hne : m' ≠ c.metric)
    (hg : Store.get s c.metaKey = some (.metadata m'.nameBytes dims items roots)) :
    Reader.open c s = .error (.unmatchingDistance m'.nameBytes c.metric.nameBytes) :=
  C06.C06_wrong_metric c s m' dims items roots hg (Ne.symm hne)

/-- the same with the build itself: whatever database a successful `Build.build` under the new metric `m'`
    ends with, the old metric `c.metric` is refused there -/
theorem C18_old_metric_refused_after_build (c : Cfg) (m' : Metric) (o : BuildOpts) (fuel : Nat) (st st' : BState)
    (hne : m' ≠ c.metric) (hb : Build.build { c with metric := m' } o fuel st = .ok ((), st')) :
    Reader.open c st'.store = .error (.unmatchingDistance m'.nameBytes c.metric.nameBytes) := by
  obtain ⟨items, roots, hg⟩ := Build.build_metaNamed hb
  exact C18_old_metric_refused c m' st'.store c.dims items roots hne hg

/-! ## non-vacuity: index 7 (built, one pending update, a version record) between indexes 3 and 9 -/

def c0 : Cfg := { index := 7, metric := .euclidean, dims := 2 }
def cBq : Cfg := { c0 with metric := .bqEuclidean }

/-- `1065353216 = 1.0`, `3212836864 = -1.0` -/
def s0 : Store :=
  [ (⟨3, 0, 0⟩, .metadata Metric.euclidean.nameBytes 2 [1] [0]),
    (⟨3, 2, 0⟩, .desc [1]),
    (⟨3, 3, 1⟩, .leaf [0] [1065353216, 3212836864]),
    (⟨7, 0, 0⟩, .metadata Metric.euclidean.nameBytes 2 [4, 5] [0]),
    (⟨7, 0, 1⟩, .version 0 6 1),
    (⟨7, 1, 5⟩, .unit),
    (⟨7, 2, 0⟩, .split ⟨3, 4⟩ ⟨2, 1⟩ [1065353216, 0]),
    (⟨7, 2, 1⟩, .desc [5]),
    (⟨7, 3, 4⟩, .leaf [0] [1065353216, 3212836864]),
    (⟨7, 3, 5⟩, .leaf [0] [3212836864, 3212836864]),
    (⟨9, 3, 4⟩, .leaf [0] [1, 2]) ]

/-- what the change to the quantised metric leaves: no forest, no metadata, one sign word per item -/
def s1 : Store :=
  [ (⟨3, 0, 0⟩, .metadata Metric.euclidean.nameBytes 2 [1] [0]),
    (⟨3, 2, 0⟩, .desc [1]),
    (⟨3, 3, 1⟩, .leaf [0] [1065353216, 3212836864]),
    (⟨7, 0, 1⟩, .version 0 6 1),
    (⟨7, 1, 5⟩, .unit),
    (⟨7, 3, 4⟩, .leaf [0] [1]),
    (⟨7, 3, 5⟩, .leaf [0] [0]),
    (⟨9, 3, 4⟩, .leaf [0] [1, 2]) ]

theorem s0_wf : Store.WF s0 := by unfold Store.WF; decide
theorem s0_leaves : C05.ItemsAreLeaves c0 s0 := by unfold C05.ItemsAreLeaves; decide

example : Store.WF s0 := s0_wf
example : Store.Sorted s0 := by decide
example : C05.ItemsAreLeaves c0 s0 := s0_leaves
example : c0.index < 65536 := by decide
example : Metric.bqEuclidean ≠ c0.metric ∧ Metric.manhattan ≠ c0.metric := by decide
example : Writer.prepareChangingDistance c0 .bqEuclidean s0 = .ok s1 :=
  (prepare_ok c0 .bqEuclidean s0 (by decide) s0_wf (by decide) s0_leaves).trans (congrArg Except.ok (by decide +kernel))
example : Writer.needBuild cBq s1 = true ∧ Reader.open cBq s1 = .error (.missingMetadata 7) := ⟨rfl, rfl⟩
/-- f32 → f32: the words stay -/
example : Writer.prepareChangingDistance c0 .manhattan s0 =
    .ok ((s0.erase ⟨7, 0, 0⟩).deletePrefix 7 (some modeTree)) :=
  (prepare_ok c0 .manhattan s0 (by decide) s0_wf (by decide) s0_leaves).trans (congrArg Except.ok (by decide +kernel))
/-- and back from the quantised metric: ±1.0 at the declared dimension 2, not 64 components -/
theorem s1_wf : Store.WF s1 := by unfold Store.WF; decide
theorem s1_leaves : C05.ItemsAreLeaves cBq s1 := by unfold C05.ItemsAreLeaves; decide
example : C05.ItemsAreLeaves cBq s1 ∧ Store.WF s1 ∧ Store.Sorted s1 := ⟨s1_leaves, s1_wf, by decide⟩
example : Writer.prepareChangingDistance cBq .euclidean s1 =
    .ok ((s0.erase ⟨7, 0, 0⟩).deletePrefix 7 (some modeTree)) :=
  (prepare_ok cBq .euclidean s1 (by decide) s1_wf (by decide) s1_leaves).trans (congrArg Except.ok (by decide +kernel))
example : cBq.metric.isBq = true ∧ (cBq.metric.toVec [1]).take cBq.dims = [F32.one, F32.negOne] := ⟨rfl, rfl⟩
example : c0.metric.isBq = false ∧ Metric.manhattan.isBq = false ∧ [1065353216, 3212836864].length = c0.dims := by
  decide
/-- a tree node under an item key: the model reports the panic -/
example : ∃ e, Writer.prepareChangingDistance c0 .manhattan [(⟨7, 3, 4⟩, .desc [1])] = .error e := ⟨_, rfl⟩
/-- after a build under the new metric the old one is refused -/
example : Reader.open c0 (s1.put cBq.metaKey (.metadata Metric.bqEuclidean.nameBytes 2 [4, 5] [0])) =
    .error (.unmatchingDistance Metric.bqEuclidean.nameBytes Metric.euclidean.nameBytes) := rfl

/-- the build under the new metric on the changed database succeeds (hypothesis of
    `C18_old_metric_refused_after_build`), after which the new metric opens and the old one is refused -/
example : ∃ st', Build.build cBq {} 10 { store := s1 } = .ok ((), st') ∧
    Reader.open cBq st'.store = .ok ⟨[0], 2, [4, 5]⟩ ∧
    Reader.open c0 st'.store =
      .error (.unmatchingDistance Metric.bqEuclidean.nameBytes Metric.euclidean.nameBytes) := ⟨_, rfl, rfl, rfl⟩

end Arroy.C18
