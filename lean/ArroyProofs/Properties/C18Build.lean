import ArroyProofs.Properties.Reachable
import ArroyProofs.Properties.C18
import ArroyProofs.Properties.C03Bq
/-! # C18, end to end: the metric change inside the history grammar

`C01.Op` has the constructor `prepare c m'` (`Writer::prepare_changing_distance` on the index opened as `c`,
towards the metric `m'`; a failed call is a no-op like every failed operation), so every history theorem
(`C01_invariant`, `C01_forest`, `C01_reader_reachable`, `C02_exact_reachable`, `C03_*_reachable`, C08/C09 …)
quantifies over histories that contain metric changes. Here they are instantiated with
`ops ++ [.prepare c m'] ++ more ++ [.build { c with metric := m' } …]`:

* `C18_prepare_succeeds_reachable`: in every reachable state the call returns `.ok` (the `unreachable!` of the
  real code — a non-leaf under an item key — is never hit);
* `C18_needs_build_after_change`: right after a change to another metric the index demands a build and no
  reader opens, whatever the index held (also when it was empty or never built);
* `C18_build_after_change_reachable`: after the change, any further well-formed operations (on any index) and a
  successful build under the new metric, the reader of the new metric opens with exactly the stored item ids,
  the forest is valid, unlimited-budget search is exact under the new metric, every query succeeds, the old
  metric is refused with `unmatchingDistance`, and the change itself kept the item ids of the index and every
  key of every other index. -/
namespace Arroy.C18
open Arroy Generated Reader C01

theorem run_prepare (ops : List Op) (c : Cfg) (m' : Metric) (s1 : Store)
    (hp : Writer.prepareChangingDistance c m' (run ops) = .ok s1) : run (ops ++ [.prepare c m']) = s1 := by
  rw [run_snoc]
  simp only [step, hp]

theorem run_prepare_more (ops : List Op) (c : Cfg) (m' : Metric) (s1 : Store)
    (hp : Writer.prepareChangingDistance c m' (run ops) = .ok s1) (more : List Op) :
    run (ops ++ [.prepare c m'] ++ more) = more.foldl step s1 := by
  rw [run_append, run_prepare ops c m' s1 hp]

theorem wf_prepare_more {ops more : List Op} {c : Cfg} {m' : Metric} (hops : ∀ op ∈ ops, op.wf)
    (hi : c.index < 65536) (hmore : ∀ op ∈ more, op.wf) : ∀ op ∈ ops ++ [.prepare c m'] ++ more, op.wf :=
  List.forall_mem_append.2 ⟨forall_snoc hops (show (Op.prepare c m').wf from hi), hmore⟩

/-- **the call never fails on a reachable state**: after any history, `prepare_changing_distance` on any index,
    towards any metric, returns `.ok`, and its result is the next state of the grammar -/
theorem C18_prepare_succeeds_reachable (ops : List Op) (hops : ∀ op ∈ ops, op.wf) (c : Cfg) (hi : c.index < 65536)
    (m' : Metric) :
    ∃ s1, Writer.prepareChangingDistance c m' (run ops) = .ok s1 ∧ run (ops ++ [.prepare c m']) = s1 := by
  have hinv := C01_invariant ops hops c hi
  by_cases hne : m' = c.metric
  · subst hne
    exact ⟨run ops, C18_same c _, run_prepare ops c _ _ (C18_same c _)⟩
  · obtain ⟨s1, hp, _⟩ := C18_change c m' (run ops) hne hinv.wf hinv.sorted hi hinv.leaves
    exact ⟨s1, hp, run_prepare ops c m' s1 hp⟩

/-- what the change keeps: the item ids of the index, and every key of every other index -/
theorem C18_change_keeps_reachable (ops : List Op) (hops : ∀ op ∈ ops, op.wf) (c : Cfg) (hi : c.index < 65536)
    (m' : Metric) (s1 : Store) (hp : Writer.prepareChangingDistance c m' (run ops) = .ok s1) :
    s1.keysOf c.index modeItem = (run ops).keysOf c.index modeItem ∧
    s1.keysOf c.index modeUpdated = (run ops).keysOf c.index modeUpdated ∧
    (∀ k : Key, k.index ≠ c.index → Store.get s1 k = Store.get (run ops) k) ∧
    (∀ c2 : Cfg, c2.index < 65536 → IndexInv c2 s1) := by
  have hinv := C01_invariant ops hops c hi
  have hs1 : run (ops ++ [.prepare c m']) = s1 := run_prepare ops c m' s1 hp
  have hinv1 : ∀ c2 : Cfg, c2.index < 65536 → IndexInv c2 s1 := fun c2 h2 =>
    hs1 ▸ C01_invariant (ops ++ [.prepare c m']) (forall_snoc hops (show (Op.prepare c m').wf from hi)) c2 h2
  by_cases hne : m' = c.metric
  · subst hne
    rw [C18_same] at hp; cases hp
    exact ⟨rfl, rfl, fun _ _ => rfl, hinv1⟩
  · obtain ⟨s', hp', _, hsome, _, ho, _⟩ := C18_change c m' (run ops) hne hinv.wf hinv.sorted hi hinv.leaves
    rw [hp] at hp'; cases hp'
    have hkeys := fun md hmd => keysOf_congr hinv.sorted hinv.wf (hinv1 c hi).sorted (hinv1 c hi).wf c.index md hi hmd
    exact ⟨hkeys _ (by decide) hsome,
      hkeys _ (by decide) (fun id => by rw [ho ⟨c.index, modeUpdated, id⟩ (Or.inr (Or.inl rfl))]),
      fun k hk => ho k (Or.inl hk), hinv1⟩

/-- **C18, right after the change**: in every reachable state, `prepare_changing_distance` towards another
    metric succeeds; its result is a reachable state with the same item ids in which — for every way of opening
    the index (`c2`: any metric, old or new, any dimension) — `need_build` is true and `Reader::open` fails with
    `MissingMetadata`. No hypothesis on what the index held: the model makes the index demand a build also when
    it was empty, or never built. -/
theorem C18_needs_build_after_change (ops : List Op) (hops : ∀ op ∈ ops, op.wf) (c : Cfg) (hi : c.index < 65536)
    (m' : Metric) (hne : m' ≠ c.metric) :
    ∃ s1, Writer.prepareChangingDistance c m' (run ops) = .ok s1 ∧ run (ops ++ [.prepare c m']) = s1 ∧
      s1.keysOf c.index modeItem = (run ops).keysOf c.index modeItem ∧
      (∀ c2 : Cfg, c2.index = c.index →
        Writer.needBuild c2 s1 = true ∧ Reader.open c2 s1 = .error (.missingMetadata c2.index)) ∧
      Unbuilt c s1 := by
  have hinv := C01_invariant ops hops c hi
  obtain ⟨s1, hp, ⟨ht, hm, hnb⟩, _⟩ := C18_change c m' (run ops) hne hinv.wf hinv.sorted hi hinv.leaves
  exact ⟨s1, hp, run_prepare ops c m' s1 hp, (C18_change_keeps_reachable ops hops c hi m' s1 hp).1, hnb, hm, ht⟩

/-- **C18, end to end**: after any history `ops` (item operations, builds, metric changes, on any indexes), a
    metric change of the index opened as `c` towards `m' ≠ c.metric`, any further well-formed operations `more`
    (on any index) and a successful build under the new metric (any options, oracle streams, fuel, cancellation
    schedule):

    * the change kept the item ids of the index and every key of every other index;
    * the states are states of the grammar;
    * `Reader::open` under the new metric succeeds with exactly the stored item ids and the declared dimension;
    * the trees read at the roots form a valid reader-side forest (`ForestWith`, hence `ForestOK`), every bucket is
      sorted, the executable checker accepts the state, the index invariant holds;
    * every query under the new metric succeeds and returns stored items only;
    * a `search_k = usize::MAX` query is exact under the new metric (`exactOver`);
    * `Reader::open` under the old metric fails with `UnmatchingDistance`. -/
theorem C18_build_after_change_reachable (ops : List Op) (hops : ∀ op ∈ ops, op.wf)
    (c : Cfg) (m' : Metric) (hne : m' ≠ c.metric) (s1 : Store)
    (hp : Writer.prepareChangingDistance c m' (run ops) = .ok s1)
    (more : List Op) (hmore : ∀ op ∈ more, op.wf)
    (o : BuildOpts) (fuel : Nat) (env st' : BState)
    (hwf : (Op.build { c with metric := m' } o fuel env).wf)
    (hb : Build.build { c with metric := m' } o fuel { env with store := more.foldl step s1 } = .ok ((), st')) :
    s1.keysOf c.index modeItem = (run ops).keysOf c.index modeItem ∧
    (∀ k : Key, k.index ≠ c.index → Store.get s1 k = Store.get (run ops) k) ∧
    run (ops ++ [.prepare c m'] ++ more) = more.foldl step s1 ∧
    run (ops ++ [.prepare c m'] ++ more ++ [.build { c with metric := m' } o fuel env]) = st'.store ∧
    ∃ roots,
      Reader.open { c with metric := m' } st'.store =
        .ok ⟨roots, c.dims, (more.foldl step s1).keysOf c.index modeItem⟩ ∧
      ForestWith { c with metric := m' } st'.store ⟨roots, c.dims, (more.foldl step s1).keysOf c.index modeItem⟩
        (Check.trees { c with metric := m' } st'.store) ∧
      ForestOK { c with metric := m' } st'.store ⟨roots, c.dims, (more.foldl step s1).keysOf c.index modeItem⟩ ∧
      DescSorted { c with metric := m' } st'.store ∧
      Check.forestValid { c with metric := m' } st'.store = [] ∧
      IndexInv c st'.store ∧
      st'.store.keysOf c.index modeItem = (more.foldl step s1).keysOf c.index modeItem ∧
      ((more.foldl step s1).keysOf c.index modeItem ≠ [] → roots ≠ []) ∧
      (∀ (qh qv : List Nat) (q : QueryOpts), ∃ ans,
        nnsByLeaf { c with metric := m' } st'.store ⟨roots, c.dims, (more.foldl step s1).keysOf c.index modeItem⟩
          qh qv q = .ok ans ∧
        ∀ p ∈ ans, p.1 ∈ (more.foldl step s1).keysOf c.index modeItem) ∧
      (∀ (qh qv : List Nat) (q : QueryOpts), q.candidates = none → q.searchK = some usizeMax →
        q.oversampling ≠ some 0 →
        roots.length * ((more.foldl step s1).keysOf c.index modeItem).length ≤ usizeMax →
        nnsByLeaf { c with metric := m' } st'.store ⟨roots, c.dims, (more.foldl step s1).keysOf c.index modeItem⟩
          qh qv q =
          .ok (exactOver { c with metric := m' } st'.store c.dims qh qv q.count
            ((more.foldl step s1).keysOf c.index modeItem))) ∧
      Reader.open c st'.store = .error (.unmatchingDistance m'.nameBytes c.metric.nameBytes) := by
  have hi : c.index < 65536 := hwf.1
  have hH := wf_prepare_more (c := c) (m' := m') hops hi hmore
  have hrun := run_prepare_more ops c m' s1 hp more
  obtain ⟨hk1, _, hk2, _⟩ := C18_change_keeps_reachable ops hops c hi m' s1 hp
  rw [← hrun] at hb
  obtain ⟨hrunb, roots0, ts0, _, _, hroots, _⟩ :=
    C01_forest _ hH { c with metric := m' } o fuel env st' hwf hb
  obtain ⟨roots, h1, h2, h3, h4, h5⟩ :=
    C01_reader_reachable _ hH { c with metric := m' } o fuel env st' hwf hb
  have hchk := C01_checker_accepts _ hH { c with metric := m' } o fuel env st' hwf hb
  rw [hrunb] at hchk
  have hroots' : (run (ops ++ [.prepare c m'] ++ more)).keysOf c.index modeItem ≠ [] → roots ≠ [] :=
    fun hne' => h2.roots_ne hne'
  have hold := C18_old_metric_refused_after_build c m' o fuel _ st' hne hb
  rw [hrun] at h1 h2 h4 hroots'
  refine ⟨hk1, hk2, hrun, hrunb, roots, h1, h2, ⟨_, h2⟩, h3, hchk, (IndexInv.congr_index (c := { c with metric := m' }) (c' := c) rfl h5), h4, hroots',
    fun qh qv q => C03.C03_total ⟨_, h2⟩ qh qv q,
    fun qh qv q hq hk ho hsz => C02.C02_exact_usizeMax ⟨_, h2⟩ qh qv q hq hk ho hsz, hold⟩

/-- the case without operations between the change and the build: the reader of the new metric opens with
    exactly the item ids stored before the change -/
theorem C18_build_right_after_change_reachable (ops : List Op) (hops : ∀ op ∈ ops, op.wf)
    (c : Cfg) (m' : Metric) (hne : m' ≠ c.metric) (s1 : Store)
    (hp : Writer.prepareChangingDistance c m' (run ops) = .ok s1)
    (o : BuildOpts) (fuel : Nat) (env st' : BState)
    (hwf : (Op.build { c with metric := m' } o fuel env).wf)
    (hb : Build.build { c with metric := m' } o fuel { env with store := s1 } = .ok ((), st')) :
    ∃ roots,
      Reader.open { c with metric := m' } st'.store = .ok ⟨roots, c.dims, (run ops).keysOf c.index modeItem⟩ ∧
      ForestOK { c with metric := m' } st'.store ⟨roots, c.dims, (run ops).keysOf c.index modeItem⟩ ∧
      (∀ (qh qv : List Nat) (q : QueryOpts), q.candidates = none → q.searchK = some usizeMax →
        q.oversampling ≠ some 0 → roots.length * ((run ops).keysOf c.index modeItem).length ≤ usizeMax →
        nnsByLeaf { c with metric := m' } st'.store ⟨roots, c.dims, (run ops).keysOf c.index modeItem⟩ qh qv q =
          .ok (exactOver { c with metric := m' } st'.store c.dims qh qv q.count
            ((run ops).keysOf c.index modeItem))) ∧
      Reader.open c st'.store = .error (.unmatchingDistance m'.nameBytes c.metric.nameBytes) := by
  obtain ⟨hk, _, _, _, roots, h1, _, h2, _, _, _, _, _, _, h3, h4⟩ :=
    C18_build_after_change_reachable ops hops c m' hne s1 hp [] (by intro _ h; cases h) o fuel env st' hwf hb
  simp only [List.foldl_nil] at h1 h2 h3
  rw [hk] at h1 h2 h3
  exact ⟨roots, h1, h2, h3, h4⟩

/-- the operation is not a build of index `c` -/
def notBuildOf (c : Cfg) : Op → Prop
  | .build c' _ _ _ => c'.index ≠ c.index
  | _ => True

/-- **C18, until the next build**: after the change, whatever well-formed operations follow (item operations,
    clears, further metric changes on this index; anything on the other indexes) — as long as none of them is a
    build of the index, `need_build` stays true and `Reader::open` fails with `MissingMetadata`, for every way of
    opening the index -/
theorem C18_needs_build_until_built (ops : List Op) (hops : ∀ op ∈ ops, op.wf) (c : Cfg) (hi : c.index < 65536)
    (m' : Metric) (hne : m' ≠ c.metric) (s1 : Store)
    (hp : Writer.prepareChangingDistance c m' (run ops) = .ok s1)
    (more : List Op) (hmore : ∀ op ∈ more, op.wf) (hnb : ∀ op ∈ more, notBuildOf c op) :
    ∀ c2 : Cfg, c2.index = c.index →
      Writer.needBuild c2 (more.foldl step s1) = true ∧
      Reader.open c2 (more.foldl step s1) = .error (.missingMetadata c2.index) := by
  obtain ⟨s1', hp', _, _, _, hu⟩ := C18_needs_build_after_change ops hops c hi m' hne
  rw [hp] at hp'; cases hp'
  have hinv1 := (C18_change_keeps_reachable ops hops c hi m' s1 hp).2.2.2
  have hm : Store.get (more.foldl step s1) c.metaKey = none := by
    apply C01_history_induction_from freshSupply c hi (fun s => Store.get s c.metaKey = none) (notBuildOf c)
      _ _ _ _ more hmore hnb s1 hinv1 hu.1
    · intro s s' _ _ m hP
      rw [m.meta_eq]; exact hP
    · intro s c' _ he _
      exact Writer.get_clear_same c' s _ he.symm
    · intro s c' o fuel env st' _ _ _ _ _ _ he _ hq _ _ _ _
      exact absurd he hq
    · intro s c' m'' s' _ _ _ _ _ _ hu' _
      exact hu'.1
  intro c2 h2
  have hm2 : Store.get (more.foldl step s1) c2.metaKey = none := by
    rw [Cfg.metaKey_congr h2]; exact hm
  exact ⟨Writer.needBuild_of_noMeta hm2, Reader.open_of_noMeta hm2⟩

/-! ## routing, self-lookup and `by_item = by_vector` after the change

The history theorems C04 (routing) and C03 (`by_item = by_vector`) have a side condition on the whole history:
every build of the index is made with the final configuration (`C04.sameCfg`), resp. every item is written under
it (`C01.madeBy`). A history that changes the metric cannot satisfy them for the operations before the change.
The change resets what these conditions protect — it deletes the forest, and it re-encodes every leaf for the new
configuration — so only the operations SINCE the change have to satisfy them. -/

/-- **C04 after the change**: the history before the change is arbitrary; if every build of the index since
    the change uses the new configuration, the forest of the final build is routed -/
theorem C18_routed_after_change_reachable (ops : List Op) (hops : ∀ op ∈ ops, op.wf)
    (c : Cfg) (m' : Metric) (hne : m' ≠ c.metric) (s1 : Store)
    (hp : Writer.prepareChangingDistance c m' (run ops) = .ok s1)
    (more : List Op) (hmore : ∀ op ∈ more, op.wf) (hQ : ∀ op ∈ more, C04.sameCfg { c with metric := m' } op)
    (o : BuildOpts) (fuel : Nat) (env st' : BState)
    (hwf : (Op.build { c with metric := m' } o fuel env).wf)
    (hb : Build.build { c with metric := m' } o fuel { env with store := more.foldl step s1 } = .ok ((), st')) :
    C04.Routed { c with metric := m' } o st'.store ∧ Check.routed { c with metric := m' } st'.store = [] := by
  have hi : c.index < 65536 := hwf.1
  obtain ⟨s1', hp', _, _, _, hu⟩ := C18_needs_build_after_change ops hops c hi m' hne
  rw [hp] at hp'; cases hp'
  have hinv1 := (C18_change_keeps_reachable ops hops c hi m' s1 hp).2.2.2
  exact C04.C04_history_from freshSupply { c with metric := m' } more hmore hQ o fuel env st' hwf s1 hinv1
    (C04.RoutedUnmarked_of_noMeta (c := { c with metric := m' }) hu.1) hb

/-- **C04, self-lookup after the change** (as `C04_selfLookup_reachable_given_lengths`, the history before the
    change being arbitrary): a stored item that some tree separates by non-degenerate planes with decisive
    margins is found by `by_item` with any budget ≥ 1 -/
theorem C18_selfLookup_after_change_reachable (ops : List Op) (hops : ∀ op ∈ ops, op.wf)
    (c : Cfg) (m' : Metric) (hne : m' ≠ c.metric) (s1 : Store)
    (hp : Writer.prepareChangingDistance c m' (run ops) = .ok s1)
    (more : List Op) (hmore : ∀ op ∈ more, op.wf) (hQ : ∀ op ∈ more, C04.sameCfg { c with metric := m' } op)
    (o : BuildOpts) (fuel : Nat) (env st' : BState)
    (hwf : (Op.build { c with metric := m' } o fuel env).wf)
    (hb : Build.build { c with metric := m' } o fuel { env with store := more.foldl step s1 } = .ok ((), st'))
    (x : Nat) (hd v : List Nat)
    (hx : Store.get st'.store (({ c with metric := m' } : Cfg).itemKey x) = some (.leaf hd v))
    (hgood : Check.hasGoodTree { c with metric := m' } st'.store x = true)
    (hlen : m'.isBq = false → ∀ t ∈ Check.trees { c with metric := m' } st'.store, ∀ n ∈ t.normals,
      n.length = v.length) :
    ∃ roots,
      Reader.open { c with metric := m' } st'.store =
        .ok ⟨roots, c.dims, (more.foldl step s1).keysOf c.index modeItem⟩ ∧
      ∀ q : QueryOpts, q.candidates = none → 1 ≤ budget m' roots.length q →
        ((more.foldl step s1).keysOf c.index modeItem).length ≤ q.count →
        ∃ ans, byItem { c with metric := m' } st'.store
            ⟨roots, c.dims, (more.foldl step s1).keysOf c.index modeItem⟩ x q = .ok (some ans) ∧
          x ∈ ans.map (·.1) := by
  obtain ⟨_, _, _, _, roots, h1, h2, _⟩ :=
    C18_build_after_change_reachable ops hops c m' hne s1 hp more hmore o fuel env st' hwf hb
  have hr := (C18_routed_after_change_reachable ops hops c m' hne s1 hp more hmore hQ o fuel env st' hwf hb).1
  obtain ⟨t₀, ht₀, hg⟩ := List.any_eq_true.1 hgood
  refine ⟨roots, h1, fun q hq hbud hc => ?_⟩
  exact C04.C04_selfLookup_by_item h2 o hr x hd v hx
    (fun t ht n hn => C04.margin_symm_of_length _ _ _ _ (fun hbq => (hlen hbq t ht n hn).symm))
    t₀ ht₀ hg q hq hbud hc

/-- **the leaves after the change are `mkLeaf` values of the new configuration**: if the items were written
    under `c` before the change and under `{ c with metric := m' }` after it -/
theorem C18_leaves_made_after_change_reachable (ops : List Op) (hops : ∀ op ∈ ops, op.wf)
    (c : Cfg) (hi : c.index < 65536) (m' : Metric) (s1 : Store) (hq : ∀ op ∈ ops, madeBy c op)
    (hp : Writer.prepareChangingDistance c m' (run ops) = .ok s1)
    (more : List Op) (hmore : ∀ op ∈ more, op.wf) (hq' : ∀ op ∈ more, madeBy { c with metric := m' } op) :
    LeavesMade { c with metric := m' } (more.foldl step s1) := by
  have hinv := C01_invariant ops hops c hi
  have hinv1 := (C18_change_keeps_reachable ops hops c hi m' s1 hp).2.2.2
  exact leavesMade_foldl { c with metric := m' } hi more hmore hq' s1 hinv1
    (leavesMade_prepare hi hinv hp (leavesMade_run c hi ops hops hq))

/-- **C03 (`by_item = by_vector`) after the change, every pair of metrics**: the items were written under `c`
    before the change and under the new configuration after it; after a successful build under the new metric,
    `by_item(id)` is `None` for an id that is not stored and `by_vector(item_vector(id))` otherwise -/
theorem C18_by_item_eq_by_vector_after_change_reachable (ops : List Op) (hops : ∀ op ∈ ops, op.wf)
    (c : Cfg) (m' : Metric) (hne : m' ≠ c.metric) (s1 : Store) (hq : ∀ op ∈ ops, madeBy c op)
    (hp : Writer.prepareChangingDistance c m' (run ops) = .ok s1)
    (more : List Op) (hmore : ∀ op ∈ more, op.wf) (hq' : ∀ op ∈ more, madeBy { c with metric := m' } op)
    (o : BuildOpts) (fuel : Nat) (env st' : BState)
    (hwf : (Op.build { c with metric := m' } o fuel env).wf)
    (hb : Build.build { c with metric := m' } o fuel { env with store := more.foldl step s1 } = .ok ((), st')) :
    ∃ roots,
      Reader.open { c with metric := m' } st'.store =
        .ok ⟨roots, c.dims, (more.foldl step s1).keysOf c.index modeItem⟩ ∧
      ∀ (id : Nat) (q : QueryOpts),
        byItem { c with metric := m' } st'.store ⟨roots, c.dims, (more.foldl step s1).keysOf c.index modeItem⟩ id q =
          match Writer.itemVector { c with metric := m' } st'.store id with
          | none => .ok none
          | some vec =>
            (byVector { c with metric := m' } st'.store
              ⟨roots, c.dims, (more.foldl step s1).keysOf c.index modeItem⟩ vec q).map some := by
  have hi : c.index < 65536 := hwf.1
  obtain ⟨_, _, hrun, hrunb, roots, h1, _⟩ :=
    C18_build_after_change_reachable ops hops c m' hne s1 hp more hmore o fuel env st' hwf hb
  have hP : LeavesMade { c with metric := m' } st'.store := by
    have := C18_leaves_made_after_change_reachable ops hops c hi m' s1 hq hp
      (more ++ [.build { c with metric := m' } o fuel env])
      (forall_snoc hmore hwf)
      (forall_snoc hq' (show madeBy { c with metric := m' } (.build { c with metric := m' } o fuel env) from fun _ e => e))
    rw [← run_prepare_more ops c m' s1 hp, ← List.append_assoc, hrunb] at this
    exact this
  exact ⟨roots, h1, fun id q => C03.C03_by_item_eq_by_vector_made _ st'.store _ hP rfl id q⟩

/-! ## non-vacuity

The two-round Euclidean history of `C01Examples.lean` on index 0 (five items built, then item 5 added and
item 0 deleted: a forest of four nodes and two pending marks), an item of index 3 in the same database; the
metric of index 0 is changed to Manhattan; an item is added under the new metric; the index is built. -/
namespace Ex
open C01.Ex

def cOther : Cfg := { index := 3, metric := .euclidean, dims := 2 }
def cNew : Cfg := { cEx with metric := .manhattan }
def opsP : List Op := ops2 ++ [.add cOther 9 [f1, f1]]
def moreP : List Op := [.add cNew 6 [fm2, fm2]]
def envN : BState :=
  { store := [], normals := [[f1, 0], [0, f1], [f1, fm15], [f1, 0], [0, f1]], rands := [], batches := [6, 6, 6] }
def envR : BState := { envN with batches := [5] }

theorem opsP_wf : ∀ op ∈ opsP, op.wf := by decide
theorem moreP_wf : ∀ op ∈ moreP, op.wf := by decide
theorem buildN_wf : (Op.build { cEx with metric := .manhattan } oEx 5 envN).wf := by decide
theorem metric_ne : Metric.manhattan ≠ cEx.metric := by decide

/-- before the change: items 1..5, four tree nodes, metadata, two marks; index 3 holds item 9 -/
theorem beforeP : (run opsP).keysOf 0 modeItem = [1, 2, 3, 4, 5] ∧ (run opsP).keysOf 0 modeTree = [0, 1, 2, 3] ∧
    (run opsP).keysOf 0 modeUpdated = [0, 5] ∧ (Store.get (run opsP) cEx.metaKey).isSome = true ∧
    (run opsP).keysOf 3 modeItem = [9] := by
  rw [show run opsP = step (run ops2) (.add cOther 9 [f1, f1]) from run_snoc _ _, run_ops2]
  decide +kernel

/-- the store after the change, computed once; the facts below about later states start from it -/
theorem sP_eq : run (opsP ++ [.prepare cEx .manhattan]) =
    [ (⟨0, 1, 0⟩, .unit), (⟨0, 1, 5⟩, .unit),
      (⟨0, 3, 1⟩, .leaf [0] [fm1, 0]), (⟨0, 3, 2⟩, .leaf [0] [f1, fm1]), (⟨0, 3, 3⟩, .leaf [0] [f2, f1]),
      (⟨0, 3, 4⟩, .leaf [0] [f3, f1]), (⟨0, 3, 5⟩, .leaf [0] [f25, f2]),
      (⟨3, 1, 9⟩, .unit), (⟨3, 3, 9⟩, .leaf [0] [f1, f1]) ] := by
  rw [run_snoc, show run opsP = step (run ops2) (.add cOther 9 [f1, f1]) from run_snoc _ _, run_ops2]
  decide +kernel

/-- after the change: the same items, no tree node, no metadata, the marks and index 3 untouched -/
theorem afterP : (run (opsP ++ [.prepare cEx .manhattan])).keysOf 0 modeItem = [1, 2, 3, 4, 5] ∧
    (run (opsP ++ [.prepare cEx .manhattan])).keysOf 0 modeTree = [] ∧
    (run (opsP ++ [.prepare cEx .manhattan])).keysOf 0 modeUpdated = [0, 5] ∧
    Store.get (run (opsP ++ [.prepare cEx .manhattan])) cEx.metaKey = none ∧
    (run (opsP ++ [.prepare cEx .manhattan])).keysOf 3 modeItem = [9] := by rw [sP_eq]; decide +kernel

theorem buildN_ok : isOk (Build.build { cEx with metric := .manhattan } oEx 5
      { envN with store := run (opsP ++ [.prepare cEx .manhattan] ++ moreP) }) = true ∧
    (run (opsP ++ [.prepare cEx .manhattan] ++ moreP)).keysOf 0 modeItem = [1, 2, 3, 4, 5, 6] := by
  rw [run_append _ moreP, sP_eq]; decide +kernel

theorem buildR_ok : isOk (Build.build { cEx with metric := .manhattan } oEx 5
      { envR with store := run (opsP ++ [.prepare cEx .manhattan]) }) = true := by
  rw [sP_eq]; decide +kernel

/-- `C18_needs_build_after_change` applies: the changed index (items 1..5) demands a build under both metrics -/
example : ∃ s1, Writer.prepareChangingDistance cEx .manhattan (run opsP) = .ok s1 ∧
    s1.keysOf 0 modeItem = [1, 2, 3, 4, 5] ∧
    Writer.needBuild cEx s1 = true ∧ Writer.needBuild cNew s1 = true ∧
    Reader.open cEx s1 = .error (.missingMetadata 0) ∧ Reader.open cNew s1 = .error (.missingMetadata 0) := by
  obtain ⟨s1, hp, _, hk, hnb, _⟩ := C18_needs_build_after_change opsP opsP_wf cEx (by decide) .manhattan metric_ne
  rw [show (run opsP).keysOf cEx.index modeItem = [1, 2, 3, 4, 5] from beforeP.1] at hk
  exact ⟨s1, hp, hk, (hnb cEx rfl).1, (hnb cNew rfl).1, (hnb cEx rfl).2, (hnb cNew rfl).2⟩

/-- `C18_build_after_change_reachable` applies — all hypotheses discharged: the change succeeds, item 6 is added
    under the new metric, the build succeeds; the Manhattan reader opens on items 1..6, an unlimited query is
    exact, the Euclidean reader is refused, and index 3 was not touched by the change -/
example : ∃ s1 st' roots, Writer.prepareChangingDistance cEx .manhattan (run opsP) = .ok s1 ∧
    Build.build cNew oEx 5 { envN with store := moreP.foldl step s1 } = .ok ((), st') ∧
    Reader.open cNew st'.store = .ok ⟨roots, 2, [1, 2, 3, 4, 5, 6]⟩ ∧
    ForestOK cNew st'.store ⟨roots, 2, [1, 2, 3, 4, 5, 6]⟩ ∧ roots ≠ [] ∧
    (∀ (qh qv : List Nat) (count : Nat), roots.length * 6 ≤ usizeMax →
      nnsByLeaf cNew st'.store ⟨roots, 2, [1, 2, 3, 4, 5, 6]⟩ qh qv { count := count, searchK := some usizeMax } =
        .ok (exactOver cNew st'.store 2 qh qv count [1, 2, 3, 4, 5, 6])) ∧
    Reader.open cEx st'.store =
      .error (.unmatchingDistance Metric.manhattan.nameBytes Metric.euclidean.nameBytes) ∧
    Store.get s1 (cOther.itemKey 9) = Store.get (run opsP) (cOther.itemKey 9) := by
  obtain ⟨s1, hp, _⟩ := C18_prepare_succeeds_reachable opsP opsP_wf cEx (by decide) .manhattan
  have hok := buildN_ok
  rw [run_prepare_more opsP cEx .manhattan s1 hp moreP] at hok
  obtain ⟨st', hb⟩ := ok_of_isOk hok.1
  obtain ⟨_, hoth, _, _, roots, h1, _, h2, _, _, _, _, hr, _, h3, h4⟩ :=
    C18_build_after_change_reachable opsP opsP_wf cEx .manhattan metric_ne s1 hp moreP moreP_wf oEx 5 envN st'
      buildN_wf hb
  rw [show (moreP.foldl step s1).keysOf cEx.index modeItem = [1, 2, 3, 4, 5, 6] from hok.2] at h1 h2 h3 hr
  exact ⟨s1, st', roots, hp, hb, h1, h2, hr (by simp),
    fun qh qv count hsz => h3 qh qv _ rfl rfl (by simp) hsz, h4, hoth _ (by decide)⟩

/-- `C18_build_right_after_change_reachable` applies: build directly after the change -/
example : ∃ s1 st' roots, Writer.prepareChangingDistance cEx .manhattan (run opsP) = .ok s1 ∧
    Build.build cNew oEx 5 { envR with store := s1 } = .ok ((), st') ∧
    Reader.open cNew st'.store = .ok ⟨roots, 2, [1, 2, 3, 4, 5]⟩ ∧
    Reader.open cEx st'.store =
      .error (.unmatchingDistance Metric.manhattan.nameBytes Metric.euclidean.nameBytes) := by
  obtain ⟨s1, hp, hs1⟩ := C18_prepare_succeeds_reachable opsP opsP_wf cEx (by decide) .manhattan
  obtain ⟨st', hb⟩ := ok_of_isOk (hs1 ▸ buildR_ok)
  obtain ⟨roots, h1, _, _, h4⟩ :=
    C18_build_right_after_change_reachable opsP opsP_wf cEx .manhattan metric_ne s1 hp oEx 5 envR st'
      (by decide) hb
  rw [show (run opsP).keysOf cEx.index modeItem = [1, 2, 3, 4, 5] from beforeP.1] at h1
  exact ⟨s1, st', roots, hp, hb, h1, h4⟩

/-- the history before the change builds index 0 under the Euclidean configuration: it violates `sameCfg cNew`,
    so `C04_routed_all_histories` does not apply to the whole history — `C18_routed_after_change_reachable` does -/
example : ¬ ∀ op ∈ opsP, C04.sameCfg cNew op := by
  intro h
  have := h (.build cEx oEx 5 env1) (by simp [opsP, ops2, ops1]) rfl
  exact absurd (congrArg Cfg.metric this) (by decide)

theorem moreP_same : ∀ op ∈ moreP, C04.sameCfg { cEx with metric := .manhattan } op := by
  intro op hop
  simp only [moreP, List.mem_cons, List.not_mem_nil, or_false] at hop
  subst hop; trivial

theorem moreP_notBuild : ∀ op ∈ moreP, notBuildOf cEx op := by
  intro op hop
  simp only [moreP, List.mem_cons, List.not_mem_nil, or_false] at hop
  subst hop; trivial

theorem opsP_made : ∀ op ∈ opsP, madeBy cEx op := by
  intro op hop
  simp only [opsP, ops2, ops1, List.mem_append, List.mem_cons, List.not_mem_nil, or_false] at hop
  rcases hop with ((rfl | rfl | rfl | rfl | rfl | rfl) | (rfl | rfl)) | rfl <;>
    first | trivial | (intro _; rfl) | (intro h; exact absurd h (by decide)) | (intro _ h; exact absurd h (by decide))

theorem moreP_made : ∀ op ∈ moreP, madeBy { cEx with metric := .manhattan } op := by
  intro op hop
  simp only [moreP, List.mem_cons, List.not_mem_nil, or_false] at hop
  subst hop; intro _; rfl

/-- the state after the final build: item 5 (stored under the Euclidean metric, re-encoded by the change) has a
    good tree, its vector and every normal have 2 words -/
theorem afterN_good :
    Check.hasGoodTree cNew (run (opsP ++ [.prepare cEx .manhattan] ++ moreP ++ [.build cNew oEx 5 envN])) 5 = true ∧
    Store.get (run (opsP ++ [.prepare cEx .manhattan] ++ moreP ++ [.build cNew oEx 5 envN])) (cNew.itemKey 5) =
      some (.leaf [0] [f25, f2]) ∧
    ∀ t ∈ Check.trees cNew (run (opsP ++ [.prepare cEx .manhattan] ++ moreP ++ [.build cNew oEx 5 envN])),
      ∀ n ∈ t.normals, n.length = 2 := by
  rw [run_append _ [.build cNew oEx 5 envN], run_append _ moreP, sP_eq]; decide +kernel

/-- `C18_needs_build_until_built` applies: after the change and the addition of item 6 the index still demands a
    build -/
example : ∃ s1, Writer.prepareChangingDistance cEx .manhattan (run opsP) = .ok s1 ∧
    Writer.needBuild cNew (moreP.foldl step s1) = true ∧
    Reader.open cNew (moreP.foldl step s1) = .error (.missingMetadata 0) := by
  obtain ⟨s1, hp, _⟩ := C18_prepare_succeeds_reachable opsP opsP_wf cEx (by decide) .manhattan
  have := C18_needs_build_until_built opsP opsP_wf cEx (by decide) .manhattan metric_ne s1 hp moreP moreP_wf
    moreP_notBuild cNew rfl
  exact ⟨s1, hp, this.1, this.2⟩

/-- `C18_routed_after_change_reachable`, `C18_selfLookup_after_change_reachable` and
    `C18_by_item_eq_by_vector_after_change_reachable` apply: the final forest is routed under the new metric,
    `by_item(5)` with `search_k = 1` finds item 5, and `by_item` agrees with `by_vector` -/
example : ∃ s1 st' roots, Writer.prepareChangingDistance cEx .manhattan (run opsP) = .ok s1 ∧
    Build.build cNew oEx 5 { envN with store := moreP.foldl step s1 } = .ok ((), st') ∧
    Check.routed cNew st'.store = [] ∧
    Reader.open cNew st'.store = .ok ⟨roots, 2, [1, 2, 3, 4, 5, 6]⟩ ∧
    (∃ ans, byItem cNew st'.store ⟨roots, 2, [1, 2, 3, 4, 5, 6]⟩ 5 { count := 6, searchK := some 1 } = .ok (some ans) ∧
      5 ∈ ans.map (·.1)) ∧
    (∀ (id : Nat) (q : QueryOpts), byItem cNew st'.store ⟨roots, 2, [1, 2, 3, 4, 5, 6]⟩ id q =
      match Writer.itemVector cNew st'.store id with
      | none => .ok none
      | some vec => (byVector cNew st'.store ⟨roots, 2, [1, 2, 3, 4, 5, 6]⟩ vec q).map some) := by
  obtain ⟨s1, hp, _⟩ := C18_prepare_succeeds_reachable opsP opsP_wf cEx (by decide) .manhattan
  have hok := buildN_ok
  rw [run_prepare_more opsP cEx .manhattan s1 hp moreP] at hok
  obtain ⟨st', hb⟩ := ok_of_isOk hok.1
  have hrunb := (C18_build_after_change_reachable opsP opsP_wf cEx .manhattan metric_ne s1 hp moreP moreP_wf oEx 5
    envN st' buildN_wf hb).2.2.2.1
  obtain ⟨hg, hx, hn⟩ := afterN_good
  rw [show run (opsP ++ [.prepare cEx .manhattan] ++ moreP ++ [.build cNew oEx 5 envN]) = st'.store from hrunb]
    at hg hx hn
  have hrt := (C18_routed_after_change_reachable opsP opsP_wf cEx .manhattan metric_ne s1 hp moreP moreP_wf
    moreP_same oEx 5 envN st' buildN_wf hb).2
  obtain ⟨roots, h1, h2⟩ := C18_selfLookup_after_change_reachable opsP opsP_wf cEx .manhattan metric_ne s1 hp
    moreP moreP_wf moreP_same oEx 5 envN st' buildN_wf hb 5 [0] [f25, f2] hx hg (fun _ => hn)
  obtain ⟨roots', h1', h3⟩ := C18_by_item_eq_by_vector_after_change_reachable opsP opsP_wf cEx .manhattan metric_ne
    s1 opsP_made hp moreP moreP_wf moreP_made oEx 5 envN st' buildN_wf hb
  cases h1.symm.trans h1'
  rw [show (moreP.foldl step s1).keysOf cEx.index modeItem = [1, 2, 3, 4, 5, 6] from hok.2] at h1 h2 h3
  refine ⟨s1, st', roots, hp, hb, hrt, h1, h2 _ rfl ?_ (by decide), h3⟩
  -- budget = search_k × oversampling = 1 × 1
  simp only [budget, satMul, Option.getD_some, Option.getD_none]
  decide

/-- `C04_stored_length_reachable` (its side condition `itemsCfg` covers metric changes: same dimension, towards an
    f32 metric) applies to the history with the change: every stored leaf has 2 words -/
example : C04.VecLen cNew (run (opsP ++ [.prepare cEx .manhattan] ++ moreP)) := by
  apply C04.C04_stored_length_reachable cNew (by decide) _ (wf_prepare_more opsP_wf (by decide) moreP_wf)
  intro op hop
  simp only [opsP, ops2, ops1, moreP, List.mem_append, List.mem_cons, List.not_mem_nil, or_false] at hop
  rcases hop with ((((rfl | rfl | rfl | rfl | rfl | rfl) | (rfl | rfl)) | rfl) | rfl) | rfl <;>
    first | trivial | (intro _; exact ⟨rfl, rfl⟩)

end Ex

end Arroy.C18
