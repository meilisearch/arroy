import ArroyProofs.WriterLaws
import ArroyModel.Reader
/-! # C19 — rejected calls have no effect

A rejected call returns `.error` and no store at all: the transaction's store stays the one it was
(`after`). Deleting an absent item returns the very same store. -/
namespace Arroy.C19
open Arroy Generated

/-- the store a transaction sees after a call: the new one if the call succeeded, the old one otherwise -/
def after (s : Store) : Except Err Store → Store
  | .ok s' => s'
  | .error _ => s

/-- **add with a wrong length**: the dimension error with both lengths; no store is produced (the second clause holds
    by construction of `after`) -/
theorem C19_dim_add (c : Cfg) (s : Store) (id : Nat) (vec : List Nat) (h : vec.length ≠ c.dims) :
    Writer.addItem c s id vec = .error (.invalidDim c.dims vec.length) ∧
    after s (Writer.addItem c s id vec) = s := by
  rw [Writer.addItem_err s id h]; exact ⟨rfl, rfl⟩

/-- **append with a wrong length**: the same, whatever the keys of the database -/
theorem C19_dim_append (c : Cfg) (s : Store) (id : Nat) (vec : List Nat) (h : vec.length ≠ c.dims) :
    Writer.appendItem c s id vec = .error (.invalidDim c.dims vec.length) ∧
    after s (Writer.appendItem c s id vec) = s := by
  rw [Writer.appendItem_err_dim s id h]; exact ⟨rfl, rfl⟩

/-- **query with a wrong length** (a query never writes) -/
theorem C19_dim_query (c : Cfg) (s : Store) (rd : ReaderState) (vec : List Nat) (q : QueryOpts)
    (h : vec.length ≠ rd.dims) :
    Reader.byVector c s rd vec q = .error (.invalidDim rd.dims vec.length) := by
  unfold Reader.byVector; simp [h]

/-- conversely the dimension error only ever comes from a wrong length -/
theorem C19_dim_add_iff (c : Cfg) (s : Store) (id : Nat) (vec : List Nat) :
    (∃ e, Writer.addItem c s id vec = .error e) ↔ vec.length ≠ c.dims := by
  constructor
  · intro ⟨e, he⟩ hl
    rw [Writer.addItem_of_len s id hl] at he; cases he
  · intro h; exact ⟨_, Writer.addItem_err s id h⟩

/-- **append**: with the right length, the append error is raised exactly when some key of the whole
    database (any index, any kind) is `≥` the new item key; an accepted append is the `add_item` -/
theorem C19_append (c : Cfg) (s : Store) (hs : Store.Sorted s) (id : Nat) (vec : List Nat)
    (hl : vec.length = c.dims) :
    (Writer.appendItem c s id vec = .error .invalidAppend ↔ ∃ kv ∈ s, (c.itemKey id).le kv.1 = true) ∧
    ((∀ kv ∈ s, kv.1.lt (c.itemKey id) = true) → Writer.appendItem c s id vec = Writer.addItem c s id vec) ∧
    (∀ s', Writer.appendItem c s id vec = .ok s' → Writer.addItem c s id vec = .ok s') ∧
    (∀ e, Writer.appendItem c s id vec = .error e → e = .invalidAppend) := by
  refine ⟨?_, ?_, fun s' h => Writer.appendItem_ok_eq_addItem hs h, ?_⟩
  · rw [← Store.putAppend_eq_none_iff hs (c.itemKey id) (c.mkLeaf vec)]
    cases hp : s.putAppend (c.itemKey id) (c.mkLeaf vec) with
    | none => rw [Writer.appendItem_none hl hp]; simp
    | some s1 => rw [Writer.appendItem_some hl hp]; simp
  · intro hall
    obtain ⟨s1, hp⟩ := (Store.putAppend_isSome_iff hs (c.itemKey id) (c.mkLeaf vec)).2 hall
    have h := Writer.appendItem_some hl hp
    rw [h, Writer.appendItem_ok_eq_addItem hs h]
  · intro e he
    cases hp : s.putAppend (c.itemKey id) (c.mkLeaf vec) with
    | none => rw [Writer.appendItem_none hl hp] at he; cases he; rfl
    | some s1 => rw [Writer.appendItem_some hl hp] at he; cases he

/-- an accepted append and `add_item` give the same store (the second clause is the first read key by key) -/
theorem C19_append_get (c : Cfg) (s s1 s2 : Store) (hs : Store.Sorted s) (id : Nat) (vec : List Nat)
    (h1 : Writer.appendItem c s id vec = .ok s1) (h2 : Writer.addItem c s id vec = .ok s2) :
    s1 = s2 ∧ ∀ k, Store.get s1 k = Store.get s2 k := by
  have := Writer.appendItem_ok_eq_addItem hs h1
  rw [h2] at this
  cases this
  exact ⟨rfl, fun _ => rfl⟩

/-- by construction of `after`: an error produces no store -/
theorem C19_append_rejected (c : Cfg) (s : Store) (id : Nat) (vec : List Nat) (e : Err)
    (h : Writer.appendItem c s id vec = .error e) : after s (Writer.appendItem c s id vec) = s := by
  rw [h]; rfl

/-- the append rule is about the whole database: an entry of *another* index that sorts after the new key
    makes the call fail -/
theorem C19_append_other_index (c : Cfg) (s : Store) (hs : Store.Sorted s) (id : Nat) (vec : List Nat)
    (hl : vec.length = c.dims) (kv : Key × Val) (hkv : kv ∈ s) (hidx : c.index < kv.1.index) :
    Writer.appendItem c s id vec = .error .invalidAppend := by
  apply ((C19_append c s hs id vec hl).1).2
  refine ⟨kv, hkv, ?_⟩
  rw [Key.le_iff]; left
  rw [Key.lt_iff]; left; exact hidx

/-- **deleting an absent item** reports `false` and returns the same store -/
theorem C19_del_absent (c : Cfg) (s : Store) (id : Nat) (h : Writer.containsItem c s id = false) :
    Writer.delItem c s id = (s, false) ∧ ∀ k, Store.get (Writer.delItem c s id).1 k = Store.get s k := by
  have hg : Store.get s (c.itemKey id) = none := (Store.contains_eq_false_iff s _).1 h
  rw [Writer.delItem_absent hg]
  exact ⟨rfl, fun _ => rfl⟩

/-- `del_item` reports `false` only for an absent item -/
theorem C19_del_false_iff (c : Cfg) (s : Store) (id : Nat) :
    (Writer.delItem c s id).2 = false ↔ Writer.containsItem c s id = false := by
  rw [Writer.delItem_snd]; rfl

/-- none of the rejected calls / absent deletes changes `need_build` (of any index): the store is the same one, by
    construction of `after` and by `C19_del_absent` -/
theorem C19_needBuild_unchanged (c c' : Cfg) (s : Store) (id : Nat) (vec : List Nat) :
    (vec.length ≠ c.dims → Writer.needBuild c' (after s (Writer.addItem c s id vec)) = Writer.needBuild c' s) ∧
    (∀ e, Writer.appendItem c s id vec = .error e →
      Writer.needBuild c' (after s (Writer.appendItem c s id vec)) = Writer.needBuild c' s) ∧
    (Writer.containsItem c s id = false →
      Writer.needBuild c' (Writer.delItem c s id).1 = Writer.needBuild c' s) := by
  refine ⟨fun h => ?_, fun e h => ?_, fun h => ?_⟩
  · rw [(C19_dim_add c s id vec h).2]
  · rw [C19_append_rejected c s id vec e h]
  · rw [(C19_del_absent c s id h).1]

/-! ## non-vacuity -/

def c0 : Cfg := { index := 7, metric := .euclidean, dims := 2 }
def s0 : Store := [(⟨7, 3, 4⟩, .leaf [0] [1, 2]), (⟨8, 0, 0⟩, .unit)]

example : Store.Sorted s0 := by simp [s0, Store.Sorted, Key.lt]
example : ([1] : List Nat).length ≠ c0.dims := by decide
example : ([1, 2] : List Nat).length = c0.dims ∧ (∃ kv ∈ s0, (c0.itemKey 9).le kv.1 = true) :=
  ⟨rfl, (⟨8, 0, 0⟩, .unit), by simp [s0], by decide⟩
example : Writer.appendItem c0 s0 9 [1, 2] = .error .invalidAppend := rfl
example : ∃ s', Writer.appendItem c0 [(⟨7, 3, 4⟩, .leaf [0] [1, 2])] 9 [1, 2] = .ok s' := ⟨_, rfl⟩
example : Writer.containsItem c0 s0 5 = false := by decide

end Arroy.C19
