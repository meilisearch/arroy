import ArroyProofs.Properties.C19
import ArroyProofs.Properties.C06History
import ArroyProofs.Properties.C05History
/-! # C19 over histories — which calls are refused, with which error, and that a refused call changes nothing

`C19.lean` states the rule on ONE store.  Here it is stated on the stores a history can reach
(`C01.Op`, `C01.run`; `C06.accepted` says whether the model accepts an operation in a store):

* `C19_append_accepted_iff` : after a well-formed history an `append` is accepted iff the vector has the
  dimension of its `Cfg` and EVERY key of the database (all indexes, all kinds of entries) sorts strictly
  before the new item key (`Key.lt`); and then the step is exactly the step of the `add`.
* `C19_rejected_add` / `C19_rejected_append` / `C19_rejected_del` : which calls are refused and what the
  model returns: wrong length → `Err.invalidDim c.dims v.length` (add and append; for append whatever the
  keys: the length is checked first), right length but some key `≥` the new key → `Err.invalidAppend`,
  delete of an absent id → `false` with the very same store.
* `C19_rejected_history` : a refused operation (any `Op` that `C06.accepted` rejects) leaves `run` as it
  was, hence — for every index and every `Cfg` — `C06.status`, `C05.spec`, `Reader.open`,
  `Writer.needBuild` and every read (`item_vector`, `contains_item`, `iter`, `is_empty`, the queries by vector
  and by item on any reader state, and any other function of the store).
* `C19_query_dim_history` : a query by vector on a reader opened after a well-formed history fails with
  `Err.invalidDim d v.length` when the length is not the dimension `d` recorded by the last build. -/
namespace Arroy.C19
open Arroy Generated C01

theorem run_sorted (ops : List Op) (hops : ∀ op ∈ ops, op.wf) : Store.Sorted (run ops) :=
  (C01_invariant ops hops ⟨0, .euclidean, 0, {}⟩ (by decide)).sorted

theorem run_wf (ops : List Op) (hops : ∀ op ∈ ops, op.wf) : Store.WF (run ops) :=
  (C01_invariant ops hops ⟨0, .euclidean, 0, {}⟩ (by decide)).wf

theorem accepted_append_iff {s : Store} (hs : Store.Sorted s) (c : Cfg) (id : Nat) (v : List Nat) :
    C06.accepted s (.append c id v) = true ↔
      v.length = c.dims ∧ ∀ kv ∈ s, kv.1.lt (c.itemKey id) = true := by
  show C06.okB (Writer.appendItem c s id v) = true ↔ _
  constructor
  · intro h
    by_cases hl : v.length = c.dims
    · refine ⟨hl, ?_⟩
      cases hp : s.putAppend (c.itemKey id) (c.mkLeaf v) with
      | none => rw [Writer.appendItem_none hl hp] at h; cases h
      | some s1 => exact (Store.putAppend_isSome_iff hs _ _).1 ⟨s1, hp⟩
    · rw [Writer.appendItem_err_dim s id hl] at h; cases h
  · intro ⟨hl, hall⟩
    obtain ⟨s1, hp⟩ := (Store.putAppend_isSome_iff hs (c.itemKey id) (c.mkLeaf v)).2 hall
    rw [Writer.appendItem_some hl hp]; rfl

/-- **C19, append over histories.**  After a well-formed history `ops`, `append_item(id, v)` on the index
opened as `c` is accepted **iff** `v` has `c.dims` components and every key already in the database — of
ANY index, items, tree nodes, updated marks, metadata and version entries alike — sorts strictly before
the key of the new item; and when it is accepted the resulting store is exactly the one `add_item(id, v)`
produces (so everything proved about accepted adds — `C05_overwrite_last_wins`, the staleness rules of
`C06History` — holds for the append: `C05_overwrite_last_wins_append`). -/
theorem C19_append_accepted_iff (ops : List Op) (hops : ∀ op ∈ ops, op.wf) (c : Cfg) (id : Nat) (v : List Nat) :
    (C06.accepted (run ops) (.append c id v) = true ↔
      v.length = c.dims ∧ ∀ kv ∈ run ops, kv.1.lt (c.itemKey id) = true) ∧
    (C06.accepted (run ops) (.append c id v) = true →
      step (run ops) (.append c id v) = step (run ops) (.add c id v) ∧
      C06.accepted (run ops) (.add c id v) = true ∧
      run (ops ++ [.append c id v]) = run (ops ++ [.add c id v])) := by
  have hs := run_sorted ops hops
  refine ⟨accepted_append_iff hs c id v, fun h => ?_⟩
  obtain ⟨hl, hall⟩ := (accepted_append_iff hs c id v).1 h
  have hstep := C06.step_append_of_accepted hs h
  refine ⟨hstep, ?_, by rw [C01.run_snoc, C01.run_snoc, hstep]⟩
  show C06.okB (Writer.addItem c (run ops) id v) = true
  rw [Writer.addItem_of_len _ id hl]; rfl

/-! ## which calls are refused, and what the model returns -/

/-- **a refused add**: `add_item` is refused exactly for a wrong length (in any store, after any history),
and the model returns the dimension error carrying the expected and the received length -/
theorem C19_rejected_add (s : Store) (c : Cfg) (id : Nat) (v : List Nat) :
    (C06.accepted s (.add c id v) = false ↔ v.length ≠ c.dims) ∧
    (C06.accepted s (.add c id v) = false →
      Writer.addItem c s id v = .error (.invalidDim c.dims v.length)) := by
  have key : C06.accepted s (.add c id v) = false ↔ v.length ≠ c.dims := by
    show C06.okB (Writer.addItem c s id v) = false ↔ _
    constructor
    · intro h hl
      rw [Writer.addItem_of_len s id hl] at h; cases h
    · intro hl
      rw [Writer.addItem_err s id hl]; rfl
  exact ⟨key, fun h => Writer.addItem_err s id (key.1 h)⟩

/-- **a refused append** (after a well-formed history): refused exactly when the length is wrong — then the
error is the dimension error, whatever the keys of the database — or the length is right and some key
of the database is `≥` the new item key (equivalently: NOT every key sorts before it) — then the error is
`Err.invalidAppend`.  No other error is possible. -/
theorem C19_rejected_append (ops : List Op) (hops : ∀ op ∈ ops, op.wf) (c : Cfg) (id : Nat) (v : List Nat) :
    (C06.accepted (run ops) (.append c id v) = false ↔
      v.length ≠ c.dims ∨ ∃ kv ∈ run ops, (c.itemKey id).le kv.1 = true) ∧
    (v.length ≠ c.dims → Writer.appendItem c (run ops) id v = .error (.invalidDim c.dims v.length)) ∧
    (v.length = c.dims → C06.accepted (run ops) (.append c id v) = false →
      Writer.appendItem c (run ops) id v = .error .invalidAppend ∧
      (∃ kv ∈ run ops, (c.itemKey id).le kv.1 = true) ∧
      ¬ (∀ kv ∈ run ops, kv.1.lt (c.itemKey id) = true)) := by
  have hs := run_sorted ops hops
  have hiff := accepted_append_iff hs c id v
  have hright : v.length = c.dims → C06.accepted (run ops) (.append c id v) = false →
      Writer.appendItem c (run ops) id v = .error .invalidAppend ∧
      (∃ kv ∈ run ops, (c.itemKey id).le kv.1 = true) ∧
      ¬ (∀ kv ∈ run ops, kv.1.lt (c.itemKey id) = true) := by
    intro hl h
    have hnall : ¬ (∀ kv ∈ run ops, kv.1.lt (c.itemKey id) = true) := by
      intro hall
      rw [hiff.2 ⟨hl, hall⟩] at h; cases h
    have h' : C06.okB (Writer.appendItem c (run ops) id v) = false := h
    cases hp : (run ops).putAppend (c.itemKey id) (c.mkLeaf v) with
    | some s1 => rw [Writer.appendItem_some hl hp] at h'; cases h'
    | none =>
      exact ⟨Writer.appendItem_none hl hp, (Store.putAppend_eq_none_iff hs _ _).1 hp, hnall⟩
  refine ⟨?_, fun hl => Writer.appendItem_err_dim _ id hl, hright⟩
  constructor
  · intro h
    by_cases hl : v.length = c.dims
    · exact Or.inr (hright hl h).2.1
    · exact Or.inl hl
  · intro h
    cases ha : C06.accepted (run ops) (.append c id v) with
    | false => rfl
    | true =>
      obtain ⟨hl, hall⟩ := hiff.1 ha
      rcases h with h | ⟨kv, hkv, hle⟩
      · exact absurd hl h
      · have := hall kv hkv
        unfold Key.le at hle
        rw [this] at hle; cases hle

/-- **a refused delete**: `del_item` is "refused" (not effective) exactly for an id that is not stored in
the index; it reports `false` and returns the very same store -/
theorem C19_rejected_del (s : Store) (c : Cfg) (id : Nat) :
    (C06.accepted s (.del c id) = false ↔ Writer.containsItem c s id = false) ∧
    (C06.accepted s (.del c id) = false → Writer.delItem c s id = (s, false)) := by
  have key : C06.accepted s (.del c id) = false ↔ Writer.containsItem c s id = false :=
    C19_del_false_iff c s id
  exact ⟨key, fun h => (C19_del_absent c s id (key.1 h)).1⟩

/-! ## a refused call changes nothing -/

/-- **C19 over histories: a refused operation changes nothing.**  `op` any operation that the model does
not accept after the history `ops` — an add or append refused for its length, an append refused because
its key is not the greatest, a delete of an absent id (also: a failed build, a `prepare` to the same
metric).  Then the store after `ops ++ [op]` IS the store after `ops`; consequently, for every index `i`
and every `Cfg` `c'` (of any index, metric, dimension): the staleness status, the abstract item map,
`Reader.open`, `Writer.needBuild` (the index does not start to demand a build), every read of the writer,
every query on every reader state, and any other function of the store, are unchanged.
(No well-formedness of the history is needed.) -/
theorem C19_rejected_history (ops : List Op) (op : Op) (h : C06.accepted (run ops) op = false) :
    run (ops ++ [op]) = run ops ∧
    (∀ i, C06.status i (ops ++ [op]) = C06.status i ops) ∧
    (∀ i, C05.spec i (ops ++ [op]) = C05.spec i ops) ∧
    (∀ c' : Cfg,
      Reader.open c' (run (ops ++ [op])) = Reader.open c' (run ops) ∧
      Writer.needBuild c' (run (ops ++ [op])) = Writer.needBuild c' (run ops) ∧
      (∀ id, Writer.itemVector c' (run (ops ++ [op])) id = Writer.itemVector c' (run ops) id) ∧
      (∀ id, Writer.containsItem c' (run (ops ++ [op])) id = Writer.containsItem c' (run ops) id) ∧
      Writer.iter c' (run (ops ++ [op])) = Writer.iter c' (run ops) ∧
      Writer.isEmpty c' (run (ops ++ [op])) = Writer.isEmpty c' (run ops) ∧
      (∀ rd vec q, Reader.byVector c' (run (ops ++ [op])) rd vec q = Reader.byVector c' (run ops) rd vec q) ∧
      (∀ rd id q, Reader.byItem c' (run (ops ++ [op])) rd id q = Reader.byItem c' (run ops) rd id q)) ∧
    (∀ {α : Type} (f : Store → α), f (run (ops ++ [op])) = f (run ops)) := by
  obtain ⟨hrun, hst⟩ := C06.C06_noop_history_all ops op h
  refine ⟨hrun, hst, fun i => ?_, fun c' => ?_, fun f => by rw [hrun]⟩
  · exact C05.spec_snoc_not ((C06.effective_false_iff i (run ops) op).2 (Or.inr h))
  · rw [hrun]
    exact ⟨rfl, rfl, fun _ => rfl, fun _ => rfl, rfl, rfl, fun _ _ _ => rfl, fun _ _ _ => rfl⟩

/-- the three refused item calls in one statement: what is returned, and that nothing changed -/
theorem C19_rejected_item_calls (ops : List Op) (hops : ∀ op ∈ ops, op.wf) (c : Cfg) (id : Nat) (v : List Nat) :
    (v.length ≠ c.dims →
      Writer.addItem c (run ops) id v = .error (.invalidDim c.dims v.length) ∧
      Writer.appendItem c (run ops) id v = .error (.invalidDim c.dims v.length) ∧
      run (ops ++ [.add c id v]) = run ops ∧ run (ops ++ [.append c id v]) = run ops) ∧
    (v.length = c.dims → (∃ kv ∈ run ops, (c.itemKey id).le kv.1 = true) →
      Writer.appendItem c (run ops) id v = .error .invalidAppend ∧ run (ops ++ [.append c id v]) = run ops) ∧
    (Writer.containsItem c (run ops) id = false →
      Writer.delItem c (run ops) id = (run ops, false) ∧ run (ops ++ [.del c id]) = run ops) := by
  refine ⟨fun hl => ?_, fun hl hk => ?_, fun hc => ?_⟩
  · have ha := (C19_rejected_add (run ops) c id v).1.2 hl
    have hp := (C19_rejected_append ops hops c id v).1.2 (Or.inl hl)
    exact ⟨Writer.addItem_err _ id hl, Writer.appendItem_err_dim _ id hl,
      (C19_rejected_history ops _ ha).1, (C19_rejected_history ops _ hp).1⟩
  · have hp := (C19_rejected_append ops hops c id v).1.2 (Or.inr hk)
    exact ⟨((C19_rejected_append ops hops c id v).2.2 hl hp).1, (C19_rejected_history ops _ hp).1⟩
  · have hd := (C19_rejected_del (run ops) c id).1.2 hc
    exact ⟨(C19_rejected_del (run ops) c id).2 hd, (C19_rejected_history ops _ hd).1⟩

/-- **a query by vector with a wrong length, on a reader opened after a well-formed history**: the reader
opened with `c` carries the dimension `d` of the last successful build of the index (`C06.status`), and a
query whose vector does not have `d` components fails with `Err.invalidDim d v.length` (nothing is
written by a query). -/
theorem C19_query_dim_history (ops : List Op) (hops : ∀ op ∈ ops, op.wf) (c : Cfg) (hi : c.index < 65536)
    (rd : ReaderState) (ho : Reader.open c (run ops) = .ok rd) (vec : List Nat) (q : QueryOpts)
    (h : vec.length ≠ rd.dims) :
    C06.status c.index ops = .built c.metric rd.dims rd.items false ∧
    Reader.byVector c (run ops) rd vec q = .error (.invalidDim rd.dims vec.length) :=
  ⟨((C06.C06_history ops hops c hi).2.2.2.1 rd.dims rd.items).1 ⟨rd.roots, ho⟩,
    C19_dim_query c (run ops) rd vec q h⟩

/-! ## non-vacuity: the histories of `C06History` (index 0: Euclidean, dimension 2; index 1 beside it) -/
namespace Ex
open C01.Ex C06.Ex

/-- after the rebuild every key of the database is below the item key `7` of index 0: the append is
accepted, and it is the add -/
example : C06.accepted (run hRebuilt) (.append cEx 7 [f1, f1]) = true ∧
    (∀ kv ∈ run hRebuilt, kv.1.lt (cEx.itemKey 7) = true) ∧
    step (run hRebuilt) (.append cEx 7 [f1, f1]) = step (run hRebuilt) (.add cEx 7 [f1, f1]) := by
  have h : C06.accepted (run hRebuilt) (.append cEx 7 [f1, f1]) = true := effects.2.2.2.2.2.2.1
  have hh := C19_append_accepted_iff hRebuilt hRebuilt_wf cEx 7 [f1, f1]
  exact ⟨h, (hh.1.1 h).2, (hh.2 h).1⟩

/-- well-formedness of `hRebuilt` followed by a write to index 1 -/
theorem hOther1_wf : ∀ op ∈ hRebuilt ++ [.add c1 0 [f1, f1]], op.wf := fun op h => hChanged_wf op (by
  simp only [hChanged, hOther, List.mem_append, List.mem_cons, List.not_mem_nil, or_false] at h ⊢
  rcases h with h | h
  · exact Or.inl (Or.inl h)
  · exact Or.inl (Or.inr (Or.inl h)))

/-- once an item of index 1 is stored, the same append is refused with `InvalidAppend`: the right length,
but a key (of ANOTHER index) that is not below the new one -/
example : C06.accepted (run (hRebuilt ++ [.add c1 0 [f1, f1]])) (.append cEx 7 [f1, f1]) = false ∧
    Writer.appendItem cEx (run (hRebuilt ++ [.add c1 0 [f1, f1]])) 7 [f1, f1] = .error .invalidAppend ∧
    run (hRebuilt ++ [.add c1 0 [f1, f1]] ++ [.append cEx 7 [f1, f1]]) = run (hRebuilt ++ [.add c1 0 [f1, f1]]) := by
  have h : C06.accepted (run (hRebuilt ++ [.add c1 0 [f1, f1]])) (.append cEx 7 [f1, f1]) = false :=
    effects.2.2.2.2.2.1
  exact ⟨h, ((C19_rejected_append _ hOther1_wf cEx 7 [f1, f1]).2.2 rfl h).1,
    (C19_rejected_history _ _ h).1⟩

/-- wrong length: add and append of a 1-component vector to the 2-dimensional index -/
example : Writer.addItem cEx (run hBuilt) 7 [f1] = .error (.invalidDim 2 1) ∧
    Writer.appendItem cEx (run hBuilt) 7 [f1] = .error (.invalidDim 2 1) ∧
    C06.status 0 (hBuilt ++ [.add cEx 7 [f1]]) = C06.status 0 hBuilt ∧
    Reader.open cEx (run (hBuilt ++ [.add cEx 7 [f1]])) = Reader.open cEx (run hBuilt) :=
  ⟨(C19_rejected_add _ cEx 7 [f1]).2 ((C19_rejected_add _ cEx 7 [f1]).1.2 (by decide)),
   Writer.appendItem_err_dim _ 7 (by decide),
   (C19_rejected_history hBuilt _ ((C19_rejected_add _ cEx 7 [f1]).1.2 (by decide))).2.1 0,
   ((C19_rejected_history hBuilt _ ((C19_rejected_add _ cEx 7 [f1]).1.2 (by decide))).2.2.2.1 cEx).1⟩

/-- the absent delete -/
example : Writer.containsItem cEx (run hBuilt) 9 = false ∧
    C06.accepted (run hBuilt) (.del cEx 9) = false := by
  have h := del9_rejected
  exact ⟨(C19_rejected_del _ cEx 9).1.1 h, h⟩

/-- … and the index does not start to demand a build: it was clean after the build and stays clean -/
example : Writer.needBuild cEx (run (hBuilt ++ [.del cEx 9])) = Writer.needBuild cEx (run hBuilt) ∧
    C06.status 0 (hBuilt ++ [.del cEx 9]) = .built .euclidean 2 [0, 1, 2, 3, 4] false := by
  have h := del9_rejected
  have hh := C19_rejected_history hBuilt _ h
  exact ⟨(hh.2.2.2.1 cEx).2.1, by rw [hh.2.1 0]; exact statuses.1⟩

/-- `C19_query_dim_history`: the reader opens after the rebuild with dimension 2; a 3-component query is refused -/
example : ∃ rd, Reader.open cEx (run hRebuilt) = .ok rd ∧ rd.dims = 2 ∧
    Reader.byVector cEx (run hRebuilt) rd [f1, f1, f1] { count := 1 } = .error (.invalidDim 2 3) := by
  have hs : C06.status cEx.index hRebuilt = .built .euclidean 2 [0, 1, 2, 3, 4] false := statuses.2.2.2.2.1
  obtain ⟨roots, ho⟩ := ((C06.C06_history hRebuilt hRebuilt_wf cEx (by decide)).2.2.2.1 2 [0, 1, 2, 3, 4]).2 hs
  exact ⟨_, ho, rfl, (C19_query_dim_history hRebuilt hRebuilt_wf cEx (by decide) _ ho [f1, f1, f1] { count := 1 }
    (show ([f1, f1, f1] : List Nat).length ≠ 2 by decide)).2⟩

end Ex

end Arroy.C19
