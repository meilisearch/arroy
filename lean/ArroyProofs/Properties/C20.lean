import ArroyProofs.Imbalance
import ArroyProofs.NoFuel
import ArroyProofs.Properties.C03
import ArroyProofs.Properties.C05
/-! C20 — degenerate data never breaks a build or a search.

"No theorem of this development has a hypothesis on the stored values" is a statement about the
development, not a statement of Lean.  What is proved instead are the concrete totality facts it rests on:
every value-dependent decision of the build (`D::side`, the imbalance tests, `is_zero`) and of the search
(the distance order) is a total function of arbitrary bit patterns — NaN, infinities, zeros, duplicates —
and the storage and search theorems are restated here with their (value-free) hypotheses spelled out.

`Metric.isZero`, `splitImbalance`, `Build.targetNTrees`, `Build.sideOf`, `F32.ordLt` … are Lean functions
into `Bool` / `Nat` / `Option`: they are total by construction (Lean has no partial functions and the model
uses no `partial def`), so "never panics on these inputs" needs no proof for them; what needs one is that
the `Option` / `Except` they return is never `none` / `.error` for a reason that depends on the values. -/
namespace Arroy.C20
open Arroy Generated Reader

/-! ## (a) `D::side` is total on stored leaves -/

/-- **C20 (side)**: for a stored leaf, `Build.sideOf` answers `some _` for EVERY bit pattern of the stored
vector and of the normal (NaN, infinities, zeros, subnormals, wrong lengths); a NaN margin, a zero margin
(either sign) — more generally any margin that is neither `> 0` nor `< 0` — gives `some none`: `Side::random`;
it is `none` (the `unwrap` panic) exactly when the item is not stored as a leaf -/
theorem C20_side_total (c : Cfg) (s : Store) (normal : List Nat) (x : Nat) :
    (∀ h v, Store.get s (c.itemKey x) = some (.leaf h v) →
      ∃ side, Build.sideOf c s normal x = some side ∧
        (F32.isNaN (c.metric.margin c.host v normal) = true → side = none) ∧
        (F32.eq (c.metric.margin c.host v normal) F32.zero = true → side = none) ∧
        (side = none ↔ (F32.gt (c.metric.margin c.host v normal) F32.zero = false ∧
                        F32.lt (c.metric.margin c.host v normal) F32.zero = false))) ∧
    (Build.sideOf c s normal x = none ↔ ¬ ∃ h v, Store.get s (c.itemKey x) = some (.leaf h v)) := by
  constructor
  · intro h v hx
    have hl : Writer.itemLeaf c s x = some (h, v) := by unfold Writer.itemLeaf; rw [hx]
    unfold Build.sideOf
    rw [hl]
    dsimp only
    generalize c.metric.margin c.host v normal = mg
    refine ⟨_, rfl, ?_, ?_, ?_⟩
    · intro hn
      have h1 : F32.gt mg F32.zero = false := F32.lt_nan_right hn
      have h2 : F32.lt mg F32.zero = false := F32.lt_nan_left hn
      simp [h1, h2]
    · intro he
      unfold F32.eq SF.eq SF.le at he
      simp only [Bool.and_eq_true, Bool.not_eq_true'] at he
      have h1 : F32.gt mg F32.zero = false := he.1.2
      have h2 : F32.lt mg F32.zero = false := he.2.2
      simp [h1, h2]
    · cases h1 : F32.gt mg F32.zero <;> cases h2 : F32.lt mg F32.zero <;> simp
  · unfold Build.sideOf Writer.itemLeaf
    constructor
    · intro hn
      rintro ⟨h, v, hx⟩
      rw [hx] at hn
      cases hn
    · intro hn
      split
      · rfl
      · rename_i h v heq
        exfalso
        apply hn
        split at heq
        · rename_i h' v' hg; exact ⟨h', v', hg⟩
        · cases heq

/-- **C20 (splitting)**: splitting any list of stored items against ANY normal never fails, provided the
oracle holds one random bit per item (each undecided item draws one) -/
theorem C20_sideSplit_total (c : Cfg) (o : BuildOpts) (s : Store) (n : List Nat) (xs : List Nat) (rs : List Bool)
    (hst : ∀ x ∈ xs, ∃ h v, Store.get s (c.itemKey x) = some (.leaf h v)) (hrs : xs.length ≤ rs.length) :
    ∃ l r rs', sideSplit (Build.treeCtx c o s) n xs rs = .ok (l, r, rs') ∧ rs.length ≤ rs'.length + xs.length := by
  induction xs generalizing rs with
  | nil => exact ⟨[], [], rs, rfl, by simp⟩
  | cons x xs ih =>
    obtain ⟨h, v, hx⟩ := hst x (by simp)
    obtain ⟨side, hs, _⟩ := (C20_side_total c s n x).1 h v hx
    have hside : (Build.treeCtx c o s).side n x = some side := hs
    have hst' : ∀ y ∈ xs, ∃ h v, Store.get s (c.itemKey y) = some (.leaf h v) :=
      fun y hy => hst y (List.mem_cons_of_mem _ hy)
    simp only [List.length_cons] at hrs
    unfold sideSplit
    rw [hside]
    cases side with
    | some right =>
      obtain ⟨l, r, rs', e, hl⟩ := ih rs hst' (by omega)
      simp only [e]
      cases right
      · exact ⟨_, _, _, rfl, by simp only [List.length_cons]; omega⟩
      · exact ⟨_, _, _, rfl, by simp only [List.length_cons]; omega⟩
    | none =>
      cases rs with
      | nil => simp at hrs
      | cons b rs1 =>
        simp only [List.length_cons] at hrs
        obtain ⟨l, r, rs', e, hl⟩ := ih rs1 hst' (by omega)
        simp only [e]
        cases b
        · exact ⟨_, _, _, rfl, by simp only [List.length_cons]; omega⟩
        · exact ⟨_, _, _, rfl, by simp only [List.length_cons]; omega⟩

/-! ## (b) search: total and well-formed for any query bits -/

/-- **C20 (search is total)**: on a valid forest `nns_by_leaf` never errors, for any query header and vector
bits (NaN, infinities, any length), any stored values, and any options -/
theorem C20_search_total {c : Cfg} {s : Store} {rd : ReaderState} (F : ForestOK c s rd) (qh qv : List Nat)
    (q : QueryOpts) :
    ∃ ans, nnsByLeaf c s rd qh qv q = .ok ans ∧ ∀ p ∈ ans, p.1 ∈ rd.items :=
  C03.C03_total F qh qv q

/-- **C20 (search is well-formed)**: the clauses of `C03_wellformed`, which has no hypothesis on any value -/
theorem C20_search_wellformed (c : Cfg) (s : Store) (rd : ReaderState) (qh qv : List Nat) (q : QueryOpts)
    (ans : List (Nat × Nat)) (h : nnsByLeaf c s rd qh qv q = .ok ans) :
    ans.length ≤ q.count ∧
    (ans.map (·.1)).Nodup ∧
    (∀ p ∈ ans, IsLeaf c s p.1 ∧ inCandidates q p.1 = true ∧
      p.2 = c.metric.normalizedDistance (scoreOf c s qh qv p.1) rd.dims) ∧
    (ans.map fun p => (scoreOf c s qh qv p.1, p.1)).Pairwise (fun a b => scoreLe a b = true) :=
  C03.C03_wellformed c s rd qh qv q ans h

/-- both together: on a valid forest every query has a well-formed answer -/
theorem C20_search (c : Cfg) (s : Store) (rd : ReaderState) (F : ForestOK c s rd) (qh qv : List Nat) (q : QueryOpts) :
    ∃ ans, nnsByLeaf c s rd qh qv q = .ok ans ∧ ans.length ≤ q.count ∧ (ans.map (·.1)).Nodup ∧
      (∀ p ∈ ans, p.1 ∈ rd.items ∧ inCandidates q p.1 = true) ∧
      (ans.map fun p => (scoreOf c s qh qv p.1, p.1)).Pairwise (fun a b => scoreLe a b = true) := by
  obtain ⟨ans, h, hm⟩ := C20_search_total F qh qv q
  obtain ⟨h1, h2, h3, h4⟩ := C20_search_wellformed c s rd qh qv q ans h
  exact ⟨ans, h, h1, h2, fun p hp => ⟨hm p hp, (h3 p hp).2.1⟩, h4⟩

/-! ## (c) the order used for sorting is total on all bit patterns -/

/-- **C20 (order)**: `OrderedFloat<f32>` as modelled (`F32.ordLt` / `F32.ordEq`) is a strict weak order on ALL
bit patterns: irreflexive, transitive, total up to `ordEq`, `ordEq` an equivalence compatible with `ordLt`; all
NaNs are one class above everything else.  Hence `scoreLe` (score, then id) is reflexive, transitive and total
and `mergeSort scoreLe` sorts NaN-ridden score lists deterministically. -/
theorem C20_order_total :
    F32.OrdAx ∧
    (∀ a b, F32.isNaN a = false → F32.isNaN b = true → F32.ordLt a b = true) ∧
    (∀ a b, F32.isNaN a = true → F32.isNaN b = true → F32.ordEq a b = true) ∧
    (∀ a, scoreLe a a = true) ∧
    (∀ a b c, scoreLe a b = true → scoreLe b c = true → scoreLe a c = true) ∧
    (∀ a b, (scoreLe a b || scoreLe b a) = true) :=
  ⟨F32.ordAx, fun _ _ => F32.ordLt_nan, fun _ _ => F32.ordEq_nan, scoreLe_refl, scoreLe_trans, scoreLe_total⟩

/-! ## (d) the item store does not look at the values -/

/-- **C20 (storage)**: for the `f32` metrics the vector read back after `add_item` is the written one bit for
bit, whatever the bits are (NaN payloads, infinities, signed zeros, subnormals): `C05_readback_f32`, which has
no hypothesis on `vec` beyond the one `add_item` itself checks (its length) -/
theorem C20_readback_any_bits (c : Cfg) (s s' : Store) (id : Nat) (vec : List Nat)
    (hm : c.metric.isBq = false) (h : Writer.addItem c s id vec = .ok s') :
    Writer.itemVector c s' id = some vec :=
  C05.C05_readback_f32 c s s' id vec hm h

/-- `add_item` succeeds for every vector of the right length: no bit pattern is rejected -/
theorem C20_add_any_bits (c : Cfg) (s : Store) (id : Nat) (vec : List Nat) :
    (∃ s', Writer.addItem c s id vec = .ok s') ↔ vec.length = c.dims :=
  C05.C05_add_ok_iff c s id vec

/-! ## (e) the imbalance tests -/

/-- **C20 (imbalance, decidability)**: both tests of `make_tree_in_file` on the imbalance are Boolean
functions of the two counts: whatever `splitImbalance` returns (were it NaN), each test has a definite answer,
and a `false` answer to both keeps the computed split: no input can make the attempt loop diverge (it is
bounded by `splitAttempts`) -/
theorem C20_imbalance_bounds (l r : Nat) :
    (F64.lt (splitImbalance l r) (F64.ofRat imbalanceRetry) = true ∨
      F64.lt (splitImbalance l r) (F64.ofRat imbalanceRetry) = false) ∧
    (F64.gt (splitImbalance l r) (F64.ofRat imbalanceRandom) = true ∨
      F64.gt (splitImbalance l r) (F64.ofRat imbalanceRandom) = false) := by
  constructor
  · cases F64.lt (splitImbalance l r) (F64.ofRat imbalanceRetry) <;> simp
  · cases F64.gt (splitImbalance l r) (F64.ofRat imbalanceRandom) <;> simp

/-- **C20 (an empty side triggers the random split)**: for every `1 ≤ n < 2^53`, the imbalance of a split
`(n, 0)` or `(0, n)` — all items on one side: duplicates, all-zero vectors, NaN margins with one-sided random
bits — is above 0.99 and not below 0.95: `make_tree_in_file` retries, then falls back to
`randomly_split_children` -/
theorem C20_empty_side_random (n : Nat) (h1 : 1 ≤ n) (hn : n < 2^53) :
    F64.gt (splitImbalance n 0) (F64.ofRat imbalanceRandom) = true ∧
    F64.gt (splitImbalance 0 n) (F64.ofRat imbalanceRandom) = true ∧
    F64.lt (splitImbalance n 0) (F64.ofRat imbalanceRetry) = false ∧
    F64.lt (splitImbalance 0 n) (F64.ofRat imbalanceRetry) = false :=
  splitImbalance_empty_side n h1 hn

/-- a table for the other end: balanced and nearly balanced splits are accepted at once (not NaN, `< 0.95`),
the thresholds sit where the code says (19:1 is retried, 99:1 is kept, 100:1 goes random) -/
theorem C20_imbalance_table :
    (∀ p ∈ [(1, 1), (2, 1), (1, 2), (3, 2), (10, 1), (1, 10), (18, 1), (100, 100), (2^32, 2^32), (2^52, 2^52 - 1)],
      F64.lt (splitImbalance p.1 p.2) (F64.ofRat imbalanceRetry) = true) ∧
    F64.lt (splitImbalance 19 1) (F64.ofRat imbalanceRetry) = false ∧
    F64.gt (splitImbalance 19 1) (F64.ofRat imbalanceRandom) = false ∧
    F64.gt (splitImbalance 99 1) (F64.ofRat imbalanceRandom) = false ∧
    F64.gt (splitImbalance 100 1) (F64.ofRat imbalanceRandom) = true ∧
    F64.gt (splitImbalance 1 100) (F64.ofRat imbalanceRandom) = true := by
  decide +kernel

/-- the all-zero normal the random split stores is recognised by `is_zero` for every metric and dimension, and
`is_zero` is a Boolean function of arbitrary words -/
theorem C20_isZero_total (m : Metric) (k : Nat) (ws : List Nat) :
    m.isZero (List.replicate k 0) = true ∧ (m.isZero ws = true ∨ m.isZero ws = false) :=
  ⟨Metric.isZero_replicate_zero m k, by cases m.isZero ws <;> simp⟩

/-! ## the build: no fuel of the model is exhausted because of the values -/

/-- **C20 (bounded loops)**: with no hypothesis on the store, so for degenerate data as for any other, a fuel
error of `build` can only come from the re-split loop or from `delete_tree` -/
theorem C20_build_fuel (c : Cfg) (o : BuildOpts) (loopFuel : Nat) (st : BState) (w : String)
    (h : Build.build c o loopFuel st = .error (.fuel w)) :
    w = "incremental_index_large_descendants" ∨ w = "delete_tree" :=
  build_fuelOnly c o loopFuel st w h

/-! ## non-vacuity -/
namespace Examples

def c : Cfg := { index := 0, metric := .euclidean, dims := 2 }
def o : BuildOpts := { nTrees := some 1, splitAfter := some 2 }
def nan : Nat := 0x7fc00000
def negInf : Nat := 0xff800000

/-- three copies of the zero vector -/
def sZero : Store :=
  Store.put (Store.put (Store.put [] (c.itemKey 0) (.leaf [0] [0, 0])) (c.itemKey 1) (.leaf [0] [0, 0]))
    (c.itemKey 2) (.leaf [0] [0, 0])
/-- (NaN, 0), (+inf, -inf), (0, 0) -/
def sNaN : Store :=
  Store.put (Store.put (Store.put [] (c.itemKey 0) (.leaf [0] [nan, 0])) (c.itemKey 1) (.leaf [0] [F32.inf, negInf]))
    (c.itemKey 2) (.leaf [0] [0, 0])

def treeCells : Except Err (Unit × BState) → Option (List (Nat × Val))
  | .ok (_, st) => some ((st.store.filter fun kv => kv.1.mode == modeTree || kv.1.mode == 0).map fun kv => (kv.1.item, kv.2))
  | .error _ => none

/-- `C20_side_total`: NaN and infinite components, zero vector: every margin is undecided -/
example : Build.sideOf c sNaN [F32.one, F32.one] 0 = some none ∧ Build.sideOf c sNaN [F32.one, F32.one] 1 = some none ∧
    Build.sideOf c sNaN [F32.one, F32.one] 2 = some none ∧ Build.sideOf c sNaN [nan] 2 = some none ∧
    Build.sideOf c sNaN [F32.one, F32.one] 3 = none := by decide +kernel
example : Build.sideOf ForestExample.c ForestExample.s [F32.one, F32.zero] 1 = some (some true) := by decide +kernel

/-- a build of the three zero vectors and of the NaN / infinity data with capacity 2: every attempt puts all
three items on one side (`C20_empty_side_random`), the fourth attempt is replaced by the random split under
a zero normal, and both builds produce the same metadata and tree cells: the structure does not depend on the
values -/
theorem zeroBuild : treeCells (Build.build c o 5 { store := sZero, batches := [3], normals := List.replicate 4 [0, 0], rands := List.replicate 12 true ++ [true, false, true] }) =
    some [(0, .metadata Metric.euclidean.nameBytes 2 [0, 1, 2] [0]),
          (0, .split (NodeId.mkTree 1) (NodeId.mkItem 1) [0, 0]), (1, .desc [0, 2])] := by decide +kernel
example : treeCells (Build.build c o 5 { store := sZero, batches := [3], normals := List.replicate 4 [0, 0], rands := List.replicate 12 true ++ [true, false, true] }) =
    some [(0, .metadata Metric.euclidean.nameBytes 2 [0, 1, 2] [0]),
          (0, .split (NodeId.mkTree 1) (NodeId.mkItem 1) [0, 0]), (1, .desc [0, 2])] := zeroBuild
example : treeCells (Build.build c o 5 { store := sNaN, batches := [3], normals := List.replicate 4 [nan, F32.one], rands := List.replicate 12 true ++ [true, false, true] }) =
    treeCells (Build.build c o 5 { store := sZero, batches := [3], normals := List.replicate 4 [0, 0], rands := List.replicate 12 true ++ [true, false, true] }) := by
  rw [zeroBuild]; decide +kernel

/-- `C20_search_total` / `C20_search`: a NaN / infinite query on the valid forest of `ForestExample` -/
example (q : QueryOpts) : ∃ ans, nnsByLeaf ForestExample.c ForestExample.s ForestExample.rd [nan] [nan, F32.inf] q = .ok ans ∧
    ∀ p ∈ ans, p.1 ∈ ForestExample.rd.items :=
  C20_search_total ForestExample.forestOK _ _ q
/-- for that query all three true scores are NaN (one class of the order): the answer exists, has three
distinct ids among the items, and is sorted by `scoreLe`, i.e. by id -/
example : ([0, 1, 2].all fun id => F32.isNaN (scoreOf ForestExample.c ForestExample.s [0] [nan, F32.inf] id)) = true := by
  decide +kernel
example : ∃ ans, nnsByLeaf ForestExample.c ForestExample.s ForestExample.rd [0] [nan, F32.inf] { count := 3 } = .ok ans ∧
    ans.length ≤ 3 ∧ (ans.map (·.1)).Nodup ∧ (∀ p ∈ ans, p.1 ∈ ForestExample.rd.items ∧ inCandidates { count := 3 } p.1 = true) ∧
    (ans.map fun p => (scoreOf ForestExample.c ForestExample.s [0] [nan, F32.inf] p.1, p.1)).Pairwise
      (fun a b => scoreLe a b = true) :=
  C20_search _ _ _ ForestExample.forestOK _ _ _

/-- `C20_readback_any_bits`: a vector of NaN and -inf is accepted and read back bit for bit -/
example : Metric.euclidean.isBq = false ∧
    (Writer.addItem c [] 7 [nan, negInf]).toOption.bind (fun s' => Writer.itemVector c s' 7) = some [nan, negInf] := by
  decide +kernel

/-- `C20_sideSplit_total`: the three degenerate items against a NaN normal, three random bits -/
example : (∀ x ∈ [0, 1, 2], ∃ h v, Store.get sNaN (c.itemKey x) = some (.leaf h v)) ∧ [0, 1, 2].length ≤ [true, false, true].length :=
  ⟨by
    intro x hx
    simp only [List.mem_cons, List.not_mem_nil, or_false] at hx
    rcases hx with rfl | rfl | rfl
    · exact ⟨[0], [nan, 0], by decide⟩
    · exact ⟨[0], [F32.inf, negInf], by decide⟩
    · exact ⟨[0], [0, 0], by decide⟩, by decide⟩

end Examples

end Arroy.C20
