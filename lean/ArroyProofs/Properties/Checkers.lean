import ArroyProofs.Properties.C03
import ArroyProofs.Properties.C04
import ArroyProofs.Properties.C04Build
import ArroyProofs.Properties.C15Build
import ArroyProofs.BruteForce
import ArroyProofs.ForestUnique
import ArroyProofs.ForestBridge
import ArroyProofs.StoreFold
import ArroyProofs.Properties.C01Checker
/-! # Soundness of the executable predicates evaluated on the implementation's data

`ArroyModel/Check.lean` defines the predicates that the trace driver evaluates on the database dumps and
the query answers of the real crate. A non-empty list of messages is reported as a property failure.
This file proves, for each predicate, what an EMPTY list means (soundness), and — where it is cheap — the
converse, so that every statement is an exact characterisation of what is checked.

Places where a predicate checks LESS than the property theorem of the same number states (each with a
concrete accepted witness or an explicit extra hypothesis in the theorems below):
* `Check.wellFormed` vs `C03_wellformed`: `Store.contains` instead of `IsLeaf`
  (`CHK_wellFormed_nonleaf_accepted`); reported distance compared modulo NaN canonicalisation
  (`CHK_wellFormed_nan_accepted`). Everything else is checked exactly (`CHK_wellFormed_iff`).
* `Check.forestValid` vs `Forest` / `C01_forest`: buckets being sorted id lists (`Forest.wf`) is not checked;
  "a root when there is an item" is not checked (`CHK_forestValid_noroots_accepted`); item keys holding leaves,
  the metadata's distance name and dimension, and the absence of marks are not looked at. Only the accepting
  direction was proved before (`C01_checker_sound` is `Forest → forestValid = []`); the soundness direction is
  `CHK_forestValid_sound` / `CHK_forestValid_forest` / `CHK_forestValid_sound_unbuilt`.
* `Check.trees` drops the roots that do not reify, so `Check.capacityOk`, `Check.routed`, `Check.hasGoodTree`
  are vacuous for them and on stores without metadata (`CHK_trees_spec`, `CHK_trees_nometa`; examples on
  `sNoBucket`); `Check.forestValid = []` excludes the first case (`CHK_forestValid_roots_reify`).
* `Check.capacityOk`, `Check.routed` (`C04.C04_checker`), `Check.hasGoodTree`, `Check.bruteForce` are exact. -/
namespace Arroy.Checkers
open Arroy Generated Reader

/-- what `Check.wellFormed` checks, clause by clause -/
def WellFormedChecked (c : Cfg) (s : Store) (dims : Nat) (qh qv : List Nat) (q : QueryOpts)
    (ans : List (Nat × Nat)) : Prop :=
  ans.length ≤ q.count ∧
  (ans.map (·.1)).Nodup ∧
  (∀ p ∈ ans, (Store.get s (c.itemKey p.1)).isSome = true ∧ inCandidates q p.1 = true ∧
    Check.canonF p.2 = Check.canonF (c.metric.normalizedDistance (scoreOf c s qh qv p.1) dims)) ∧
  (ans.map fun p => (scoreOf c s qh qv p.1, p.1)).Pairwise (fun a b => scoreLe a b = true)

/-- **`Check.wellFormed` is exactly `WellFormedChecked`**: the answer has at most `count` results, the ids are
pairwise distinct, every id has an entry under its item key and is inside the candidate filter, the
reported distance is `normalizedDistance` of the true score up to the NaN canonicalisation `Check.canonF`,
and the results are ordered nearest first (`scoreLe`: score under `OrderedFloat`, ties by id) on the true
scores.

Compared with `C03.C03_wellformed` two clauses are WEAKER:
* `C03_wellformed` says every result `IsLeaf` (its item key holds a `.leaf`); the predicate only checks
  `Store.contains` (some value is stored under the item key), and scores a non-leaf entry as `0`
  (`scoreOf`); `CHK_wellFormed_sound_leaves` recovers `IsLeaf` when the item keys of the dump hold leaves;
  `CHK_wellFormed_nonleaf_accepted` is a concrete accepted answer naming a non-leaf entry;
* `C03_wellformed` says `p.2 = normalizedDistance …` on the bits; the predicate compares modulo `canonF`
  (all NaNs are identified); `CHK_wellFormed_sound_leaves` recovers the equality of bits for every
  non-NaN reported distance; `CHK_wellFormed_nan_accepted` is a concrete accepted answer with another NaN. -/
theorem CHK_wellFormed_iff (c : Cfg) (s : Store) (dims : Nat) (qh qv : List Nat) (q : QueryOpts)
    (ans : List (Nat × Nat)) :
    Check.wellFormed c s dims qh qv q ans = [] ↔ WellFormedChecked c s dims qh qv q ans :=
  wellFormed_nil_iff c s dims qh qv q ans

theorem canonF_eq_of_notNaN {a b : Nat} (h : Check.canonF a = Check.canonF b) (ha : F32.isNaN a = false) : a = b := by
  unfold Check.canonF at h
  rw [if_neg (by rw [ha]; exact Bool.false_ne_true)] at h
  by_cases hb : F32.isNaN b = true
  · rw [if_pos hb] at h
    subst h
    exact absurd ha (by decide)
  · rw [if_neg hb] at h; exact h

/-- the clauses of `C03_wellformed` themselves, when the item keys of the index hold leaves
(`C05.ItemsAreLeaves`, an invariant of every reachable store) and for the non-NaN reported distances -/
theorem CHK_wellFormed_sound_leaves (c : Cfg) (s : Store) (dims : Nat) (qh qv : List Nat) (q : QueryOpts)
    (ans : List (Nat × Nat)) (hl : C05.ItemsAreLeaves c s)
    (h : Check.wellFormed c s dims qh qv q ans = []) :
    ans.length ≤ q.count ∧
    (ans.map (·.1)).Nodup ∧
    (∀ p ∈ ans, IsLeaf c s p.1 ∧ inCandidates q p.1 = true ∧
      (F32.isNaN p.2 = false → p.2 = c.metric.normalizedDistance (scoreOf c s qh qv p.1) dims) ∧
      (F32.isNaN p.2 = true → F32.isNaN (c.metric.normalizedDistance (scoreOf c s qh qv p.1) dims) = true)) ∧
    (ans.map fun p => (scoreOf c s qh qv p.1, p.1)).Pairwise (fun a b => scoreLe a b = true) := by
  obtain ⟨h1, h2, h3, h4⟩ := (CHK_wellFormed_iff c s dims qh qv q ans).1 h
  refine ⟨h1, h2, ?_, h4⟩
  intro p hp
  obtain ⟨hs, hc, hd⟩ := h3 p hp
  refine ⟨C05.ItemsAreLeaves.leaf_of_isSome hl hs, hc, fun hn => canonF_eq_of_notNaN hd hn, ?_⟩
  intro hn
  cases hn' : F32.isNaN (c.metric.normalizedDistance (scoreOf c s qh qv p.1) dims)
  · have := canonF_eq_of_notNaN hd.symm hn'
    rw [this] at hn'; rw [hn] at hn'; cases hn'
  · rfl

/-- and conversely: an answer with the clauses of `C03_wellformed` is accepted (`Reader.wellFormed_nil`) -/
theorem CHK_wellFormed_accepts (c : Cfg) (s : Store) (dims : Nat) (qh qv : List Nat) (q : QueryOpts)
    (ans : List (Nat × Nat)) (h1 : ans.length ≤ q.count) (h2 : (ans.map (·.1)).Nodup)
    (h3 : ∀ p ∈ ans, IsLeaf c s p.1 ∧ inCandidates q p.1 = true ∧
      p.2 = c.metric.normalizedDistance (scoreOf c s qh qv p.1) dims)
    (h4 : (ans.map fun p => (scoreOf c s qh qv p.1, p.1)).Pairwise (fun a b => scoreLe a b = true)) :
    Check.wellFormed c s dims qh qv q ans = [] :=
  wellFormed_nil c s dims qh qv q ans h1 h2 h3 h4

/-- **`Check.trees` on a store with a metadata record** are the reifications of the metadata roots, in the
order of the roots: (1) the definition; (2) every tree read is held by the store, cell by cell (`Holds`),
and is rooted at a metadata root; (3) conversely a tree without a repeated node id that the store holds at a
metadata root is read; (4) when every root reifies, there is exactly one tree per root, in order.

NOTE (checks less): a root whose reification fails (missing / malformed / cyclic node) is silently DROPPED by
`Check.trees`, hence `Check.capacityOk`, `Check.routed` and `Check.hasGoodTree` say nothing about it; only
`Check.forestValid` reports it (`CHK_forestValid_roots_reify`). -/
theorem CHK_trees_spec (c : Cfg) (s : Store) (name : Bytes) (dims : Nat) (items roots : List Nat)
    (hm : Store.get s c.metaKey = some (.metadata name dims items roots)) :
    Check.trees c s = roots.filterMap (fun r => reify c s (s.length + 1) (NodeId.mkTree r)) ∧
    (∀ t ∈ Check.trees c s, Holds c s t ∧ ∃ r ∈ roots, t.ref = NodeId.mkTree r) ∧
    (∀ r ∈ roots, ∀ t, Holds c s t → t.ref = NodeId.mkTree r → t.ids.Nodup → t ∈ Check.trees c s) ∧
    ((∀ r ∈ roots, (reify c s (s.length + 1) (NodeId.mkTree r)).isSome = true) →
      (Check.trees c s).map T.ref = roots.map NodeId.mkTree) := by
  have h0 : Check.trees c s = roots.filterMap (fun r => reify c s (s.length + 1) (NodeId.mkTree r)) := by
    simp only [Check.trees, hm]
  refine ⟨h0, ?_, ?_, ?_⟩
  · intro t ht
    rw [h0] at ht
    obtain ⟨r, hr, hre⟩ := List.mem_filterMap.1 ht
    obtain ⟨hh, href⟩ := holds_of_reify c s _ _ t hre
    exact ⟨hh, r, hr, href⟩
  · intro r hr t hh href hnd
    rw [h0]
    refine List.mem_filterMap.2 ⟨r, hr, ?_⟩
    rw [← href]
    exact reify_of_holds_nodup c s t hh hnd
  · intro hall
    rw [h0]
    clear h0 hm
    induction roots with
    | nil => rfl
    | cons r rest ih =>
      have hr := hall r List.mem_cons_self
      cases hre : reify c s (s.length + 1) (NodeId.mkTree r) with
      | none => rw [hre] at hr; cases hr
      | some t =>
        simp only [List.filterMap_cons, hre, List.map_cons]
        rw [ih (fun r' hr' => hall r' (List.mem_cons_of_mem _ hr'))]
        rw [(holds_of_reify c s _ _ t hre).2]

/-- without a (decodable) metadata record `Check.trees` is empty: the tree-level predicates
(`capacityOk`, `routed`, `hasGoodTree`) are then vacuous -/
theorem CHK_trees_nometa (c : Cfg) (s : Store)
    (hm : ∀ name dims items roots, Store.get s c.metaKey ≠ some (.metadata name dims items roots)) :
    Check.trees c s = [] := by
  unfold Check.trees
  split
  · rename_i name dims items roots h; exact absurd h (hm name dims items roots)
  · rfl

/-! ## `Check.forestValid` (C01): the soundness direction

`C01.C01_checker_sound` (despite its name), `C01_checker_sound_unbuilt` and `C01_checker_accepts` all prove
the ACCEPTING direction (`Forest … → Check.forestValid c s = []`). The converse is proved here. -/

/-- an empty verdict of `Check.forestValid` on a store with a metadata record, clause by clause -/
theorem forestValid_nil (c : Cfg) (s : Store) (name : Bytes) (dims : Nat) (items roots : List Nat)
    (hm : Store.get s c.metaKey = some (.metadata name dims items roots))
    (h : Check.forestValid c s = []) :
    (∀ r ∈ roots, (reify c s (s.length + 1) (NodeId.mkTree r)).isSome = true) ∧
    ((Check.trees c s).flatMap T.ids).Nodup ∧
    IdSet.ofList ((Check.trees c s).flatMap T.ids) = s.keysOf c.index modeTree ∧
    items = s.keysOf c.index modeItem ∧
    (∀ rt ∈ List.zip roots (Check.trees c s),
      rt.2.items.Nodup ∧ IdSet.ofList rt.2.items = s.keysOf c.index modeItem) ∧
    roots.Nodup := by
  have hts : List.filterMap (fun x : Nat × Option T => x.2)
      (List.map (fun r => (r, reify c s (s.length + 1) (NodeId.mkTree r))) roots) = Check.trees c s := by
    simp only [Check.trees, hm, List.filterMap_map]; rfl
  unfold Check.forestValid at h
  simp only [hm] at h
  rcases ite_eq_nil h with ⟨hbad, hnil⟩ | ⟨hbad, h⟩
  · rw [hnil] at hbad; simp at hbad
  · simp only [Bool.not_eq_true, Bool.not_eq_false', List.isEmpty_iff] at hbad
    rw [List.filterMap_eq_nil_iff] at hbad
    rw [hts] at h
    simp only [List.append_eq_nil_iff, ite_nil_iff, List.flatMap_eq_nil_iff, CHK_nodup_iff, beq_iff_eq] at h
    obtain ⟨⟨⟨⟨h1, h2⟩, h3⟩, h4⟩, h5⟩ := h
    refine ⟨fun r hr => ?_, h1, h2, h3, h4, h5⟩
    have := hbad (r, reify c s (s.length + 1) (NodeId.mkTree r)) (List.mem_map.2 ⟨r, hr, rfl⟩)
    cases hre : reify c s (s.length + 1) (NodeId.mkTree r) with
    | none => simp [hre] at this
    | some t => rfl

/-- `Check.forestValid = []` on a store with metadata implies that every metadata root reifies, so that
(`CHK_trees_spec`, clause 4) `Check.trees` has exactly one tree per root -/
theorem CHK_forestValid_roots_reify (c : Cfg) (s : Store) (name : Bytes) (dims : Nat) (items roots : List Nat)
    (hm : Store.get s c.metaKey = some (.metadata name dims items roots))
    (h : Check.forestValid c s = []) :
    (∀ r ∈ roots, (reify c s (s.length + 1) (NodeId.mkTree r)).isSome = true) ∧
    (Check.trees c s).map T.ref = roots.map NodeId.mkTree :=
  have hall := (forestValid_nil c s name dims items roots hm h).1
  ⟨hall, (CHK_trees_spec c s name dims items roots hm).2.2.2 hall⟩

theorem mem_zip_filterMap {α β : Type} (g : α → Option β) : ∀ (l : List α),
    (∀ a ∈ l, (g a).isSome = true) → ∀ t ∈ l.filterMap g, ∃ r, (r, t) ∈ List.zip l (l.filterMap g)
  | [], _, t, ht => by cases ht
  | a :: l, h, t, ht => by
    have ha := h a List.mem_cons_self
    cases hg : g a with
    | none => rw [hg] at ha; cases ha
    | some b =>
      simp only [List.filterMap_cons, hg, List.zip_cons_cons, List.mem_cons] at ht ⊢
      rcases ht with rfl | ht
      · exact ⟨a, Or.inl rfl⟩
      · obtain ⟨r, hr⟩ := mem_zip_filterMap g l (fun a' ha' => h a' (List.mem_cons_of_mem _ ha')) t ht
        exact ⟨r, Or.inr hr⟩

theorem wf_of_buckets_sorted : ∀ (t : T), (∀ p ∈ t.buckets, IdSet.Sorted p.2) → WF t
  | .leaf _, _ => trivial
  | .bucket id its, h => h (id, its) (by simp [T.buckets])
  | .node _ _ l r, h =>
    ⟨wf_of_buckets_sorted l (fun p hp => h p (by simp [T.buckets, hp])),
     wf_of_buckets_sorted r (fun p hp => h p (by simp [T.buckets, hp]))⟩

/-- **soundness of `Check.forestValid` on a built index**: on a dump with well-formed keys and a metadata
record, an empty verdict implies every clause of the forest predicate `Forest c s roots items (Check.trees c s)`
of the C01 theorems EXCEPT `Forest.wf` (the id list of every bucket is strictly increasing), plus
`items = stored item ids` and `roots.Nodup`:
one tree per metadata root, in order; each held by the store cell by cell; no tree node shared or reached
twice; the tree keys of the index are exactly the nodes reachable from the roots; every tree reaches every
metadata item exactly once and nothing else.

NOT checked (checks less than `Forest`): that the buckets are sorted id lists (`WF`); it holds of every dump
decoded from roaring bitmaps, and is the hypothesis `DescSorted` of `CHK_forestValid_forest`. -/
theorem CHK_forestValid_sound (c : Cfg) (s : Store) (name : Bytes) (dims : Nat) (items roots : List Nat)
    (hw : Store.WF s) (hi : c.index < 65536)
    (hm : Store.get s c.metaKey = some (.metadata name dims items roots))
    (h : Check.forestValid c s = []) :
    (Check.trees c s).map T.ref = roots.map NodeId.mkTree ∧
    (∀ t ∈ Check.trees c s, Holds c s t) ∧
    ((Check.trees c s).flatMap T.ids).Nodup ∧
    (∀ id, (Store.get s (c.treeKey id)).isSome = true ↔ id ∈ (Check.trees c s).flatMap T.ids) ∧
    (∀ t ∈ Check.trees c s, t.items.Nodup) ∧
    (∀ t ∈ Check.trees c s, ∀ x, x ∈ t.items ↔ x ∈ items) ∧
    items = s.keysOf c.index modeItem ∧
    roots.Nodup := by
  obtain ⟨hall, h1, h2, h3, h4, h5⟩ := forestValid_nil c s name dims items roots hm h
  have hspec := CHK_trees_spec c s name dims items roots hm
  have h4' : ∀ t ∈ Check.trees c s, t.items.Nodup ∧ IdSet.ofList t.items = s.keysOf c.index modeItem := by
    intro t ht
    rw [hspec.1] at ht
    obtain ⟨r, hr⟩ := mem_zip_filterMap _ roots hall t ht
    rw [← hspec.1] at hr
    exact h4 (r, t) hr
  refine ⟨hspec.2.2.2 hall, fun t ht => (hspec.2.1 t ht).1, h1, ?_, fun t ht => (h4' t ht).1, ?_, h3, h5⟩
  · intro id
    rw [← IdSet.mem_ofList (l := List.flatMap T.ids (Check.trees c s)), h2,
      Store.mem_keysOf_iff hw _ _ _ hi (by decide)]
    rfl
  · intro t ht x
    rw [← IdSet.mem_ofList (l := t.items), (h4' t ht).2, h3]

/-- with sorted buckets (`DescSorted`: every `.desc` stored under a tree key is a strictly increasing list, as
a decoded roaring bitmap always is): the full predicate `Forest` of the C01 theorems, for the trees
`Check.trees c s`, and the items are the stored ones -/
theorem CHK_forestValid_forest (c : Cfg) (s : Store) (name : Bytes) (dims : Nat) (items roots : List Nat)
    (hw : Store.WF s) (hi : c.index < 65536) (hd : DescSorted c s)
    (hm : Store.get s c.metaKey = some (.metadata name dims items roots))
    (h : Check.forestValid c s = []) :
    Forest c s roots items (Check.trees c s) ∧ items = s.keysOf c.index modeItem := by
  obtain ⟨h1, h2, h3, h4, h5, h6, h7, _⟩ := CHK_forestValid_sound c s name dims items roots hw hi hm h
  refine ⟨⟨h1, h2, h3, h4, ?_, h5, h6⟩, h7⟩
  intro t ht
  apply wf_of_buckets_sorted
  intro p hp
  obtain ⟨id, its⟩ := p
  have hc := (T.desc_mem_cells_iff t id its).2 hp
  exact hd id its (h2 t ht _ hc)

/-- the reader-side forest predicate `ForestWith` (hypothesis of the C02 / C03 / C04 reader theorems) for the
reader state `⟨roots, dims, items⟩` of the metadata, from the checker's verdict and what it does NOT check:
sorted buckets (`DescSorted`), item keys holding leaves (`C05.ItemsAreLeaves`), and a root when there is an
item (`hne`, the clause `RootsNonempty` of `IndexInv`; `CHK_forestValid_noroots_accepted` is an accepted dump
without it) -/
theorem CHK_forestValid_forestWith (c : Cfg) (s : Store) (name : Bytes) (dims : Nat) (items roots : List Nat)
    (hs : Store.Sorted s) (hw : Store.WF s) (hi : c.index < 65536) (hd : DescSorted c s)
    (hl : C05.ItemsAreLeaves c s) (hne : items ≠ [] → roots ≠ [])
    (hm : Store.get s c.metaKey = some (.metadata name dims items roots))
    (h : Check.forestValid c s = []) :
    ForestWith c s ⟨roots, dims, items⟩ (Check.trees c s) := by
  obtain ⟨f, hitems⟩ := CHK_forestValid_forest c s name dims items roots hw hi hd hm h
  refine f.toForestWith dims ?_ ?_ hne
  · rw [hitems]; exact Store.keysOf_sorted hs hw _ _ hi (by decide)
  · intro x hx
    rw [hitems, Store.mem_keysOf_iff hw _ _ _ hi (by decide)] at hx
    exact C05.ItemsAreLeaves.leaf_of_isSome hl hx

/-- **soundness of `Check.forestValid` on an index without metadata**: an empty verdict means that no tree
node is stored (`Unbuilt`); and a metadata key holding anything but a metadata record is always reported -/
theorem CHK_forestValid_sound_unbuilt (c : Cfg) (s : Store) (hw : Store.WF s) (hi : c.index < 65536)
    (hm : ∀ name dims items roots, Store.get s c.metaKey ≠ some (.metadata name dims items roots))
    (h : Check.forestValid c s = []) : Unbuilt c s := by
  unfold Check.forestValid at h
  split at h
  · rename_i hnone
    refine ⟨hnone, ?_⟩
    intro id
    have hk : s.keysOf c.index modeTree = [] := by
      by_cases he : (s.keysOf c.index modeTree).isEmpty = true
      · exact List.isEmpty_iff.1 he
      · simp only [he] at h; simp at h
    cases hg : Store.get s (c.treeKey id) with
    | none => rfl
    | some v =>
      have : id ∈ s.keysOf c.index modeTree := by
        rw [Store.mem_keysOf_iff hw _ _ _ hi (by decide)]
        show (Store.get s (c.treeKey id)).isSome = true
        rw [hg]; rfl
      rw [hk] at this; cases this
  · rename_i n d i r hmeta; exact absurd hmeta (hm n d i r)
  · cases h

/-- **`Check.capacityOk` accepts exactly** the stores in which every bucket of every tree read at the metadata
roots holds at most `cap` items (`C15.capacityOk_nil_iff`) -/
theorem CHK_capacityOk_iff (c : Cfg) (s : Store) (cap : Nat) :
    Check.capacityOk c s cap = [] ↔ ∀ t ∈ Check.trees c s, ∀ bk ∈ t.buckets, bk.2.length ≤ cap :=
  C15.capacityOk_nil_iff c s cap

/-- **soundness of `Check.capacityOk`**, on the trees and on the store: every bucket of every tree of
`Check.trees c s` holds at most `cap` items; and every descendants node (`.desc`) stored under a node id of
one of these trees holds at most `cap` items.

This is the conclusion of `C15.C15_capacity` (same statement on `Check.trees`). It is vacuous for roots that
do not reify and on stores without metadata (`CHK_trees_spec`, `CHK_trees_nometa`): "every bucket OF THE
INDEX" needs `Check.forestValid = []` in addition. -/
theorem CHK_capacityOk_sound (c : Cfg) (s : Store) (cap : Nat) (h : Check.capacityOk c s cap = []) :
    (∀ t ∈ Check.trees c s, ∀ bk ∈ t.buckets, bk.2.length ≤ cap) ∧
    (∀ t ∈ Check.trees c s, ∀ id ∈ t.ids, ∀ ids, Store.get s (c.treeKey id) = some (.desc ids) →
      ids.length ≤ cap) := by
  have h1 := (CHK_capacityOk_iff c s cap).1 h
  refine ⟨h1, ?_⟩
  intro t ht id hid ids hg
  obtain ⟨r, hre⟩ := reify_of_mem_trees ht
  have hh : Holds c s t := (holds_of_reify c s _ _ t hre).1
  exact h1 t ht (id, ids) ((T.desc_mem_cells_iff t id ids).1 (hh.cell_of_get hid hg))

/-- tree `t` separates item `x` by non-degenerate planes with decisive margins only: the path that follows, at
every split node, the side `D::side` computes for `x`'s stored vector (`Build.sideOf`: `some (some true)` =
positive margin = right) only meets non-zero normals and decisive (non-zero, non-NaN) margins, and ends in the
item `x` itself or in a bucket that lists `x` -/
inductive Separates (c : Cfg) (s : Store) (x : Nat) : T → Prop
  | leaf : Separates c s x (.leaf x)
  | bucket {id : Nat} {its : List Nat} : x ∈ its → Separates c s x (.bucket id its)
  | right {id : Nat} {n : List Nat} {l r : T} : c.metric.isZero n = false →
      Build.sideOf c s n x = some (some true) → Separates c s x r → Separates c s x (.node id n l r)
  | left {id : Nat} {n : List Nat} {l r : T} : c.metric.isZero n = false →
      Build.sideOf c s n x = some (some false) → Separates c s x l → Separates c s x (.node id n l r)

/-- `Check.goodPath` decides `Separates` -/
theorem CHK_goodPath_iff (c : Cfg) (s : Store) (x : Nat) (t : T) :
    Check.goodPath c s x t = true ↔ Separates c s x t := by
  induction t with
  | leaf i =>
    simp only [Check.goodPath, beq_iff_eq]
    constructor
    · rintro rfl; exact .leaf
    · intro h; cases h; rfl
  | bucket id its =>
    simp only [Check.goodPath, List.contains_iff_mem]
    constructor
    · intro h; exact .bucket h
    · intro h; cases h; assumption
  | node id n l r ihl ihr =>
    rw [goodPath_node]
    constructor
    · rintro ⟨hz, b, hs, hb⟩
      cases b
      · exact .left hz hs (ihl.1 hb)
      · exact .right hz hs (ihr.1 hb)
    · intro h
      cases h with
      | right hz hs hr => exact ⟨hz, true, hs, ihr.2 hr⟩
      | left hz hs hl => exact ⟨hz, false, hs, ihl.2 hl⟩

/-- the same path, in terms of the margins of `x`'s stored vector `v` against the normals (argument order of
`D::side`: `margin(v, normal)`): strictly positive → right, strictly negative → left -/
inductive SeparatesV (c : Cfg) (v : List Nat) (x : Nat) : T → Prop
  | leaf : SeparatesV c v x (.leaf x)
  | bucket {id : Nat} {its : List Nat} : x ∈ its → SeparatesV c v x (.bucket id its)
  | right {id : Nat} {n : List Nat} {l r : T} : c.metric.isZero n = false →
      F32.lt F32.zero (c.metric.margin c.host v n) = true → SeparatesV c v x r → SeparatesV c v x (.node id n l r)
  | left {id : Nat} {n : List Nat} {l r : T} : c.metric.isZero n = false →
      F32.lt (c.metric.margin c.host v n) F32.zero = true → SeparatesV c v x l → SeparatesV c v x (.node id n l r)

theorem separates_iff_V (c : Cfg) (s : Store) (x : Nat) (h v : List Nat)
    (hx : Store.get s (c.itemKey x) = some (.leaf h v)) (t : T) :
    Separates c s x t ↔ SeparatesV c v x t := by
  induction t with
  | leaf i =>
    constructor
    · intro h; cases h; exact .leaf
    · intro h; cases h; exact .leaf
  | bucket id its =>
    constructor
    · intro h; cases h; exact .bucket (by assumption)
    · intro h; cases h; exact .bucket (by assumption)
  | node id n l r ihl ihr =>
    constructor
    · intro hh
      cases hh with
      | right hz hs hr => exact .right hz ((sideOf_iff c s n x h v hx true).1 hs) (ihr.1 hr)
      | left hz hs hl => exact .left hz ((sideOf_iff c s n x h v hx false).1 hs) (ihl.1 hl)
    · intro hh
      cases hh with
      | right hz hp hr => exact .right hz ((sideOf_iff c s n x h v hx true).2 hp) (ihr.2 hr)
      | left hz hn hl => exact .left hz ((sideOf_iff c s n x h v hx false).2 hn) (ihl.2 hl)

/-- **`Check.hasGoodTree` accepts exactly** the items that some tree of `Check.trees c s` separates:
(1) literally the hypothesis `t₀ ∈ ts`, `Check.goodPath c s x t₀ = true` of `C04.C04_selfLookup` (for
`ts = Check.trees c s`); (2) as the predicate `Separates`; (3) for a stored item, in terms of the margins of its
own vector. -/
theorem CHK_hasGoodTree_spec (c : Cfg) (s : Store) (x : Nat) :
    (Check.hasGoodTree c s x = true ↔ ∃ t₀ ∈ Check.trees c s, Check.goodPath c s x t₀ = true) ∧
    (Check.hasGoodTree c s x = true ↔ ∃ t₀ ∈ Check.trees c s, Separates c s x t₀) ∧
    (∀ h v, Store.get s (c.itemKey x) = some (.leaf h v) →
      (Check.hasGoodTree c s x = true ↔ ∃ t₀ ∈ Check.trees c s, SeparatesV c v x t₀)) := by
  have h1 : Check.hasGoodTree c s x = true ↔ ∃ t₀ ∈ Check.trees c s, Check.goodPath c s x t₀ = true := by
    unfold Check.hasGoodTree; exact List.any_eq_true
  refine ⟨h1, h1.trans ?_, fun h v hx => h1.trans ?_⟩
  · exact exists_congr fun t => and_congr_right fun _ => CHK_goodPath_iff c s x t
  · exact exists_congr fun t => and_congr_right fun _ =>
      (CHK_goodPath_iff c s x t).trans (separates_iff_V c s x h v hx t)

/-- **what the driver's self-lookup predicate rests on** (`C04.C04_selfLookup_by_item` with the executable
predicates as hypotheses): on a dump whose trees `Check.trees c s` form a valid reader-side forest, on which
`Check.routed` reports nothing and `Check.hasGoodTree c s x` holds, `by_item(x)` with a budget ≥ 1, no
filter and `count ≥ #items` returns `x` — provided the margin is symmetric between `x`'s vector and the
normals of the trees. -/
theorem CHK_hasGoodTree_selfLookup {c : Cfg} {s : Store} {rd : ReaderState}
    (F : ForestWith c s rd (Check.trees c s)) (hrouted : Check.routed c s = [])
    (x : Nat) (h v : List Nat) (hx : Store.get s (c.itemKey x) = some (.leaf h v))
    (hsymm : ∀ t ∈ Check.trees c s, ∀ n ∈ t.normals, c.metric.margin c.host v n = c.metric.margin c.host n v)
    (hgood : Check.hasGoodTree c s x = true)
    (q : QueryOpts) (hq : q.candidates = none) (hb : 1 ≤ budget c.metric rd.roots.length q)
    (hcount : rd.items.length ≤ q.count) :
    ∃ ans, byItem c s rd x q = .ok (some ans) ∧ x ∈ ans.map (·.1) := by
  obtain ⟨t₀, ht₀, hg⟩ := (CHK_hasGoodTree_spec c s x).1.1 hgood
  exact C04.C04_selfLookup_by_item F {} ((C04.C04_checker c {} s).1 hrouted) x h v hx hsymm t₀ ht₀ hg q hq hb hcount

theorem mem_leafIds {c : Cfg} {s : Store} (hw : Store.WF s) (hi : c.index < 65536) (filter : Option (List Nat))
    (id : Nat) : id ∈ leafIds c s filter ↔ IsLeaf c s id ∧ ∀ f, filter = some f → id ∈ f := by
  unfold leafIds
  rw [List.mem_filter, Store.mem_keysOf_iff hw _ _ _ hi (by decide), Bool.and_eq_true]
  have hk : (⟨c.index, modeItem, id⟩ : Key) = c.itemKey id := rfl
  rw [hk]
  constructor
  · rintro ⟨_, hl, hf⟩
    constructor
    · split at hl
      · rename_i h v hg; exact ⟨h, v, hg⟩
      · cases hl
    · intro f hfe; subst hfe; simpa using hf
  · rintro ⟨⟨h, v, hg⟩, hf⟩
    refine ⟨by rw [hg]; rfl, by rw [hg], ?_⟩
    cases filter with
    | none => rfl
    | some f => simpa using hf f rfl

theorem leafIds_nodup {c : Cfg} {s : Store} (hs : Store.Sorted s) (hw : Store.WF s) (hi : c.index < 65536)
    (filter : Option (List Nat)) : (leafIds c s filter).Nodup :=
  (Store.keysOf_sorted hs hw _ _ hi (by decide)).nodup.sublist List.filter_sublist

/-- **`Check.bruteForce` is the `scoreLe`-sorted list of the scored leaf ids** of the index (inside the filter),
on a dump whose keys are well-formed and strictly increasing (as every decoded LMDB dump is) -/
theorem CHK_bruteForce_eq (c : Cfg) (s : Store) (qh qv : List Nat) (filter : Option (List Nat))
    (hs : Store.Sorted s) (hw : Store.WF s) (hi : c.index < 65536) :
    Check.bruteForce c s qh qv filter = sortedScored c s qh qv (leafIds c s filter) :=
  bruteForce_eq_leafIds c s qh qv filter hw hi (Store.keysOf_sorted hs hw _ _ hi (by decide)).nodup

/-- **specification of `Check.bruteForce`**, on a dump whose keys are well-formed and strictly increasing:
its ids are exactly the ids stored as a leaf under an item key of index `c` (and inside the filter when one
is given), each exactly once, each paired with its `builtDistance` score against the query leaf, in
ascending order of `(score under OrderedFloat, id)` (`Reader.scoreLe`); and it is the ONLY list with these
four properties. -/
theorem CHK_bruteForce_spec (c : Cfg) (s : Store) (qh qv : List Nat) (filter : Option (List Nat))
    (hs : Store.Sorted s) (hw : Store.WF s) (hi : c.index < 65536) :
    (∀ id, id ∈ (Check.bruteForce c s qh qv filter).map (·.2) ↔
      (IsLeaf c s id ∧ ∀ f, filter = some f → id ∈ f)) ∧
    ((Check.bruteForce c s qh qv filter).map (·.2)).Nodup ∧
    (∀ p ∈ Check.bruteForce c s qh qv filter, p.1 = scoreOf c s qh qv p.2) ∧
    (Check.bruteForce c s qh qv filter).Pairwise (fun a b => scoreLe a b = true) := by
  rw [CHK_bruteForce_eq c s qh qv filter hs hw hi]
  have hperm := sortedScored_ids_perm c s qh qv (leafIds c s filter)
  refine ⟨?_, ?_, ?_, sortedScored_pairwise c s qh qv _⟩
  · intro id
    rw [hperm.mem_iff]
    exact mem_leafIds hw hi filter id
  · exact hperm.nodup_iff.2 (leafIds_nodup hs hw hi filter)
  · intro p hp
    exact (sortedScored_score c s qh qv _ p hp).1

/-- uniqueness: a list with the four properties of `CHK_bruteForce_spec` is `Check.bruteForce` -/
theorem CHK_bruteForce_unique (c : Cfg) (s : Store) (qh qv : List Nat) (filter : Option (List Nat))
    (hs : Store.Sorted s) (hw : Store.WF s) (hi : c.index < 65536) (l : List (Nat × Nat))
    (h1 : ∀ id, id ∈ l.map (·.2) ↔ (IsLeaf c s id ∧ ∀ f, filter = some f → id ∈ f))
    (h2 : (l.map (·.2)).Nodup)
    (h3 : ∀ p ∈ l, p.1 = scoreOf c s qh qv p.2)
    (h4 : l.Pairwise (fun a b => scoreLe a b = true)) :
    l = Check.bruteForce c s qh qv filter := by
  rw [CHK_bruteForce_eq c s qh qv filter hs hw hi]
  apply sortedScored_unique c s qh qv _ l _ h4
  have hl : l = (l.map (·.2)).map (fun id => (scoreOf c s qh qv id, id)) := by
    rw [List.map_map]
    conv => lhs; rw [← List.map_id l]
    apply List.map_congr_left
    intro p hp
    simp only [id, Function.comp]
    rw [← h3 p hp]
  rw [hl]
  unfold scored
  apply List.Perm.map
  rw [List.perm_ext_iff_of_nodup h2 (leafIds_nodup hs hw hi filter)]
  intro id
  rw [h1 id, mem_leafIds hw hi filter id]

/-- the oracle the driver compares an unlimited-budget answer with is the exact answer of the theorems
(`exactOver`, what `C02_exact` / `C03_filter_exact` state) over the leaf ids inside the filter -/
theorem CHK_bruteForce_exactOver (c : Cfg) (s : Store) (dims : Nat) (qh qv : List Nat) (filter : Option (List Nat))
    (count : Nat) (hs : Store.Sorted s) (hw : Store.WF s) (hi : c.index < 65536) :
    ((Check.bruteForce c s qh qv filter).take count).map
        (fun (d, id) => (id, c.metric.normalizedDistance d dims)) =
      exactOver c s dims qh qv count (leafIds c s filter) := by
  rw [CHK_bruteForce_eq c s qh qv filter hs hw hi]
  rfl

section Examples
/-- the index of `ForestExample` (`c`: index 0, Euclidean, 2 dimensions) with a metadata record: items
(0,0), (1,0), (0,2); one tree: split node 0 with normal (0,1), bucket 1 = {0, 1} on the left, item 2 on the
right -/
def sB : Store :=
  [(⟨0, 0, 0⟩, .metadata [] 2 [0, 1, 2] [0]),
   (⟨0, 2, 0⟩, .split ⟨2, 1⟩ ⟨3, 2⟩ [0, 0x3f800000]), (⟨0, 2, 1⟩, .desc [0, 1]),
   (⟨0, 3, 0⟩, .leaf [0] [0, 0]), (⟨0, 3, 1⟩, .leaf [0] [0x3f800000, 0]), (⟨0, 3, 2⟩, .leaf [0] [0, 0x40000000])]

/-- corrupted: the bucket node 1 is missing (the root does not reify) -/
def sNoBucket : Store := Store.erase sB (ForestExample.c.treeKey 1)
/-- corrupted: item 1 holds a descendants node instead of a leaf -/
def sNonLeaf : Store := Store.put sB (ForestExample.c.itemKey 1) (.desc [7])
/-- corrupted: item 1 is listed by both children of the root -/
def sTwice : Store := Store.put sB (ForestExample.c.treeKey 0) (.split ⟨2, 1⟩ ⟨3, 1⟩ [0, 0x3f800000])

abbrev cB : Cfg := ForestExample.c
abbrev q0 : List Nat := [F32.zero, F32.zero]
abbrev h0 : List Nat := [F32.zero]

example : sB = Store.put ForestExample.s ForestExample.c.metaKey (.metadata [] 2 [0, 1, 2] [0]) := by
  rw [ForestExample.s_eq]; decide

theorem sB_sorted : Store.Sorted sB := by decide
theorem sB_wf : Store.WF sB := by unfold Store.WF; decide
theorem sB_leaves : C05.ItemsAreLeaves cB sB := by unfold C05.ItemsAreLeaves; decide
theorem sB_meta : Store.get sB cB.metaKey = some (.metadata [] 2 [0, 1, 2] [0]) := by decide

theorem sB_trees : Check.trees cB sB = [ForestExample.tree] := by decide +kernel
example : Check.trees cB sNoBucket = [] := by decide +kernel

example : Check.capacityOk cB sB 2 = [] := List.isEmpty_iff.1 (by decide +kernel)
example : (Check.capacityOk cB sB 1).isEmpty = false := by decide +kernel
example : Check.capacityOk cB sNoBucket 0 = [] := List.isEmpty_iff.1 (by decide +kernel)

example : Check.hasGoodTree cB sB 2 = true := by decide +kernel
example : Check.hasGoodTree cB sB 0 = false := by decide +kernel
example : Check.hasGoodTree cB sNoBucket 2 = false := by decide +kernel

example : (Check.forestValid cB sNoBucket).isEmpty = false := by decide +kernel

example : WellFormedChecked cB sB 2 h0 q0 { count := 3 } [(0, 0), (1, F32.one), (2, F32.two)] := by
  unfold WellFormedChecked; decide +kernel
example : (Check.wellFormed cB sB 2 h0 q0 { count := 2 } [(0, 0), (1, F32.one), (2, F32.two)]).isEmpty = false := by
  decide +kernel

/-- the forest of `sB` -/
theorem sB_forest : Forest cB sB [0] [0, 1, 2] [ForestExample.tree] where
  refs := by decide
  holds := by
    intro t ht
    rw [List.mem_singleton.1 ht]
    exact (ForestExample.forestWith.holds _ List.mem_cons_self).frame (by decide)
  ids_nodup := by decide
  cover := by
    intro id
    have := Store.mem_keysOf_iff sB_wf 0 modeTree id (by decide) (by decide)
    rw [show Store.keysOf sB 0 modeTree = [0, 1] by decide] at this
    exact this.symm
  wf := by decide
  items_nodup := by decide
  reach := by
    intro t ht x
    simp only [List.mem_singleton] at ht
    subst ht
    exact Iff.rfl

theorem sB_forestValid : Check.forestValid cB sB = [] :=
  C01.C01_checker_sound cB sB [] 2 [0, 1, 2] [0] [ForestExample.tree] (by decide) sB_sorted sB_wf sB_meta sB_forest
    (by decide)

theorem sB_descSorted : DescSorted cB sB := sB_forest.descSorted

example : Forest cB sB [0] [0, 1, 2] (Check.trees cB sB) ∧ [0, 1, 2] = sB.keysOf cB.index modeItem :=
  CHK_forestValid_forest cB sB [] 2 [0, 1, 2] [0] sB_wf (by decide) sB_descSorted sB_meta sB_forestValid

theorem sTwice_trees : Check.trees cB sTwice = [.node 0 [0, 0x3f800000] (.bucket 1 [0, 1]) (.leaf 1)] := by
  decide +kernel

example : Check.forestValid cB sTwice ≠ [] := by
  intro h
  have := (CHK_forestValid_sound cB sTwice [] 2 [0, 1, 2] [0] (by unfold Store.WF; decide) (by decide) (by decide) h).2.2.2.2.1
  rw [sTwice_trees] at this
  exact absurd (this _ List.mem_cons_self) (by decide)

/-- a metadata record listing item 0 and NO root, no tree node -/
def sNoRoots : Store := [(⟨0, 0, 0⟩, .metadata [] 2 [0] []), (⟨0, 3, 0⟩, .leaf [0] [0, 0])]

/-- FINDING (checks less than `C01_forest`, clause "at least one tree if there is an item"): `Check.forestValid`
accepts a built index that lists items but has no root -/
theorem CHK_forestValid_noroots_accepted : Check.forestValid cB sNoRoots = [] := by
  have hw : Store.WF sNoRoots := by unfold Store.WF; decide
  refine C01.C01_checker_sound cB sNoRoots [] 2 [0] [] [] (by decide) (by decide) hw (by decide)
    (Forest.nil ?_ [0]) (by decide)
  intro id
  have := Store.mem_keysOf_iff hw 0 modeTree id (by decide) (by decide)
  rw [show Store.keysOf sNoRoots 0 modeTree = [] by decide] at this
  cases hg : Store.get sNoRoots (cB.treeKey id) with
  | none => rfl
  | some v =>
    have h2 : (Store.get sNoRoots ⟨0, modeTree, id⟩).isSome = true := by
      show (Store.get sNoRoots (cB.treeKey id)).isSome = true
      rw [hg]; rfl
    exact absurd (this.2 h2) (by simp)

example : Check.bruteForce cB sB h0 q0 none = [(0, 0), (F32.one, 1), (0x40800000, 2)] := by
  rw [CHK_bruteForce_eq cB sB h0 q0 none sB_sorted sB_wf (by decide)]
  symm
  apply sortedScored_unique
  · rw [show leafIds cB sB none = [0, 1, 2] by decide +kernel]
    decide +kernel
  · decide +kernel

example : Check.bruteForce cB sB h0 q0 (some [2, 1]) = [(F32.one, 1), (0x40800000, 2)] := by
  rw [CHK_bruteForce_eq cB sB h0 q0 _ sB_sorted sB_wf (by decide)]
  symm
  apply sortedScored_unique
  · rw [show leafIds cB sB (some [2, 1]) = [1, 2] by decide +kernel]
    decide +kernel
  · decide +kernel

/-- on the corrupted store the non-leaf entry is not ranked -/
example : Check.bruteForce cB sNonLeaf h0 q0 none = [(0, 0), (0x40800000, 2)] := by
  rw [CHK_bruteForce_eq cB sNonLeaf h0 q0 none (by decide) (by unfold Store.WF; decide) (by decide)]
  symm
  apply sortedScored_unique
  · rw [show leafIds cB sNonLeaf none = [0, 2] by decide +kernel]
    decide +kernel
  · decide +kernel

/-! `Check.wellFormed`: an accepted answer, and one rejected answer per clause -/
theorem sB_answer : Check.wellFormed cB sB 2 h0 q0 { count := 3 } [(0, 0), (1, F32.one), (2, F32.two)] = [] :=
  (CHK_wellFormed_iff ..).2 (by unfold WellFormedChecked; decide +kernel)

/-- the conclusions of `CHK_wellFormed_sound_leaves` on it -/
example : ∀ p ∈ [(0, 0), (1, F32.one), (2, F32.two)], IsLeaf cB sB p.1 ∧
    p.2 = cB.metric.normalizedDistance (scoreOf cB sB h0 q0 p.1) 2 := by
  have hn : ∀ p ∈ [(0, 0), (1, F32.one), (2, F32.two)], F32.isNaN p.2 = false := by decide +kernel
  intro p hp
  obtain ⟨hl, _, hd, _⟩ := (CHK_wellFormed_sound_leaves cB sB 2 h0 q0 _ _ sB_leaves sB_answer).2.2.1 p hp
  exact ⟨hl, hd (hn p hp)⟩

/-- too many results (evaluated by the kernel: the message list is not empty) -/
example : (Check.wellFormed cB sB 2 h0 q0 { count := 2 } [(0, 0), (1, F32.one), (2, F32.two)]).isEmpty = false := by
  decide +kernel
/-- a duplicate id -/
example : Check.wellFormed cB sB 2 h0 q0 { count := 3 } [(0, 0), (0, 0)] ≠ [] :=
  fun h => absurd ((CHK_wellFormed_iff ..).1 h) (by unfold WellFormedChecked; decide +kernel)
/-- an id that is not stored -/
example : Check.wellFormed cB sB 2 h0 q0 { count := 3 } [(7, 0)] ≠ [] :=
  fun h => absurd ((CHK_wellFormed_iff ..).1 h) (by unfold WellFormedChecked; decide +kernel)
/-- an id outside the filter -/
example : Check.wellFormed cB sB 2 h0 q0 { count := 3, candidates := some [1] } [(0, 0)] ≠ [] :=
  fun h => absurd ((CHK_wellFormed_iff ..).1 h) (by unfold WellFormedChecked; decide +kernel)
/-- a wrong reported distance -/
example : Check.wellFormed cB sB 2 h0 q0 { count := 3 } [(1, F32.two)] ≠ [] :=
  fun h => absurd ((CHK_wellFormed_iff ..).1 h) (by unfold WellFormedChecked; decide +kernel)
/-- not nearest first -/
example : Check.wellFormed cB sB 2 h0 q0 { count := 3 } [(1, F32.one), (0, 0)] ≠ [] :=
  fun h => absurd ((CHK_wellFormed_iff ..).1 h) (by unfold WellFormedChecked; decide +kernel)

/-- FINDING (checks less than `C03_wellformed`, clause `IsLeaf`): an answer naming an id whose item key holds
a non-leaf value is accepted (its score counts as 0) -/
theorem CHK_wellFormed_nonleaf_accepted :
    Check.wellFormed cB sNonLeaf 2 h0 q0 { count := 3 } [(1, 0)] = [] ∧ ¬ IsLeaf cB sNonLeaf 1 := by
  refine ⟨(CHK_wellFormed_iff ..).2 (by unfold WellFormedChecked; decide +kernel), ?_⟩
  rintro ⟨h, v, hg⟩
  have : Store.get sNonLeaf (cB.itemKey 1) = some (.desc [7]) := by decide
  rw [this] at hg; cases hg

/-- an item whose stored vector has a NaN component -/
def sNaN : Store := [(⟨0, 3, 0⟩, .leaf [0] [0x7fc00001, 0])]

/-- FINDING (checks less than `C03_wellformed`, clause on the reported distance): the distance is compared
modulo `Check.canonF`, so a reported NaN with any sign / payload is accepted where the model computes the
NaN `0x7fc00000` -/
theorem CHK_wellFormed_nan_accepted :
    Check.wellFormed cB sNaN 2 h0 q0 { count := 1 } [(0, 0xffc00001)] = [] ∧
    cB.metric.normalizedDistance (scoreOf cB sNaN h0 q0 0) 2 = 0x7fc00000 :=
  ⟨(CHK_wellFormed_iff ..).2 (by unfold WellFormedChecked; decide +kernel), by decide +kernel⟩

/-! `CHK_hasGoodTree_selfLookup` applies to `sB` and item 2 -/
example : ∃ ans, byItem cB sB ⟨[0], 2, [0, 1, 2]⟩ 2 { count := 3, searchK := some 1 } = .ok (some ans) ∧
    2 ∈ ans.map (·.1) := by
  have F : ForestWith cB sB ⟨[0], 2, [0, 1, 2]⟩ (Check.trees cB sB) := by
    rw [sB_trees]
    exact sB_forest.toForestWith 2 (by decide)
      (fun x hx => C05.ItemsAreLeaves.leaf_of_isSome sB_leaves (by revert x; decide)) (by decide)
  refine CHK_hasGoodTree_selfLookup F (List.isEmpty_iff.1 (by decide +kernel)) 2 [F32.zero] [F32.zero, F32.two]
    (by decide) ?_ (by decide +kernel) _ rfl (by decide) (by decide)
  rw [sB_trees]
  intro t ht
  simp only [List.mem_singleton] at ht
  subst ht
  decide +kernel

end Examples

end Arroy.Checkers
