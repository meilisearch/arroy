import ArroyProofs.ForestBridge
import ArroyProofs.Properties.Unconditional
import ArroyProofs.Properties.C02
import ArroyProofs.Properties.C03
import ArroyProofs.Properties.C04
import ArroyProofs.Properties.C05
import ArroyProofs.Properties.C05Build
import ArroyProofs.Properties.C08
import ArroyProofs.Properties.C09
import ArroyProofs.Properties.C11
import ArroyProofs.Properties.C12
import ArroyProofs.Properties.C01Examples
/-! # End-to-end statements over reachable states

The reader theorems (C02, C03, C04) assume `ForestOK` / `ForestWith` / `DescSorted` / `RoutedT`; the
builder theorems (C01, C04-build) establish `Forest` / `IndexInv` / `Routed` after every history
`((add | append | del | clear | prepare)* build)+` (`prepare` = `Writer::prepare_changing_distance`). Here the two are composed (through `ArroyProofs/ForestBridge.lean`),
so that no intermediate predicate is left as a hypothesis: the statements are about
`C01.run ops` followed by a successful `Build.build`, `Reader.open` and the query functions only.

Standing hypotheses of every theorem: the operations of the history are well-formed (`Op.wf`: index
< 65536, item id < 2^32, builds with capacity ≥ 1 and `n_trees ≠ Some(0)`); the last build returns `.ok`.
Everything else (vector values, oracle streams, options, `available_memory`, fuel, cancellation
schedule, the other indexes of the store) is arbitrary. -/
namespace Arroy
open Generated Reader

/-! ## C01: the state after a successful build, as the reader sees it -/
namespace C01

/-- **C01 → reader**: after any history, a successful build of index `c` leaves a state on which
    `Reader::open` succeeds with the stored item ids, the declared dimension and some roots; the trees
    read at these roots (`Check.trees`) form a valid reader-side forest (`ForestWith`, all 8 clauses);
    every stored bucket is sorted; the item keys did not change; the index invariant holds. -/
theorem C01_reader_reachable (ops : List Op) (hops : ∀ op ∈ ops, op.wf)
    (c : Cfg) (o : BuildOpts) (fuel : Nat) (env st' : BState) (hwf : (Op.build c o fuel env).wf)
    (h : Build.build c o fuel { env with store := run ops } = .ok ((), st')) :
    ∃ roots,
      Reader.open c st'.store = .ok ⟨roots, c.dims, (run ops).keysOf c.index modeItem⟩ ∧
      ForestWith c st'.store ⟨roots, c.dims, (run ops).keysOf c.index modeItem⟩ (Check.trees c st'.store) ∧
      DescSorted c st'.store ∧
      st'.store.keysOf c.index modeItem = (run ops).keysOf c.index modeItem ∧
      IndexInv c st'.store := by
  obtain ⟨hrun, roots, ts, hm, hf, _, hnm⟩ := C01_forest ops hops c o fuel env st' hwf h
  have hinv : IndexInv c st'.store := hrun ▸ C01_invariant _ (C01.forall_snoc hops hwf) c hwf.1
  exact ⟨roots, open_of_inv hinv hwf.1 hm hnm, forestWith_trees_of_inv hinv hm hnm,
    (forestWith_of_inv hinv hm hnm hf).2, items_eq_keysOf_of_inv hinv hwf.1 hm hnm, hinv⟩

theorem C01_forestOK_reachable (ops : List Op) (hops : ∀ op ∈ ops, op.wf)
    (c : Cfg) (o : BuildOpts) (fuel : Nat) (env st' : BState) (hwf : (Op.build c o fuel env).wf)
    (h : Build.build c o fuel { env with store := run ops } = .ok ((), st')) :
    ∃ roots,
      Reader.open c st'.store = .ok ⟨roots, c.dims, (run ops).keysOf c.index modeItem⟩ ∧
      ForestOK c st'.store ⟨roots, c.dims, (run ops).keysOf c.index modeItem⟩ ∧
      DescSorted c st'.store := by
  obtain ⟨roots, h1, h2, h3, _⟩ := C01_reader_reachable ops hops c o fuel env st' hwf h
  exact ⟨roots, h1, ⟨_, h2⟩, h3⟩

end C01

/-! ## C02: unlimited-budget search is exact on every reachable built state -/
namespace C02
open C01

/-- **C02, end to end**: after any history and a successful build, the reader opens, and a query with
    `search_k = usize::MAX` (any oversampling ≠ 0, no filter; fewer than 2^64 trees × items) returns
    exactly the `count` nearest stored items of the index, nearest first, with their distances
    (`exactOver`: all stored items scored by the true distance, sorted by `(score, id)`, truncated). -/
theorem C02_exact_reachable (ops : List Op) (hops : ∀ op ∈ ops, op.wf)
    (c : Cfg) (o : BuildOpts) (fuel : Nat) (env st' : BState) (hwf : (Op.build c o fuel env).wf)
    (h : Build.build c o fuel { env with store := run ops } = .ok ((), st')) :
    ∃ roots,
      Reader.open c st'.store = .ok ⟨roots, c.dims, (run ops).keysOf c.index modeItem⟩ ∧
      ∀ (qh qv : List Nat) (q : QueryOpts), q.candidates = none → q.searchK = some usizeMax →
        q.oversampling ≠ some 0 → roots.length * ((run ops).keysOf c.index modeItem).length ≤ usizeMax →
        nnsByLeaf c st'.store ⟨roots, c.dims, (run ops).keysOf c.index modeItem⟩ qh qv q =
          .ok (exactOver c st'.store c.dims qh qv q.count ((run ops).keysOf c.index modeItem)) := by
  obtain ⟨roots, h1, h2, _⟩ := C01_forestOK_reachable ops hops c o fuel env st' hwf h
  exact ⟨roots, h1, fun qh qv q hq hk ho hsz => C02_exact_usizeMax h2 qh qv q hq hk ho hsz⟩

/-- the same for any budget of at least trees × items (e.g. `count = usize::MAX` with the budget unset) -/
theorem C02_exact_budget_reachable (ops : List Op) (hops : ∀ op ∈ ops, op.wf)
    (c : Cfg) (o : BuildOpts) (fuel : Nat) (env st' : BState) (hwf : (Op.build c o fuel env).wf)
    (h : Build.build c o fuel { env with store := run ops } = .ok ((), st')) :
    ∃ roots,
      Reader.open c st'.store = .ok ⟨roots, c.dims, (run ops).keysOf c.index modeItem⟩ ∧
      ∀ (qh qv : List Nat) (q : QueryOpts), q.candidates = none →
        roots.length * ((run ops).keysOf c.index modeItem).length ≤ budget c.metric roots.length q →
        nnsByLeaf c st'.store ⟨roots, c.dims, (run ops).keysOf c.index modeItem⟩ qh qv q =
          .ok (exactOver c st'.store c.dims qh qv q.count ((run ops).keysOf c.index modeItem)) := by
  obtain ⟨roots, h1, h2, _⟩ := C01_forestOK_reachable ops hops c o fuel env st' hwf h
  exact ⟨roots, h1, fun qh qv q hq hb => C02_exact h2 qh qv q hq hb⟩

/-- **C02, end to end, against the oracle**: the answer is the head of `Check.bruteForce`, the brute-force
    scan of the stored leaves of the index in the state after the build -/
theorem C02_bruteforce_reachable (ops : List Op) (hops : ∀ op ∈ ops, op.wf)
    (c : Cfg) (o : BuildOpts) (fuel : Nat) (env st' : BState) (hwf : (Op.build c o fuel env).wf)
    (h : Build.build c o fuel { env with store := run ops } = .ok ((), st')) :
    ∃ roots,
      Reader.open c st'.store = .ok ⟨roots, c.dims, (run ops).keysOf c.index modeItem⟩ ∧
      ∀ (qh qv : List Nat) (q : QueryOpts), q.candidates = none → q.searchK = some usizeMax →
        q.oversampling ≠ some 0 → roots.length * ((run ops).keysOf c.index modeItem).length ≤ usizeMax →
        nnsByLeaf c st'.store ⟨roots, c.dims, (run ops).keysOf c.index modeItem⟩ qh qv q =
          .ok (((Check.bruteForce c st'.store qh qv none).take q.count).map
            fun (d, id) => (id, c.metric.normalizedDistance d c.dims)) := by
  obtain ⟨roots, h1, h2, _, h4, h5⟩ := C01_reader_reachable ops hops c o fuel env st' hwf h
  refine ⟨roots, h1, fun qh qv q hq hk ho hsz => ?_⟩
  exact C02_exact_bruteforce ⟨_, h2⟩ qh qv q hq (by rw [budget_unlimited _ _ q hk ho]; exact hsz)
    h5.wf hwf.1 h4

/-- **C02, end to end, through `QueryBuilder::by_vector` and `by_item`** -/
theorem C02_by_vector_reachable (ops : List Op) (hops : ∀ op ∈ ops, op.wf)
    (c : Cfg) (o : BuildOpts) (fuel : Nat) (env st' : BState) (hwf : (Op.build c o fuel env).wf)
    (h : Build.build c o fuel { env with store := run ops } = .ok ((), st')) :
    ∃ roots,
      Reader.open c st'.store = .ok ⟨roots, c.dims, (run ops).keysOf c.index modeItem⟩ ∧
      ∀ (vec : List Nat) (q : QueryOpts), vec.length = c.dims → q.candidates = none →
        q.searchK = some usizeMax → q.oversampling ≠ some 0 →
        roots.length * ((run ops).keysOf c.index modeItem).length ≤ usizeMax →
        byVector c st'.store ⟨roots, c.dims, (run ops).keysOf c.index modeItem⟩ vec q =
          .ok (exactOver c st'.store c.dims (c.metric.newHeader c.host (c.metric.fromSlice vec))
            (c.metric.fromSlice vec) q.count ((run ops).keysOf c.index modeItem)) := by
  obtain ⟨roots, h1, h2, _⟩ := C01_forestOK_reachable ops hops c o fuel env st' hwf h
  exact ⟨roots, h1, fun vec q hd hq hk ho hsz =>
    C02_by_vector h2 vec q hd hq (by rw [budget_unlimited _ _ q hk ho]; exact hsz)⟩

end C02

/-! ## C03: every query on a reachable built state succeeds, with a well-formed answer -/
namespace C03
open C01

/-- **C03, end to end (totality + well-formedness)**: after any history and a successful build, every
    query (any count, budget, oversampling, filter — sorted or not) returns `.ok`; the answer has at most
    `count` entries, pairwise distinct ids, each a stored item of the index inside the filter carrying its
    normalised true score, nearest first (ties by id). -/
theorem C03_total_reachable (ops : List Op) (hops : ∀ op ∈ ops, op.wf)
    (c : Cfg) (o : BuildOpts) (fuel : Nat) (env st' : BState) (hwf : (Op.build c o fuel env).wf)
    (h : Build.build c o fuel { env with store := run ops } = .ok ((), st')) :
    ∃ roots,
      Reader.open c st'.store = .ok ⟨roots, c.dims, (run ops).keysOf c.index modeItem⟩ ∧
      ∀ (qh qv : List Nat) (q : QueryOpts), ∃ ans,
        nnsByLeaf c st'.store ⟨roots, c.dims, (run ops).keysOf c.index modeItem⟩ qh qv q = .ok ans ∧
        (∀ p ∈ ans, p.1 ∈ (run ops).keysOf c.index modeItem) ∧
        ans.length ≤ q.count ∧
        (ans.map (·.1)).Nodup ∧
        (∀ p ∈ ans, IsLeaf c st'.store p.1 ∧ inCandidates q p.1 = true ∧
          p.2 = c.metric.normalizedDistance (scoreOf c st'.store qh qv p.1) c.dims) ∧
        (ans.map fun p => (scoreOf c st'.store qh qv p.1, p.1)).Pairwise (fun a b => scoreLe a b = true) := by
  obtain ⟨roots, h1, h2, _⟩ := C01_forestOK_reachable ops hops c o fuel env st' hwf h
  refine ⟨roots, h1, fun qh qv q => ?_⟩
  obtain ⟨ans, ha, hm⟩ := C03_total h2 qh qv q
  exact ⟨ans, ha, hm, C03_wellformed c st'.store ⟨roots, c.dims, _⟩ qh qv q ans ha⟩

/-- **C03, end to end (filter + unlimited budget)**: with a sorted filter `cs` and `search_k = usize::MAX`
    the answer is the exact answer over the stored items that are in `cs` (the `DescSorted` hypothesis of
    `C03_filter_exact` holds on every reachable built state) -/
theorem C03_filter_exact_reachable (ops : List Op) (hops : ∀ op ∈ ops, op.wf)
    (c : Cfg) (o : BuildOpts) (fuel : Nat) (env st' : BState) (hwf : (Op.build c o fuel env).wf)
    (h : Build.build c o fuel { env with store := run ops } = .ok ((), st')) :
    ∃ roots,
      Reader.open c st'.store = .ok ⟨roots, c.dims, (run ops).keysOf c.index modeItem⟩ ∧
      ∀ (qh qv : List Nat) (q : QueryOpts) (cs : List Nat), q.candidates = some cs → IdSet.Sorted cs →
        q.searchK = some usizeMax → q.oversampling ≠ some 0 →
        roots.length * ((run ops).keysOf c.index modeItem).length ≤ usizeMax →
        nnsByLeaf c st'.store ⟨roots, c.dims, (run ops).keysOf c.index modeItem⟩ qh qv q =
          .ok (exactOver c st'.store c.dims qh qv q.count
            (((run ops).keysOf c.index modeItem).filter fun x => cs.contains x)) := by
  obtain ⟨roots, h1, h2, h3⟩ := C01_forestOK_reachable ops hops c o fuel env st' hwf h
  exact ⟨roots, h1, fun qh qv q cs hq hcs hk ho hsz =>
    C03_filter_exact_usizeMax h2 h3 qh qv q cs hq hcs hk ho hsz⟩

/-- **C03, end to end (budget monotonicity)** needs no composition: `C03_monotone` has no hypothesis on
    the store; on a reachable built state both queries moreover succeed (`C03_total_reachable`). -/
theorem C03_monotone_reachable (ops : List Op) (hops : ∀ op ∈ ops, op.wf)
    (c : Cfg) (o : BuildOpts) (fuel : Nat) (env st' : BState) (hwf : (Op.build c o fuel env).wf)
    (h : Build.build c o fuel { env with store := run ops } = .ok ((), st')) :
    ∃ roots,
      Reader.open c st'.store = .ok ⟨roots, c.dims, (run ops).keysOf c.index modeItem⟩ ∧
      ∀ (qh qv : List Nat) (q₁ q₂ : QueryOpts), q₁.count = q₂.count → q₁.candidates = q₂.candidates →
        budget c.metric roots.length q₁ ≤ budget c.metric roots.length q₂ →
        ∃ ans₁ ans₂,
          nnsByLeaf c st'.store ⟨roots, c.dims, (run ops).keysOf c.index modeItem⟩ qh qv q₁ = .ok ans₁ ∧
          nnsByLeaf c st'.store ⟨roots, c.dims, (run ops).keysOf c.index modeItem⟩ qh qv q₂ = .ok ans₂ ∧
          ans₁.length ≤ ans₂.length ∧
          ∀ (j : Nat) (a₁ a₂ : Nat × Nat), ans₁[j]? = some a₁ → ans₂[j]? = some a₂ →
            scoreLe (scoreOf c st'.store qh qv a₂.1, a₂.1) (scoreOf c st'.store qh qv a₁.1, a₁.1) = true := by
  obtain ⟨roots, h1, h2, _⟩ := C01_forestOK_reachable ops hops c o fuel env st' hwf h
  refine ⟨roots, h1, fun qh qv q₁ q₂ hc hcand hb => ?_⟩
  obtain ⟨ans₂, ha₂, _⟩ := C03_total h2 qh qv q₂
  obtain ⟨ans₁, ha₁, hl, hr⟩ := C03_monotone c st'.store ⟨roots, c.dims, _⟩ qh qv q₁ q₂ hc hcand hb ans₂ ha₂
  exact ⟨ans₁, ans₂, ha₁, ha₂, hl, hr⟩

end C03

/-! ## C04: self-lookup on every reachable built state -/
namespace C04
open C01

/-- the margin is symmetric: always for the quantised metrics (`C12_hamming_symm`), and for the f32
    metrics between vectors of the same length (`C11_symm_dot`; the SIMD kernels dispatch on the
    length of the first argument, so this hypothesis cannot be dropped) -/
theorem margin_symm_of_length (m : Metric) (host : Host) (u v : List Nat)
    (hl : m.isBq = false → u.length = v.length) : m.margin host u v = m.margin host v u := by
  unfold Metric.margin
  cases hb : m.isBq with
  | true =>
    simp only [if_true]
    unfold BQ.dot
    rw [C12.C12_hamming_symm u v, Nat.min_comm]
  | false =>
    simp only [Bool.false_eq_true, if_false]
    exact C11.C11_symm_dot host u v (hl hb)

/-- **C04, end to end, given the vector lengths**: after a history in which index `c` was always built
    with the same configuration (`sameCfg`) and a successful build, for every stored item `x` that some
    tree separates by non-degenerate planes with decisive margins only (`Check.hasGoodTree`), `by_item(x)`
    with any budget ≥ 1 (e.g. `search_k = 1`), no filter and `count ≥ #items` returns `x`.

    `hlen` (f32 metrics only): every split normal of the trees has as many words as `x`'s vector. The
    stored vector has `c.dims` words when the items were added with dimension `c.dims`
    (`C04_stored_length_reachable` below); the normals are produced by the oracle stream
    (`BState.normals`, standing for `D::create_split`'s random choices) whose length the model does NOT
    constrain — so `hlen` is a hypothesis on the oracle (the real `create_split` returns a vector of the
    dimension of the leaves). For the quantised metrics the margin is symmetric for all lengths and
    `hlen` is vacuous (`C04_selfLookup_reachable_bq`). -/
theorem C04_selfLookup_reachable_given_lengths (ops : List Op) (hops : ∀ op ∈ ops, op.wf)
    (c : Cfg) (hQ : ∀ op ∈ ops, sameCfg c op)
    (o : BuildOpts) (fuel : Nat) (env st' : BState) (hwf : (Op.build c o fuel env).wf)
    (h : Build.build c o fuel { env with store := run ops } = .ok ((), st'))
    (x : Nat) (hd v : List Nat) (hx : Store.get st'.store (c.itemKey x) = some (.leaf hd v))
    (hgood : Check.hasGoodTree c st'.store x = true)
    (hlen : c.metric.isBq = false → ∀ t ∈ Check.trees c st'.store, ∀ n ∈ t.normals, n.length = v.length) :
    ∃ roots,
      Reader.open c st'.store = .ok ⟨roots, c.dims, (run ops).keysOf c.index modeItem⟩ ∧
      ∀ q : QueryOpts, q.candidates = none → 1 ≤ budget c.metric roots.length q →
        ((run ops).keysOf c.index modeItem).length ≤ q.count →
        ∃ ans, byItem c st'.store ⟨roots, c.dims, (run ops).keysOf c.index modeItem⟩ x q = .ok (some ans) ∧
          x ∈ ans.map (·.1) := by
  obtain ⟨roots, h1, h2, _⟩ := C01_reader_reachable ops hops c o fuel env st' hwf h
  have hr := (C04_routed_all_histories c ops hops hQ o fuel env st' hwf h).1
  obtain ⟨t₀, ht₀, hg⟩ := List.any_eq_true.1 hgood
  refine ⟨roots, h1, fun q hq hb hc => ?_⟩
  exact C04_selfLookup_by_item h2 o hr x hd v hx
    (fun t ht n hn => margin_symm_of_length _ _ _ _ (fun hb => (hlen hb t ht n hn).symm))
    t₀ ht₀ hg q hq hb hc

/-- **C04, end to end, quantised metrics**: no hypothesis on lengths -/
theorem C04_selfLookup_reachable_bq (ops : List Op) (hops : ∀ op ∈ ops, op.wf)
    (c : Cfg) (hbq : c.metric.isBq = true) (hQ : ∀ op ∈ ops, sameCfg c op)
    (o : BuildOpts) (fuel : Nat) (env st' : BState) (hwf : (Op.build c o fuel env).wf)
    (h : Build.build c o fuel { env with store := run ops } = .ok ((), st'))
    (x : Nat) (hx : (Store.get st'.store (c.itemKey x)).isSome = true)
    (hgood : Check.hasGoodTree c st'.store x = true) :
    ∃ roots,
      Reader.open c st'.store = .ok ⟨roots, c.dims, (run ops).keysOf c.index modeItem⟩ ∧
      ∀ q : QueryOpts, q.candidates = none → 1 ≤ budget c.metric roots.length q →
        ((run ops).keysOf c.index modeItem).length ≤ q.count →
        ∃ ans, byItem c st'.store ⟨roots, c.dims, (run ops).keysOf c.index modeItem⟩ x q = .ok (some ans) ∧
          x ∈ ans.map (·.1) := by
  obtain ⟨_, _, _, _, _, hinv⟩ := C01_reader_reachable ops hops c o fuel env st' hwf h
  obtain ⟨hd, v, hg⟩ := hinv.leaves.leaf_of_isSome hx
  exact C04_selfLookup_reachable_given_lengths ops hops c hQ o fuel env st' hwf h x hd v hg hgood
    (fun hb => by rw [hbq] at hb; cases hb)

/-! ### the stored vectors of an f32 index have `c.dims` words -/

/-- every item of index `c` is added with the dimension of `c` and an f32 metric, and every metric change of
    the index is made at the dimension of `c`, towards an f32 metric -/
def itemsCfg (c : Cfg) : Op → Prop
  | .add c' _ _ => c'.index = c.index → c'.dims = c.dims ∧ c'.metric.isBq = false
  | .append c' _ _ => c'.index = c.index → c'.dims = c.dims ∧ c'.metric.isBq = false
  | .prepare c' m' => c'.index = c.index → c'.dims = c.dims ∧ m'.isBq = false
  | _ => True

/-- every stored leaf of index `c` has `c.dims` vector words -/
def VecLen (c : Cfg) (s : Store) : Prop :=
  ∀ id hd v, Store.get s (c.itemKey id) = some (.leaf hd v) → v.length = c.dims

theorem vecLen_add {c c' : Cfg} {s s' : Store} {id : Nat} {vec : List Nat}
    (hc : c'.index = c.index → c'.dims = c.dims ∧ c'.metric.isBq = false)
    (h : Writer.addItem c' s id vec = .ok s') (hP : VecLen c s) : VecLen c s' := by
  intro id0 hd v hg
  rw [Writer.get_addItem h, if_neg (Cfg.itemKey_ne_updatedKey c' c id id0)] at hg
  by_cases he : c.itemKey id0 = c'.itemKey id
  · rw [if_pos he] at hg
    obtain ⟨hdims, hbq⟩ := hc ((Cfg.itemKey_eq_iff c' c id id0).1 he).1.symm
    simp only [Cfg.mkLeaf, Metric.fromSlice, hbq, Bool.false_eq_true, if_false, Option.some.injEq,
      Val.leaf.injEq] at hg
    rw [← hg.2, (Writer.addItem_ok h).1, hdims]
  · rw [if_neg he] at hg
    exact hP id0 hd v hg

/-- a metric change towards an f32 metric at the dimension of the index re-encodes every vector at that
    dimension (from a quantised metric: the first `dims` of the `64 * dims` unpacked signs) -/
theorem vecLen_prepare {c c' : Cfg} {m' : Metric} {s s' : Store}
    (hc : c'.index = c.index → c'.dims = c.dims ∧ m'.isBq = false) (hi' : c'.index < 65536)
    (hinv : IndexInv c' s) (h : Writer.prepareChangingDistance c' m' s = .ok s') (hP : VecLen c s) :
    VecLen c s' := by
  by_cases hne : m' = c'.metric
  · subst hne
    rw [C18.C18_same] at h
    cases h; exact hP
  · obtain ⟨s'', h', _, hsome, hleaf, ho, _⟩ :=
      C18.C18_change c' m' s hne hinv.wf hinv.sorted hi' hinv.leaves
    rw [h] at h'
    cases h'
    intro id0 hd v hg
    by_cases he : c'.index = c.index
    · obtain ⟨hdims, hbq⟩ := hc he
      have hk : c.itemKey id0 = c'.itemKey id0 := Cfg.itemKey_congr he.symm id0
      rw [hk] at hg
      have hx : (Store.get s (c'.itemKey id0)).isSome = true := by rw [← hsome, hg]; rfl
      obtain ⟨hd0, v0, hg0⟩ := hinv.leaves.leaf_of_isSome hx
      have hl0 : v0.length = c.dims := hP id0 hd0 v0 (by rw [hk]; exact hg0)
      rw [hleaf id0 hd0 v0 hg0] at hg
      simp only [Cfg.mkLeaf, Metric.fromSlice, hbq, Bool.false_eq_true, if_false, Option.some.injEq,
        Val.leaf.injEq] at hg
      rw [← hg.2, List.length_take, hdims]
      unfold Metric.toVec
      split
      · rw [Writer.bqUnpack_length, hl0]
        have : quantizedWordBits = 64 := rfl
        rw [this]; omega
      · rw [hl0]; omega
    · rw [ho _ (Or.inl (fun e => he e.symm))] at hg
      exact hP id0 hd v hg

theorem vecLen_step (s : Store) (op : Op) (hop : op.wf) (c : Cfg) (hi : c.index < 65536)
    (hq : itemsCfg c op) (hinv : ∀ c : Cfg, c.index < 65536 → IndexInv c s) (hnext : IndexInv c (step s op))
    (hP : VecLen c s) : VecLen c (step s op) := by
  have hc := hinv c hi
  have hto := stepTo s op
  generalize step s op = s' at hto hnext
  cases hto with
  | noop => exact hP
  | add h => exact vecLen_add hq h hP
  | append h => exact vecLen_add hq (Writer.appendItem_ok_eq_addItem hc.sorted h) hP
  | del =>
    intro id0 hd v hg
    rw [Writer.get_delItem] at hg
    split at hg
    · cases hg
    · split at hg
      · cases hg
      · exact hP id0 hd v hg
  | clear c' =>
    intro id0 hd v hg
    by_cases he : c.index = c'.index
    · rw [Writer.get_clear_same c' s _ he] at hg; cases hg
    · rw [get_clear_other' c' s hc.wf hop _ he] at hg
      exact hP id0 hd v hg
  | @build c' o fuel env st' h =>
    intro id0 hd v hg
    by_cases hk : (c.itemKey id0).wf
    · rcases C05.C05_build_item_keys c' hop.1 o fuel { env with store := s } st' hc.sorted h
        (c.itemKey id0) hk rfl with e | ⟨h0, h', v', e1, e2⟩
      · exact hP id0 hd v (by rw [e]; exact hg)
      · rw [hg] at e2
        cases e2
        exact hP id0 h0 v e1
    · rw [Store.get_none_of_not_wf hnext.wf hk] at hg
      cases hg
  | @prepare c' m' _ _ h => exact vecLen_prepare hq hop (hinv c' hop) h hP

/-- **the length invariant over histories**: if every item of index `c` is added with dimension
    `c.dims` and an f32 metric, every stored leaf of the index has exactly `c.dims` vector words, in
    every reachable state (builds — of any index, with any oracle — never change a vector). -/
theorem C04_stored_length_reachable (c : Cfg) (hi : c.index < 65536) (ops : List Op)
    (hops : ∀ op ∈ ops, op.wf) (hq : ∀ op ∈ ops, itemsCfg c op) : VecLen c (run ops) :=
  (C01_foldl_induction freshSupply (VecLen c) (itemsCfg c)
    (fun s op hop hq hinv hnext hP => vecLen_step s op hop c hi hq hinv (hnext c hi) hP) ops hops hq []
    (fun c _ => C01_inv_empty c) (fun _ _ _ hg => nomatch hg)).2

/-- **C04, end to end, f32 metrics, given the length of the oracle's normals only**: the items of the
    index were added with dimension `c.dims`; `hnormals` says that the split normals the oracle supplied
    (they are the only source of the normals of the trees) have `c.dims` words. -/
theorem C04_selfLookup_reachable_given_normal_lengths (ops : List Op) (hops : ∀ op ∈ ops, op.wf)
    (c : Cfg) (hQ : ∀ op ∈ ops, sameCfg c op) (hq : ∀ op ∈ ops, itemsCfg c op)
    (o : BuildOpts) (fuel : Nat) (env st' : BState) (hwf : (Op.build c o fuel env).wf)
    (h : Build.build c o fuel { env with store := run ops } = .ok ((), st'))
    (x : Nat) (hx : (Store.get st'.store (c.itemKey x)).isSome = true)
    (hgood : Check.hasGoodTree c st'.store x = true)
    (hnormals : ∀ t ∈ Check.trees c st'.store, ∀ n ∈ t.normals, n.length = c.dims) :
    ∃ roots,
      Reader.open c st'.store = .ok ⟨roots, c.dims, (run ops).keysOf c.index modeItem⟩ ∧
      ∀ q : QueryOpts, q.candidates = none → 1 ≤ budget c.metric roots.length q →
        ((run ops).keysOf c.index modeItem).length ≤ q.count →
        ∃ ans, byItem c st'.store ⟨roots, c.dims, (run ops).keysOf c.index modeItem⟩ x q = .ok (some ans) ∧
          x ∈ ans.map (·.1) := by
  obtain ⟨hrun, _⟩ := C01_forest ops hops c o fuel env st' hwf h
  obtain ⟨_, _, _, _, _, hinv⟩ := C01_reader_reachable ops hops c o fuel env st' hwf h
  obtain ⟨hd, v, hg⟩ := hinv.leaves.leaf_of_isSome hx
  have hlen : VecLen c st'.store := by
    rw [← hrun]
    exact C04_stored_length_reachable c hwf.1 _ (C01.forall_snoc hops hwf) (C01.forall_snoc hq trivial)
  exact C04_selfLookup_reachable_given_lengths ops hops c hQ o fuel env st' hwf h x hd v hg hgood
    (fun _ t ht n hn => by rw [hnormals t ht n hn, hlen x hd v hg])

end C04

/-! ## C05: quantised read-back, unconditional -/
namespace C05

/-- **C05, quantised metrics**: reading back an item just written gives the sign pattern (`±1.0`) of what
    was written, at the declared dimension — `C05_bq_readback_given_roundtrip` with its round-trip
    hypothesis discharged by `C12_roundtrip` (every dimension, every component value) -/
theorem C05_bq_readback (c : Cfg) (s s' : Store) (id : Nat) (vec : List Nat)
    (hm : c.metric.isBq = true) (h : Writer.addItem c s id vec = .ok s') :
    Writer.itemVector c s' id = some (vec.map sign) :=
  C05_bq_readback_given_roundtrip (fun xs => C12.C12_roundtrip xs) c s s' id vec hm h

theorem C05_bq_readback_append (c : Cfg) (s s' : Store) (hs : Store.Sorted s) (id : Nat) (vec : List Nat)
    (hm : c.metric.isBq = true) (h : Writer.appendItem c s id vec = .ok s') :
    Writer.itemVector c s' id = some (vec.map sign) :=
  C05_bq_readback c s s' id vec hm (Writer.appendItem_ok_eq_addItem hs h)

/-- non-vacuity: BQ-Euclidean, dimension 3, the vector (1.0, -2.0, -0.0) reads back as (1.0, -1.0, -1.0) -/
example : ∃ s', Writer.addItem ⟨0, .bqEuclidean, 3, {}⟩ [] 7 [1065353216, 3221225472, 2147483648] = .ok s' ∧
    Writer.itemVector ⟨0, .bqEuclidean, 3, {}⟩ s' 7 = some [F32.one, F32.negOne, F32.negOne] := by
  refine ⟨_, rfl, ?_⟩
  rw [C05_bq_readback ⟨0, .bqEuclidean, 3, {}⟩ [] _ 7 [1065353216, 3221225472, 2147483648] rfl rfl]
  decide

end C05

/-! ## C08 / C09: every committed version, reader snapshot and recovered state is a reachable state

The environment model (`ArroyModel/Env.lean`) runs arbitrary `Store → Store` functions in its write
transactions. Here the writing thread runs arroy operations (`C01.step`), grouped in transactions that
are committed, aborted or cut by a crash, interleaved with readers opening and closing and with
crashes between transactions. Every version that is ever committed — hence every snapshot a reader
observes and the state found after a crash — is `C01.run h` for the concatenation `h` of the committed
transactions so far; if every committed transaction ends with a successful build of index `c`, it
satisfies the conclusions of C01/C02/C03. -/
namespace C01

/-- `v` is the state right after a successful build of index `c` at the end of a well-formed history -/
def BuiltState (c : Cfg) (v : Store) : Prop :=
  ∃ (ops : List Op) (o : BuildOpts) (fuel : Nat) (env st' : BState),
    (∀ op ∈ ops, op.wf) ∧ (Op.build c o fuel env).wf ∧
    Build.build c o fuel { env with store := run ops } = .ok ((), st') ∧ v = st'.store

/-- what C01 says of such a state, in terms of the state alone -/
theorem BuiltState.reader {c : Cfg} {v : Store} (hb : BuiltState c v) :
    ∃ roots,
      Reader.open c v = .ok ⟨roots, c.dims, v.keysOf c.index modeItem⟩ ∧
      ForestWith c v ⟨roots, c.dims, v.keysOf c.index modeItem⟩ (Check.trees c v) ∧
      DescSorted c v ∧ IndexInv c v ∧ Check.forestValid c v = [] := by
  obtain ⟨ops, o, fuel, env, st', hops, hwf, h, rfl⟩ := hb
  obtain ⟨roots, h1, h2, h3, h4, h5⟩ := C01_reader_reachable ops hops c o fuel env st' hwf h
  have hchk := C01_checker_accepts ops hops c o fuel env st' hwf h
  rw [(C01_forest ops hops c o fuel env st' hwf h).1] at hchk
  rw [h4]
  exact ⟨roots, h1, h2, h3, h5, hchk⟩

/-- C02 and C03 on such a state -/
theorem BuiltState.queries {c : Cfg} {v : Store} (hb : BuiltState c v) :
    ∃ roots,
      Reader.open c v = .ok ⟨roots, c.dims, v.keysOf c.index modeItem⟩ ∧
      (∀ (qh qv : List Nat) (q : QueryOpts), ∃ ans,
        nnsByLeaf c v ⟨roots, c.dims, v.keysOf c.index modeItem⟩ qh qv q = .ok ans ∧
        ∀ p ∈ ans, p.1 ∈ v.keysOf c.index modeItem) ∧
      (∀ (qh qv : List Nat) (q : QueryOpts), q.candidates = none → q.searchK = some usizeMax →
        q.oversampling ≠ some 0 → roots.length * (v.keysOf c.index modeItem).length ≤ usizeMax →
        nnsByLeaf c v ⟨roots, c.dims, v.keysOf c.index modeItem⟩ qh qv q =
          .ok (exactOver c v c.dims qh qv q.count (v.keysOf c.index modeItem))) := by
  obtain ⟨roots, h1, h2, _⟩ := hb.reader
  exact ⟨roots, h1, fun qh qv q => C03.C03_total ⟨_, h2⟩ qh qv q,
    fun qh qv q hq hk ho hsz => C02.C02_exact_usizeMax ⟨_, h2⟩ qh qv q hq hk ho hsz⟩

end C01

namespace C08
open C01

/-- one operation of the writing thread, as an event of the environment -/
def wr (op : Op) : Env.Event := .write (fun s => step s op)

/-- what happens in the environment, at the granularity of transactions -/
inductive Item where
  /-- a write transaction that commits -/
  | commitTx (ops : List Op)
  /-- a write transaction that is aborted (e.g. after a failed or cancelled build) -/
  | abortTx (ops : List Op)
  /-- a write transaction cut by a crash of the process -/
  | crashTx (ops : List Op)
  | openR (rid : Nat)
  | closeR (rid : Nat)
  /-- a crash while no write transaction is open -/
  | crash

def Item.events : Item → List Env.Event
  | .commitTx ops => .beginW :: ops.map wr ++ [.commit]
  | .abortTx ops => .beginW :: ops.map wr ++ [.abort]
  | .crashTx ops => .beginW :: ops.map wr ++ [.crash]
  | .openR rid => [.openR rid]
  | .closeR rid => [.closeR rid]
  | .crash => [.crash]

/-- the operations attempted by an item -/
def Item.ops : Item → List Op
  | .commitTx ops => ops
  | .abortTx ops => ops
  | .crashTx ops => ops
  | _ => []

/-- the operations an item commits -/
def Item.committed : Item → List Op
  | .commitTx ops => ops
  | _ => []

def events (sched : List Item) : List Env.Event := sched.flatMap Item.events
def committedOps (sched : List Item) : List Op := sched.flatMap Item.committed

theorem envRun_append (e : Env) (a b : List Env.Event) : e.run (a ++ b) = (e.run a).run b := by
  simp only [Env.run, List.foldl_append]

/-- the writer's private store after the operations of an open transaction (`writes_frame`: nothing else moves) -/
theorem run_writes (ops : List Op) (e : Env) (s : Store) (h : e.writer = some s) :
    (e.run (ops.map wr)).writer = some (ops.foldl step s) := by
  have := writes_writer e (ops.map fun op s => step s op) s h
  rwa [List.map_map, List.foldl_map] at this

theorem run_tx (e : Env) (hw : e.writer = none) (ops : List Op) (last : Env.Event) :
    ∃ e2 : Env, e.run (.beginW :: ops.map wr ++ [last]) = e2.step last ∧
      e2.writer = some (ops.foldl step e.committed) ∧ e2.history = e.history ∧ e2.readers = e.readers := by
  refine ⟨(e.step .beginW).run (ops.map wr), ?_, ?_⟩
  · simp only [Env.run, List.cons_append, List.foldl_cons, List.foldl_append, List.foldl_nil]
  · have hb : (e.step .beginW).writer = some e.committed := by simp [Env.step, hw]
    obtain ⟨h2, h3⟩ := writes_frame (e.step .beginW) (ops.map fun op s => step s op)
    rw [List.map_map] at h2 h3
    exact ⟨run_writes ops _ _ hb, h2.trans (by simp [Env.step, hw]), h3.trans (by simp [Env.step, hw])⟩

/-- **`committed_is_run`**: from an environment whose committed version is `C01.run h`, running
    `begin; ops; commit` makes the committed version `C01.run (h ++ ops)`: one more reachable state -/
theorem committed_is_run (e : Env) (hw : e.writer = none) (h ops : List Op) (hc : e.committed = run h) :
    (e.run (Item.commitTx ops).events).committed = run (h ++ ops) ∧
    (e.run (Item.commitTx ops).events).history = run (h ++ ops) :: e.history ∧
    (e.run (Item.commitTx ops).events).writer = none ∧
    (e.run (Item.commitTx ops).events).readers = e.readers := by
  obtain ⟨e2, he, h1, h2, h3⟩ := run_tx e hw ops .commit
  simp only [Item.events]
  rw [he, run_append, ← hc]
  simp [Env.step, h1, h2, h3, Env.committed]

/-- the invariant of the environment between two items: no open writer, the committed version is the run
    of the committed operations `h`, every remembered version satisfies `P`, readers are pinned -/
structure TxInv (P : Store → Prop) (h : List Op) (e : Env) : Prop where
  writer : e.writer = none
  committed : e.committed = run h
  wf : ∀ op ∈ h, op.wf
  ne : e.history ≠ []
  pinned : ReadersPinned e
  versions : ∀ v ∈ e.history, P v

theorem TxInv.init {P : Store → Prop} (h0 : P []) : TxInv P [] ({} : Env) where
  writer := rfl
  committed := rfl
  wf := by intro op hop; cases hop
  ne := by simp
  pinned := by intro r hr; cases hr
  versions := by intro v hv; simp at hv; subst hv; exact h0

theorem TxInv.item {P : Store → Prop} {h : List Op} {e : Env} (hinv : TxInv P h e) (it : Item)
    (hwf : ∀ op ∈ it.ops, op.wf) (hP : ∀ ops, it = .commitTx ops → P (run (h ++ ops))) :
    TxInv P (h ++ it.committed) (e.run it.events) := by
  obtain ⟨hne', hp'⟩ := readersPinned_run e it.events hinv.ne hinv.pinned
  cases it with
  | commitTx ops =>
    obtain ⟨h1, h2, h3, h4⟩ := committed_is_run e hinv.writer h ops hinv.committed
    refine ⟨h3, h1, List.forall_mem_append.2 ⟨hinv.wf, hwf⟩, hne', hp', ?_⟩
    · intro v hv
      rw [h2] at hv
      rcases List.mem_cons.1 hv with rfl | hv
      · exact hP ops rfl
      · exact hinv.versions v hv
  | abortTx ops | crashTx ops =>
    -- a transaction that does not commit leaves the history, hence the committed version, as it was
    simp only [Item.events, Item.committed, List.append_nil] at hne' hp' ⊢
    obtain ⟨e2, he, h1, h2, h3⟩ := run_tx e hinv.writer ops _
    rw [he] at hne' hp' ⊢
    exact ⟨rfl, by simp [Env.step, Env.committed, h2, ← hinv.committed], hinv.wf, hne', hp',
      fun v hv => hinv.versions v (by simpa [Env.step, h2] using hv)⟩
  | openR rid | closeR rid =>
    simp only [Item.events, Item.committed, List.append_nil] at hne' hp' ⊢
    exact ⟨hinv.writer, hinv.committed, hinv.wf, hne', hp', hinv.versions⟩
  | crash =>
    simp only [Item.events, Item.committed, List.append_nil] at hne' hp' ⊢
    exact ⟨rfl, hinv.committed, hinv.wf, hne', hp', hinv.versions⟩

theorem events_cons (it : Item) (rest : List Item) : events (it :: rest) = it.events ++ events rest := by
  simp [events]

theorem committedOps_cons (it : Item) (rest : List Item) :
    committedOps (it :: rest) = it.committed ++ committedOps rest := by
  simp [committedOps]

/-- a reader's snapshot is one of the remembered versions -/
theorem view_mem {e : Env} (hp : ReadersPinned e) {rid : Nat} {v : Store} (hv : e.view rid = some v) :
    v ∈ e.history := by
  simp only [Env.view] at hv
  cases hf : e.readers.find? (·.1 = rid) with
  | none => simp [hf] at hv
  | some r =>
    simp only [hf, Option.map_some, Option.some.injEq] at hv
    subst hv
    exact hp r (List.mem_of_find?_eq_some hf)

/-- **C08 over arroy transactions**: whatever the schedule of committed, aborted and crashed write
    transactions, readers and crashes, every version ever committed — in particular the current one and
    every snapshot a reader observes — is `C01.run h` for a well-formed history `h` (the committed
    operations, in order; aborted and crashed transactions leave no trace): the theorems about
    reachable states (`C01_invariant`, …) apply to it. -/
theorem C08_versions_reachable (sched : List Item) (hwf : ∀ it ∈ sched, ∀ op ∈ it.ops, op.wf) :
    (({} : Env).run (events sched)).writer = none ∧
    (({} : Env).run (events sched)).committed = run (committedOps sched) ∧
    (∀ op ∈ committedOps sched, op.wf) ∧
    (∀ v ∈ (({} : Env).run (events sched)).history, ∃ h, (∀ op ∈ h, op.wf) ∧ v = run h) ∧
    (∀ rid v, (({} : Env).run (events sched)).view rid = some v → ∃ h, (∀ op ∈ h, op.wf) ∧ v = run h) := by
  suffices ∀ (h : List Op) (e : Env), TxInv (fun v => ∃ h, (∀ op ∈ h, op.wf) ∧ v = run h) h e →
      TxInv (fun v => ∃ h, (∀ op ∈ h, op.wf) ∧ v = run h) (h ++ committedOps sched) (e.run (events sched)) by
    have := this [] {} (TxInv.init ⟨[], (by intro op hop; cases hop), rfl⟩)
    rw [List.nil_append] at this
    exact ⟨this.writer, this.committed, this.wf, this.versions,
      fun rid v hv => this.versions v (view_mem this.pinned hv)⟩
  induction sched with
  | nil => intro h e hinv; simpa [events, committedOps, Env.run] using hinv
  | cons it rest ih =>
    intro h e hinv
    rw [events_cons, committedOps_cons, envRun_append, ← List.append_assoc]
    have hit := hwf it (by simp)
    apply ih (fun it' h' => hwf it' (List.mem_cons_of_mem _ h'))
    apply hinv.item it hit
    intro ops hops
    subst hops
    exact ⟨h ++ ops, List.forall_mem_append.2 ⟨hinv.wf, hit⟩, rfl⟩

/-- the invariant of every index holds in every committed version and every reader snapshot -/
theorem C08_invariant_reachable (sched : List Item) (hwf : ∀ it ∈ sched, ∀ op ∈ it.ops, op.wf)
    (c : Cfg) (hi : c.index < 65536) :
    (∀ v ∈ (({} : Env).run (events sched)).history, IndexInv c v) ∧
    (∀ rid v, (({} : Env).run (events sched)).view rid = some v → IndexInv c v) := by
  obtain ⟨_, _, _, h1, h2⟩ := C08_versions_reachable sched hwf
  constructor
  · intro v hv
    obtain ⟨h, hh, rfl⟩ := h1 v hv
    exact C01_invariant h hh c hi
  · intro rid v hv
    obtain ⟨h, hh, rfl⟩ := h2 rid v hv
    exact C01_invariant h hh c hi

/-- the transaction `ops`, started from the store `s`, ends with a build of index `c` that succeeds -/
def EndsBuilt (c : Cfg) (s : Store) (ops : List Op) : Prop :=
  ∃ (pre : List Op) (o : BuildOpts) (fuel : Nat) (env st' : BState), ops = pre ++ [.build c o fuel env] ∧
    Build.build c o fuel { env with store := pre.foldl step s } = .ok ((), st')

/-- every committed transaction of the schedule ends with a successful build of index `c`
    (`h`: the operations committed before) -/
def GoodSched (c : Cfg) : List Op → List Item → Prop
  | _, [] => True
  | h, .commitTx ops :: rest => EndsBuilt c (run h) ops ∧ GoodSched c (h ++ ops) rest
  | h, .abortTx _ :: rest => GoodSched c h rest
  | h, .crashTx _ :: rest => GoodSched c h rest
  | h, .openR _ :: rest => GoodSched c h rest
  | h, .closeR _ :: rest => GoodSched c h rest
  | h, .crash :: rest => GoodSched c h rest

theorem builtState_of_endsBuilt {c : Cfg} {h ops : List Op} (hh : ∀ op ∈ h, op.wf) (hops : ∀ op ∈ ops, op.wf)
    (he : EndsBuilt c (run h) ops) : BuiltState c (run (h ++ ops)) := by
  obtain ⟨pre, o, fuel, env, st', rfl, hb⟩ := he
  rw [← run_append] at hb
  have hpre : ∀ op ∈ h ++ pre, op.wf := List.forall_mem_append.2 ⟨hh, fun op hop => hops op (List.mem_append_left _ hop)⟩
  have hwf : (Op.build c o fuel env).wf := hops _ (by simp)
  refine ⟨h ++ pre, o, fuel, env, st', hpre, hwf, hb, ?_⟩
  rw [← List.append_assoc]
  exact (C01_forest (h ++ pre) hpre c o fuel env st' hwf hb).1

theorem GoodSched.tail {c : Cfg} {h : List Op} {it : Item} {rest : List Item} (hg : GoodSched c h (it :: rest)) :
    GoodSched c (h ++ it.committed) rest := by
  cases it <;> simp only [GoodSched, Item.committed, List.append_nil] at hg ⊢
  · exact hg.2
  all_goals exact hg

/-- **C08, built indexes**: if every committed transaction ends with a successful build of index `c`, then
    every committed version other than the initial empty one, every snapshot a reader observes, and the
    current committed version are states right after a successful build at the end of a well-formed
    history (`BuiltState`): `Reader::open` succeeds on them, the forest is valid, every query succeeds
    and unlimited-budget search is exact (`BuiltState.reader`, `BuiltState.queries`). A reader never
    observes a half-built index, whatever the writer is doing. -/
theorem C08_built_reachable (c : Cfg) (sched : List Item) (hwf : ∀ it ∈ sched, ∀ op ∈ it.ops, op.wf)
    (hgood : GoodSched c [] sched) :
    (({} : Env).run (events sched)).committed = run (committedOps sched) ∧
    (committedOps sched = [] ∨ BuiltState c (({} : Env).run (events sched)).committed) ∧
    (∀ v ∈ (({} : Env).run (events sched)).history, v = [] ∨ BuiltState c v) ∧
    (∀ rid v, (({} : Env).run (events sched)).view rid = some v → v = [] ∨ BuiltState c v) := by
  suffices ∀ (h : List Op) (e : Env), TxInv (fun v => v = [] ∨ BuiltState c v) h e →
      (h = [] ∨ BuiltState c (run h)) → GoodSched c h sched →
      TxInv (fun v => v = [] ∨ BuiltState c v) (h ++ committedOps sched) (e.run (events sched)) ∧
      (h ++ committedOps sched = [] ∨ BuiltState c (run (h ++ committedOps sched))) by
    obtain ⟨h1, h2⟩ := this [] {} (TxInv.init (Or.inl rfl)) (Or.inl rfl) hgood
    rw [List.nil_append] at h1 h2
    refine ⟨h1.committed, ?_, h1.versions, fun rid v hv => h1.versions v (view_mem h1.pinned hv)⟩
    rw [h1.committed]; exact h2
  clear hgood
  induction sched with
  | nil => intro h e hinv hb _; simpa [events, committedOps, Env.run] using ⟨hinv, hb⟩
  | cons it rest ih =>
    intro h e hinv hb hg
    rw [events_cons, committedOps_cons, envRun_append, ← List.append_assoc]
    have hit := hwf it (by simp)
    have hnew : h ++ it.committed = [] ∨ BuiltState c (run (h ++ it.committed)) := by
      cases it with
      | commitTx ops => exact Or.inr (builtState_of_endsBuilt hinv.wf hit hg.1)
      | _ => simpa [Item.committed] using hb
    refine ih (fun it' h' => hwf it' (List.mem_cons_of_mem _ h')) (h ++ it.committed) (e.run it.events) ?_ hnew
      hg.tail
    apply hinv.item it hit
    intro ops hops
    subst hops
    exact Or.inr (builtState_of_endsBuilt hinv.wf hit hg.1)

end C08

namespace C09
open C01 C08

/-- **C09 over arroy transactions**: a crash at the end of any schedule — which may itself contain
    transactions cut by a crash (`crashTx`) and crashes between transactions — leaves no writer and no
    reader, and the committed version is the run of the committed operations; if every committed
    transaction ended with a successful build of `c`, it is the empty store (nothing was ever committed)
    or a state right after a successful build (`BuiltState`: valid forest, readable, exact search), and
    the next write transaction starts from it. -/
theorem C09_recovered_reachable (c : Cfg) (sched : List Item) (hwf : ∀ it ∈ sched, ∀ op ∈ it.ops, op.wf)
    (hgood : GoodSched c [] sched) :
    ((({} : Env).run (events sched)).step .crash).writer = none ∧
    ((({} : Env).run (events sched)).step .crash).readers = [] ∧
    ((({} : Env).run (events sched)).step .crash).committed = run (committedOps sched) ∧
    (committedOps sched = [] ∨ BuiltState c ((({} : Env).run (events sched)).step .crash).committed) ∧
    (((({} : Env).run (events sched)).step .crash).step .beginW).writer = some (run (committedOps sched)) := by
  obtain ⟨h1, h2, _, _⟩ := C08_built_reachable c sched hwf hgood
  obtain ⟨k1, _, _, _⟩ := C09_crash {} (events sched)
  have k2 := C09_restart {} (events sched)
  rw [k1]
  exact ⟨rfl, rfl, h1, h2, by rw [k2, h1]⟩

/-- without any assumption on what the transactions do: the recovered state is a reachable state -/
theorem C09_recovered_is_run (sched : List Item) (hwf : ∀ it ∈ sched, ∀ op ∈ it.ops, op.wf) :
    ((({} : Env).run (events sched)).step .crash).committed = run (committedOps sched) ∧
    (∀ op ∈ committedOps sched, op.wf) ∧
    ∀ c : Cfg, c.index < 65536 → IndexInv c ((({} : Env).run (events sched)).step .crash).committed := by
  obtain ⟨_, h1, h2, _, _⟩ := C08_versions_reachable sched hwf
  obtain ⟨k1, _, _, _⟩ := C09_crash {} (events sched)
  rw [k1, h1]
  exact ⟨rfl, h2, fun c hi => C01_invariant _ h2 c hi⟩

end C09

/-! ## C14 / C20: no hypothesis on memory, batches or vector values -/
namespace C14
open C01

/-- **C14**: the forest theorem holds for every `available_memory` and every stream of batch lengths
    (the model's stand-in for what `available_memory` and the page cache decide: how many items each
    round of `insert_items_in_current_trees` / `incremental_index_large_descendants` takes): whenever the
    build returns `.ok`, the result is a valid forest over exactly the stored items, the reader opens
    on it and every query succeeds. Immediate from `C01_forest`, which quantifies over the options and
    the oracle streams. -/
theorem C14_any_memory_forest (ops : List Op) (hops : ∀ op ∈ ops, op.wf)
    (c : Cfg) (o : BuildOpts) (mem : Option Nat) (batches : List Nat) (fuel : Nat) (env st' : BState)
    (hwf : (Op.build c o fuel env).wf)
    (h : Build.build c { o with availableMemory := mem } fuel { env with store := run ops, batches := batches } =
      .ok ((), st')) :
    (∃ roots ts,
      Store.get st'.store c.metaKey =
        some (.metadata c.metric.nameBytes c.dims ((run ops).keysOf c.index modeItem) roots) ∧
      Forest c st'.store roots ((run ops).keysOf c.index modeItem) ts ∧
      ((run ops).keysOf c.index modeItem ≠ [] → roots ≠ []) ∧
      (∀ id, Store.get st'.store (c.updatedKey id) = none)) ∧
    ∃ roots,
      Reader.open c st'.store = .ok ⟨roots, c.dims, (run ops).keysOf c.index modeItem⟩ ∧
      ForestOK c st'.store ⟨roots, c.dims, (run ops).keysOf c.index modeItem⟩ ∧
      DescSorted c st'.store := by
  have hwf' : (Op.build c { o with availableMemory := mem } fuel { env with batches := batches }).wf := hwf
  exact ⟨(C01_forest ops hops c _ fuel { env with batches := batches } st' hwf' h).2,
    C01_forestOK_reachable ops hops c _ fuel { env with batches := batches } st' hwf' h⟩

end C14

namespace C20
open C01

/-- **C20**: the forest and reader theorems have no hypothesis on the vector values. In particular with
    all items carrying the SAME arbitrary vector `v` (all zero, NaN components, anything of the right
    length or not — a vector of the wrong length is rejected by `add_item` and the item is simply not
    stored): whenever the build returns `.ok`, the forest is valid over exactly the stored items, the
    reader opens and every query succeeds, returning only stored items. -/
theorem C20_degenerate_forest (c : Cfg) (ids : List Nat) (hids : ∀ id ∈ ids, id < 4294967296) (v : List Nat)
    (o : BuildOpts) (fuel : Nat) (env st' : BState) (hwf : (Op.build c o fuel env).wf)
    (h : Build.build c o fuel { env with store := run (ids.map fun id => Op.add c id v) } = .ok ((), st')) :
    (∃ roots ts,
      Forest c st'.store roots ((run (ids.map fun id => Op.add c id v)).keysOf c.index modeItem) ts ∧
      ((run (ids.map fun id => Op.add c id v)).keysOf c.index modeItem ≠ [] → roots ≠ [])) ∧
    ∃ roots,
      Reader.open c st'.store =
        .ok ⟨roots, c.dims, (run (ids.map fun id => Op.add c id v)).keysOf c.index modeItem⟩ ∧
      ∀ (qh qv : List Nat) (q : QueryOpts), ∃ ans,
        nnsByLeaf c st'.store ⟨roots, c.dims, (run (ids.map fun id => Op.add c id v)).keysOf c.index modeItem⟩
          qh qv q = .ok ans ∧
        ∀ p ∈ ans, p.1 ∈ (run (ids.map fun id => Op.add c id v)).keysOf c.index modeItem := by
  have hops : ∀ op ∈ ids.map (fun id => Op.add c id v), op.wf := by
    intro op hop
    obtain ⟨id, hid, rfl⟩ := List.mem_map.1 hop
    exact ⟨hwf.1, hids id hid⟩
  obtain ⟨_, roots, ts, _, hf, hne, _⟩ := C01_forest _ hops c o fuel env st' hwf h
  obtain ⟨roots', h1, h2, _⟩ := C01_forestOK_reachable _ hops c o fuel env st' hwf h
  exact ⟨⟨roots, ts, hf, hne⟩, roots', h1, fun qh qv q => C03.C03_total h2 qh qv q⟩

end C20

/-! ## non-vacuity: the concrete two-round history of `C01Examples.lean` -/
namespace Reach.Ex
open C01 C01.Ex C08

/-- `C02_exact_reachable` applied: after `ops2` (five adds, a build, an add, a delete) the second build
    succeeds, the reader opens on items 1..5 with one root, and a `search_k = usize::MAX` query returns the
    exact answer — all hypotheses discharged, including trees × items ≤ `usize::MAX` -/
example : ∃ st' roots, Build.build cEx oEx 5 { env2 with store := run ops2 } = .ok ((), st') ∧
    Reader.open cEx st'.store = .ok ⟨roots, 2, [1, 2, 3, 4, 5]⟩ ∧
    ∀ (qh qv : List Nat) (count : Nat),
      nnsByLeaf cEx st'.store ⟨roots, 2, [1, 2, 3, 4, 5]⟩ qh qv { count := count, searchK := some usizeMax } =
        .ok (exactOver cEx st'.store 2 qh qv count [1, 2, 3, 4, 5]) := by
  obtain ⟨st', h⟩ := build2_result
  obtain ⟨roots, h1, h2⟩ := C02.C02_exact_reachable ops2 ops2_wf cEx oEx 5 env2 st' build2_wf h
  obtain ⟨roots', h1', hF, _⟩ := C01_reader_reachable ops2 ops2_wf cEx oEx 5 env2 st' build2_wf h
  have hr : roots' = roots := by rw [h1] at h1'; cases h1'; rfl
  subst hr
  have hlen : roots'.length = 1 := by
    have := refs_length hF.refs
    rw [← (C01_forest ops2 ops2_wf cEx oEx 5 env2 st' build2_wf h).1, after2_ok] at this
    exact this.symm
  rw [show (run ops2).keysOf cEx.index modeItem = [1, 2, 3, 4, 5] from before2.1] at h1 h2
  refine ⟨st', roots', h, h1, fun qh qv count => ?_⟩
  exact h2 qh qv _ rfl rfl (by simp) (by rw [hlen]; decide)

/-- `C03_total_reachable` / `C04_selfLookup_reachable_given_lengths`: the hypotheses on the history hold
    (`ops2_same`), and item 5 — added after the first build, routed by the second — has a good tree -/
theorem ops2_items : ∀ op ∈ ops2, C04.itemsCfg cEx op := by
  intro op hop
  simp only [ops2, ops1, List.mem_append, List.mem_cons, List.not_mem_nil, or_false] at hop
  rcases hop with (rfl | rfl | rfl | rfl | rfl | rfl) | (rfl | rfl) <;>
    first | trivial | (intro _; exact ⟨rfl, rfl⟩)

theorem after2_good : Check.hasGoodTree cEx (run (ops2 ++ [.build cEx oEx 5 env2])) 5 = true ∧
    (Store.get (run (ops2 ++ [.build cEx oEx 5 env2])) (cEx.itemKey 5)).isSome = true ∧
    ∀ t ∈ Check.trees cEx (run (ops2 ++ [.build cEx oEx 5 env2])), ∀ n ∈ t.normals, n.length = cEx.dims := by
  rw [run_ops3]
  decide +kernel

example : ∃ st' roots, Build.build cEx oEx 5 { env2 with store := run ops2 } = .ok ((), st') ∧
    Reader.open cEx st'.store = .ok ⟨roots, 2, [1, 2, 3, 4, 5]⟩ ∧
    ∃ ans, byItem cEx st'.store ⟨roots, 2, [1, 2, 3, 4, 5]⟩ 5 { count := 5, searchK := some 1 } = .ok (some ans) ∧
      5 ∈ ans.map (·.1) := by
  obtain ⟨st', h⟩ := build2_result
  have hrun := (C01_forest ops2 ops2_wf cEx oEx 5 env2 st' build2_wf h).1
  obtain ⟨hg, hx, hn⟩ := after2_good
  rw [hrun] at hg hx hn
  obtain ⟨roots, h1, h2⟩ := C04.C04_selfLookup_reachable_given_normal_lengths ops2 ops2_wf cEx ops2_same ops2_items
    oEx 5 env2 st' build2_wf h 5 hx hg hn
  rw [show (run ops2).keysOf cEx.index modeItem = [1, 2, 3, 4, 5] from before2.1] at h1 h2
  refine ⟨st', roots, h, h1, h2 _ rfl ?_ (by decide)⟩
  -- budget = search_k × oversampling = 1 × 1
  simp only [budget, satMul, Option.getD_some, Option.getD_none]
  decide

/-- `C08_built_reachable` / `C09_recovered_reachable`: a schedule with two committed transactions (each ending
    with a successful build), an aborted one, one cut by a crash, two readers and a final crash -/
def sched : List Item :=
  [.openR 1, .commitTx ops1, .openR 2, .abortTx [.clear cEx], .crashTx [.del cEx 3],
   .commitTx [.add cEx 5 [f25, f2], .del cEx 0, .build cEx oEx 5 env2], .closeR 1, .crash]

theorem build1_ok : isOk (Build.build cEx oEx 5
    { env1 with store := List.foldl step (run []) [.add cEx 0 [fm2, 0], .add cEx 1 [fm1, 0], .add cEx 2 [f1, fm1],
      .add cEx 3 [f2, f1], .add cEx 4 [f3, f1]] }) = true := by decide +kernel

theorem sched_wf : ∀ it ∈ sched, ∀ op ∈ it.ops, op.wf := by decide

theorem sched_good : GoodSched cEx [] sched := by
  refine ⟨?_, ?_, trivial⟩
  · obtain ⟨st', hb⟩ := C01.Ex.ok_of_isOk build1_ok
    exact ⟨_, oEx, 5, env1, st', rfl, hb⟩
  · obtain ⟨st', h⟩ := build2_result
    refine ⟨[.add cEx 5 [f25, f2], .del cEx 0], oEx, 5, env2, st', rfl, ?_⟩
    rw [← run_append]
    exact h

/-- the state recovered after the final crash is a `BuiltState`: the reader opens on it -/
example : ∃ roots, Reader.open cEx (((({} : Env).run (events sched)).step .crash).committed) =
    .ok ⟨roots, 2, (((({} : Env).run (events sched)).step .crash).committed).keysOf 0 modeItem⟩ := by
  obtain ⟨_, _, _, h4, _⟩ := C09.C09_recovered_reachable cEx sched sched_wf sched_good
  rcases h4 with h4 | h4
  · exact absurd h4 (by simp [sched, committedOps, Item.committed, ops1])
  · obtain ⟨roots, h1, _⟩ := h4.reader
    exact ⟨roots, h1⟩

/-- `C14_any_memory_forest`: its hypotheses hold with `available_memory = Some(1024)` and the batch stream
    `[1, 3]` on the second build of the history -/
theorem build2_mem_ok : isOk (Build.build cEx { oEx with availableMemory := some 1024 } 5
    { env2 with store := run ops2, batches := [1, 3] }) = true := by
  rw [run_ops2]
  decide +kernel

example : ∃ (st' : BState) (roots : List Nat), Reader.open cEx st'.store = .ok ⟨roots, 2, [1, 2, 3, 4, 5]⟩ ∧
    ForestOK cEx st'.store ⟨roots, 2, [1, 2, 3, 4, 5]⟩ := by
  obtain ⟨st', hb⟩ := C01.Ex.ok_of_isOk build2_mem_ok
  obtain ⟨_, roots, h1, h2, _⟩ := C14.C14_any_memory_forest ops2 ops2_wf cEx oEx (some 1024) [1, 3] 5 env2 st'
    build2_wf hb
  rw [show (run ops2).keysOf cEx.index modeItem = [1, 2, 3, 4, 5] from before2.1] at h1 h2
  exact ⟨st', roots, h1, h2⟩

/-- `C20_degenerate_forest`: five items all carrying the zero vector, zero normals from the oracle; the
    build succeeds (the items are spread by the random sides) -/
def envD : BState :=
  { store := [], normals := [[0, 0], [0, 0], [0, 0], [0, 0]],
    rands := [true, false, true, false, true, false, true, false, true, false, true, false], batches := [5] }

theorem buildD_ok : isOk (Build.build cEx oEx 5
    { envD with store := run ([0, 1, 2, 3, 4].map fun id => Op.add cEx id [0, 0]) }) = true ∧
    (run ([0, 1, 2, 3, 4].map fun id => Op.add cEx id [0, 0])).keysOf cEx.index modeItem = [0, 1, 2, 3, 4] := by
  decide +kernel

example : ∃ st' roots, Build.build cEx oEx 5
      { envD with store := run ([0, 1, 2, 3, 4].map fun id => Op.add cEx id [0, 0]) } = .ok ((), st') ∧
    Reader.open cEx st'.store = .ok ⟨roots, 2, [0, 1, 2, 3, 4]⟩ ∧ roots ≠ [] := by
  obtain ⟨st', hb⟩ := C01.Ex.ok_of_isOk buildD_ok.1
  obtain ⟨_, roots, h1, _⟩ := C20.C20_degenerate_forest cEx [0, 1, 2, 3, 4] (by decide) [0, 0]
    oEx 5 envD st' (by decide) hb
  obtain ⟨roots', h1', hF, _⟩ := C01_reader_reachable _
    (by intro op hop; obtain ⟨id, hid, rfl⟩ := List.mem_map.1 hop; clear hop; exact ⟨by decide, by revert id; decide⟩)
    cEx oEx 5 envD st' (by decide) hb
  cases h1.symm.trans h1'
  rw [buildD_ok.2] at h1 hF
  exact ⟨st', roots, hb, h1, hF.roots_ne (by simp)⟩

end Reach.Ex

end Arroy
