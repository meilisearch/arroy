import ArroyProofs.FreshSupplyProof
import ArroyProofs.Properties.C01
import ArroyProofs.Properties.C01Checker
import ArroyProofs.Properties.C15Build
import ArroyProofs.Properties.C04Build
import ArroyProofs.Properties.C10Reach
/-! The history-level theorems with the id-generator hypothesis `FreshSupply` discharged by C13
(`freshSupply`): these are the unconditional statements over ALL histories
`((add | append | delete | clear | prepare_changing_distance)* build)+` on any indexes, all oracle streams
(normals, random sides, batch lengths), all options, all cancellation schedules. -/
namespace Arroy

namespace C01
/-- **C01**: after any history, a successful build leaves metadata listing exactly the stored
    items and a valid forest over them (every root reifies; node ids not shared; no floating node;
    each tree reaches every item exactly once), at least one tree if there is an item, no mark. -/
theorem C01_forest (ops : List Op) (hops : ∀ op ∈ ops, op.wf)
    (c : Cfg) (o : BuildOpts) (fuel : Nat) (env st' : BState) (hwf : (Op.build c o fuel env).wf)
    (h : Build.build c o fuel { env with store := run ops } = .ok ((), st')) :
    run (ops ++ [.build c o fuel env]) = st'.store ∧
    ∃ roots ts,
      Store.get st'.store c.metaKey =
        some (.metadata c.metric.nameBytes c.dims ((run ops).keysOf c.index Generated.modeItem) roots) ∧
      Forest c st'.store roots ((run ops).keysOf c.index Generated.modeItem) ts ∧
      ((run ops).keysOf c.index Generated.modeItem ≠ [] → roots ≠ []) ∧
      (∀ id, Store.get st'.store (c.updatedKey id) = none) :=
  C01_history freshSupply ops hops c o fuel env st' hwf h

/-- the index invariant holds in every reachable state, for every index -/
theorem C01_invariant (ops : List Op) (hops : ∀ op ∈ ops, op.wf) (c : Cfg) (hi : c.index < 65536) :
    IndexInv c (run ops) := C01_history_inv freshSupply ops hops c hi

/-- the executable checker run on implementation dumps accepts every state the model can reach
    right after a successful build -/
theorem C01_checker_accepts (ops : List Op) (hops : ∀ op ∈ ops, op.wf)
    (c : Cfg) (o : BuildOpts) (fuel : Nat) (env st' : BState) (hwf : (Op.build c o fuel env).wf)
    (h : Build.build c o fuel { env with store := run ops } = .ok ((), st')) :
    Check.forestValid c (run (ops ++ [.build c o fuel env])) = [] :=
  C01_checker_history freshSupply ops hops c o fuel env st' hwf h
end C01

namespace C15
/-- **C15, capacity**: with a constant capacity `K` no bucket ever holds more than `K` items -/
theorem C15_capacity_all_histories (c : Cfg) (hi : c.index < 65536) (K : Nat)
    (ops : List C01.Op) (hops : ∀ op ∈ ops, op.wf) (hK : ∀ op ∈ ops, capIs c K op) :
    ∀ t ∈ Check.trees c (C01.run ops), ∀ bk ∈ t.buckets, bk.2.length ≤ K :=
  C15_capacity_history freshSupply c hi K ops hops hK
end C15

namespace C04
/-- **C04, routing**: right after a successful build every item with a decisive margin lies on the
    side of every non-degenerate plane above it to which its own vector is sent first -/
theorem C04_routed_all_histories (c : Cfg) (ops : List C01.Op) (hops : ∀ op ∈ ops, op.wf)
    (hQ : ∀ op ∈ ops, sameCfg c op) (o : BuildOpts) (fuel : Nat) (env st' : BState)
    (hwf : (C01.Op.build c o fuel env).wf)
    (h : Build.build c o fuel { env with store := C01.run ops } = .ok ((), st')) :
    Routed c o st'.store ∧ Check.routed c st'.store = [] :=
  C04_history freshSupply c ops hops hQ o fuel env st' hwf h
end C04

namespace C10
/-- **C10** on every reachable state: a build that succeeds under any cancellation schedule is the
    fault-free build -/
theorem C10_transparent_ok_all (ops : List C01.Op) (hops : ∀ op ∈ ops, op.wf)
    (c : Cfg) (hi : c.index < 65536) (o : BuildOpts) (fuel : Nat) (env st' : BState)
    (h : Build.build c o fuel { env with store := C01.run ops } = .ok ((), st')) :
    Build.build c o fuel (Transp.erase { env with store := C01.run ops }) = .ok ((), Transp.erase st') :=
  C10_transparent_ok_reachable freshSupply ops hops c hi o fuel env st' h

theorem C10_transparent_err_all (ops : List C01.Op) (hops : ∀ op ∈ ops, op.wf)
    (c : Cfg) (hi : c.index < 65536) (o : BuildOpts) (fuel : Nat) (env : BState) (e : Err)
    (h : Build.build c o fuel { env with store := C01.run ops } = .error e) :
    (∃ k, e = .cancelled k) ∨ Build.build c o fuel (Transp.erase { env with store := C01.run ops }) = .error e :=
  C10_transparent_err_reachable freshSupply ops hops c hi o fuel env e h
end C10

end Arroy
