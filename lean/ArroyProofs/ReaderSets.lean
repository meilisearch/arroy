import ArroyModel.Sets
import ArroyProofs.SetLemmas
/-! The few facts about `IdSet` the reader theorems need beyond `SetLemmas`. -/
namespace Arroy
namespace IdSet

theorem Sorted.pairwise {l : List Nat} (h : Sorted l) : l.Pairwise (· < ·) := sorted_iff_pairwise.1 h

/-- `inter` never invents members (no sortedness needed) -/
theorem mem_inter_sub (a b : List Nat) (z : Nat) : z ∈ inter a b → z ∈ a ∧ z ∈ b := by
  fun_induction inter a b <;> grind

/-- `ofList` of a list whose members are those of a strictly increasing list is that list -/
theorem ofList_eq_of_mem {l s : List Nat} (hs : s.Pairwise (· < ·)) (h : ∀ x, x ∈ l ↔ x ∈ s) : ofList l = s :=
  sorted_ext (sorted_ofList l) (sorted_iff_pairwise.2 hs) (fun x => by rw [mem_ofList, h])

end IdSet
end Arroy
