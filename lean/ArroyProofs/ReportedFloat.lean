import ArroyProofs.F32RealOrder
import ArroyProofs.F32KernelRound
import ArroyProofs.KernelMap
import ArroyProofs.F32Nonneg
import ArroyProofs.ReportedReal
import Mathlib.Analysis.Real.Sqrt
/-! Binary32 facts behind the rounding-error bounds of the REPORTED distances (`Properties/C11Reported.lean`):
the real value of a finite pattern is zero or in `[2^-149, 2^128)`; a square root of a finite non-negative
value never leaves the normal range; a finite square root comes from a finite non-negative radicand; a
decidable range check for division; `clamp(-1, 1)` in real numbers; `1 − c` for `c ∈ [-1, 1]` is zero or
at least `2^-24`; dot products of vectors of zeros are zeros; a set flag of the instrumented run certifies a finite result;
the list identities and the combined flag `cosineChk` used in the statements. -/
namespace Arroy
namespace SFR
open SF

theorem unpack_fin_bounds {x : Nat} {n : Bool} {m : Nat} {e : Int} (h : unpack f32 x = .fin n m e) :
    m < 2 ^ 24 ∧ -149 ≤ e ∧ e ≤ 104 := by
  rw [unpack_f32] at h
  have hf : x % 8388608 < 8388608 := Nat.mod_lt _ (by decide)
  have h3 : x / 8388608 % 256 < 256 := Nat.mod_lt _ (by decide)
  split at h
  · split at h <;> cases h
  · rename_i d1
    split at h
    · cases h; exact ⟨by omega, by omega, by omega⟩
    · rename_i d2
      cases h
      simp only [beq_iff_eq] at d1 d2
      exact ⟨by omega, by omega, by omega⟩

theorem toReal_range {x : Nat} (hf : Finite x) :
    toReal x = 0 ∨ ((2 : ℝ) ^ (-149 : ℤ) ≤ |toReal x| ∧ |toReal x| < (2 : ℝ) ^ (128 : ℤ)) := by
  obtain ⟨n, m, e, hu⟩ := (finite_iff x).1 hf
  obtain ⟨b1, b2, b3⟩ := unpack_fin_bounds hu
  by_cases h0 : m = 0
  · left; exact (toReal_eq_zero_iff hu).2 h0
  · right
    have hm1 : (1 : ℝ) ≤ m := by exact_mod_cast Nat.pos_of_ne_zero h0
    have hm2 : (m : ℝ) < (2 : ℝ) ^ (24 : ℕ) := by exact_mod_cast b1
    have hE := two_zpow_pos e
    rw [abs_toReal hu]
    have e1 : (2 : ℝ) ^ (-149 : ℤ) ≤ (2 : ℝ) ^ e := zpow_le_zpow_right₀ (by norm_num) b2
    have e2 : (2 : ℝ) ^ e ≤ (2 : ℝ) ^ (104 : ℤ) := zpow_le_zpow_right₀ (by norm_num) b3
    constructor
    · have := mul_le_mul_of_nonneg_right hm1 hE.le
      linarith
    · have e3 : (2 : ℝ) ^ (128 : ℤ) = (2 : ℝ) ^ (24 : ℕ) * (2 : ℝ) ^ (104 : ℤ) := by
        rw [← zpow_natCast, ← zpow_add₀ two_ne_zero]; norm_num
      rw [e3]
      calc (m : ℝ) * (2 : ℝ) ^ e < (2 : ℝ) ^ (24 : ℕ) * (2 : ℝ) ^ e := mul_lt_mul_of_pos_right hm2 hE
        _ ≤ (2 : ℝ) ^ (24 : ℕ) * (2 : ℝ) ^ (104 : ℤ) := mul_le_mul_of_nonneg_left e2 (by positivity)

theorem sqrt_normalOrZero {a : Nat} (ha : Finite a) (h0 : 0 ≤ toReal a) : NormalOrZero (√(toReal a)) := by
  rcases toReal_range ha with hz | ⟨r1, r2⟩
  · left; rw [hz, Real.sqrt_zero]
  · right
    rw [abs_of_nonneg h0] at r1 r2
    unfold NormalRange
    rw [abs_of_nonneg (Real.sqrt_nonneg _)]
    constructor
    · apply Real.le_sqrt_of_sq_le
      have : ((2 : ℝ) ^ (-126 : ℤ)) ^ 2 = (2 : ℝ) ^ (-252 : ℤ) := by
        rw [← zpow_natCast, ← zpow_mul]; norm_num
      rw [this]
      have : (2 : ℝ) ^ (-252 : ℤ) ≤ (2 : ℝ) ^ (-149 : ℤ) := zpow_le_zpow_right₀ (by norm_num) (by norm_num)
      linarith
    · have h64 : √(toReal a) < (2 : ℝ) ^ (64 : ℤ) := by
        rw [Real.sqrt_lt' (by positivity)]
        have : ((2 : ℝ) ^ (64 : ℤ)) ^ 2 = (2 : ℝ) ^ (128 : ℤ) := by
          rw [← zpow_natCast, ← zpow_mul]; norm_num
        rw [this]; exact r2
      have : (2 : ℝ) ^ (64 : ℤ) ≤ (2 : ℝ) ^ (128 : ℤ) * (1 - (2 : ℝ) ^ (-25 : ℤ)) := by norm_num
      linarith

theorem not_finite_qnan : ¬ Finite (qnan f32) := by decide
theorem not_finite_inf (s : Bool) : ¬ Finite (infBits f32 s) := by cases s <;> decide

theorem finite_of_sqrt {a : Nat} (h : Finite (F32.sqrt a)) : Finite a ∧ 0 ≤ toReal a := by
  rw [sqrt_unpack] at h
  cases hu : unpack f32 a with
  | nan => rw [hu] at h; exact absurd h not_finite_qnan
  | inf s =>
    rw [hu] at h
    cases s
    · exact absurd h (not_finite_inf false)
    · exact absurd h not_finite_qnan
  | fin s m e =>
    refine ⟨finite_of_unpack hu, ?_⟩
    rw [toReal_of_unpack hu]
    by_cases hm : m = 0
    · rw [hm]; simp
    · cases s
      · have := two_zpow_pos e
        simp only [sgn, Bool.false_eq_true, if_false, one_mul]
        positivity
      · have hmb : (m == 0) = false := by simpa using hm
        rw [hu] at h
        simp only [hmb, Bool.false_eq_true, if_false, if_true] at h
        exact absurd h not_finite_qnan

/-- decidable sufficient condition for "the exact quotient is zero or in the normal range": finite
operands, non-zero divisor, and the quotient of the leading bits between `2^-125` and `2^126` -/
def divRange (a b : Nat) : Bool :=
  match unpack f32 a, unpack f32 b with
  | .fin _ m1 e1, .fin _ m2 e2 =>
    m2 != 0 && (m1 == 0 ||
      (decide (-125 ≤ e1 + (bitLen m1 : Int) - e2 - (bitLen m2 : Int)) &&
       decide (e1 + (bitLen m1 : Int) - e2 - (bitLen m2 : Int) ≤ 126)))
  | _, _ => false

theorem divRange_sound {a b : Nat} (h : divRange a b = true) :
    Finite a ∧ Finite b ∧ toReal b ≠ 0 ∧ NormalOrZero (toReal a / toReal b) := by
  obtain ⟨s, m1, e1, t, m2, e2, hua, hub, h⟩ := fin2_of_check h
  simp only [Bool.and_eq_true, bne_iff_ne, ne_eq, Bool.or_eq_true, beq_iff_eq, decide_eq_true_eq] at h
  obtain ⟨hm2, h⟩ := h
  refine ⟨finite_of_unpack hua, finite_of_unpack hub, mt (toReal_eq_zero_iff hub).1 hm2, ?_⟩
  by_cases hm1 : m1 = 0
  · left; rw [(toReal_eq_zero_iff hua).2 hm1, zero_div]
  obtain ⟨h1, h2⟩ := h.resolve_left hm1
  right
  -- `2^(e1+L1−1) ≤ |a| < 2^(e1+L1)` and likewise for `b`, so `2^-126 ≤ |a|/|b| < 2^127`
  obtain ⟨x1, x2⟩ := mant_bounds (Nat.pos_of_ne_zero hm1) e1 le_rfl zero_lt_one
  obtain ⟨y1, y2⟩ := mant_bounds (Nat.pos_of_ne_zero hm2) e2 le_rfl zero_lt_one
  rw [add_zero, ← abs_toReal hua] at x1 x2
  rw [add_zero, ← abs_toReal hub] at y1 y2
  have hY : 0 < |toReal b| := lt_of_lt_of_le (two_zpow_pos _) y1
  unfold NormalRange
  rw [abs_div]
  constructor
  · rw [le_div_iff₀ hY]
    calc (2 : ℝ) ^ (-126 : ℤ) * |toReal b|
        ≤ (2 : ℝ) ^ (-126 : ℤ) * (2 : ℝ) ^ (e2 + (bitLen m2 : ℤ)) :=
          mul_le_mul_of_nonneg_left y2.le (two_zpow_pos _).le
      _ = (2 : ℝ) ^ (-126 + (e2 + (bitLen m2 : ℤ))) := (zpow_add₀ two_ne_zero _ _).symm
      _ ≤ (2 : ℝ) ^ (e1 + ((bitLen m1 : ℤ) - 1)) := zpow_le_zpow_right₀ (by norm_num) (by omega)
      _ ≤ |toReal a| := x1
  · rw [div_lt_iff₀ hY]
    have k0 : (2 : ℝ) ^ (127 : ℤ) ≤ (2 : ℝ) ^ (128 : ℤ) * (1 - (2 : ℝ) ^ (-25 : ℤ)) := by norm_num
    calc |toReal a| < (2 : ℝ) ^ (e1 + (bitLen m1 : ℤ)) := x2
      _ ≤ (2 : ℝ) ^ (127 + (e2 + ((bitLen m2 : ℤ) - 1))) := zpow_le_zpow_right₀ (by norm_num) (by omega)
      _ = (2 : ℝ) ^ (127 : ℤ) * (2 : ℝ) ^ (e2 + ((bitLen m2 : ℤ) - 1)) := zpow_add₀ two_ne_zero _ _
      _ ≤ (2 : ℝ) ^ (127 : ℤ) * |toReal b| := mul_le_mul_of_nonneg_left y1 (two_zpow_pos _).le
      _ ≤ (2 : ℝ) ^ (128 : ℤ) * (1 - (2 : ℝ) ^ (-25 : ℤ)) * |toReal b| :=
        mul_le_mul_of_nonneg_right k0 hY.le

theorem toReal_negOne : Finite F32.negOne ∧ toReal F32.negOne = -1 := by
  refine ⟨finite_of_unpack unpack_negOne, ?_⟩
  rw [toReal_of_unpack unpack_negOne]
  simp only [sgn, if_true]
  rw [show ((-23 : Int)) = -((23 : Nat) : Int) from rfl, zpow_neg, zpow_natCast]
  norm_num

theorem clamp_real {x : Nat} (hx : Finite x) :
    Finite (F32.clamp x F32.negOne F32.one) ∧
    toReal (F32.clamp x F32.negOne F32.one) = max (-1) (min 1 (toReal x)) := by
  obtain ⟨f1, r1⟩ := toReal_one
  obtain ⟨fm, rm⟩ := toReal_negOne
  have e : F32.clamp x F32.negOne F32.one
      = if F32.lt x F32.negOne then F32.negOne else if F32.lt F32.one x then F32.one else x := rfl
  rw [e]
  by_cases c1 : F32.lt x F32.negOne = true
  · rw [if_pos c1]
    have := (lt_iff_toReal _ _ hx fm).1 c1
    rw [rm] at this ⊢
    refine ⟨fm, ?_⟩
    rw [min_eq_right (by linarith), max_eq_left (by linarith)]
  · rw [if_neg c1]
    have h1 : ¬ toReal x < -1 := by rw [← rm]; exact fun h => c1 ((lt_iff_toReal _ _ hx fm).2 h)
    by_cases c2 : F32.lt F32.one x = true
    · rw [if_pos c2]
      have := (lt_iff_toReal _ _ f1 hx).1 c2
      rw [r1] at this ⊢
      refine ⟨f1, ?_⟩
      rw [min_eq_left (by linarith), max_eq_right (by norm_num)]
    · rw [if_neg c2]
      have h2 : ¬ 1 < toReal x := by rw [← r1]; exact fun h => c2 ((lt_iff_toReal _ _ f1 hx).2 h)
      refine ⟨hx, ?_⟩
      rw [min_eq_right (by linarith), max_eq_right (by linarith)]

theorem dyadic_gap {m j : Nat} (hj : j ≤ 24) (h : (m : ℝ) / (2 : ℝ) ^ j ≤ 1) :
    1 - (m : ℝ) / (2 : ℝ) ^ j = 0 ∨ (1 : ℝ) / 16777216 ≤ 1 - (m : ℝ) / (2 : ℝ) ^ j := by
  have hP : (0 : ℝ) < (2 : ℝ) ^ j := by positivity
  have hmle : m ≤ 2 ^ j := by
    rw [div_le_one hP] at h; exact_mod_cast h
  rcases Nat.lt_or_ge m (2 ^ j) with hlt | hge
  · right
    have h3 : (1 : ℝ) ≤ (2 : ℝ) ^ j - m := by
      have : (m : ℝ) + 1 ≤ (2 : ℝ) ^ j := by exact_mod_cast hlt
      linarith
    have e24 : (2 : ℝ) ^ j ≤ 16777216 :=
      le_trans (pow_le_pow_right₀ one_le_two hj) (by norm_num)
    rw [one_sub_div hP.ne', div_le_div_iff₀ (by norm_num) hP]
    exact mul_le_mul h3 e24 hP.le (le_trans zero_le_one h3)
  · left
    rw [show m = 2 ^ j by omega]; push_cast
    rw [div_self hP.ne', _root_.sub_self]

theorem one_sub_range {c : Nat} (hf : Finite c) (h2 : toReal c ≤ 1) :
    1 - toReal c = 0 ∨ u ≤ 1 - toReal c := by
  rw [u_eq]
  obtain ⟨n, m, e, hu⟩ := (finite_iff c).1 hf
  obtain ⟨b1, -, -⟩ := unpack_fin_bounds hu
  by_cases hhalf : toReal c ≤ 1 / 2
  · right; linarith only [hhalf]
  · -- above `1/2` the value is `m·2^e` with `m < 2^24`, hence `-24 ≤ e ≤ 0`
    have hgt : 1 / 2 < toReal c := not_le.mp hhalf
    have habs := abs_toReal hu
    rw [abs_of_pos (by linarith only [hgt])] at habs
    rw [habs] at h2 hgt ⊢
    have hE := two_zpow_pos e
    have hm2 : (m : ℝ) ≤ 16777216 := by exact_mod_cast b1.le
    have hm1 : (1 : ℝ) ≤ m := by
      have : m ≠ 0 := by rintro rfl; simp at hgt; linarith only [hgt]
      exact_mod_cast Nat.pos_of_ne_zero this
    have he0 : e ≤ 0 := by
      by_contra hcon
      have e1 : (2 : ℝ) ^ (1 : ℤ) ≤ (2 : ℝ) ^ e := zpow_le_zpow_right₀ one_le_two (by omega)
      have := mul_le_mul hm1 e1 (by norm_num) (le_trans zero_le_one hm1)
      norm_num at this
      linarith only [this, h2]
    have he24 : -24 ≤ e := by
      by_contra hcon
      have e1 : (2 : ℝ) ^ e ≤ (2 : ℝ) ^ (-25 : ℤ) := zpow_le_zpow_right₀ one_le_two (by omega)
      have := mul_le_mul hm2 e1 hE.le (by norm_num)
      norm_num at this
      linarith only [this, hgt]
    obtain ⟨j, rfl⟩ : ∃ j : Nat, e = -(j : Int) := ⟨(-e).toNat, by omega⟩
    rw [zpow_neg, zpow_natCast, ← div_eq_mul_inv] at h2 ⊢
    exact dyadic_gap (by omega) h2

open Kernel

/-- `+0.0` or `-0.0` -/
def IsZ (x : Nat) : Prop := x = F32.zero ∨ x = F32.negZero

instance (x : Nat) : Decidable (IsZ x) := by unfold IsZ; infer_instance

theorem isz_add {x y : Nat} (hx : IsZ x) (hy : IsZ y) : IsZ (F32.add x y) := by
  rcases hx with rfl | rfl <;> rcases hy with rfl | rfl <;> decide
theorem isz_sub {x y : Nat} (hx : IsZ x) (hy : IsZ y) : IsZ (F32.sub x y) := by
  rcases hx with rfl | rfl <;> rcases hy with rfl | rfl <;> decide
theorem isz_mul {x y : Nat} (hx : IsZ x) (hy : IsZ y) : IsZ (F32.mul x y) := by
  rcases hx with rfl | rfl <;> rcases hy with rfl | rfl <;> decide
theorem isz_fma {x y z : Nat} (hx : IsZ x) (hy : IsZ y) (hz : IsZ z) : IsZ (F32.fma x y z) := by
  rcases hx with rfl | rfl <;> rcases hy with rfl | rfl <;> rcases hz with rfl | rfl <;> decide
theorem isz_sqrt {x : Nat} (hx : IsZ x) : IsZ (F32.sqrt x) := by
  rcases hx with rfl | rfl <;> decide

/-- the binary32 arithmetic restricted to the two zeros -/
def zArith : Arith {x : Nat // IsZ x} where
  zero := ⟨F32.zero, Or.inl rfl⟩
  sumInit := ⟨F32.negZero, Or.inr rfl⟩
  add := fun x y => ⟨F32.add x.1 y.1, isz_add x.2 y.2⟩
  sub := fun x y => ⟨F32.sub x.1 y.1, isz_sub x.2 y.2⟩
  mul := fun x y => ⟨F32.mul x.1 y.1, isz_mul x.2 y.2⟩
  fma := fun x y z => ⟨F32.fma x.1 y.1 z.1, isz_fma x.2 y.2 z.2⟩

theorem zArith_hom : ArithHom Subtype.val zArith f32Arith where
  zero := rfl
  sumInit := rfl
  add := fun _ _ => rfl
  sub := fun _ _ => rfl
  mul := fun _ _ => rfl
  fma := fun _ _ _ => rfl

theorem lift_isz : ∀ (p : List Nat), (∀ x ∈ p, IsZ x) → ∃ p' : List {x : Nat // IsZ x}, p'.map Subtype.val = p := by
  intro p
  induction p with
  | nil => intro _; exact ⟨[], rfl⟩
  | cons a p ih =>
    intro h
    obtain ⟨p', hp'⟩ := ih (fun x hx => h x (by simp [hx]))
    exact ⟨⟨a, h a (by simp)⟩ :: p', by simp [hp']⟩

theorem dotProduct_isz (h : Host) (p q : List Nat) (hp : ∀ x ∈ p, IsZ x) (hq : ∀ x ∈ q, IsZ x) :
    IsZ (dotProduct h p q) := by
  obtain ⟨p', rfl⟩ := lift_isz p hp
  obtain ⟨q', rfl⟩ := lift_isz q hq
  rw [dotProduct_eq, dotProductG_map Subtype.val zArith_hom]
  exact (dotProductG zArith h p' q').2

/-- the product of a zero with anything is a zero or NaN, hence not above `f32::EPSILON` -/
theorem gt_mul_zero_left {z : Nat} (hz : IsZ z) (y : Nat) : F32.gt (F32.mul z y) F32.epsilon = false := by
  have hu : ∃ s, unpack f32 z = .fin s 0 (-149) := by
    rcases hz with rfl | rfl
    · exact ⟨false, unpack_zero⟩
    · exact ⟨true, unpack_negZero⟩
  obtain ⟨s, hu⟩ := hu
  have hm : F32.mul z y = qnan f32 ∨ F32.mul z y = packBits f32 false 0 0 ∨ F32.mul z y = packBits f32 true 0 0 := by
    rw [mul_unpack, hu]
    cases unpack f32 y with
    | nan => left; rfl
    | inf t => left; rfl
    | fin t m2 e2 =>
      right
      simp only [Nat.zero_mul, roundPack_zero]
      cases (s != t)
      · left; rfl
      · right; rfl
  rcases hm with h | h | h <;> rw [h] <;> decide

theorem gt_mul_zero_right {z : Nat} (hz : IsZ z) (y : Nat) : F32.gt (F32.mul y z) F32.epsilon = false := by
  rw [F32L.mul_comm]; exact gt_mul_zero_left hz y

theorem le_toReal {a b : Nat} (h : F32.le a b = true) (fa : Finite a) (fb : Finite b) :
    toReal a ≤ toReal b := by
  have e : F32.le a b = (!(F32.isNaN a) && !(F32.isNaN b) && !(F32.lt b a)) := rfl
  rw [e] at h
  simp only [Bool.and_eq_true, Bool.not_eq_true'] at h
  by_contra hcon
  have := (lt_iff_toReal b a fb fa).2 (not_le.mp hcon)
  rw [h.2] at this; cases this

theorem finite_of_le_le {r : Nat} (h0 : F32.le F32.zero r = true) (h1 : F32.le r F32.one = true) : Finite r := by
  obtain ⟨-, hn, l0⟩ := (F32M.le_iff_leV _ _).1 h0
  obtain ⟨-, -, l1⟩ := (F32M.le_iff_leV _ _).1 h1
  rw [show unpack f32 F32.zero = _ from unpack_zero] at l0
  rw [unpack_one] at l1
  cases hu : unpack f32 r with
  | nan => rw [hu] at hn; exact absurd hn id
  | inf s => rw [hu] at l0 l1; cases s <;> simp [ltV] at l0 l1
  | fin s m e => exact finite_of_unpack hu

open KernelRound ReportedReal

/-- "if no check failed so far, the value is finite" -/
def FinOK (c : Nat × Bool) : Prop := c.2 = true → Finite c.1

theorem finok_zero : FinOK f32Chk.zero := fun _ => by decide
theorem finok_sumInit : FinOK f32Chk.sumInit := fun _ => by decide

theorem finok_add (x y : Nat × Bool) : FinOK (f32Chk.add x y) := by
  intro hf
  have hf' : (x.2 && y.2 && f32Checks.add x.1 y.1) = true := hf
  obtain ⟨-, -, hc⟩ := and3_true hf'
  obtain ⟨fa, fb, hN⟩ := chk_add_sound _ _ hc
  exact (add_std _ _ fa fb hN).1

theorem finok_mul (x y : Nat × Bool) : FinOK (f32Chk.mul x y) := by
  intro hf
  have hf' : (x.2 && y.2 && f32Checks.mul x.1 y.1) = true := hf
  obtain ⟨-, -, hc⟩ := and3_true hf'
  obtain ⟨fa, fb, hN⟩ := chk_mul_sound _ _ hc
  exact (mul_std _ _ fa fb hN).1

theorem finok_fma (x y z : Nat × Bool) : FinOK (f32Chk.fma x y z) := by
  intro hf
  have hf' : (x.2 && y.2 && z.2 && f32Checks.fma x.1 y.1 z.1) = true := hf
  obtain ⟨-, -, -, hc⟩ := and4_true hf'
  obtain ⟨fa, fb, fc, hN⟩ := chk_fma_sound _ _ _ hc
  exact (fma_std _ _ _ fa fb fc hN).1

/-- every operation of `f32Chk` returns a value with `FinOK`, whatever its operands: so does any kernel
of the SSE/AVX shape whose lane step, horizontal sum and remainder step end in such an operation -/
theorem simd_finok (lanes : Nat) (step : Nat × Bool → Nat × Bool → Nat × Bool → Nat × Bool)
    (hsum : List (Nat × Bool) → Nat × Bool) (tail : Nat × Bool → Nat × Bool → Nat × Bool → Nat × Bool)
    (hs : ∀ a b c, FinOK (step a b c)) (hh : ∀ l, (∀ c ∈ l, FinOK c) → FinOK (hsum l))
    (ht : ∀ r a b, FinOK (tail r a b)) (u v : List (Nat × Bool)) :
    FinOK (simd f32Chk lanes step hsum tail u v) :=
  simd_pred f32Chk FinOK lanes step hsum tail finok_zero (fun x y _ _ => finok_add x y)
    (fun a b c _ => hs a b c) hh (fun r a b _ => ht r a b) u v

theorem scalar_finok (l : List (Nat × Bool)) : FinOK (l.foldl f32Chk.add f32Chk.sumInit) :=
  foldl_pred FinOK _ (fun _ => True) (fun x y _ _ => finok_add x y) _ _ finok_sumInit (fun _ _ => trivial)

theorem hsum128_finok (l : List (Nat × Bool)) (hl : ∀ c ∈ l, FinOK c) : FinOK (hsum128 f32Chk l) :=
  hsum128_pred f32Chk FinOK finok_zero (fun x y _ _ => finok_add x y) l hl

theorem hsum256_finok (l : List (Nat × Bool)) (hl : ∀ c ∈ l, FinOK c) : FinOK (hsum256 f32Chk l) :=
  hsum256_pred f32Chk FinOK finok_zero (fun x y _ _ => finok_add x y) l hl

theorem euclideanDistanceG_finok (h : Host) (u v : List (Nat × Bool)) : FinOK (euclideanDistanceG f32Chk h u v) := by
  unfold euclideanDistanceG
  split
  · exact simd_finok 8 _ _ _ (fun _ _ _ => finok_fma _ _ _) hsum256_finok (fun _ _ _ => finok_add _ _) u v
  · split
    · exact simd_finok 4 _ _ _ (fun _ _ _ => finok_add _ _) hsum128_finok (fun _ _ _ => finok_add _ _) u v
    · exact scalar_finok _

theorem dotProductG_finok (h : Host) (u v : List (Nat × Bool)) : FinOK (dotProductG f32Chk h u v) := by
  unfold dotProductG
  split
  · exact simd_finok 8 _ _ _ (fun _ _ _ => finok_fma _ _ _) hsum256_finok (fun _ _ _ => finok_add _ _) u v
  · split
    · exact simd_finok 4 _ _ _ (fun _ _ _ => finok_add _ _) hsum128_finok (fun _ _ _ => finok_add _ _) u v
    · exact scalar_finok _

end SFR

namespace C11
open SF SFR

theorem isNaN_false_of_finite {x : Nat} (hf : Finite x) : F32.isNaN x = false := by
  cases hn : F32.isNaN x with
  | false => rfl
  | true =>
    have hu := F32M.unpack_of_isNaN hn
    obtain ⟨n, m, e, hu'⟩ := (finite_iff x).1 hf
    rw [hu] at hu'; cases hu'

/-- a finite value that is "NaN or `≥ 0`" on bit patterns is `≥ 0` as a real number -/
theorem toReal_nonneg_of_nn {d : Nat} (h : F32M.NN d) (hf : Finite d) : 0 ≤ toReal d := by
  rcases h with hn | hle
  · rw [isNaN_false_of_finite hf] at hn; cases hn
  · have := le_toReal hle finite_zero hf
    rwa [show toReal F32.zero = 0 from toReal_zero] at this

end C11

namespace SFR
open SF Kernel KernelRound ReportedReal

/-- the flag of `C11_round_f32_euclidean_distance` implies that the squared distance is finite and non-negative -/
theorem euclideanDistance_finite (h : Host) (x y : List Nat)
    (hrun : (euclideanDistanceG f32Chk h (chkIn x) (chkIn y)).2 = true) :
    Finite (euclideanDistance h x y) ∧ 0 ≤ toReal (euclideanDistance h x y) := by
  have e := euclideanDistanceG_map Prod.fst (chk_fst_hom f32Arith f32Checks) h (chkIn x) (chkIn y)
  rw [chkIn_fst, chkIn_fst] at e
  have hf : Finite (euclideanDistance h x y) := by
    rw [euclideanDistance_eq, e]; exact euclideanDistanceG_finok h (chkIn x) (chkIn y) hrun
  exact ⟨hf, C11.toReal_nonneg_of_nn (F32M.euclideanDistance_nn h x y) hf⟩

theorem dotProduct_finite (h : Host) (x y : List Nat)
    (hrun : (dotProductG f32Chk h (chkIn x) (chkIn y)).2 = true) : Finite (dotProduct h x y) := by
  have e := dotProductG_map Prod.fst (chk_fst_hom f32Arith f32Checks) h (chkIn x) (chkIn y)
  rw [chkIn_fst, chkIn_fst] at e
  rw [dotProduct_eq, e]
  exact dotProductG_finok h (chkIn x) (chkIn y) hrun

theorem sq_terms_abs (x y : List Nat) :
    (List.zipWith (fun a b => (toReal a - toReal b) * (toReal a - toReal b)) x y).map (fun z => |z|)
      = List.zipWith (fun a b => (toReal a - toReal b) * (toReal a - toReal b)) x y := by
  apply map_abs_of_nonneg
  intro z hz
  obtain ⟨a, b, rfl⟩ := F32M.exists_of_mem_zipWith _ x y z hz
  exact mul_self_nonneg _

theorem sq_terms_sum_nonneg (x y : List Nat) :
    0 ≤ (List.zipWith (fun a b => (toReal a - toReal b) * (toReal a - toReal b)) x y).sum := by
  apply List.sum_nonneg
  intro z hz
  obtain ⟨a, b, rfl⟩ := F32M.exists_of_mem_zipWith _ x y z hz
  exact mul_self_nonneg _

theorem unpack_epsilon : unpack f32 F32.epsilon = .fin false 8388608 (-46) := by
  simp [unpack, F32.epsilon, f32, Fmt.width, Fmt.emaxField, Fmt.bias]

theorem self_terms (p : List Nat) :
    ((List.zipWith (fun a b => toReal a * toReal b) p p).map (fun z => |z|))
      = p.map (fun a => toReal a * toReal a) ∧
    List.zipWith (fun a b => toReal a * toReal b) p p = p.map (fun a => toReal a * toReal a) := by
  rw [List.zipWith_self]
  refine ⟨?_, rfl⟩
  apply map_abs_of_nonneg
  intro z hz
  obtain ⟨w, _, rfl⟩ := List.mem_map.mp hz
  exact mul_self_nonneg _

theorem cauchy_schwarz_f32 (p q : List Nat) :
    ((List.zipWith (fun a b => toReal a * toReal b) p q).map (fun z => |z|)).sum
      ≤ √((p.map (fun a => toReal a * toReal a)).sum) * √((q.map (fun b => toReal b * toReal b)).sum) := by
  have := cauchy_schwarz_list (p.map toReal) (q.map toReal)
  rw [List.zipWith_map, List.map_map, List.map_map] at this
  exact this

/-- all the flags of `C11_round_f32_cosine` as one Boolean (evaluated by `decide +kernel` in the examples) -/
def cosineChk (h : Host) (p q : List Nat) : Bool :=
  decide (p.length = q.length) && decide (dotDepth h p.length ≤ 65536) &&
  (dotProductG f32Chk h (chkIn p) (chkIn p)).2 && (dotProductG f32Chk h (chkIn q) (chkIn q)).2 &&
  (dotProductG f32Chk h (chkIn p) (chkIn q)).2 &&
  f32Checks.mul (F32.sqrt (dotProduct h p p)) (F32.sqrt (dotProduct h q q)) &&
  F32.gt (F32.mul (F32.sqrt (dotProduct h p p)) (F32.sqrt (dotProduct h q q))) F32.epsilon &&
  divRange (dotProduct h p q) (F32.mul (F32.sqrt (dotProduct h p p)) (F32.sqrt (dotProduct h q q)))

end SFR
end Arroy
