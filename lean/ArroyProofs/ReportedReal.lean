import Mathlib.Analysis.Real.Sqrt
import Mathlib.Tactic.Linarith
import Mathlib.Tactic.Ring
import Mathlib.Tactic.Positivity
import Mathlib.Tactic.NormNum
/-! Real-number analysis behind the rounding-error bounds of the REPORTED Euclidean and cosine distances
(`Properties/C11Reported.lean`): perturbation of a square root, Cauchy–Schwarz on lists, the error
propagation through `(1 − clamp(pq / (‖p‖·‖q‖), −1, 1)) / 2`.  No floating point in this file.

Every quantity is kept between two multiples `L·s ≤ x ≤ W·s` of its exact value `s`; a rounding
multiplies the factors by `1 ∓ u` (`mul_round`), a square root takes the root of the factors
(`sqrt_lower`, `sqrt_upper`), and what remains are inequalities between polynomials in `a` and `u`. -/
namespace Arroy
namespace ReportedReal

theorem pow_mul_le_one {u : ℝ} (hu : 0 ≤ u) : ∀ k : Nat, (1 + u) ^ k * (1 - k * u) ≤ 1 := by
  intro k
  induction k with
  | zero => simp
  | succ k ih =>
    have e : (1 + u) ^ (k + 1) * (1 - ((k + 1 : Nat) : ℝ) * u)
        = (1 + u) ^ k * (1 - k * u) - (1 + u) ^ k * ((k + 1) * u * u) := by
      push_cast; ring
    have : 0 ≤ (1 + u) ^ k * (((k : ℝ) + 1) * u * u) := by positivity
    rw [e]; linarith

theorem pow_sub_one_le {u c : ℝ} (hu : 0 ≤ u) (k : Nat) (hk : 0 < 1 - (k : ℝ) * u)
    (hc : 1 ≤ c * (1 - k * u)) : (1 + u) ^ k - 1 ≤ c * (k * u) := by
  have hku : 0 ≤ (k : ℝ) * u := by positivity
  -- (1+u)^k·(1−ku) ≤ 1 ≤ (1 + c·k·u)·(1−ku)
  have h2 : (1 + u) ^ k * (1 - k * u) ≤ (1 + c * (k * u)) * (1 - k * u) := by
    have := pow_mul_le_one hu k
    have : 0 ≤ (k * u) * (c * (1 - k * u) - 1) := mul_nonneg hku (by linarith)
    linarith
  have := le_of_mul_le_mul_right h2 hk
  linarith

/-- rounding a bracketed non-negative quantity: `L·s ≤ x ≤ W·s` and `|δ| ≤ u ≤ 1` give
`L·(1−u)·s ≤ x·(1+δ) ≤ W·(1+u)·s` -/
theorem mul_round {s x L W u δ : ℝ} (hs : 0 ≤ s) (hL : 0 ≤ L) (hu1 : u ≤ 1) (hδ : |δ| ≤ u)
    (lo : L * s ≤ x) (hi : x ≤ W * s) :
    L * (1 - u) * s ≤ x * (1 + δ) ∧ x * (1 + δ) ≤ W * (1 + u) * s := by
  obtain ⟨d1, d2⟩ := abs_le.mp hδ
  have hx : 0 ≤ x := le_trans (mul_nonneg hL hs) lo
  constructor
  · calc L * (1 - u) * s = L * s * (1 - u) := by ring
      _ ≤ x * (1 - u) := mul_le_mul_of_nonneg_right lo (by linarith)
      _ ≤ x * (1 + δ) := mul_le_mul_of_nonneg_left (by linarith) hx
  · calc x * (1 + δ) ≤ x * (1 + u) := mul_le_mul_of_nonneg_left (by linarith) hx
      _ ≤ W * s * (1 + u) := mul_le_mul_of_nonneg_right hi (by linarith)
      _ = W * (1 + u) * s := by ring

theorem mul_bracket {s t x y L W M V : ℝ} (hs : 0 ≤ s) (ht : 0 ≤ t) (hL : 0 ≤ L) (hM : 0 ≤ M)
    (xl : L * s ≤ x) (xh : x ≤ W * s) (yl : M * t ≤ y) (yh : y ≤ V * t) :
    L * M * (s * t) ≤ x * y ∧ x * y ≤ W * V * (s * t) := by
  have hx : 0 ≤ x := le_trans (mul_nonneg hL hs) xl
  have hy : 0 ≤ y := le_trans (mul_nonneg hM ht) yl
  rw [mul_mul_mul_comm, mul_mul_mul_comm W]
  exact ⟨mul_le_mul xl yl (mul_nonneg hM ht) hx, mul_le_mul xh yh hy (le_trans hx xh)⟩

theorem sqrt_upper {S f a W : ℝ} (hS : 0 ≤ S) (h : |f - S| ≤ a * S) (hW : 0 ≤ W)
    (hWa : 1 + a ≤ W * W) : √f ≤ W * √S := by
  have h2 := (abs_le.mp h).2
  have := mul_le_mul_of_nonneg_right hWa hS
  calc √f ≤ √(W * W * S) := Real.sqrt_le_sqrt (by linarith)
    _ = W * √S := by rw [Real.sqrt_mul (mul_self_nonneg W), Real.sqrt_mul_self hW]

theorem sqrt_lower {S f a L : ℝ} (hS : 0 ≤ S) (h : |f - S| ≤ a * S) (hL : 0 ≤ L)
    (hLa : L * L ≤ 1 - a) : L * √S ≤ √f := by
  have h1 := (abs_le.mp h).1
  have := mul_le_mul_of_nonneg_right hLa hS
  calc L * √S = √(L * L * S) := by rw [Real.sqrt_mul (mul_self_nonneg L), Real.sqrt_mul_self hL]
    _ ≤ √f := Real.sqrt_le_sqrt (by linarith)

/-- **the reported Euclidean distance, real-number core** (any `a ≥ 0`): if `f ≥ 0` is within `a·S` of
`S ≥ 0` and `r = √f·(1+δ)`, `|δ| ≤ u ≤ 1`, then `|r − √S| ≤ ((1+a)(1+u) − 1)·√S`. -/
theorem sqrt_round {S f r a u δ : ℝ} (hS : 0 ≤ S) (ha0 : 0 ≤ a) (hu0 : 0 ≤ u) (hu1 : u ≤ 1)
    (h : |f - S| ≤ a * S) (hδ : |δ| ≤ u) (hr : r = √f * (1 + δ)) :
    |r - √S| ≤ ((1 + a) * (1 + u) - 1) * √S := by
  have hs : 0 ≤ √S := Real.sqrt_nonneg S
  have haa : 0 ≤ a * a := mul_nonneg ha0 ha0
  have hup : √f ≤ (1 + a) * √S :=
    sqrt_upper hS h (by linarith only [ha0]) (by linarith only [ha0, haa])
  rw [hr, abs_le]
  by_cases ha1 : a ≤ 1
  · -- below: `(1−a)·(1−u)`, and `(1−a)(1−u) + (1+a)(1+u) = 2 + 2au`
    have h1a : 0 ≤ 1 - a := sub_nonneg.2 ha1
    have hlo : (1 - a) * √S ≤ √f :=
      sqrt_lower hS h h1a (by have := mul_nonneg ha0 h1a; linarith only [this])
    obtain ⟨lo, hi⟩ := mul_round hs h1a hu1 hδ hlo hup
    have k : 0 ≤ a * u * √S := mul_nonneg (mul_nonneg ha0 hu0) hs
    constructor <;> linarith only [lo, hi, k]
  · -- below: `0 ≤ r`, and the bound exceeds `√S`
    have lo0 : 0 * √S ≤ √f := by rw [zero_mul]; exact Real.sqrt_nonneg f
    obtain ⟨lo, hi⟩ := mul_round hs le_rfl hu1 hδ lo0 hup
    have k1 : 0 ≤ (a - 1) * √S := mul_nonneg (by linarith only [ha1]) hs
    have k2 : 0 ≤ (1 + a) * u * √S := mul_nonneg (mul_nonneg (by linarith only [ha0]) hu0) hs
    constructor <;> linarith only [lo, hi, k1, k2]

/-- `1 − x − 2x²` is a lower bound for `√(2 − (1+x)²)`, `0 ≤ x ≤ 1/4`: the difference of the squares is
`x²·(2 − 4x − 4x²)` -/
theorem half_lower_sq {x : ℝ} (hx0 : 0 ≤ x) (hx4 : x ≤ 1 / 4) :
    0 ≤ 1 - x - 2 * (x * x) ∧
    (1 - x - 2 * (x * x)) * (1 - x - 2 * (x * x)) ≤ 2 - (1 + x) * (1 + x) := by
  have hxx : x * x ≤ 1 / 4 * x := mul_le_mul_of_nonneg_right hx4 hx0
  have h0 : 0 ≤ x * x := mul_nonneg hx0 hx0
  have : 0 ≤ (x * x) * (2 - 4 * x - 4 * (x * x)) := mul_nonneg h0 (by linarith)
  constructor <;> linarith

theorem half_lower_round {x u : ℝ} (hx0 : 0 ≤ x) (hu0 : 0 ≤ u) (hx : 2 * (x * x) ≤ u) :
    2 - (1 + x) * ((1 + u) * (1 + u)) ≤ (1 - x - 2 * (x * x)) * (1 - u) := by
  have e : (1 - x - 2 * (x * x)) * (1 - u) - (2 - (1 + x) * ((1 + u) * (1 + u)))
      = (u - 2 * (x * x)) + (3 * u * x + 2 * u * (x * x) + u * u + u * u * x) := by ring
  have : 0 ≤ 3 * u * x + 2 * u * (x * x) + u * u + u * u * x := by positivity
  linarith

/-- **sharper form**: with `1 + a ≤ W²`, `W = 1 + x`, `2x² ≤ u` (and `x ≤ 1/4`) the error is within
`(W·(1+u)² − 1)·√S`, and the upper side alone within `(W·(1+u) − 1)·√S` without any smallness. -/
theorem sqrt_round_half {S f r a u δ W : ℝ} (hS : 0 ≤ S) (hu0 : 0 ≤ u) (hu1 : u ≤ 1)
    (hW1 : 1 ≤ W) (hWa : 1 + a ≤ W * W)
    (h : |f - S| ≤ a * S) (hδ : |δ| ≤ u) (hr : r = √f * (1 + δ)) :
    r - √S ≤ (W * (1 + u) - 1) * √S ∧
    (W - 1 ≤ 1 / 4 → 2 * ((W - 1) * (W - 1)) ≤ u → |r - √S| ≤ (W * ((1 + u) * (1 + u)) - 1) * √S) := by
  have hs : 0 ≤ √S := Real.sqrt_nonneg S
  have hW0 : 0 ≤ W := le_trans zero_le_one hW1
  have hup : √f ≤ W * √S := sqrt_upper hS h hW0 hWa
  have lo0 : 0 * √S ≤ √f := by rw [zero_mul]; exact Real.sqrt_nonneg f
  obtain ⟨-, hi⟩ := mul_round hs le_rfl hu1 hδ lo0 hup
  have hupper : r - √S ≤ (W * (1 + u) - 1) * √S := by rw [hr]; linarith only [hi]
  refine ⟨hupper, fun hx4 hx => ?_⟩
  have hx0 : 0 ≤ W - 1 := sub_nonneg.2 hW1
  -- below: `√f ≥ (1 − x − 2x²)·√S` with `x = W − 1`, since `(1 − x − 2x²)² ≤ 2 − W² ≤ 1 − a`
  obtain ⟨hL0, hL⟩ := half_lower_sq hx0 hx4
  have hlo := sqrt_lower hS h hL0 (by linarith only [hL, hWa])
  obtain ⟨lo, -⟩ := mul_round hs hL0 hu1 hδ hlo hup
  have k := mul_le_mul_of_nonneg_right (half_lower_round hx0 hu0 hx) hs
  rw [abs_le]
  constructor
  · rw [hr]; linarith only [lo, k]
  · have k2 : 0 ≤ W * (1 + u) * u * √S :=
      mul_nonneg (mul_nonneg (mul_nonneg hW0 (by linarith only [hu0])) hu0) hs
    linarith only [hupper, k2]

theorem abs_sum_le : ∀ (l : List ℝ), |l.sum| ≤ (l.map (fun z => |z|)).sum := by
  intro l
  induction l with
  | nil => simp
  | cons a l ih =>
    simp only [List.sum_cons, List.map_cons]
    exact le_trans (abs_add_le _ _) (by linarith)

theorem map_abs_of_nonneg : ∀ (l : List ℝ), (∀ z ∈ l, 0 ≤ z) → l.map (fun z => |z|) = l := by
  intro l
  induction l with
  | nil => intro _; rfl
  | cons a l ih =>
    intro h
    rw [List.map_cons, abs_of_nonneg (h a (by simp)), ih (fun z hz => h z (by simp [hz]))]

theorem sum_map_nonneg {g : ℝ → ℝ} (hg : ∀ w, 0 ≤ g w) (l : List ℝ) : 0 ≤ (l.map g).sum :=
  List.sum_nonneg (by intro z hz; obtain ⟨w, _, rfl⟩ := List.mem_map.mp hz; exact hg w)

/-- one more pair of components: `(pq + T)² ≤ (p² + s²)(q² + t²)` from `T ≤ s·t`; the difference to
`(pq + st)²` is `(pt − qs)²` -/
theorem cauchy_schwarz_step {p q s t T : ℝ} (hp : 0 ≤ p) (hq : 0 ≤ q) (hT0 : 0 ≤ T) (hT : T ≤ s * t) :
    (p * q + T) ^ 2 ≤ (p * p + s * s) * (q * q + t * t) := by
  have h1 : (p * q + T) ^ 2 ≤ (p * q + s * t) ^ 2 :=
    pow_le_pow_left₀ (add_nonneg (mul_nonneg hp hq) hT0) (by linarith) 2
  have h2 := sq_nonneg (p * t - q * s)
  linarith

theorem cauchy_schwarz_list : ∀ (x y : List ℝ),
    ((List.zipWith (fun a b => a * b) x y).map (fun z => |z|)).sum
      ≤ √((x.map (fun a => a * a)).sum) * √((y.map (fun b => b * b)).sum)
  | [], _ => by simp
  | _ :: _, [] => by simp
  | a :: x, b :: y => by
    have hA : 0 ≤ (x.map (fun a => a * a)).sum := sum_map_nonneg mul_self_nonneg x
    have hB : 0 ≤ (y.map (fun b => b * b)).sum := sum_map_nonneg mul_self_nonneg y
    have hT0 : 0 ≤ ((List.zipWith (fun a b => a * b) x y).map (fun z => |z|)).sum :=
      sum_map_nonneg abs_nonneg _
    have step := cauchy_schwarz_step (abs_nonneg a) (abs_nonneg b) hT0 (cauchy_schwarz_list x y)
    simp only [List.zipWith_cons_cons, List.map_cons, List.sum_cons]
    rw [Real.mul_self_sqrt hA, Real.mul_self_sqrt hB, abs_mul_abs_self, abs_mul_abs_self,
      ← abs_mul] at step
    rw [← Real.sqrt_mul (add_nonneg (mul_self_nonneg a) hA)]
    exact Real.le_sqrt_of_sq_le step

theorem clamp_dist {c t : ℝ} (h1 : -1 ≤ c) (h2 : c ≤ 1) : |max (-1) (min 1 t) - c| ≤ |t - c| := by
  rcases le_total t 1 with ht | ht
  · rw [min_eq_right ht]
    rcases le_total (-1) t with ht' | ht'
    · rw [max_eq_right ht']
    · rw [max_eq_left ht', abs_of_nonpos (by linarith), abs_of_nonpos (by linarith)]
      linarith
  · rw [min_eq_left ht, max_eq_right (by norm_num), abs_of_nonneg (by linarith), abs_of_nonneg (by linarith)]
    linarith

theorem clamp_mem (t : ℝ) : -1 ≤ max (-1) (min 1 t) ∧ max (-1) (min 1 t) ≤ 1 :=
  ⟨le_max_left _ _, max_le (by norm_num) (min_le_left _ _)⟩

/-- the second-order terms against the first-order ones, without denominators -/
theorem small_products {a u : ℝ} (ha0 : 0 ≤ a) (ha1 : a ≤ 1 / 100) (hu0 : 0 ≤ u) (hu1 : u ≤ 1 / 1000) :
    100 * (a * a) ≤ a ∧ 100 * (a * u) ≤ u ∧ 1000 * (u * u) ≤ u := by
  have h1 : 100 * a ≤ 1 := by linarith only [ha1]
  have h2 : 1000 * u ≤ 1 := by linarith only [hu1]
  have q1 := mul_le_mul_of_nonneg_right h1 ha0
  have q2 := mul_le_mul_of_nonneg_right h1 hu0
  have q3 := mul_le_mul_of_nonneg_right h2 hu0
  rw [one_mul, mul_assoc] at q1 q2 q3
  exact ⟨q1, q2, q3⟩

/-- the factors of a square root for `a ≤ 1/100`: `1 − 0.51a ≤ √(1−a)` and `√(1+a) ≤ 1 + a/2` -/
theorem poly_sqrt {a : ℝ} (ha0 : 0 ≤ a) (ha1 : a ≤ 1 / 100) :
    (1 - 51 / 100 * a) * (1 - 51 / 100 * a) ≤ 1 - a ∧ 1 + a ≤ (1 + a / 2) * (1 + a / 2) := by
  have q1 : a * a ≤ 1 / 100 * a := mul_le_mul_of_nonneg_right ha1 ha0
  have q2 : 0 ≤ a * a := mul_self_nonneg a
  constructor <;> linarith

/-- `1 − 1.02a − 3u ≤ (1 − 0.51a)²·(1−u)³`: the difference is
`0.2601·a²(1−u)³ + (1 − 1.02a)·u²(3−u) + 3.06·au` -/
theorem poly_lo {a u : ℝ} (ha0 : 0 ≤ a) (ha1 : a ≤ 1 / 100) (hu0 : 0 ≤ u) (hu1 : u ≤ 1 / 1000) :
    1 - 51 / 50 * a - 3 * u
      ≤ (1 - 51 / 100 * a) * (1 - u) * ((1 - 51 / 100 * a) * (1 - u)) * (1 - u) := by
  have hu : 0 ≤ 1 - u := by linarith only [hu1]
  have t1 : 0 ≤ a * a * ((1 - u) * (1 - u) * (1 - u)) :=
    mul_nonneg (mul_self_nonneg a) (mul_nonneg (mul_nonneg hu hu) hu)
  have t2 : 0 ≤ (1 - 51 / 50 * a) * (u * u * (3 - u)) :=
    mul_nonneg (by linarith only [ha1]) (mul_nonneg (mul_self_nonneg u) (by linarith only [hu1]))
  have t3 : 0 ≤ a * u := mul_nonneg ha0 hu0
  linarith only [t1, t2, t3]

/-- `(1 + a/2)²·(1+u)³ ≤ 1 + 1.01a + 3.1u`, as the product of `(1 + a/2)² ≤ 1 + 1.0025a` and
`(1+u)³ ≤ 1 + 3.01u` -/
theorem poly_hi {a u : ℝ} (ha0 : 0 ≤ a) (ha1 : a ≤ 1 / 100) (hu0 : 0 ≤ u) (hu1 : u ≤ 1 / 1000) :
    (1 + a / 2) * (1 + u) * ((1 + a / 2) * (1 + u)) * (1 + u) ≤ 1 + 101 / 100 * a + 31 / 10 * u := by
  obtain ⟨q1, q2, q3⟩ := small_products ha0 ha1 hu0 hu1
  have q4 : 1000 * (u * (u * u)) ≤ u * u := by
    have := mul_le_mul_of_nonneg_left q3 hu0
    linarith only [this]
  have H1 : (1 + a / 2) * (1 + a / 2) ≤ 1 + 401 / 400 * a := by
    have e : 1 + 401 / 400 * a - (1 + a / 2) * (1 + a / 2) = (a - 100 * (a * a)) / 400 := by ring
    rw [← sub_nonneg, e]
    exact div_nonneg (sub_nonneg.2 q1) (by norm_num)
  have H2 : (1 + u) * (1 + u) * (1 + u) ≤ 1 + 301 / 100 * u := by
    have e : 1 + 301 / 100 * u - (1 + u) * (1 + u) * (1 + u)
        = (u - 300 * (u * u) - 100 * (u * (u * u))) / 100 := by ring
    rw [← sub_nonneg, e]
    exact div_nonneg (by linarith only [q3, q4, hu0]) (by norm_num)
  have H3 : (1 + 401 / 400 * a) * (1 + 301 / 100 * u) ≤ 1 + 101 / 100 * a + 31 / 10 * u := by
    have e : 1 + 101 / 100 * a + 31 / 10 * u - (1 + 401 / 400 * a) * (1 + 301 / 100 * u)
        = (300 * a + 3600 * u - 120701 * (a * u)) / 40000 := by ring
    rw [← sub_nonneg, e]
    exact div_nonneg (by linarith only [q2, ha0, hu0]) (by norm_num)
  calc (1 + a / 2) * (1 + u) * ((1 + a / 2) * (1 + u)) * (1 + u)
      = (1 + a / 2) * (1 + a / 2) * ((1 + u) * (1 + u) * (1 + u)) := by ring
    _ ≤ (1 + 401 / 400 * a) * (1 + 301 / 100 * u) := mul_le_mul H1 H2 (by positivity) (by positivity)
    _ ≤ 1 + 101 / 100 * a + 31 / 10 * u := H3

theorem norm_product_bounds {A B fpp fqq pn qn pnqn a u δ1 δ2 δ3 : ℝ}
    (hA : 0 ≤ A) (hB : 0 ≤ B) (ha0 : 0 ≤ a) (ha1 : a ≤ 1 / 100) (hu0 : 0 ≤ u) (hu1 : u ≤ 1 / 1000)
    (hpp : |fpp - A| ≤ a * A) (hqq : |fqq - B| ≤ a * B)
    (h1 : |δ1| ≤ u) (h2 : |δ2| ≤ u) (h3 : |δ3| ≤ u)
    (epn : pn = √fpp * (1 + δ1)) (eqn : qn = √fqq * (1 + δ2)) (epq : pnqn = pn * qn * (1 + δ3)) :
    (1 - 51 / 50 * a - 3 * u) * (√A * √B) ≤ pnqn ∧
    pnqn ≤ (1 + 101 / 100 * a + 31 / 10 * u) * (√A * √B) := by
  have hsA : 0 ≤ √A := Real.sqrt_nonneg A
  have hsB : 0 ≤ √B := Real.sqrt_nonneg B
  have hN : 0 ≤ √A * √B := mul_nonneg hsA hsB
  have hu1' : u ≤ 1 := le_trans hu1 (by norm_num)
  have hL : 0 ≤ 1 - 51 / 100 * a := by linarith only [ha1]
  have hW : 0 ≤ 1 + a / 2 := by linarith only [ha0]
  have hLu : 0 ≤ (1 - 51 / 100 * a) * (1 - u) := mul_nonneg hL (sub_nonneg.2 hu1')
  obtain ⟨hLa, hWa⟩ := poly_sqrt ha0 ha1
  -- the two norms, their product, its rounding
  obtain ⟨pl, ph⟩ := mul_round hsA hL hu1' h1 (sqrt_lower hA hpp hL hLa) (sqrt_upper hA hpp hW hWa)
  obtain ⟨ql, qh⟩ := mul_round hsB hL hu1' h2 (sqrt_lower hB hqq hL hLa) (sqrt_upper hB hqq hW hWa)
  rw [← epn] at pl ph
  rw [← eqn] at ql qh
  obtain ⟨lo, hi⟩ := mul_bracket hsA hsB hLu hLu pl ph ql qh
  obtain ⟨rl, rh⟩ := mul_round hN (mul_nonneg hLu hLu) hu1' h3 lo hi
  rw [← epq] at rl rh
  exact ⟨le_trans (mul_le_mul_of_nonneg_right (poly_lo ha0 ha1 hu0 hu1) hN) rl,
    le_trans rh (mul_le_mul_of_nonneg_right (poly_hi ha0 ha1 hu0 hu1) hN)⟩

/-- the factor `κ = N·(1+δ)/p` is within `β` of `1` when `p` lies between `cl·N` and `ch·N` with
`1 + u ≤ (1+β)·cl` and `(1−β)·ch ≤ 1 − u` -/
theorem kappa_bounds {N p cl ch β u δ : ℝ} (hN : 0 < N) (hp : 0 < p) (hβ0 : 0 ≤ β) (hβ1 : β ≤ 1)
    (hδ : |δ| ≤ u) (lo : cl * N ≤ p) (hi : p ≤ ch * N)
    (khi : 1 + u ≤ (1 + β) * cl) (klo : (1 - β) * ch ≤ 1 - u) :
    |N * (1 + δ) / p - 1| ≤ β := by
  obtain ⟨d1, d2⟩ := abs_le.mp hδ
  have hκ_hi : N * (1 + δ) / p ≤ 1 + β := by
    rw [div_le_iff₀ hp]
    calc N * (1 + δ) ≤ N * (1 + u) := mul_le_mul_of_nonneg_left (by linarith) hN.le
      _ ≤ N * ((1 + β) * cl) := mul_le_mul_of_nonneg_left khi hN.le
      _ = (1 + β) * (cl * N) := by ring
      _ ≤ (1 + β) * p := mul_le_mul_of_nonneg_left lo (by linarith)
  have hκ_lo : 1 - β ≤ N * (1 + δ) / p := by
    rw [le_div_iff₀ hp]
    calc (1 - β) * p ≤ (1 - β) * (ch * N) := mul_le_mul_of_nonneg_left hi (by linarith)
      _ = N * ((1 - β) * ch) := by ring
      _ ≤ N * (1 - u) := mul_le_mul_of_nonneg_left klo hN.le
      _ ≤ N * (1 + δ) := mul_le_mul_of_nonneg_left (by linarith) hN.le
  rw [abs_le]; constructor <;> linarith

/-- from the computed cosine `y·κ` to the result `((1 − clamp)·(1+δ5))/2·(1+δ6)` -/
theorem cosine_tail {y κ cs ct c' s r a u β δ5 δ6 : ℝ}
    (ha0 : 0 ≤ a) (hu0 : 0 ≤ u)
    (h5 : |δ5| ≤ u) (h6 : |δ6| ≤ u)
    (hcos : |cs| ≤ 1) (hy : |y - cs| ≤ a) (hκ : |κ - 1| ≤ β)
    (ect : ct = y * κ) (ec' : c' = max (-1) (min 1 ct))
    (es : s = (1 - c') * (1 + δ5)) (er : r = s / 2 * (1 + δ6)) :
    |r - (1 - cs) / 2| ≤ 2 * (2 * u + u * u) / 2 + ((1 + a) * β + a) / 2 := by
  obtain ⟨c1, c2⟩ := abs_le.mp hcos
  have hyabs : |y| ≤ 1 + a := by
    have := abs_add_le (y - cs) cs
    rw [sub_add_cancel] at this
    linarith only [this, hy, hcos]
  have hct : |ct - cs| ≤ (1 + a) * β + a := by
    have e : ct - cs = y * (κ - 1) + (y - cs) := by rw [ect]; ring
    rw [e]
    calc |y * (κ - 1) + (y - cs)| ≤ |y * (κ - 1)| + |y - cs| := abs_add_le _ _
      _ = |y| * |κ - 1| + |y - cs| := by rw [abs_mul]
      _ ≤ (1 + a) * β + a :=
        add_le_add (mul_le_mul hyabs hκ (abs_nonneg _) (by linarith only [ha0])) hy
  have hcc : |cs - c'| ≤ (1 + a) * β + a := by
    rw [abs_sub_comm, ec']; exact le_trans (clamp_dist c1 c2) hct
  have h1c : |1 - c'| ≤ 2 := by
    obtain ⟨m1, m2⟩ := clamp_mem ct
    rw [ec', abs_le]; constructor <;> linarith only [m1, m2]
  have hdd : |(1 + δ5) * (1 + δ6) - 1| ≤ 2 * u + u * u := by
    have e : (1 + δ5) * (1 + δ6) - 1 = δ5 + δ6 + δ5 * δ6 := by ring
    have h56 : |δ5 * δ6| ≤ u * u := by rw [abs_mul]; exact mul_le_mul h5 h6 (abs_nonneg _) hu0
    have t := abs_add_le (δ5 + δ6) (δ5 * δ6)
    have t' := abs_add_le δ5 δ6
    rw [e]; linarith only [t, t', h5, h6, h56]
  have er' : r - (1 - cs) / 2 = (1 - c') * ((1 + δ5) * (1 + δ6) - 1) / 2 + (cs - c') / 2 := by
    rw [er, es]; ring
  have t1 : |(1 - c') * ((1 + δ5) * (1 + δ6) - 1) / 2| ≤ 2 * (2 * u + u * u) / 2 := by
    rw [abs_div, abs_mul, abs_of_pos (show (0:ℝ) < 2 by norm_num)]
    exact div_le_div_of_nonneg_right (mul_le_mul h1c hdd (abs_nonneg _) (by norm_num)) (by norm_num)
  have t2 : |(cs - c') / 2| ≤ ((1 + a) * β + a) / 2 := by
    rw [abs_div, abs_of_pos (show (0:ℝ) < 2 by norm_num)]
    exact div_le_div_of_nonneg_right hcc (by norm_num)
  rw [er']
  exact le_trans (abs_add_le _ _) (add_le_add t1 t2)

/-- the constants of `cosine_core`: with `β = 1.05a + 4.2u` the two conditions of `kappa_bounds` for
the factors of `norm_product_bounds`, and the total of `cosine_tail` -/
theorem poly_kappa {a u : ℝ} (ha0 : 0 ≤ a) (ha1 : a ≤ 1 / 100) (hu0 : 0 ≤ u) (hu1 : u ≤ 1 / 1000) :
    1 + u ≤ (1 + (21 / 20 * a + 21 / 5 * u)) * (1 - 51 / 50 * a - 3 * u) ∧
    (1 - (21 / 20 * a + 21 / 5 * u)) * (1 + 101 / 100 * a + 31 / 10 * u) ≤ 1 - u ∧
    2 * (2 * u + u * u) / 2 + ((1 + a) * (21 / 20 * a + 21 / 5 * u) + a) / 2
      ≤ 26 / 25 * a + 83 / 20 * u := by
  obtain ⟨q1, q2, q3⟩ := small_products ha0 ha1 hu0 hu1
  have p1 := mul_nonneg ha0 ha0
  have p2 := mul_nonneg ha0 hu0
  have p3 := mul_nonneg hu0 hu0
  refine ⟨?_, ?_, ?_⟩
  · have e : (1 + (21 / 20 * a + 21 / 5 * u)) * (1 - 51 / 50 * a - 3 * u) - (1 + u)
        = (30 * a + 200 * u - (1071 * (a * a) + 7434 * (a * u) + 12600 * (u * u))) / 1000 := by ring
    rw [← sub_nonneg, e]
    exact div_nonneg (by linarith only [q1, q2, q3, ha0, hu0]) (by norm_num)
  · have e : 1 - u - (1 - (21 / 20 * a + 21 / 5 * u)) * (1 + 101 / 100 * a + 31 / 10 * u)
        = (80 * a + 200 * u + 2121 * (a * a) + 14994 * (a * u) + 26040 * (u * u)) / 2000 := by ring
    rw [← sub_nonneg, e]
    exact div_nonneg (by linarith only [p1, p2, p3, ha0, hu0]) (by norm_num)
  · have e : 26 / 25 * a + 83 / 20 * u - (2 * (2 * u + u * u) / 2 + ((1 + a) * (21 / 20 * a + 21 / 5 * u) + a) / 2)
        = (3 * a + 10 * u - (105 * (a * a) + 420 * (a * u) + 200 * (u * u))) / 200 := by ring
    rw [← sub_nonneg, e]
    exact div_nonneg (by linarith only [q1, q2, q3, ha0, hu0]) (by norm_num)

/-- **the cosine distance, real-number core.**  `A = Σaᵢ²`, `B = Σbᵢ²`, `D = Σaᵢbᵢ`, `T = Σ|aᵢbᵢ|`;
the three computed dot products are within `a·A`, `a·B`, `a·T` of them (`a ≤ 1/100`), every further
operation (`sqrt`, `sqrt`, `·`, `/`, `1 − ·`, `/2`) has relative error at most `u ≤ 1/1000`; the product
of the computed norms is positive.  Then the result is within `1.04·a + 4.15·u` of `(1 − D/(√A·√B))/2`. -/
theorem cosine_core
    {A B D T fpp fqq fpq pn qn pnqn ct c' s r a u δ1 δ2 δ3 δ4 δ5 δ6 : ℝ}
    (hA : 0 ≤ A) (hB : 0 ≤ B) (ha0 : 0 ≤ a) (ha1 : a ≤ 1 / 100) (hu0 : 0 ≤ u) (hu1 : u ≤ 1 / 1000)
    (hDT : |D| ≤ T) (hT : T ≤ √A * √B)
    (hpp : |fpp - A| ≤ a * A) (hqq : |fqq - B| ≤ a * B) (hpq : |fpq - D| ≤ a * T)
    (h1 : |δ1| ≤ u) (h2 : |δ2| ≤ u) (h3 : |δ3| ≤ u) (h4 : |δ4| ≤ u) (h5 : |δ5| ≤ u) (h6 : |δ6| ≤ u)
    (epn : pn = √fpp * (1 + δ1)) (eqn : qn = √fqq * (1 + δ2)) (epq : pnqn = pn * qn * (1 + δ3))
    (hpos : 0 < pnqn) (ect : ct = fpq / pnqn * (1 + δ4)) (ec' : c' = max (-1) (min 1 ct))
    (es : s = (1 - c') * (1 + δ5)) (er : r = s / 2 * (1 + δ6)) :
    0 < √A * √B ∧ |r - (1 - D / (√A * √B)) / 2| ≤ 26 / 25 * a + 83 / 20 * u := by
  obtain ⟨lo', hi'⟩ := norm_product_bounds hA hB ha0 ha1 hu0 hu1 hpp hqq h1 h2 h3 epn eqn epq
  have hN0 : 0 ≤ √A * √B := mul_nonneg (Real.sqrt_nonneg A) (Real.sqrt_nonneg B)
  generalize √A * √B = N at *
  have hN : 0 < N := by
    rcases hN0.lt_or_eq with h | h
    · exact h
    · rw [← h, mul_zero] at hi'; exact absurd hpos (not_lt.2 hi')
  refine ⟨hN, ?_⟩
  have hcos : |D / N| ≤ 1 := by
    rw [abs_div, abs_of_pos hN, div_le_one hN]; exact hDT.trans hT
  have hy : |fpq / N - D / N| ≤ a := by
    rw [← sub_div, abs_div, abs_of_pos hN, div_le_iff₀ hN]
    exact hpq.trans (mul_le_mul_of_nonneg_left hT ha0)
  obtain ⟨khi, klo, ktot⟩ := poly_kappa ha0 ha1 hu0 hu1
  have hκ := kappa_bounds hN hpos (β := 21 / 20 * a + 21 / 5 * u) (by positivity)
    (by linarith only [ha1, hu1]) h4 lo' hi' khi klo
  have ect' : ct = fpq / N * (N * (1 + δ4) / pnqn) := by
    rw [ect, div_mul_div_comm, mul_left_comm, mul_div_mul_left _ _ hN.ne', mul_div_right_comm]
  exact le_trans (cosine_tail ha0 hu0 h5 h6 hcos hy hκ ect' ec' es er) ktot

end ReportedReal
end Arroy
