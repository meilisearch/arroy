import ArroyProofs.ResplitRound
/-! The loop `incremental_index_large_descendants`: it keeps the forest, its routing, and ends with
no over-full bucket if every over-full bucket was queued. -/
namespace Arroy
open BuildM Generated IdSet

theorem resplit_spec (c : Cfg) (o : BuildOpts) (roots items : List Nat) (hi : c.index < 65536)
    (hcap : 1 ≤ Build.cap c o) (fuel : Nat) :
    ∀ (large : List Nat) (ts : List T) (g : IdGen) (inUse : List Nat) (st st' : BState),
    Forest c st.store roots items ts →
    (∀ i ∈ ts.flatMap T.ids, i ∈ inUse) → GenOK inUse g → Store.WF st.store →
    Build.incrementalIndexLargeDescendants c o fuel large g st = .ok ((), st') →
    ∃ ts' : List T, Forest c st'.store roots items ts' ∧
      StoreStep c st.store st'.store ∧ TreeFrame c st.store st'.store ∧
      ((∀ t ∈ ts, RoutedT (Build.treeCtx c o st.store) t) → ∀ t ∈ ts', RoutedT (Build.treeCtx c o st.store) t) ∧
      ((∀ t ∈ ts, ∀ bk ∈ t.buckets, ¬ fits (Build.cap c o) bk.2.length → bk.1 ∈ large) →
        ∀ t ∈ ts', ∀ bk ∈ t.buckets, bk.2.length ≤ Build.cap c o) := by
  induction fuel with
  | zero =>
    intro large ts g inUse st st' f _ _ _ h
    simp only [Build.incrementalIndexLargeDescendants] at h
    split at h
    · rename_i hemp
      obtain ⟨_, rfl⟩ := BuildM.pure_ok.1 h
      have hl : large = [] := by simpa [List.isEmpty_iff] using hemp
      subst hl
      refine ⟨ts, f, .refl _, TreeFrame.refl _ _, fun h => h, ?_⟩
      intro hq t ht bk hbk
      by_cases hf : fits (Build.cap c o) bk.2.length = true
      · simpa [fits] using hf
      · exact absurd (hq t ht bk hbk hf) (by simp)
    · exact (fail_ok h).elim
  | succ fuel ih =>
    intro large ts g inUse st st' f hin hg hw h
    cases large with
    | nil =>
      simp only [Build.incrementalIndexLargeDescendants] at h
      obtain ⟨_, rfl⟩ := BuildM.pure_ok.1 h
      refine ⟨ts, f, .refl _, TreeFrame.refl _ _, fun h => h, ?_⟩
      intro hq t ht bk hbk
      by_cases hf : fits (Build.cap c o) bk.2.length = true
      · simpa [fits] using hf
      · exact absurd (hq t ht bk hbk hf) (by simp)
    | cons b large1 =>
      simp only [Build.incrementalIndexLargeDescendants] at h
      obtain ⟨u1, st1, h1, k1⟩ := BuildM.bind_ok.1 h
      clear h
      have e1 := NoWrite.poll _ _ _ h1
      obtain ⟨s, st2, h2, k2⟩ := BuildM.bind_ok.1 k1
      clear k1
      obtain ⟨e2a, e2b⟩ := getStore_ok' h2
      have hs : s = st.store := by rw [← e2a, e1]
      subst hs
      generalize hget : Store.get st.store (c.treeKey b) = gv at k2
      cases gv with
      | none => exact (fail_ok k2).elim
      | some v =>
      cases v with
      | desc ids =>
        obtain ⟨k, st3, h3, k3⟩ := BuildM.bind_ok.1 k2
        clear k2
        have e3 := NoWrite.nextBatch _ _ _ h3
        split at k3
        · exact (fail_ok k3).elim
        · obtain ⟨sp, st4, h4, k4⟩ := BuildM.bind_ok.1 k3
          clear k3
          obtain ⟨e4a, e4b⟩ := peek_ok' h4
          obtain ⟨r, st5, h5, k5⟩ := BuildM.bind_ok.1 k4
          clear k4
          obtain ⟨hm, e5⟩ := liftExcept_ok' h5
          obtain ⟨u6, st6, h6, k6⟩ := BuildM.bind_ok.1 k5
          clear k5
          have e6 : st6.store = st5.store := by cases h6; rfl
          obtain ⟨u7, st7, h7, k7⟩ := BuildM.bind_ok.1 k6
          clear k6
          have e7 := NoWrite.pollN _ _ _ _ h7
          obtain ⟨u8, st8, h8, k8⟩ := BuildM.bind_ok.1 k7
          clear k7
          obtain ⟨x, st9, h9, k9⟩ := BuildM.bind_ok.1 k8
          clear k8
          obtain ⟨large2, g2⟩ := x
          simp only at k9
          have hst7 : st7.store = st.store := by
            rw [e7, e6, ← e5, ← e4b, e3, ← e2b, e1]
          obtain ⟨u', inUse', ⟨fnew, hat, r3, r4, r5, r6, r7, r8, r9, r10, _, _, _, _, _, _, _, _, _, _⟩⟩ :=
            resplit_round_out c o roots items ts st.store b ids k g g2 inUse _ _ _ _ r st7 st8 st9 large2
              f hget hin hg hw hi hcap hm hst7 h8 h9
          have hcx : Build.treeCtx c o st9.store = Build.treeCtx c o st.store := r7.treeCtx o
          obtain ⟨ts', f', q1, q2, q3, q4⟩ :=
            ih (IdSet.union large1 large2) (ts.map (fun t => t.subst b u')) g2 inUse' st9 st' fnew
              (by
                intro i hi'
                rw [List.flatMap_map] at hi'
                obtain ⟨t, ht, hit⟩ := List.mem_flatMap.1 hi'
                rcases (T.mem_ids_subst (f.tree_nodup ht) (hat t ht) i).1 hit with ⟨h', _⟩ | ⟨_, h'⟩
                · exact r4 i (hin i (List.mem_flatMap.2 ⟨t, ht, h'⟩))
                · exact r5 i h')
              r3 (r6.wf hw) k9
          rw [hcx] at q3
          refine ⟨ts', f', r6.trans q1, r7.trans q2, ?_, ?_⟩
          · intro hr
            apply q3
            intro t' ht'
            obtain ⟨t, ht, rfl⟩ := List.mem_map.1 ht'
            exact (T.subst_spec (f.tree_nodup ht) (hat t ht)).routed _ r9 r8 (hr t ht)
          · intro hq
            apply q4
            intro t' ht' bk hbk hnf
            obtain ⟨t, ht, rfl⟩ := List.mem_map.1 ht'
            apply mem_union.2
            rcases T.buckets_subst bk hbk with h' | ⟨h', hne⟩
            · exact Or.inr (r10 bk h' hnf)
            · have := hq t ht bk h' hnf
              rcases List.mem_cons.1 this with h'' | h''
              · exact absurd h'' hne
              · exact Or.inl h''
      | _ => exact (fail_ok k2).elim

end Arroy
