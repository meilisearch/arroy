import ArroyProofs.ResplitFairBuild
/-! An a-priori bound for the measure of the queue of the re-split loop.

* `forest_loopMeasure_le`: in a store holding a forest, the measure `Σ (size - 1)` of a duplicate-free queue is at
  most `(number of trees) * (number of items - 1)`: a queued id with a non-zero size is a bucket of one of the
  trees, the bucket ids of the forest are distinct, and the buckets of one tree hold at most its items. -/
namespace Arroy
open BuildM Generated IdSet Transp

/-! ## the buckets of a forest -/

theorem sum_flatMap_le_mul {α : Type} (f : α → List Nat) (k : Nat) :
    ∀ (l : List α), (∀ a ∈ l, (f a).sum ≤ k) → (l.flatMap f).sum ≤ l.length * k
  | [], _ => by simp
  | a :: l, h => by
    have h1 := h a List.mem_cons_self
    have h2 := sum_flatMap_le_mul f k l (fun b hb => h b (List.mem_cons_of_mem _ hb))
    simp only [List.flatMap_cons, List.sum_append, List.length_cons, Nat.add_mul, Nat.one_mul]
    omega

/-- **the measure of a duplicate-free queue in a forest** is at most `trees * (items - 1)` -/
theorem forest_loopMeasure_le {c : Cfg} {s : Store} {roots items : List Nat} {ts : List T}
    (f : Forest c s roots items ts) (hitems : items.Nodup) (large : List Nat) (hl : large.Nodup) :
    loopMeasure c s large ≤ roots.length * (items.length - 1) := by
  -- the bucket ids of the forest
  have h1 : loopMeasure c s large ≤
      ((ts.flatMap (fun t => t.buckets.map (·.1))).map (fun i => bucketSize c s i - 1)).sum := by
    apply sum_map_le_of_support _ _ _ hl
    intro i _ hne
    have hb : bucketSize c s i ≠ 0 := by omega
    unfold bucketSize at hb
    split at hb
    · rename_i ids hget
      have hsome : (Store.get s (c.treeKey i)).isSome = true := by rw [hget]; rfl
      obtain ⟨t, ht, hit⟩ := List.mem_flatMap.1 ((f.cover i).1 hsome)
      exact List.mem_flatMap.2 ⟨t, ht, List.mem_map.2 ⟨(i, ids), bucket_of_holds (f.holds t ht) hit hget, rfl⟩⟩
    · exact absurd rfl hb
  -- tree by tree
  have h2 : ((ts.flatMap (fun t => t.buckets.map (·.1))).map (fun i => bucketSize c s i - 1)).sum ≤
      ts.length * (items.length - 1) := by
    rw [List.map_flatMap]
    apply sum_flatMap_le_mul
    intro t ht
    rw [holds_sum_buckets (f.holds t ht)]
    have hlen : t.items.length = items.length :=
      ((List.perm_ext_iff_of_nodup (f.items_nodup t ht) hitems).2 (f.reach t ht)).length_eq
    rw [← hlen]
    exact T.sum_buckets_le t
  rw [← f.length]
  exact Nat.le_trans h1 h2

end Arroy
