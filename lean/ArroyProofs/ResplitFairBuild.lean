import ArroyProofs.ResplitFairLoop
import ArroyProofs.BuildCore
import ArroyProofs.NoFuelBuild
/-! The prefix of `Build.build` (`buildPrefix`, everything before the re-split loop: `NoFuel.lean`) establishes
the hypotheses of the termination theorem of the loop (`loop_aboveCap_noFuel`): a forest, ids in use, a fresh
generator, and a queue made of ids in use. -/
namespace Arroy
open BuildM Generated IdSet Transp

/-! ## the queue is made of ids in use -/

/-- `newTrees` queues its new roots, and nothing else, and keeps the queue sorted -/
theorem newTrees_large (c : Cfg) (items : List Nat) (k : Nat) :
    ∀ (roots large roots' large' : List Nat) (g g' : IdGen) (st st' : BState),
    Build.newTrees c items k roots large g st = .ok ((roots', large', g'), st') →
    (∀ r ∈ roots, r ∈ roots') ∧ (∀ i ∈ large', i ∈ large ∨ i ∈ roots') ∧ (Sorted large → Sorted large') := by
  induction k with
  | zero =>
    intro roots large roots' large' g g' st st' h
    simp only [Build.newTrees] at h
    obtain ⟨e1, rfl⟩ := BuildM.pure_ok.1 h
    simp only [Prod.mk.injEq] at e1
    obtain ⟨rfl, rfl, rfl⟩ := e1
    exact ⟨fun _ h => h, fun _ h => Or.inl h, fun h => h⟩
  | succ k ih =>
    intro roots large roots' large' g g' st st' h
    simp only [Build.newTrees] at h
    obtain ⟨x, st1, h1, k1⟩ := BuildM.bind_ok.1 h
    clear h
    obtain ⟨id, g1⟩ := x
    simp only at k1
    obtain ⟨u2, st2, h2, k2⟩ := BuildM.bind_ok.1 k1
    clear k1
    obtain ⟨a1, a2, a3⟩ := ih _ _ _ _ _ _ _ _ k2
    refine ⟨fun r hr => a1 r (List.mem_append_left _ hr), ?_, fun hs => a3 (sorted_insert hs)⟩
    intro i hi
    rcases a2 i hi with h' | h'
    · rcases mem_insert.1 h' with rfl | h''
      · exact Or.inr (a1 _ (by simp))
      · exact Or.inl h''
    · exact Or.inr h'

/-! ## the state at loop entry -/

theorem afterUsedPrefix_spec (c : Cfg) (o : BuildOpts) (items updated roots used items0 : List Nat)
    (ts0 : List T) (st st' : BState) (roots' large : List Nat) (g : IdGen) (hi : c.index < 65536)
    (hcap : 1 ≤ Build.cap c o) (hw : Store.WF st.store)
    (f0 : Forest c st.store roots items0 ts0)
    (hitems : Sorted items) (hupd : Sorted updated)
    (hrel : ∀ x, x ∉ updated → (x ∈ items0 ↔ x ∈ items))
    (hused : ∀ i, (Store.get st.store (c.treeKey i)).isSome = true → i ∈ used)
    (hg : GenOK used (IdGen.new used))
    (h : afterUsedPrefix c o items updated roots used st = .ok ((roots', large, g), st')) :
    ∃ (ts' : List T) (inUse : List Nat),
      Forest c st'.store roots' items ts' ∧ (∀ i ∈ ts'.flatMap T.ids, i ∈ inUse) ∧ GenOK inUse g ∧
      Store.WF st'.store ∧ (∀ i ∈ large, i ∈ inUse) ∧
      roots'.length = Build.targetNTrees o c.dims items.length roots.length ∧ Sorted large := by
  unfold afterUsedPrefix at h
  obtain ⟨roots1, st1, h1, k1⟩ := BuildM.bind_ok.1 h
  obtain ⟨roots2, st2, h2, k2⟩ := BuildM.bind_ok.1 k1
  obtain ⟨⟨large3, g3⟩, st3, h3, k3⟩ := BuildM.bind_ok.1 k2
  simp only at k3
  -- 1.-3. delete the extra trees, delete the updated items, insert those that are still stored
  obtain ⟨ts1, ts2, ts3, inUse3, _, _, _, f3, hg3, sup3, in3, step3, _, _, _, _, lin3, hs3, len2⟩ :=
    deleteInsert_spec hi hcap hw f0 hitems hupd hrel hused hg h1 h2 h3
  have hw3 := step3.wf hw
  -- 4. create the missing trees
  obtain ⟨ts4, inUse4, f4, len4, hg4, sup4, in4, step4, frame4, new4, lsub4⟩ :=
    newTrees_spec c items hi hitems _ roots2 large3 roots' large ts3 g3 g inUse3 st3 st' f3 in3 hg3 k3
  obtain ⟨_, nl, hs4⟩ := newTrees_large c items _ roots2 large3 roots' large g3 g st3 st' k3
  refine ⟨ts4, inUse4, f4, in4, hg4, step4.wf hw3, ?_, by rw [len4, len2]; omega, hs4 hs3⟩
  intro i hi'
  rcases nl i hi' with h' | h'
  · exact sup4 i (lin3 i h')
  · rw [f4.roots_eq] at h'
    obtain ⟨t, ht, rfl⟩ := List.mem_map.1 h'
    exact in4 _ (f4.mem_ids_of_root ht)

/-- at the start of the loop the hypotheses of its termination theorem hold; the items are the stored items of
    the input, the number of roots is `Build.targetNTrees` (of the number of stored items and of recorded roots),
    the queue is sorted -/
theorem buildPrefix_spec (c : Cfg) (o : BuildOpts) (st st1 : BState) (roots0 items0 : List Nat) (ts0 : List T)
    (items roots large : List Nat) (g : IdGen)
    (hi : c.index < 65536) (hcap : 1 ≤ Build.cap c o)
    (hs : Store.Sorted st.store) (hw : Store.WF st.store)
    (old : Old c st.store roots0 items0 ts0) (hnone : st.cancelAt = none) (hfresh : FreshSupply)
    (h : buildPrefix c o st = .ok (some (items, roots, large, g), st1)) :
    ∃ (ts : List T) (inUse : List Nat),
      Forest c st1.store roots items ts ∧ (∀ i ∈ ts.flatMap T.ids, i ∈ inUse) ∧ GenOK inUse g ∧
      Store.WF st1.store ∧ (∀ i ∈ large, i ∈ inUse) ∧
      items = st.store.keysOf c.index modeItem ∧
      roots.length = Build.targetNTrees o c.dims items.length (rootsOf c st.store).length ∧ Sorted large := by
  unfold buildPrefix at h
  obtain ⟨u1, st1', h1, k1⟩ := BuildM.bind'_ok.1 h
  clear h
  obtain ⟨kept1, c1⟩ := preProcessItems_spec c h1 hs hw hi
  have hs1 := kept1.step.sorted hs
  have hw1 := kept1.step.wf hw
  obtain ⟨items', st2, h2, k2⟩ := BuildM.bind'_ok.1 k1
  clear k1
  obtain ⟨e2a, e2b, c2⟩ := itemIndices_spec c h2
  obtain ⟨updated, st3, h3, k3⟩ := BuildM.bind'_ok.1 k2
  clear k2
  obtain ⟨e3a, e3b, c3⟩ := resetUpdated_spec c h3
  rw [e2b] at e3a e3b
  have hitems : items' = st.store.keysOf c.index modeItem := by rw [e2a, kept1.keysOf_item hs hw hi]
  have hupdated : updated = st.store.keysOf c.index modeUpdated := by rw [e3a, kept1.keysOf_updated hs hw hi]
  have hmarks := eraseMarks_all c st1'.store hw1 hi
  rw [← e3a, ← e3b] at hmarks
  obtain ⟨marks_none, marks_other⟩ := hmarks
  have step03 : StoreStep c st.store st3.store := by
    rw [e3b]; exact eraseMarks_step c kept1.step _
  have hw3 := step03.wf hw
  have htree3 : ∀ i, Store.get st3.store (c.treeKey i) = Store.get st.store (c.treeKey i) := by
    intro i
    rw [marks_other _ (fun id => Ne.symm (c.updatedKey_ne_treeKey id i)), kept1.tree]
  have hmeta3 : Store.get st3.store c.metaKey = Store.get st.store c.metaKey := by
    rw [marks_other _ (fun id => c.metaKey_ne_updatedKey c id), kept1.meta]
  have hsitems : Sorted items' := by rw [hitems]; exact Store.keysOf_sorted hs hw _ _ hi (by decide)
  have hsupd : Sorted updated := by rw [hupdated]; exact Store.keysOf_sorted hs hw _ _ hi (by decide)
  have hcancel3 : st3.cancelAt = none := by rw [c3, c2, c1, hnone]
  split at k3
  · -- the single-leaf path returns `none`
    obtain ⟨u4, st4, h4, k4⟩ := BuildM.bind'_ok.1 k3
    cases k4
  · obtain ⟨s, st4, h4, k4⟩ := BuildM.bind'_ok.1 k3
    clear k3
    obtain ⟨rfl, rfl⟩ := getStore_ok' h4
    obtain ⟨used, st5, h5, k5⟩ := BuildM.bind'_ok.1 k4
    clear k4
    have hns : ¬ Swallows c st3 := by
      rintro ⟨n, hn, _⟩
      rw [hcancel3] at hn; cases hn
    rw [usedTreeNode_noswallow c hns] at h5
    simp only [Except.ok.injEq, Prod.mk.injEq] at h5
    obtain ⟨hused_eq, hst5⟩ := h5
    have hst5s : st5.store = st3.store := by rw [← hst5]
    subst hused_eq
    have hroots : rootsOf c st3.store = roots0 := by rw [rootsOf_congr hmeta3, old.roots_eq]
    rw [hroots] at k5
    have hused_lt : ∀ i ∈ st3.store.keysOf c.index modeTree, i < 4294967296 := by
      intro i hi'
      rw [Store.mem_keysOf_iff hw3 _ _ _ hi (by decide)] at hi'
      exact lt_of_isSome_tree hw3 hi'
    obtain ⟨x, st6, h6, k6⟩ := BuildM.bind'_ok.1 k5
    clear k5
    obtain ⟨roots6, large6, g6⟩ := x
    have e6 : (some (items', roots6, large6, g6), st6) = (some (items, roots, large, g), st1) := by
      cases k6; rfl
    simp only [Prod.mk.injEq, Option.some.injEq] at e6
    obtain ⟨⟨rfl, rfl, rfl, rfl⟩, rfl⟩ := e6
    obtain ⟨ts, inUse, b1, b2, b3, b4, b5, b6, b7⟩ :=
      afterUsedPrefix_spec c o _ updated roots0 _ items0 ts0 st5 st6 _ _ _ hi hcap (by rw [hst5s]; exact hw3)
      (by rw [hst5s]; exact old.forest.frame htree3) hsitems hsupd
      (by
        intro x hx
        rw [hupdated, Store.mem_keysOf_iff hw _ _ _ hi (by decide)] at hx
        have := old.marks x (by
          simp only [Cfg.updatedKey, Key.mkUpdated]
          cases hg' : Store.get st.store ⟨c.index, modeUpdated, x⟩ with
          | none => rfl
          | some v => rw [hg'] at hx; simp at hx)
        rw [this, hitems, Store.mem_keysOf_iff hw _ _ _ hi (by decide)]
        rfl)
      (by
        intro i hi'
        rw [hst5s] at hi'
        exact (Store.mem_keysOf_iff hw3 _ _ _ hi (by decide)).2 hi')
      (hfresh _ (Store.keysOf_sorted (step03.sorted hs) hw3 _ _ hi (by decide)) hused_lt)
      h6
    exact ⟨ts, inUse, b1, b2, b3, b4, b5, hitems, by rw [b6, old.roots_eq], b7⟩

/-! ## the loop of a build: its trace and the measure of its queue -/

/-- the facts of the rounds of the re-split loop of `Build.build c o loopFuel` started in `st`
    (empty if the build does not reach the loop) -/
def buildTrace (c : Cfg) (o : BuildOpts) (loopFuel : Nat) (st : BState) : List RoundFact :=
  match buildPrefix c o st with
  | .ok (some (_, _, large, g), st1) => (loopTraced c o loopFuel large g st1).1
  | _ => []

/-- the measure `Σ (size - 1)` of the queue the loop of the build starts with (0 if the build does not reach
    the loop); it does not depend on the loop budget -/
def buildLoopMeasure (c : Cfg) (o : BuildOpts) (st : BState) : Nat :=
  match buildPrefix c o st with
  | .ok (some (_, _, large, _), st1) => loopMeasure c st1.store large
  | _ => 0

/-- a build whose loop has more fuel than the measure of its queue and only rounds with a batch above the
    capacity does not exhaust the loop budget -/
theorem build_aboveCap_noLoopFuel (c : Cfg) (o : BuildOpts) (loopFuel : Nat) (st : BState) (roots0 items0 : List Nat)
    (ts0 : List T) (hi : c.index < 65536) (hcap : 1 ≤ Build.cap c o)
    (hs : Store.Sorted st.store) (hw : Store.WF st.store)
    (old : Old c st.store roots0 items0 ts0) (hnone : st.cancelAt = none) (hfresh : FreshSupply)
    (hfuel : buildLoopMeasure c o st < loopFuel)
    (hbatch : ∀ f ∈ buildTrace c o loopFuel st, Build.cap c o < f.batch) :
    Build.build c o loopFuel st ≠ .error (.fuel "incremental_index_large_descendants") := by
  intro h
  rw [build_eq_prefix] at h
  cases hp : buildPrefix c o st with
  | error e =>
    rw [bind'_of_err hp] at h
    injection h with h
    subst h
    have := buildPrefix_fuelOnly c o st _ hp
    revert this
    decide
  | ok x =>
    obtain ⟨x, st1⟩ := x
    rw [bind'_of_ok hp] at h
    cases x with
    | none => cases h
    | some y =>
      obtain ⟨items, roots, large, g⟩ := y
      simp only [buildTrace, hp] at hbatch
      simp only [buildLoopMeasure, hp] at hfuel
      obtain ⟨ts, inUse, f, hin, hg, hw1, hl, _⟩ :=
        buildPrefix_spec c o st st1 roots0 items0 ts0 items roots large g hi hcap hs hw old hnone hfresh hp
      simp only [buildSuffix] at h
      cases hloop : Build.incrementalIndexLargeDescendants c o loopFuel large g st1 with
      | error e =>
        rw [bind'_of_err hloop] at h
        injection h with h
        subst h
        exact loop_aboveCap_noFuel c o roots items hi hcap loopFuel large ts g inUse st1 f hin hg hw1 hl hfuel
          hbatch _ hloop
      | ok r =>
        obtain ⟨u, st2⟩ := r
        rw [bind'_of_ok hloop] at h
        exact writeMetadata_noFuel c items roots st2 _ h

end Arroy

