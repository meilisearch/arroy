import ArroyProofs.ResplitRound
import ArroyProofs.BuildM
import ArroyProofs.NoFuel
/-! Termination of `incremental_index_large_descendants` under fair splits.

* `resplitRound`: the body of one round of the loop as a `BuildM` program that additionally returns the
  facts of the round (`RoundFact`); `loop_succ_cons`: the model loop is `resplitRound` followed by the loop.
* `loopTraced`: the loop instrumented with the list of the facts of the rounds it ran (also when it fails);
  `loopTraced_snd`: its result is the result of the model loop, for every fuel.
* `loopMeasure`: `Σ (size of the queued bucket - 1)`; a fair round decreases it (`RoundOut.measure_step`).
* `loop_fair_noFuel`: with more fuel than the measure, a run all of whose rounds are fair does not end in
  `.fuel`. -/
namespace Arroy
open BuildM Generated IdSet

/-! ## definitions -/

/-- number of items of the bucket `i` of the store (0 if `i` is not a bucket) -/
def bucketSize (c : Cfg) (s : Store) (i : Nat) : Nat :=
  match Store.get s (c.treeKey i) with
  | some (.desc ids) => ids.length
  | _ => 0

/-- the measure of the queue of the re-split loop: `Σ (size - 1)` over the queued bucket ids -/
def loopMeasure (c : Cfg) (s : Store) (large : List Nat) : Nat :=
  (large.map (fun i => bucketSize c s i - 1)).sum

/-- what happened in one round of the re-split loop -/
structure RoundFact where
  /-- the bucket taken from the queue -/
  bucket : Nat
  /-- number of items it held -/
  size : Nat
  /-- the batch length the oracle dictated -/
  batch : Nat
  /-- number of items on the two sides of the root split of the tree made from the batch
      (both 0 if `make_tree_in_file` did not return a split node) -/
  left : Nat
  right : Nat
  /-- the bucket ids queued by the nested insertion, with their sizes after the round -/
  queued : List (Nat × Nat)
  deriving Repr, DecidableEq

/-- the sizes of the two sides of a root split -/
def T.sides : T → Nat × Nat
  | .node _ _ l r => (l.items.length, r.items.length)
  | _ => (0, 0)

/-- a round is fair when the tree made from the batch has a root split with two non-empty sides -/
def RoundFact.fair (f : RoundFact) : Prop := 0 < f.left ∧ 0 < f.right

instance : DecidablePred RoundFact.fair := fun f => inferInstanceAs (Decidable (0 < f.left ∧ 0 < f.right))

/-- the body of one round of `Build.incrementalIndexLargeDescendants` on the bucket `b` (a literal copy),
    returning the facts of the round, the queued ids and the id generator -/
def resplitRound (c : Cfg) (o : BuildOpts) (b : Nat) (g : IdGen) : BuildM (RoundFact × List Nat × IdGen) := do
  poll
  let s ← getStore
  match s.get (c.treeKey b) with
  | some (.desc ids) =>
    let k ← nextBatch
    if k = 0 ∨ k > ids.length then fail (.oracle "batch length out of range") else
    let batch := ids.take k
    let rest := ids.drop k
    let st ← (fun s => .ok (s, s) : BuildM BState)
    let r ← liftExcept (makeT (Build.treeCtx c o s) (st.normals.length + 2) batch g st.normals st.rands)
    (fun s => .ok ((), { s with normals := r.normals, rands := r.rands }) : BuildM Unit)
    pollN r.polls
    let rootId := r.tree.ref.item
    Build.writeBack c [] r.puts (fun id => if id = rootId then b else id)
    let (large'', g') ← Build.insertItemsInCurrentTrees c o [b] (rest.length + 1) rest r.gen
    let s' ← getStore
    pure (⟨b, ids.length, k, r.tree.sides.1, r.tree.sides.2, large''.map (fun i => (i, bucketSize c s' i))⟩, large'', g')
  | _ => fail (.panic "large descendant is not a descendants node")

/-- the re-split loop, instrumented: the facts of the rounds that ran to their end, in order, and the
    result of the loop (the trace is kept when the loop fails) -/
def loopTraced (c : Cfg) (o : BuildOpts) :
    Nat → List Nat → IdGen → BState → List RoundFact × Except Err (Unit × BState)
  | 0, large, _, st =>
    ([], if large.isEmpty then .ok ((), st) else .error (.fuel "incremental_index_large_descendants"))
  | _+1, [], _, st => ([], .ok ((), st))
  | fuel+1, b :: large', g, st =>
    match resplitRound c o b g st with
    | .error e => ([], .error e)
    | .ok ((f, large'', g'), st') =>
      let r := loopTraced c o fuel (IdSet.union large' large'') g' st'
      (f :: r.1, r.2)

/-! ## the instrumented loop is the model loop -/

theorem bind'_fail {α β : Type} (e : Err) (h : α → BuildM β) : bind' (fail e : BuildM α) h = fail e := rfl

/-- one unfolding of the model loop: a round, then the loop on the new queue -/
theorem loop_succ_cons (c : Cfg) (o : BuildOpts) (fuel b : Nat) (large' : List Nat) (g : IdGen) :
    Build.incrementalIndexLargeDescendants c o (fuel + 1) (b :: large') g =
      bind' (resplitRound c o b g)
        (fun x => Build.incrementalIndexLargeDescendants c o fuel (IdSet.union large' x.2.1) x.2.2) := by
  simp only [Build.incrementalIndexLargeDescendants, resplitRound, bind_eq, pure_eq, bind'_assoc]
  refine congrArg (bind' poll) (funext fun _ => congrArg (bind' getStore) (funext fun s => ?_))
  cases hv : Store.get s (c.treeKey b) with
  | none => rfl
  | some v =>
    cases v with
    | desc ids =>
      simp only [bind'_assoc, bind'_ite, bind'_fail]
      rfl
    | _ => rfl

theorem loop_succ_cons_ok (c : Cfg) (o : BuildOpts) (fuel b : Nat) (large' : List Nat) (g : IdGen)
    {st st' : BState} {f : RoundFact} {large'' : List Nat} {g' : IdGen}
    (h : resplitRound c o b g st = .ok ((f, large'', g'), st')) :
    Build.incrementalIndexLargeDescendants c o (fuel + 1) (b :: large') g st =
      Build.incrementalIndexLargeDescendants c o fuel (IdSet.union large' large'') g' st' := by
  rw [loop_succ_cons, bind'_of_ok h]

theorem loop_succ_cons_err (c : Cfg) (o : BuildOpts) (fuel b : Nat) (large' : List Nat) (g : IdGen)
    {st : BState} {e : Err} (h : resplitRound c o b g st = .error e) :
    Build.incrementalIndexLargeDescendants c o (fuel + 1) (b :: large') g st = .error e := by
  rw [loop_succ_cons, bind'_of_err h]

/-- the instrumented loop computes the model loop: same final state, same error, for every fuel -/
theorem loopTraced_snd (c : Cfg) (o : BuildOpts) (fuel : Nat) (large : List Nat) (g : IdGen) (st : BState) :
    (loopTraced c o fuel large g st).2 = Build.incrementalIndexLargeDescendants c o fuel large g st := by
  induction fuel generalizing large g st with
  | zero =>
    simp only [loopTraced, Build.incrementalIndexLargeDescendants]
    split <;> rfl
  | succ fuel ih =>
    cases large with
    | nil => rfl
    | cons b large' =>
      cases hr : resplitRound c o b g st with
      | error e =>
        rw [loop_succ_cons_err c o fuel b large' g hr]
        simp only [loopTraced, hr]
      | ok x =>
        obtain ⟨⟨f, large'', g'⟩, st'⟩ := x
        rw [loop_succ_cons_ok c o fuel b large' g hr]
        simp only [loopTraced, hr]
        exact ih _ _ _

/-- the trace of a run that gets through a round is the fact of that round, then the trace of the rest -/
theorem loopTraced_fst_cons (c : Cfg) (o : BuildOpts) (fuel b : Nat) (large' : List Nat) (g : IdGen)
    {st st' : BState} {f : RoundFact} {large'' : List Nat} {g' : IdGen}
    (h : resplitRound c o b g st = .ok ((f, large'', g'), st')) :
    (loopTraced c o (fuel + 1) (b :: large') g st).1 =
      f :: (loopTraced c o fuel (IdSet.union large' large'') g' st').1 := by
  simp only [loopTraced, h]

/-! ## a round: inversion, and no `.fuel` -/

theorem resplitRound_noFuel (c : Cfg) (o : BuildOpts) (b : Nat) (g : IdGen) : NoFuelErr (resplitRound c o b g) := by
  unfold resplitRound
  refine NoFuelErr.bind NoFuelErr.poll (fun _ => ?_)
  refine NoFuelErr.bind NoFuelErr.getStore (fun s => ?_)
  split
  · refine NoFuelErr.bind NoFuelErr.nextBatch (fun k => ?_)
    split
    · exact NoFuelErr.fail (by intro w h; cases h)
    · dsimp only
      refine NoFuelErr.bind (NoFuelErr.update _ _) (fun st0 => ?_)
      refine NoFuelErr.bind (NoFuelErr.liftExcept (makeT_noFuel _ _ _ _ _ _ (by omega))) (fun r => ?_)
      refine NoFuelErr.bind (NoFuelErr.update _ _) (fun _ => ?_)
      refine NoFuelErr.bind (NoFuelErr.pollN _) (fun _ => ?_)
      refine NoFuelErr.bind (writeBack_noFuel _ _ _ _) (fun _ => ?_)
      refine NoFuelErr.bind (insertItemsInCurrentTrees_noFuel _ _ _ _ _ _ (by omega)) (fun x => ?_)
      refine NoFuelErr.bind NoFuelErr.getStore (fun s' => ?_)
      exact NoFuelErr.pure _
  · exact NoFuelErr.fail (by intro w h; cases h)

/-- the steps of a round, as equations on the model's own functions -/
structure RoundSteps (c : Cfg) (o : BuildOpts) (b : Nat) (g : IdGen) (st : BState) (ids : List Nat) (k : Nat)
    (r : MakeRes) (st1 st2 st3 st4 st' : BState) (large'' : List Nat) (g' : IdGen) : Prop where
  get : Store.get st.store (c.treeKey b) = some (.desc ids)
  poll : BuildM.poll st = .ok ((), st1)
  batch : nextBatch st1 = .ok (k, st2)
  range : ¬ (k = 0 ∨ k > ids.length)
  make : makeT (Build.treeCtx c o st.store) (st2.normals.length + 2) (ids.take k) g st2.normals st2.rands = .ok r
  polls : pollN r.polls { st2 with normals := r.normals, rands := r.rands } = .ok ((), st3)
  write : Build.writeBack c [] r.puts (fun id => if id = r.tree.ref.item then b else id) st3 = .ok ((), st4)
  insert : Build.insertItemsInCurrentTrees c o [b] ((ids.drop k).length + 1) (ids.drop k) r.gen st4 =
    .ok ((large'', g'), st')

/-- the fact recorded for a round -/
def RoundSteps.fact (c : Cfg) (b : Nat) (ids : List Nat) (k : Nat) (r : MakeRes) (st' : BState)
    (large'' : List Nat) : RoundFact :=
  ⟨b, ids.length, k, r.tree.sides.1, r.tree.sides.2, large''.map (fun i => (i, bucketSize c st'.store i))⟩

theorem resplitRound_ok_inv {c : Cfg} {o : BuildOpts} {b : Nat} {g g' : IdGen} {st st' : BState} {f : RoundFact}
    {large'' : List Nat} (h : resplitRound c o b g st = .ok ((f, large'', g'), st')) :
    ∃ ids k r st1 st2 st3 st4, RoundSteps c o b g st ids k r st1 st2 st3 st4 st' large'' g' ∧
      f = RoundSteps.fact c b ids k r st' large'' := by
  simp only [resplitRound] at h
  obtain ⟨u1, st1, h1, k1⟩ := BuildM.bind_ok.1 h
  clear h
  have e1 := NoWrite.poll _ _ _ h1
  obtain ⟨s, st1', h2, k2⟩ := BuildM.bind_ok.1 k1
  clear k1
  obtain ⟨e2a, e2b⟩ := getStore_ok' h2
  subst e2b
  have hs : s = st.store := by rw [← e2a, e1]
  subst hs
  generalize hget : Store.get st.store (c.treeKey b) = gv at k2
  cases gv with
  | none => exact (fail_ok k2).elim
  | some v =>
  cases v with
  | desc ids =>
    obtain ⟨k, st2, h3, k3⟩ := BuildM.bind_ok.1 k2
    clear k2
    split at k3
    · exact (fail_ok k3).elim
    · rename_i hk
      obtain ⟨sp, st2', h4, k4⟩ := BuildM.bind_ok.1 k3
      clear k3
      obtain ⟨e4a, e4b⟩ := peek_ok' h4
      subst e4a e4b
      obtain ⟨r, st2', h5, k5⟩ := BuildM.bind_ok.1 k4
      clear k4
      obtain ⟨hm, e5⟩ := liftExcept_ok' h5
      subst e5
      obtain ⟨u6, st6, h6, k6⟩ := BuildM.bind_ok.1 k5
      clear k5
      have e6 : st6 = { st2 with normals := r.normals, rands := r.rands } := by cases h6; rfl
      subst e6
      obtain ⟨u7, st3, h7, k7⟩ := BuildM.bind_ok.1 k6
      clear k6
      obtain ⟨u8, st4, h8, k8⟩ := BuildM.bind_ok.1 k7
      clear k7
      obtain ⟨x, st5, h9, k9⟩ := BuildM.bind_ok.1 k8
      clear k8
      obtain ⟨large2, g2⟩ := x
      simp only at k9
      obtain ⟨s', st5', h10, k10⟩ := BuildM.bind_ok.1 k9
      clear k9
      obtain ⟨e10a, e10b⟩ := getStore_ok' h10
      subst e10b
      obtain ⟨e11, e12⟩ := BuildM.pure_ok.1 k10
      subst e12
      simp only [Prod.mk.injEq] at e11
      obtain ⟨rfl, rfl, rfl⟩ := e11
      subst e10a
      exact ⟨ids, k, r, st1, st2, st3, st4, ⟨hget, h1, h3, hk, hm, h7, h8, h9⟩, rfl⟩
  | _ => exact (fail_ok k2).elim

theorem resplitRound_ok_of_steps {c : Cfg} {o : BuildOpts} {b : Nat} {g g' : IdGen} {st st1 st2 st3 st4 st' : BState}
    {ids : List Nat} {k : Nat} {r : MakeRes} {large'' : List Nat}
    (h : RoundSteps c o b g st ids k r st1 st2 st3 st4 st' large'' g') :
    resplitRound c o b g st = .ok ((RoundSteps.fact c b ids k r st' large'', large'', g'), st') := by
  have e1 : st1.store = st.store := NoWrite.poll _ _ _ h.poll
  simp only [resplitRound, bind_eq, pure_eq]
  refine BuildM.bind'_ok.2 ⟨(), st1, h.poll, ?_⟩
  refine BuildM.bind'_ok.2 ⟨st1.store, st1, rfl, ?_⟩
  rw [e1, h.get]
  dsimp only
  refine BuildM.bind'_ok.2 ⟨k, st2, h.batch, ?_⟩
  rw [if_neg h.range]
  refine BuildM.bind'_ok.2 ⟨st2, st2, rfl, ?_⟩
  refine BuildM.bind'_ok.2 ⟨r, st2, by rw [h.make]; rfl, ?_⟩
  refine BuildM.bind'_ok.2 ⟨(), _, rfl, ?_⟩
  refine BuildM.bind'_ok.2 ⟨(), st3, h.polls, ?_⟩
  refine BuildM.bind'_ok.2 ⟨(), st4, h.write, ?_⟩
  refine BuildM.bind'_ok.2 ⟨(large'', g'), st', h.insert, ?_⟩
  rfl

/-! ## sums -/

theorem sum_map_le_of_forall {f h : Nat → Nat} : ∀ (l : List Nat), (∀ x ∈ l, f x ≤ h x) → (l.map f).sum ≤ (l.map h).sum
  | [], _ => Nat.le_refl _
  | x :: l, hl => by
    simp only [List.map_cons, List.sum_cons]
    have h1 := hl x (by simp)
    have h2 := sum_map_le_of_forall l (fun y hy => hl y (List.mem_cons_of_mem _ hy))
    omega

/-- a sum over a duplicate-free list whose non-zero terms come from `m` is at most the sum over `m` -/
theorem sum_map_le_of_support (f : Nat → Nat) :
    ∀ (l m : List Nat), l.Nodup → (∀ i ∈ l, f i ≠ 0 → i ∈ m) → (l.map f).sum ≤ (m.map f).sum
  | [], m, _, _ => by simp
  | x :: l, m, hnd, hsup => by
    have hnd' := List.nodup_cons.1 hnd
    simp only [List.map_cons, List.sum_cons]
    by_cases hx : f x = 0
    · have := sum_map_le_of_support f l m hnd'.2 (fun i hi => hsup i (List.mem_cons_of_mem _ hi))
      omega
    · have hxm : x ∈ m := hsup x List.mem_cons_self hx
      have hp : (m.map f).sum = f x + ((m.erase x).map f).sum := by
        have := ((List.perm_cons_erase hxm).map f).sum_nat
        simpa using this
      have := sum_map_le_of_support f l (m.erase x) hnd'.2 (fun i hi hfi => by
        have him := hsup i (List.mem_cons_of_mem _ hi) hfi
        have hne : i ≠ x := fun e => hnd'.1 (e ▸ hi)
        exact (List.mem_erase_of_ne hne).2 him)
      omega

/-- the merge `IdSet.union` never outputs more copies of an id than its arguments hold -/
theorem sum_map_union_le (f : Nat → Nat) (a b : List Nat) :
    ((IdSet.union a b).map f).sum ≤ (a.map f).sum + (b.map f).sum := by
  fun_induction IdSet.union a b with
  | case1 b => simp
  | case2 a _ => simp
  | case3 x xs y ys h ih => simp only [List.map_cons, List.sum_cons] at ih ⊢; omega
  | case4 x xs y ys h1 h2 ih => simp only [List.map_cons, List.sum_cons] at ih ⊢; omega
  | case5 x xs y ys h1 h2 ih => simp only [List.map_cons, List.sum_cons] at ih ⊢; omega

theorem loopMeasure_union_le (c : Cfg) (s : Store) (a b : List Nat) :
    loopMeasure c s (IdSet.union a b) ≤ loopMeasure c s a + loopMeasure c s b :=
  sum_map_union_le _ a b

theorem loopMeasure_cons (c : Cfg) (s : Store) (b : Nat) (l : List Nat) :
    loopMeasure c s (b :: l) = (bucketSize c s b - 1) + loopMeasure c s l := by
  simp [loopMeasure]

/-! ## buckets of a tree -/

theorem T.bucket_length_le_items {t : T} {p : Nat × List Nat} (hp : p ∈ t.buckets) : p.2.length ≤ t.items.length := by
  induction t with
  | leaf i => simp [T.buckets] at hp
  | bucket id s =>
    simp only [T.buckets, List.mem_singleton] at hp
    subst hp; exact Nat.le_refl _
  | node id n l r ihl ihr =>
    simp only [T.buckets, List.mem_append] at hp
    simp only [T.items, List.length_append]
    rcases hp with hp | hp
    · have := ihl hp; omega
    · have := ihr hp; omega

theorem T.bucket_sub_items {t : T} {p : Nat × List Nat} (hp : p ∈ t.buckets) : ∀ x ∈ p.2, x ∈ t.items := by
  induction t with
  | leaf i => simp [T.buckets] at hp
  | bucket id s =>
    simp only [T.buckets, List.mem_singleton] at hp
    subst hp; exact fun x hx => hx
  | node id n l r ihl ihr =>
    simp only [T.buckets, List.mem_append] at hp
    intro x hx
    simp only [T.items, List.mem_append]
    rcases hp with hp | hp
    · exact Or.inl (ihl hp x hx)
    · exact Or.inr (ihr hp x hx)

theorem holds_bucket {c : Cfg} {s : Store} {t : T} (hh : Holds c s t) {p : Nat × List Nat} (hp : p ∈ t.buckets) :
    Store.get s (c.treeKey p.1) = some (.desc p.2) := by
  induction t with
  | leaf i => simp [T.buckets] at hp
  | bucket id s0 =>
    simp only [T.buckets, List.mem_singleton] at hp
    subst hp; exact hh.bucket
  | node id n l r ihl ihr =>
    simp only [T.buckets, List.mem_append] at hp
    rcases hp with hp | hp
    · exact ihl hh.left hp
    · exact ihr hh.right hp

/-- the sizes read in the store at the bucket ids of a held tree are the lengths of its buckets -/
theorem holds_sum_buckets {c : Cfg} {s : Store} {t : T} (hh : Holds c s t) :
    ((t.buckets.map (·.1)).map (fun i => bucketSize c s i - 1)).sum = (t.buckets.map (fun p => p.2.length - 1)).sum := by
  rw [List.map_map]
  congr 1
  apply List.map_congr_left
  intro p hp
  simp only [Function.comp, bucketSize, holds_bucket hh hp]

theorem T.sum_buckets_le (t : T) : (t.buckets.map (fun p => p.2.length - 1)).sum ≤ t.items.length - 1 := by
  induction t with
  | leaf i => simp [T.buckets]
  | bucket id s => simp [T.buckets, T.items]
  | node id n l r ihl ihr =>
    simp only [T.buckets, T.items, List.map_append, List.sum_append, List.length_append]
    omega

theorem T.sides_pos {t : T} (h : 0 < t.sides.1 ∧ 0 < t.sides.2) :
    ∃ id n a b, t = .node id n a b ∧ a.items ≠ [] ∧ b.items ≠ [] := by
  cases t with
  | leaf i => simp [T.sides] at h
  | bucket id s => simp [T.sides] at h
  | node id n a b =>
    simp only [T.sides] at h
    exact ⟨id, n, a, b, rfl, List.ne_nil_of_length_pos h.1, List.ne_nil_of_length_pos h.2⟩

/-! ## the parts of a tree: its item children and non-empty buckets -/

/-- number of item children and non-empty buckets -/
def T.parts : T → Nat
  | .leaf _ => 1
  | .bucket _ [] => 0
  | .bucket _ (_ :: _) => 1
  | .node _ _ l r => l.parts + r.parts

/-- `Σ (size - 1)` over the buckets is the number of items minus the number of parts -/
theorem T.sum_buckets_add_parts (t : T) :
    (t.buckets.map (fun p => p.2.length - 1)).sum + t.parts = t.items.length := by
  induction t with
  | leaf i => simp [T.buckets, T.parts, T.items]
  | bucket id s => cases s <;> simp [T.buckets, T.parts, T.items]
  | node id n l r ihl ihr =>
    simp only [T.buckets, T.parts, T.items, List.map_append, List.sum_append, List.length_append]
    omega

theorem Grow.parts_le {t t' : T} (h : Grow t t') : t.parts ≤ t'.parts := by
  induction t generalizing t' with
  | leaf i =>
    rcases h.leaf_inv with rfl | ⟨id, s, rfl, hi⟩
    · exact Nat.le_refl _
    · cases s with
      | nil => cases hi
      | cons x xs => exact Nat.le_refl _
  | bucket id s =>
    obtain ⟨s', rfl, _, hlen⟩ := h.bucket_inv
    cases s with
    | nil => exact Nat.zero_le _
    | cons x xs =>
      cases s' with
      | nil => simp at hlen
      | cons y ys => exact Nat.le_refl _
  | node id n l r ihl ihr =>
    obtain ⟨l', r', rfl, hl, hr⟩ := h.node_inv
    exact Nat.add_le_add (ihl hl) (ihr hr)

/-- buckets within the capacity: at most `cap` items per part -/
theorem T.items_le_parts_mul {cap : Nat} (hcap : 1 ≤ cap) (t : T) (h : ∀ p ∈ t.buckets, p.2.length ≤ cap) :
    t.items.length ≤ t.parts * cap := by
  induction t with
  | leaf i => simpa [T.items, T.parts] using hcap
  | bucket id s =>
    cases s with
    | nil => simp [T.items, T.parts]
    | cons x xs => simpa [T.items, T.parts, T.buckets] using h
  | node id n l r ihl ihr =>
    have hl := ihl (fun p hp => h p (by simp [T.buckets, hp]))
    have hr := ihr (fun p hp => h p (by simp [T.buckets, hp]))
    simp only [T.items, T.parts, List.length_append, Nat.add_mul]
    omega

/-- the tree made from a batch longer than the capacity is a split node with at least two parts -/
theorem makeT_two_parts {cx : TreeCtx} {fuel : Nat} {items : List Nat} {g : IdGen} {normals : List (List Nat)}
    {rs : List Bool} {res : MakeRes} (h : makeT cx fuel items g normals rs = .ok res)
    (hcap : 1 ≤ cx.cap) (hlen : cx.cap < items.length) :
    ∃ id n l r, res.tree = .node id n l r ∧ 2 ≤ l.parts + r.parts := by
  obtain ⟨id, n, l, r, e⟩ := makeT_shape_node cx fuel items g normals rs res h hcap hlen
  refine ⟨id, n, l, r, e, ?_⟩
  have h1 := T.items_le_parts_mul hcap res.tree (makeT_capacity cx fuel items g normals rs res h)
  have h2 := (makeT_items cx fuel items g normals rs res h).1.length_eq
  rw [e] at h1 h2
  simp only [T.parts] at h1
  simp only [T.items] at h2
  generalize l.parts + r.parts = m at h1
  match m, h1 with
  | 0, h1 => simp only [T.items, Nat.zero_mul] at h1; omega
  | 1, h1 => simp only [T.items, Nat.one_mul] at h1; omega
  | m + 2, _ => omega

theorem mem_le_sum_map {α : Type} (f : α → Nat) : ∀ {l : List α} {a : α}, a ∈ l → f a ≤ (l.map f).sum
  | x :: l, a, h => by
    simp only [List.map_cons, List.sum_cons]
    rcases List.mem_cons.1 h with rfl | h
    · omega
    · have := mem_le_sum_map f h; omega

/-! ## a round whose made tree has two parts (a batch above the capacity; in particular a fair round) -/

section round
variable {c : Cfg} {o : BuildOpts} {roots items : List Nat} {ts : List T} {s : Store} {b : Nat}
  {ids inUse : List Nat} {g' : IdGen} {stc : BState} {large2 : List Nat} {u' : T} {inUse' : List Nat}
  {n : List Nat} {a0 b0 : T}

/-- the subtree below `b` is still that split node, it holds `ids`, and has at least two parts -/
theorem RoundOut.node_parts
    (out : RoundOut c o roots items ts s b ids inUse g' stc large2 (.node b n a0 b0) u' inUse')
    (hp : 2 ≤ a0.parts + b0.parts) :
    ∃ a' b', u' = .node b n a' b' ∧ Grow a0 a' ∧ Grow b0 b' ∧
      a'.items.length + b'.items.length = ids.length ∧ 2 ≤ u'.parts := by
  obtain ⟨a', b', rfl, ga, gb⟩ := out.grow.node_inv
  refine ⟨a', b', rfl, ga, gb, ?_, ?_⟩
  · have hp := (List.perm_ext_iff_of_nodup out.items_nodup out.sorted_ids.nodup).2 out.items
    have := hp.length_eq
    simpa [T.items] using this
  · have := out.grow.parts_le
    simp only [T.parts] at this ⊢
    omega

theorem RoundOut.sum_buckets
    (out : RoundOut c o roots items ts s b ids inUse g' stc large2 (.node b n a0 b0) u' inUse')
    (hp : 2 ≤ a0.parts + b0.parts) :
    (u'.buckets.map (fun p => p.2.length - 1)).sum + 2 ≤ ids.length := by
  obtain ⟨a', b', e, _, _, hlen, hp'⟩ := out.node_parts hp
  have := T.sum_buckets_add_parts u'
  have hl : u'.items.length = ids.length := by rw [e]; simpa [T.items] using hlen
  omega

/-- after the round `b` is still that split node, its sides grown; every bucket below it is stored as such, holds
    items of `ids` only and strictly fewer than `ids`, and is queued if over-full; nothing else is queued -/
theorem RoundOut.progress
    (out : RoundOut c o roots items ts s b ids inUse g' stc large2 (.node b n a0 b0) u' inUse')
    (hp : 2 ≤ a0.parts + b0.parts) :
    ∃ l' r', reify c stc.store (stc.store.length + 1) (NodeId.mkTree b) = some u' ∧ u' = .node b n l' r' ∧
      Store.get stc.store (c.treeKey b) = some (.split l'.ref r'.ref n) ∧ Grow a0 l' ∧ Grow b0 r' ∧
      l'.items.length + r'.items.length = ids.length ∧
      (∀ p ∈ u'.buckets, Store.get stc.store (c.treeKey p.1) = some (.desc p.2) ∧
        p.2.length < ids.length ∧ (∀ x ∈ p.2, x ∈ ids) ∧ (Build.cap c o < p.2.length → p.1 ∈ large2)) ∧
      (∀ i ∈ large2, ∃ s0, (i, s0) ∈ u'.buckets ∧ Build.cap c o < s0.length) := by
  obtain ⟨l', r', e, ga, gb, hlen, _⟩ := out.node_parts hp
  refine ⟨l', r', ?_, e, ?_, ga, gb, hlen, ?_, ?_⟩
  · have := reify_of_holds_nodup c stc.store u' out.holds out.ids_nodup
    rwa [out.ref] at this
  · have := out.holds
    rw [e] at this
    exact this.root
  · intro p hpm
    refine ⟨holds_bucket out.holds hpm, ?_, fun x hx => (out.items x).1 (T.bucket_sub_items hpm x hx),
      fun hc => out.queued p hpm ?_⟩
    · have h1 := out.sum_buckets hp
      have h2 := mem_le_sum_map (fun p : Nat × List Nat => p.2.length - 1) hpm
      omega
    · simp only [fits, decide_eq_true_eq]
      omega
  · intro i hi'
    obtain ⟨t, ht, s0, hs0, hc⟩ := out.large i hi'
    simp only [List.mem_singleton] at ht
    subst ht
    exact ⟨s0, hs0, hc⟩

/-- the ids queued by the round weigh at most `|ids| - 2` -/
theorem RoundOut.measure_queued
    (out : RoundOut c o roots items ts s b ids inUse g' stc large2 (.node b n a0 b0) u' inUse')
    (hp : 2 ≤ a0.parts + b0.parts) :
    loopMeasure c stc.store large2 + 2 ≤ ids.length := by
  have h1 : loopMeasure c stc.store large2 ≤ loopMeasure c stc.store (u'.buckets.map (·.1)) := by
    apply sum_map_le_of_support _ _ _ out.large_sorted.nodup
    intro i hi _
    obtain ⟨t, ht, s0, hs0, _⟩ := out.large i hi
    simp only [List.mem_singleton] at ht
    subst ht
    exact List.mem_map.2 ⟨(i, s0), hs0, rfl⟩
  have h2 : loopMeasure c stc.store (u'.buckets.map (·.1)) = (u'.buckets.map (fun p => p.2.length - 1)).sum :=
    holds_sum_buckets out.holds
  have h3 := out.sum_buckets hp
  omega

/-- **the measure decreases**: the queue after the round weighs strictly less than the queue before it (the
    other queued ids are in use, so the round does not touch their buckets) -/
theorem RoundOut.measure_step
    (out : RoundOut c o roots items ts s b ids inUse g' stc large2 (.node b n a0 b0) u' inUse')
    (hp : 2 ≤ a0.parts + b0.parts)
    (hget : Store.get s (c.treeKey b) = some (.desc ids))
    (large1 : List Nat) (hl1 : ∀ i ∈ large1, i ∈ inUse) :
    loopMeasure c stc.store (IdSet.union large1 large2) < loopMeasure c s (b :: large1) := by
  obtain ⟨a', b', e, _, _, hlen, _⟩ := out.node_parts hp
  have hq := out.measure_queued hp
  have hu := loopMeasure_union_le c stc.store large1 large2
  have hb0 : bucketSize c s b = ids.length := by simp only [bucketSize, hget]
  have hbroot : bucketSize c stc.store b = 0 := by
    subst e
    simp only [bucketSize, out.holds.root]
  have h1 : loopMeasure c stc.store large1 ≤ loopMeasure c s large1 := by
    apply sum_map_le_of_forall
    intro i hi
    by_cases hiu : i ∈ u'.ids
    · rcases out.fresh i hiu with rfl | h'
      · rw [hbroot]; omega
      · exact absurd (hl1 i hi) h'
    · have : Store.get stc.store (c.treeKey i) = Store.get s (c.treeKey i) :=
        out.untouched _ (fun j hj e' => hiu (by rw [Cfg.treeKey_inj.1 e']; exact hj))
      simp only [bucketSize, this]
      exact Nat.le_refl _
  rw [loopMeasure_cons, hb0]
  omega

end round

/-- the outcome of a round given by its steps, when the batch is longer than the capacity: the made tree is a
    split node with two parts -/
theorem RoundSteps.out {c : Cfg} {o : BuildOpts} {b : Nat} {g g' : IdGen} {st st1 st2 st3 st4 st' : BState}
    {ids : List Nat} {k : Nat} {r : MakeRes} {large'' : List Nat} {roots items : List Nat} {ts : List T}
    {inUse : List Nat}
    (steps : RoundSteps c o b g st ids k r st1 st2 st3 st4 st' large'' g')
    (hi : c.index < 65536) (hcap : 1 ≤ Build.cap c o)
    (f : Forest c st.store roots items ts) (hin : ∀ i ∈ ts.flatMap T.ids, i ∈ inUse) (hg : GenOK inUse g)
    (hw : Store.WF st.store) (hk : Build.cap c o < k) :
    ∃ id n a0 b0 u' inUse', r.tree = .node id n a0 b0 ∧ 2 ≤ a0.parts + b0.parts ∧
      RoundOut c o roots items ts st.store b ids inUse g' st' large'' (.node b n a0 b0) u' inUse' := by
  have hst3 : st3.store = st.store := by
    rw [NoWrite.pollN _ _ _ _ steps.polls]
    show st2.store = st.store
    rw [NoWrite.nextBatch _ _ _ steps.batch, NoWrite.poll _ _ _ steps.poll]
  obtain ⟨u', inUse', out⟩ :=
    resplit_round_out c o roots items ts st.store b ids k g g' inUse _ _ _ _ r st3 st4 st' large''
      f steps.get hin hg hw hi hcap steps.make hst3 steps.write steps.insert
  have hr := steps.range
  obtain ⟨id, n, a0, b0, ert, hp⟩ := makeT_two_parts steps.make hcap (by
    show Build.cap c o < (ids.take k).length
    rw [List.length_take]; omega)
  rw [ert] at out
  exact ⟨id, n, a0, b0, u', inUse', ert, hp, out⟩

/-! ## termination -/

/-- **fuel bound**: on a forest, with a fresh id generator and the queued ids in use, a run of the re-split
    loop with more fuel than the measure of its queue, all of whose rounds have a batch longer than the
    capacity, does not end in `.fuel` -/
theorem loop_aboveCap_noFuel (c : Cfg) (o : BuildOpts) (roots items : List Nat) (hi : c.index < 65536)
    (hcap : 1 ≤ Build.cap c o) (fuel : Nat) :
    ∀ (large : List Nat) (ts : List T) (g : IdGen) (inUse : List Nat) (st : BState),
    Forest c st.store roots items ts →
    (∀ i ∈ ts.flatMap T.ids, i ∈ inUse) → GenOK inUse g → Store.WF st.store →
    (∀ i ∈ large, i ∈ inUse) →
    loopMeasure c st.store large < fuel →
    (∀ f ∈ (loopTraced c o fuel large g st).1, Build.cap c o < f.batch) →
    ∀ w, Build.incrementalIndexLargeDescendants c o fuel large g st ≠ .error (.fuel w) := by
  induction fuel with
  | zero => intro large ts g inUse st _ _ _ _ _ hlt; exact absurd hlt (Nat.not_lt_zero _)
  | succ fuel ih =>
    intro large ts g inUse st f hin hg hw hl hlt hfair w
    cases large with
    | nil =>
      simp only [Build.incrementalIndexLargeDescendants]
      intro h; cases h
    | cons b large1 =>
      cases hr : resplitRound c o b g st with
      | error e =>
        rw [loop_succ_cons_err c o fuel b large1 g hr]
        intro h
        injection h with h
        subst h
        exact resplitRound_noFuel c o b g st w hr
      | ok x =>
        obtain ⟨⟨fact, large2, g2⟩, st'⟩ := x
        rw [loop_succ_cons_ok c o fuel b large1 g hr]
        rw [loopTraced_fst_cons c o fuel b large1 g hr] at hfair
        obtain ⟨ids, k, r, st1, st2, st3, st4, steps, rfl⟩ := resplitRound_ok_inv hr
        have hk : Build.cap c o < k := hfair (RoundSteps.fact c b ids k r st' large2) List.mem_cons_self
        obtain ⟨id, n, a0, b0, u', inUse', _, hp, out'⟩ := steps.out hi hcap f hin hg hw hk
        have hdec := out'.measure_step hp steps.get large1 (fun i hi' => hl i (List.mem_cons_of_mem _ hi'))
        apply ih (IdSet.union large1 large2) (ts.map (fun t => t.subst b u')) g2 inUse' st' out'.forest
        · intro i hi'
          rw [List.flatMap_map] at hi'
          obtain ⟨t, ht, hit⟩ := List.mem_flatMap.1 hi'
          rcases (T.mem_ids_subst (f.tree_nodup ht) (out'.at_b t ht) i).1 hit with ⟨h', _⟩ | ⟨_, h'⟩
          · exact out'.sup i (hin i (List.mem_flatMap.2 ⟨t, ht, h'⟩))
          · exact out'.ids_in i h'
        · exact out'.gen
        · exact out'.step.wf hw
        · intro i hi'
          rcases mem_union.1 hi' with h' | h'
          · exact out'.sup i (hl i (List.mem_cons_of_mem _ h'))
          · obtain ⟨t, ht, s0, hs0, _⟩ := out'.large i h'
            simp only [List.mem_singleton] at ht
            subst ht
            exact out'.ids_in i (T.buckets_ids hs0)
        · omega
        · intro f' hf'
          exact hfair f' (List.mem_cons_of_mem _ hf')

/-! ## consequences for the recorded facts, and the bound in terms of the bucket sizes -/

/-- `make_tree_in_file` returns a split node only for more items than the capacity -/
theorem makeT_node_batch {cx : TreeCtx} {fuel : Nat} {items : List Nat} {g : IdGen} {normals : List (List Nat)}
    {rs : List Bool} {res : MakeRes} {id : Nat} {n : List Nat} {l r : T}
    (h : makeT cx fuel items g normals rs = .ok res) (hn : res.tree = .node id n l r) : cx.cap < items.length := by
  obtain ⟨h1, h2, _⟩ := makeT_shape cx fuel items g normals rs res h
  by_cases hl : items.length = 1
  · match items, hl with
    | [y], _ =>
      have := h1 y rfl
      rw [hn] at this
      cases this
  · by_cases hf : fits cx.cap items.length = true
    · obtain ⟨id', e⟩ := h2 hl hf
      rw [hn] at e
      cases e
    · simp only [fits, decide_eq_true_eq] at hf
      omega

/-- a fair round had a batch above the capacity (and within the bucket) -/
theorem resplitRound_fair_batch {c : Cfg} {o : BuildOpts} {b : Nat} {g g' : IdGen} {st st' : BState} {f : RoundFact}
    {large'' : List Nat} (h : resplitRound c o b g st = .ok ((f, large'', g'), st')) (hf : f.fair) :
    Build.cap c o < f.batch ∧ f.batch ≤ f.size := by
  obtain ⟨ids, k, r, st1, st2, st3, st4, steps, rfl⟩ := resplitRound_ok_inv h
  obtain ⟨id, n, a0, b0, ert, _, _⟩ := T.sides_pos hf
  have hlt : Build.cap c o < (ids.take k).length := makeT_node_batch steps.make ert
  have hk := steps.range
  rw [List.length_take] at hlt
  simp only [RoundSteps.fact]
  constructor <;> omega

theorem loopTraced_fair_batch (c : Cfg) (o : BuildOpts) (fuel : Nat) :
    ∀ (large : List Nat) (g : IdGen) (st : BState), ∀ f ∈ (loopTraced c o fuel large g st).1, f.fair →
      Build.cap c o < f.batch ∧ f.batch ≤ f.size := by
  induction fuel with
  | zero => intro large g st f hf; simp [loopTraced] at hf
  | succ fuel ih =>
    intro large g st f hf
    cases large with
    | nil => simp [loopTraced] at hf
    | cons b large' =>
      cases hr : resplitRound c o b g st with
      | error e => simp [loopTraced, hr] at hf
      | ok x =>
        obtain ⟨⟨f0, large'', g'⟩, st'⟩ := x
        rw [loopTraced_fst_cons c o fuel b large' g hr] at hf
        rcases List.mem_cons.1 hf with rfl | hf
        · exact resplitRound_fair_batch hr
        · exact ih _ _ _ f hf

theorem loop_nil_noFuel (c : Cfg) (o : BuildOpts) (fuel : Nat) (g : IdGen) (st : BState) (w : String) :
    Build.incrementalIndexLargeDescendants c o fuel [] g st ≠ .error (.fuel w) := by
  cases fuel <;> (simp only [Build.incrementalIndexLargeDescendants]; intro h; cases h)

/-- the measure is below the sum of the sizes as soon as the queued buckets are not empty -/
theorem loopMeasure_lt_sizes (c : Cfg) (s : Store) (b : Nat) (l : List Nat)
    (h : ∀ i ∈ b :: l, 0 < bucketSize c s i) :
    loopMeasure c s (b :: l) < ((b :: l).map (bucketSize c s)).sum := by
  have h1 : loopMeasure c s l ≤ (l.map (bucketSize c s)).sum :=
    sum_map_le_of_forall l (fun x _ => Nat.sub_le _ _)
  have h2 := h b (by simp)
  rw [loopMeasure_cons]
  simp only [List.map_cons, List.sum_cons]
  omega

/-- **fuel bound under fair splits**: the same for a run all of whose rounds are fair (a fair round has a batch
    longer than the capacity) -/
theorem loop_fair_noFuel (c : Cfg) (o : BuildOpts) (roots items : List Nat) (hi : c.index < 65536)
    (hcap : 1 ≤ Build.cap c o) (fuel : Nat) (large : List Nat) (ts : List T) (g : IdGen) (inUse : List Nat)
    (st : BState) (f : Forest c st.store roots items ts)
    (hin : ∀ i ∈ ts.flatMap T.ids, i ∈ inUse) (hg : GenOK inUse g) (hw : Store.WF st.store)
    (hl : ∀ i ∈ large, i ∈ inUse) (hlt : loopMeasure c st.store large < fuel)
    (hfair : ∀ f ∈ (loopTraced c o fuel large g st).1, f.fair) (w : String) :
    Build.incrementalIndexLargeDescendants c o fuel large g st ≠ .error (.fuel w) :=
  loop_aboveCap_noFuel c o roots items hi hcap fuel large ts g inUse st f hin hg hw hl hlt
    (fun f' hf' => (loopTraced_fair_batch c o fuel large g st f' hf' (hfair f' hf')).1) w

end Arroy

