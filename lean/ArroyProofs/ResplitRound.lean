import ArroyProofs.MakeRoot
/-! One round of `incremental_index_large_descendants` on a forest: the over-full bucket `b` is
replaced by the subtree made from a batch, then the rest of its items is inserted below `b`.
`RoundOut` collects what holds afterwards: the new forest, and what the termination argument needs of the
subtree `u'` below `b` (held by the store, grown out of the tree made from the batch, the queued ids exactly
its over-full buckets). -/
namespace Arroy
open BuildM Generated IdSet

theorem wf_bucket {t : T} (hw : WF t) {p : Nat × List Nat} (hp : p ∈ t.buckets) : Sorted p.2 := by
  induction t with
  | leaf i => simp [T.buckets] at hp
  | bucket id s =>
    simp only [T.buckets, List.mem_singleton] at hp
    subst hp; exact hw
  | node id n l r ihl ihr =>
    simp only [T.buckets, List.mem_append] at hp
    rcases hp with hp | hp
    · exact ihl hw.1 hp
    · exact ihr hw.2 hp

theorem singleton_of_map_ref {us : List T} {b : Nat} (h : us.map T.ref = [b].map NodeId.mkTree) :
    ∃ u, us = [u] ∧ u.ref = NodeId.mkTree b := by
  match us, h with
  | [], h => simp at h
  | [u], h => exact ⟨u, rfl, by simpa using h⟩
  | _ :: _ :: _, h => simp at h

theorem makeT_leaf_batch {cx : TreeCtx} {fuel : Nat} {items : List Nat} {g : IdGen} {normals : List (List Nat)}
    {rs : List Bool} {res : MakeRes} (h : makeT cx fuel items g normals rs = .ok res) {x : Nat}
    (hx : res.tree = .leaf x) : items = [x] := by
  obtain ⟨h1, h2, h3⟩ := makeT_shape cx fuel items g normals rs res h
  by_cases hl : items.length = 1
  · match items, hl with
    | [y], _ =>
      have := h1 y rfl
      rw [hx] at this
      cases this; rfl
  · by_cases hf : fits cx.cap items.length = true
    · obtain ⟨id, e⟩ := h2 hl hf
      rw [hx] at e; cases e
    · obtain ⟨id, n, l, r, e⟩ := h3 hl (by simpa using hf)
      rw [hx] at e; cases e

/-- outcome of one round on bucket `b` (content `ids`) of the store `s`: `u0` is the tree made from the
    batch, re-rooted at `b`; `u'` the subtree below `b` after the rest was inserted -/
structure RoundOut (c : Cfg) (o : BuildOpts) (roots items : List Nat) (ts : List T) (s : Store) (b : Nat)
    (ids inUse : List Nat) (g' : IdGen) (stc : BState) (large2 : List Nat) (u0 u' : T) (inUse' : List Nat) : Prop where
  forest : Forest c stc.store roots items (ts.map (fun t => t.subst b u'))
  at_b : ∀ t ∈ ts, T.At b ids t
  gen : GenOK inUse' g'
  sup : ∀ i ∈ inUse, i ∈ inUse'
  ids_in : ∀ i ∈ u'.ids, i ∈ inUse'
  step : StoreStep c s stc.store
  frame : TreeFrame c s stc.store
  routed : RoutedT (Build.treeCtx c o s) u'
  items : ∀ x, x ∈ u'.items ↔ x ∈ ids
  queued : ∀ bk ∈ u'.buckets, ¬ fits (Build.cap c o) bk.2.length → bk.1 ∈ large2
  holds : Holds c stc.store u'
  ref : u'.ref = NodeId.mkTree b
  ids_nodup : u'.ids.Nodup
  items_nodup : u'.items.Nodup
  fresh : ∀ i ∈ u'.ids, i = b ∨ i ∉ inUse
  untouched : ∀ k', (∀ i ∈ u'.ids, k' ≠ c.treeKey i) → Store.get stc.store k' = Store.get s k'
  grow : Grow u0 u'
  large : LargeOf (Build.cap c o) [u'] large2
  large_sorted : Sorted large2
  sorted_ids : Sorted ids

theorem resplit_round_out (c : Cfg) (o : BuildOpts) (roots items : List Nat) (ts : List T) (s : Store)
    (b : Nat) (ids : List Nat) (k : Nat) (g g' : IdGen) (inUse : List Nat) (fuel0 fuel1 : Nat)
    (normals : List (List Nat)) (rs : List Bool) (r : MakeRes) (sta stb stc : BState) (large2 : List Nat)
    (f : Forest c s roots items ts)
    (hget : Store.get s (c.treeKey b) = some (.desc ids))
    (hin : ∀ i ∈ ts.flatMap T.ids, i ∈ inUse) (hg : GenOK inUse g)
    (hw : Store.WF s) (hi : c.index < 65536) (hcap : 1 ≤ Build.cap c o)
    (hm : makeT (Build.treeCtx c o s) fuel0 (ids.take k) g normals rs = .ok r)
    (hsa : sta.store = s)
    (hwb : Build.writeBack c [] r.puts (fun id => if id = r.tree.ref.item then b else id) sta = .ok ((), stb))
    (hins : Build.insertItemsInCurrentTrees c o [b] fuel1 (ids.drop k) r.gen stb = .ok ((large2, g'), stc)) :
    ∃ (u' : T) (inUse' : List Nat),
      RoundOut c o roots items ts s b ids inUse g' stc large2 (rootAt b ids r.tree) u' inUse' := by
  subst hsa
  have hbold : b ∈ ts.flatMap T.ids := (f.cover b).1 (by rw [hget]; rfl)
  have hb : b ∈ inUse := hin b hbold
  have hblt : b < 4294967296 := lt_of_isSome_tree hw (by rw [hget]; rfl)
  -- the bucket holds a sorted set
  have hsorted : Sorted ids := by
    obtain ⟨t, ht, hbt⟩ := List.mem_flatMap.1 hbold
    exact wf_bucket (f.wf t ht) (bucket_of_holds (f.holds t ht) hbt hget)
  have hstake : Sorted (ids.take k) := hsorted.sublist (List.take_sublist k ids)
  have hsdrop : Sorted (ids.drop k) := hsorted.sublist (List.drop_sublist k ids)
  have hsplit : ∀ x, x ∈ ids ↔ x ∈ ids.take k ∨ x ∈ ids.drop k := by
    intro x
    conv => lhs; rw [← List.take_append_drop k ids]
    exact List.mem_append
  have hdisj : ∀ x ∈ ids.drop k, x ∉ ids.take k := by
    intro x hx hx'
    have := hsorted.nodup
    rw [← List.take_append_drop k ids] at this
    exact (List.nodup_append.1 this).2.2 x hx' x hx rfl
  -- first half: the new subtree at `b`
  obtain ⟨a1, a2, a3, a4, a5, a6⟩ :=
    resplit_root c _ fuel0 (ids.take k) g normals rs r inUse b ids hm hg hb hget hblt hi hwb
  have hframe1 : TreeFrame c sta.store stb.store := fun k' hk' => a4 k' (fun i _ => hk' i)
  have hcx : Build.treeCtx c o stb.store = Build.treeCtx c o sta.store := hframe1.treeCtx o
  -- second half: the remaining items
  obtain ⟨us', inUse', c1, c2, c3, c4, c5, c6, c7, c8, c9, c10, c11, c12, c13, c14, c15, c16⟩ :=
    insertAll_grow c o [b] hi fuel1 (ids.drop k) [rootAt b ids r.tree] r.gen g'
      ((rootAt b ids r.tree).ids ++ inUse) stb stc large2
      (by simp [rootAt_ref])
      (by intro t ht; simp only [List.mem_singleton] at ht; subst ht; exact a1)
      (by simpa using a2)
      (by intro i hi'; simp only [List.flatMap_cons, List.flatMap_nil, List.append_nil] at hi'
          exact List.mem_append_left _ hi')
      a6 (a5.wf hw) hsdrop hins
  obtain ⟨u', rfl, hu'ref⟩ := singleton_of_map_ref c1
  simp only [List.flatMap_cons, List.flatMap_nil, List.append_nil] at c3 c4 c5 c8 c9
  rw [hcx] at c11
  have hrel : InsRel (Build.treeCtx c o sta.store) (ids.drop k) (rootAt b ids r.tree) u' := c11.1
  -- properties of the subtree before the insertion
  have hmi := makeT_items _ fuel0 (ids.take k) g normals rs r hm
  have hwf0 : WF (rootAt b ids r.tree) := rootAt_wf b ids r.tree hsorted (hmi.2 hstake)
  have hrouted0 : RoutedT (Build.treeCtx c o sta.store) (rootAt b ids r.tree) :=
    rootAt_routed _ b ids r.tree (makeT_routed _ fuel0 (ids.take k) g normals rs r hm
      (treeCtx_isZero_replicate_zero c o sta.store))
  have hitems : ∀ x, x ∈ u'.items ↔ x ∈ ids := by
    intro x
    rw [hrel.items, hsplit]
    by_cases hleaf : ∃ y, r.tree = .leaf y
    · obtain ⟨y, hy⟩ := hleaf
      rw [hy]
      simp only [rootAt, T.items]
      rw [hsplit]
      constructor
      · rintro ((h | h) | h)
        · exact Or.inl h
        · exact Or.inr h
        · exact Or.inr h
      · rintro (h | h)
        · exact Or.inl (Or.inl h)
        · exact Or.inr h
    · have hnl : ∀ y, r.tree ≠ .leaf y := fun y hy => hleaf ⟨y, hy⟩
      rw [rootAt_items b ids r.tree hnl, hmi.1.mem_iff]
  have hnodup : u'.items.Nodup := by
    by_cases hleaf : ∃ y, r.tree = .leaf y
    · obtain ⟨y, hy⟩ := hleaf
      obtain ⟨s', hs'⟩ := hrel.bucket b ids (by rw [hy]; rfl)
      have := hrel.wf hsdrop hwf0
      rw [hs'] at this ⊢
      exact Sorted.nodup this
    · have hnl : ∀ y, r.tree ≠ .leaf y := fun y hy => hleaf ⟨y, hy⟩
      apply hrel.nodup hsdrop hwf0
      · rw [rootAt_items b ids r.tree hnl]
        exact makeT_items_nodup _ fuel0 (ids.take k) g normals rs r hm hstake
      · intro x hx
        rw [rootAt_items b ids r.tree hnl, hmi.1.mem_iff]
        exact hdisj x hx
  have hfresh : ∀ i ∈ u'.ids, i = b ∨ i ∉ ts.flatMap T.ids := by
    intro i hi'
    rcases c4 i hi' with h' | ⟨h', _⟩
    · rcases a3 i h' with h'' | ⟨h'', _⟩
      · exact Or.inl h''
      · exact Or.inr (fun hm' => h'' (hin i hm'))
    · exact Or.inr (fun hm' => h' (List.mem_append_right _ (hin i hm')))
  have hframe : ∀ k', (∀ i ∈ u'.ids, k' ≠ c.treeKey i) → Store.get stc.store k' = Store.get sta.store k' := by
    intro k' hk'
    rw [c9 k' hk', a4 k' (fun i hi' => hk' i (c5 i hi'))]
  obtain ⟨fnew, hat⟩ := f.subst hget hu'ref c3 hfresh (c2 u' (by simp)) hframe (hrel.wf hsdrop hwf0) hnodup hitems
  have hfresh' : ∀ i ∈ u'.ids, i = b ∨ i ∉ inUse := by
    intro i hi'
    rcases c4 i hi' with h' | ⟨h', _⟩
    · rcases a3 i h' with h'' | ⟨h'', _⟩
      · exact Or.inl h''
      · exact Or.inr h''
    · exact Or.inr (fun hm' => h' (List.mem_append_right _ hm'))
  refine ⟨u', inUse', fnew, hat, c6, fun i hi' => c7 i (List.mem_append_right _ hi'), c8, a5.trans c10,
    fun k' hk' => hframe k' (fun i _ => hk' i), hrel.routed hrouted0, hitems, ?_, c2 u' (by simp), hu'ref, c3,
    hnodup, hfresh', hframe, c14.1, c15, c16, hsorted⟩
  -- over-full buckets of the new subtree are queued
  intro bk hbk hnf
  by_cases hd : ids.drop k = []
  · obtain ⟨e1, _, _⟩ := c12 (Or.inr hd)
    have e1' : u' = rootAt b ids r.tree := by simpa using e1
    rw [e1'] at hbk
    exfalso
    apply hnf
    by_cases hleaf : ∃ y, r.tree = .leaf y
    · obtain ⟨y, hy⟩ := hleaf
      rw [hy] at hbk
      simp only [rootAt, T.buckets, List.mem_singleton] at hbk
      subst hbk
      have h1 := makeT_leaf_batch hm hy
      have : ids = [y] := by
        rw [← List.take_append_drop k ids, hd, h1]; rfl
      simp only [this, List.length_cons, List.length_nil, fits]
      simpa using hcap
    · have hnl : ∀ y, r.tree ≠ .leaf y := fun y hy => hleaf ⟨y, hy⟩
      obtain ⟨q, hq, hq2⟩ := rootAt_buckets b ids r.tree hnl bk hbk
      have := makeT_capacity _ fuel0 (ids.take k) g normals rs r hm q hq
      rw [hq2] at this
      simpa [fits, Build.treeCtx] using this
  · exact c13 (by simp) hd u' (by simp) bk hbk hnf

end Arroy
