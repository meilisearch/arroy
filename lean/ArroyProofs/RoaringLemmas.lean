import ArroyProofs.KeyLemmas
import ArroyProofs.SetLemmas
import ArroyModel.Roaring
/-! Helper lemmas for C16 (codec half): `chunks` of fixed-width encodings, the structure of
`Roaring.containers`, the bitmap-container words (`bitmapWords` / `wordBits`), the container decoder,
sizes and offsets of the portable roaring serialisation. -/
namespace Arroy
namespace Roaring
open IdSet

theorem length_flatMap_const {α β : Type} (f : α → List β) (w : Nat) (l : List α)
    (h : ∀ x ∈ l, (f x).length = w) : (l.flatMap f).length = w * l.length := by
  induction l with
  | nil => simp
  | cons x xs ih =>
    simp only [List.flatMap_cons, List.length_append, List.length_cons]
    rw [ih (fun y hy => h y (by simp [hy])), h x (by simp), Nat.mul_succ]; omega

theorem chunks_flatMap_eq {α β : Type} (f : α → List β) {w : Nat} (hw : 0 < w) (l : List α)
    (h : ∀ x ∈ l, (f x).length = w) : chunks w (l.flatMap f) = l.map f := by
  induction l with
  | nil => simp [Kernel.chunks_nil]
  | cons x xs ih =>
    have hx : (f x).length = w := h x (by simp)
    have hne : f x ++ xs.flatMap f ≠ [] := by
      intro e
      have := congrArg List.length e
      simp only [List.length_append, List.length_nil] at this; omega
    simp only [List.flatMap_cons, List.map_cons]
    rw [Kernel.chunks_cons hw hne, List.take_left' hx, List.drop_left' hx,
      ih (fun y hy => h y (by simp [hy]))]

theorem length_flatMap_leBytes (w : Nat) (l : List Nat) : (l.flatMap (le w)).length = w * l.length :=
  length_flatMap_const _ w l (fun x _ => le_length w x)

theorem chunks_flatMap_leBytes {w : Nat} (hw : 0 < w) (l : List Nat) :
    chunks w (l.flatMap (le w)) = l.map (le w) :=
  chunks_flatMap_eq _ hw l (fun x _ => le_length w x)

theorem map_ofLe_le (w : Nat) (l : List Nat) (h : ∀ x ∈ l, x < 256 ^ w) :
    (l.map (le w)).map ofLe = l := by
  induction l with
  | nil => rfl
  | cons x xs ih =>
    simp only [List.map_cons]
    rw [ofLe_le w x (h x (by simp)), ih (fun y hy => h y (by simp [hy]))]

theorem ofLe_chunks_flatMap_leBytes {w : Nat} (hw : 0 < w) (l : List Nat) (h : ∀ x ∈ l, x < 256 ^ w) :
    (chunks w (l.flatMap (le w))).map ofLe = l := by
  rw [chunks_flatMap_leBytes hw, map_ofLe_le w l h]

theorem sorted_length_le {l : List Nat} {n : Nat} (hs : Sorted l) (hb : ∀ x ∈ l, x < n) :
    l.length ≤ n := by
  have := hs.nodup.length_le_of_subset (l₂ := List.range n) (fun x hx => List.mem_range.2 (hb x hx))
  rwa [List.length_range] at this

/-- the ids a container list stands for -/
def unflat (cs : List (Nat × List Nat)) : List Nat :=
  cs.flatMap fun c => c.2.map fun v => c.1 * 65536 + v

/-- a well-formed container: 16-bit key, strictly increasing non-empty 16-bit lows -/
structure CWF (c : Nat × List Nat) : Prop where
  key_lt : c.1 < 65536
  sorted : Sorted c.2
  low_lt : ∀ v ∈ c.2, v < 65536
  ne : c.2 ≠ []

theorem containers_cons_nil (x : Nat) {xs : List Nat} (h : containers xs = []) :
    containers (x :: xs) = [(x / 65536, [x % 65536])] := by
  simp only [containers, h]

theorem containers_cons_cons (x : Nat) {xs : List Nat} {k : Nat} {lows : List Nat}
    {rest : List (Nat × List Nat)} (h : containers xs = (k, lows) :: rest) :
    containers (x :: xs) =
      if x / 65536 = k then (k, x % 65536 :: lows) :: rest
      else (x / 65536, [x % 65536]) :: (k, lows) :: rest := by
  simp only [containers, h]

theorem containers_head (x : Nat) (xs : List Nat) :
    ∃ l rest, containers (x :: xs) = (x / 65536, x % 65536 :: l) :: rest := by
  match heq : containers xs with
  | [] => rw [containers_cons_nil x heq]; simp
  | (k, lows) :: rest =>
    rw [containers_cons_cons x heq]
    by_cases h : x / 65536 = k
    · subst h; simp
    · simp [h]

/-- ids that share their high 16 bits form one container -/
theorem containers_of_block {k : Nat} : ∀ {s : List Nat}, s ≠ [] → (∀ x ∈ s, x / 65536 = k) →
    containers s = [(k, s.map (· % 65536))]
  | [x], _, h => by rw [containers_cons_nil x rfl, h x (List.mem_singleton_self x)]; rfl
  | x :: y :: ys, _, h => by
    have ih := containers_of_block (s := y :: ys) (List.cons_ne_nil _ _)
      (fun z hz => h z (List.mem_cons_of_mem _ hz))
    rw [containers_cons_cons x ih, if_pos (h x List.mem_cons_self)]; rfl

/-- flattening the containers gives the ids back (for every list) -/
theorem unflat_containers : ∀ s : List Nat, unflat (containers s) = s
  | [] => rfl
  | x :: xs => by
    have hx : x / 65536 * 65536 + x % 65536 = x := by omega
    conv => rhs; rw [← unflat_containers xs]
    simp only [containers]
    split
    · rename_i heq
      split
      · rename_i h
        simp [unflat, heq, ← h, hx]
      · simp [unflat, heq, hx]
    · rename_i heq
      simp [unflat, heq, hx]

theorem cwf_singleton {x : Nat} (hx : x < 2 ^ 32) : CWF (x / 65536, [x % 65536]) :=
  ⟨by simp only; omega, by simp [Sorted], by simp; omega, by simp⟩

theorem containers_wf : ∀ s : List Nat, Sorted s → (∀ x ∈ s, x < 2 ^ 32) →
    (∀ c ∈ containers s, CWF c) ∧ Sorted ((containers s).map (·.1))
  | [], _, _ => by simp [containers, Sorted]
  | [x], _, hb => by
    have hx : x < 2 ^ 32 := hb x (by simp)
    have : containers [x] = [(x / 65536, [x % 65536])] := by simp [containers]
    rw [this]
    exact ⟨fun c hc => List.mem_singleton.1 hc ▸ cwf_singleton hx, by simp [Sorted]⟩
  | x :: y :: ys, hs, hb => by
    have hx : x < 2 ^ 32 := hb x (by simp)
    have hxy : x < y := hs.1
    obtain ⟨ihw, ihk⟩ := containers_wf (y :: ys) hs.2 (fun z hz => hb z (by simp [hz]))
    obtain ⟨l, rest, heq⟩ := containers_head y ys
    rw [containers_cons_cons x heq]
    rw [heq] at ihw ihk
    have hc0 : CWF (y / 65536, y % 65536 :: l) := ihw _ (by simp)
    by_cases h : x / 65536 = y / 65536
    · simp only [h, if_true]
      refine ⟨?_, by simpa using ihk⟩
      intro c hc
      rcases List.mem_cons.1 hc with rfl | hc
      · refine ⟨hc0.key_lt, ?_, ?_, by simp⟩
        · exact ⟨by omega, hc0.sorted⟩
        · intro v hv
          rcases List.mem_cons.1 hv with rfl | hv
          · omega
          · exact hc0.low_lt v hv
      · exact ihw c (by simp [hc])
    · simp only [h, if_false]
      refine ⟨?_, ?_⟩
      · intro c hc
        rcases List.mem_cons.1 hc with rfl | hc
        · exact cwf_singleton hx
        · exact ihw c hc
      · simp only [List.map_cons] at ihk ⊢
        exact ⟨by omega, ihk⟩

theorem containers_length_le (s : List Nat) (hs : Sorted s) (hb : ∀ x ∈ s, x < 2 ^ 32) :
    (containers s).length ≤ 65536 := by
  obtain ⟨hw, hk⟩ := containers_wf s hs hb
  have := sorted_length_le hk (n := 65536) (by
    intro k hk'
    obtain ⟨c, hc, rfl⟩ := List.mem_map.1 hk'
    exact (hw c hc).key_lt)
  simpa using this

theorem CWF.length_le {c : Nat × List Nat} (h : CWF c) : c.2.length ≤ 65536 :=
  sorted_length_le h.sorted h.low_lt

theorem CWF.length_pos {c : Nat × List Nat} (h : CWF c) : 0 < c.2.length :=
  List.length_pos_iff.2 h.ne

/-! ## sums of distinct powers of two -/

theorem testBit_add_two_pow {acc e : Nat} (h : acc < 2 ^ e) (b : Nat) :
    (acc + 2 ^ e).testBit b = (acc.testBit b || decide (b = e)) := by
  -- below `2 ^ e` the sum is a bitwise or
  have := Nat.two_pow_add_eq_or_of_lt h 1
  rw [Nat.mul_one] at this
  rw [Nat.add_comm, this, Nat.testBit_or, Nat.testBit_two_pow, Bool.or_comm]
  simp only [eq_comm]

/-- adding `2^e` for strictly increasing exponents `e ≥ m` to `acc < 2^m` sets fresh bits: `m` is the invariant
of the induction (after `e` it becomes `e + 1`) -/
theorem foldl_pow_bits (L : List Nat) :
    ∀ (m acc : Nat), L.Pairwise (· < ·) → acc < 2 ^ m → (∀ e ∈ L, m ≤ e) →
      (∀ b, (L.foldl (fun a e => a + 2 ^ e) acc).testBit b = (acc.testBit b || decide (b ∈ L))) ∧
      (∀ n, m ≤ n → (∀ e ∈ L, e < n) → L.foldl (fun a e => a + 2 ^ e) acc < 2 ^ n) := by
  induction L with
  | nil => 
    intro m acc _ hacc _
    refine ⟨by simp, ?_⟩
    intro n hn _
    exact Nat.lt_of_lt_of_le hacc (Nat.pow_le_pow_right (by decide) hn)
  | cons e L ih =>
    intro m acc hp hacc hm
    have hme : m ≤ e := hm e (by simp)
    have hacc' : acc < 2 ^ e := Nat.lt_of_lt_of_le hacc (Nat.pow_le_pow_right (by decide) hme)
    have hnew : acc + 2 ^ e < 2 ^ (e + 1) := by rw [Nat.pow_succ]; omega
    rw [List.pairwise_cons] at hp
    obtain ⟨ih1, ih2⟩ := ih (e + 1) (acc + 2 ^ e) hp.2 hnew (fun x hx => hp.1 x hx)
    simp only [List.foldl_cons]
    refine ⟨?_, ?_⟩
    · intro b
      rw [ih1 b, testBit_add_two_pow hacc' b]
      simp [Bool.or_assoc]
    · intro n hn hb
      exact ih2 n (hb e (by simp)) (fun x hx => hb x (by simp [hx]))

/-- the 64-bit word of block `w` of a bitmap container -/
def word (lows : List Nat) (w : Nat) : Nat :=
  (lows.filter (fun v => v / 64 = w)).foldl (fun acc v => acc + 2 ^ (v % 64)) 0

theorem bitmapWords_eq (lows : List Nat) : bitmapWords lows = (List.range 1024).map (word lows) := rfl

theorem word_spec (lows : List Nat) (hs : Sorted lows) (w : Nat) :
    (∀ b, b < 64 → (word lows w / 2 ^ b % 2 = 1 ↔ w * 64 + b ∈ lows)) ∧ word lows w < 2 ^ 64 := by
  have hw : word lows w =
      ((lows.filter (fun v => v / 64 = w)).map (· % 64)).foldl (fun a e => a + 2 ^ e) 0 := by
    rw [List.foldl_map]; rfl
  have hp : ((lows.filter (fun v => v / 64 = w)).map (· % 64)).Pairwise (· < ·) := by
    rw [List.pairwise_map]
    have h1 : (lows.filter (fun v => v / 64 = w)).Pairwise (· < ·) :=
      (sorted_iff_pairwise.1 hs).sublist List.filter_sublist
    refine h1.imp_of_mem ?_
    intro a b ha hb hab
    simp only [List.mem_filter, decide_eq_true_eq] at ha hb
    omega
  obtain ⟨h1, h2⟩ := foldl_pow_bits _ 0 0 hp (by simp) (by simp)
  rw [hw]
  refine ⟨?_, ?_⟩
  · intro b hb
    have := h1 b
    rw [Nat.testBit_eq_decide_div_mod_eq] at this
    simp only [Nat.zero_testBit, Bool.false_or, decide_eq_decide] at this
    rw [this]
    simp only [List.mem_map, List.mem_filter, decide_eq_true_eq]
    constructor
    · rintro ⟨v, ⟨hv, hvw⟩, hvb⟩
      have : v = w * 64 + b := by omega
      rw [← this]; exact hv
    · intro hm
      exact ⟨w * 64 + b, ⟨hm, by omega⟩, by omega⟩
  · refine h2 64 (by omega) ?_
    intro e he
    simp only [List.mem_map] at he
    obtain ⟨v, _, rfl⟩ := he
    omega

theorem mem_wordBits {w wd x : Nat} :
    x ∈ wordBits w wd ↔ ∃ b, b < 64 ∧ wd / 2 ^ b % 2 = 1 ∧ x = w * 64 + b := by
  simp only [wordBits, List.mem_filterMap, List.mem_range]
  constructor
  · rintro ⟨b, hb, h⟩
    by_cases hc : wd / 2 ^ b % 2 = 1
    · simp only [hc, if_true, Option.some.injEq] at h
      exact ⟨b, hb, hc, h.symm⟩
    · simp [hc] at h
  · rintro ⟨b, hb, hc, rfl⟩
    exact ⟨b, hb, by simp [hc]⟩

theorem sorted_wordBits (w wd : Nat) : (wordBits w wd).Pairwise (· < ·) := by
  unfold wordBits
  refine List.Pairwise.filterMap _ ?_ List.pairwise_lt_range
  intro a a' haa b hb b' hb'
  split at hb <;> simp at hb
  split at hb' <;> simp at hb'
  omega

theorem zip_map_self {α β : Type} (g : α → β) (l : List α) :
    l.zip (l.map g) = l.map (fun x => (x, g x)) := by
  induction l with
  | nil => rfl
  | cons x xs ih => simp [ih]

theorem wordBits_bitmapWords (lows : List Nat) (hs : Sorted lows) (hb : ∀ v ∈ lows, v < 65536) :
    ((List.range 1024).zip (bitmapWords lows)).flatMap (fun (w, word) => wordBits w word) = lows := by
  rw [bitmapWords_eq, zip_map_self, List.flatMap_map]
  apply sorted_ext _ hs
  · intro x
    simp only [List.mem_flatMap, List.mem_range, mem_wordBits]
    constructor
    · rintro ⟨w, hw, b, hb64, hbit, rfl⟩
      exact ((word_spec lows hs w).1 b hb64).1 hbit
    · intro hx
      have := hb x hx
      refine ⟨x / 64, by omega, x % 64, by omega, ?_, by omega⟩
      rw [(word_spec lows hs (x / 64)).1 (x % 64) (by omega)]
      have : x / 64 * 64 + x % 64 = x := by omega
      rw [this]; exact hx
  · rw [sorted_iff_pairwise, List.pairwise_flatMap]
    refine ⟨fun w _ => sorted_wordBits _ _, ?_⟩
    refine List.pairwise_lt_range.imp ?_
    intro w1 w2 hw x hx y hy
    rw [mem_wordBits] at hx hy
    obtain ⟨b, hb, _, rfl⟩ := hx
    obtain ⟨b', hb', _, rfl⟩ := hy
    omega

theorem bitmapWords_length (lows : List Nat) : (bitmapWords lows).length = 1024 := by
  simp [bitmapWords]

theorem bitmapWords_lt (lows : List Nat) (hs : Sorted lows) : ∀ x ∈ bitmapWords lows, x < 256 ^ 8 := by
  intro x hx
  rw [bitmapWords_eq] at hx
  obtain ⟨w, _, rfl⟩ := List.mem_map.1 hx
  exact (word_spec lows hs w).2

theorem containerData_length (lows : List Nat) : (containerData lows).length = containerSize lows := by
  unfold containerData containerSize
  split
  · rw [length_flatMap_leBytes]
  · rw [length_flatMap_leBytes, bitmapWords_length]

theorem offsets_length (st : Nat) (cs : List (Nat × List Nat)) : (offsets st cs).length = cs.length := by
  induction cs generalizing st with
  | nil => rfl
  | cons c cs ih => simp [offsets, ih]

theorem dataBytes_length (cs : List (Nat × List Nat)) :
    (cs.flatMap (fun c => containerData c.2)).length = (cs.map (fun c => containerSize c.2)).sum := by
  induction cs with
  | nil => rfl
  | cons c cs ih => simp [containerData_length, ih]

theorem descrBytes_length (cs : List (Nat × List Nat)) :
    (cs.flatMap (fun c => le 2 c.1 ++ le 2 (c.2.length - 1))).length = 4 * cs.length :=
  length_flatMap_const _ 4 cs (fun c _ => by simp [le_length])

theorem offsetBytes_length (st : Nat) (cs : List (Nat × List Nat)) :
    ((offsets st cs).flatMap (le 4)).length = 4 * cs.length := by
  rw [length_flatMap_leBytes, offsets_length]

theorem decodeContainer_containerData (c : Nat × List Nat) (h : CWF c) (more : Bytes) :
    decodeContainer c.1 c.2.length (containerData c.2 ++ more)
      = some (c.2.map (fun v => c.1 * 65536 + v), more) := by
  unfold decodeContainer containerData
  by_cases hc : c.2.length ≤ arrayLimit
  · simp only [hc, if_true]
    have hl : (c.2.flatMap (le 2)).length = 2 * c.2.length := length_flatMap_leBytes 2 c.2
    have h1 : ¬ ((c.2.flatMap (le 2) ++ more).length < 2 * c.2.length) := by
      rw [List.length_append, hl]; omega
    rw [if_neg h1, List.take_left' hl, List.drop_left' hl, chunks_flatMap_leBytes (by decide),
      List.map_map]
    congr 2
    apply List.map_congr_left
    intro v hv
    simp only [Function.comp]
    rw [ofLe_le 2 v (h.low_lt v hv)]
  · simp only [hc, if_false]
    have hl : ((bitmapWords c.2).flatMap (le 8)).length = 8192 := by
      rw [length_flatMap_leBytes, bitmapWords_length]
    have h1 : ¬ (((bitmapWords c.2).flatMap (le 8) ++ more).length < 8192) := by
      rw [List.length_append, hl]; omega
    rw [if_neg h1]
    rw [List.take_left' hl, List.drop_left' hl,
      ofLe_chunks_flatMap_leBytes (by decide) _ (bitmapWords_lt c.2 h.sorted),
      wordBits_bitmapWords c.2 h.sorted h.low_lt]

theorem decodeContainers_data (cs : List (Nat × List Nat)) (h : ∀ c ∈ cs, CWF c) (more : Bytes) :
    decodeContainers (cs.map (fun c => (c.1, c.2.length)))
      (cs.flatMap (fun c => containerData c.2) ++ more) = some (unflat cs, more) := by
  induction cs with
  | nil => simp [decodeContainers, unflat]
  | cons c cs ih =>
    simp only [List.map_cons, List.flatMap_cons, List.append_assoc, decodeContainers]
    rw [decodeContainer_containerData c (h c (by simp))]
    simp only [Option.bind_eq_bind, Option.bind_some]
    rw [ih (fun d hd => h d (by simp [hd]))]
    simp [unflat]

theorem descr_parse (cs : List (Nat × List Nat)) (h : ∀ c ∈ cs, CWF c) :
    (chunks 4 (cs.flatMap (fun c => le 2 c.1 ++ le 2 (c.2.length - 1)))).map
        (fun c => (ofLe (c.take 2), ofLe (c.drop 2) + 1))
      = cs.map (fun c => (c.1, c.2.length)) := by
  rw [chunks_flatMap_eq _ (by decide) cs (fun c _ => by simp [le_length]), List.map_map]
  apply List.map_congr_left
  intro c hc
  have hw := h c hc
  simp only [Function.comp]
  rw [List.take_left' (le_length _ _), List.drop_left' (le_length _ _),
    ofLe_le 2 _ hw.key_lt, ofLe_le 2 _ (by have := hw.length_le; omega)]
  have := hw.length_pos
  congr 1; omega

/-- `A` the cookie, `B` the container count, `D` the descriptors (key, cardinality − 1), `O` the offset header,
`X` the container data and whatever follows the bitmap -/
theorem decode_layout (A B D O X : Bytes) (n : Nat) (hA : A.length = 4) (hB : B.length = 4)
    (hD : D.length = 4 * n) (hO : O.length = 4 * n) (hc : ofLe A = cookieNoRun) (hn : ofLe B = n) :
    decode (A ++ (B ++ (D ++ (O ++ X)))) =
      decodeContainers ((chunks 4 D).map fun c => (ofLe (c.take 2), ofLe (c.drop 2) + 1)) X := by
  unfold decode
  have h1 : ¬ ((A ++ (B ++ (D ++ (O ++ X)))).length < 8) := by
    simp only [List.length_append, hA, hB]; omega
  have h2 : (A ++ (B ++ (D ++ (O ++ X)))).take 4 = A := List.take_left' hA
  have h3 : ((A ++ (B ++ (D ++ (O ++ X)))).drop 4).take 4 = B := by
    rw [List.drop_left' hA, List.take_left' hB]
  have h4 : (A ++ (B ++ (D ++ (O ++ X)))).drop 8 = D ++ (O ++ X) := by
    rw [← List.append_assoc]
    exact List.drop_left' (by simp [hA, hB])
  rw [if_neg h1, h2, hc]
  simp only [ne_eq, not_true_eq_false, if_false]
  rw [h3, hn, h4]
  have h5 : ¬ ((D ++ (O ++ X)).length < 8 * n) := by
    simp only [List.length_append, hD, hO]; omega
  have h6 : (D ++ (O ++ X)).take (4 * n) = D := List.take_left' hD
  have h7 : (D ++ (O ++ X)).drop (8 * n) = X := by
    rw [← List.append_assoc]
    exact List.drop_left' (by simp [hD, hO]; omega)
  rw [if_neg h5, h6, h7]

theorem encode_eq (s : List Nat) :
    encode s = le 4 cookieNoRun ++ (le 4 (containers s).length ++
      ((containers s).flatMap (fun c => le 2 c.1 ++ le 2 (c.2.length - 1)) ++
      ((offsets (8 + 8 * (containers s).length) (containers s)).flatMap (le 4) ++
      (containers s).flatMap (fun c => containerData c.2)))) := by
  simp [encode]

/-- the encoded length is the size announced by `serializedSize` (every list) -/
theorem encode_length (s : List Nat) : (encode s).length = serializedSize s := by
  rw [encode_eq]
  simp only [List.length_append, le_length, descrBytes_length, offsetBytes_length, dataBytes_length, serializedSize]
  omega

theorem decode_encode (s : List Nat) (hs : Sorted s) (hb : ∀ x ∈ s, x < 2 ^ 32) (rest : Bytes) :
    decode (encode s ++ rest) = some (s, rest) := by
  obtain ⟨hw, _⟩ := containers_wf s hs hb
  have hn := containers_length_le s hs hb
  rw [encode_eq]
  simp only [List.append_assoc]
  rw [decode_layout _ _ _ _ _ (containers s).length (le_length _ _) (le_length _ _) (descrBytes_length _)
    (offsetBytes_length _ _) (ofLe_le 4 _ (by decide)) (ofLe_le 4 _ (by omega)),
    descr_parse _ hw, decodeContainers_data _ hw, unflat_containers]

theorem offsets_getElem (cs : List (Nat × List Nat)) :
    ∀ (st i : Nat) (hi : i < (offsets st cs).length),
      (offsets st cs)[i] = st + ((cs.take i).map (fun c => containerSize c.2)).sum := by
  induction cs with
  | nil => intro st i hi; simp [offsets] at hi
  | cons c cs ih =>
    intro st i hi
    cases i with
    | zero => simp [offsets]
    | succ i =>
      simp only [offsets, List.getElem_cons_succ, List.take_succ_cons, List.map_cons, List.sum_cons]
      rw [ih]; omega

theorem getElem_flatMap_leBytes (w : Nat) (l : List Nat) :
    ∀ (i : Nat) (hi : i < l.length), ((l.flatMap (le w)).drop (w * i)).take w = le w l[i] := by
  induction l with
  | nil => intro i hi; simp at hi
  | cons x xs ih =>
    intro i hi
    cases i with
    | zero => simp [List.take_left' (le_length w x)]
    | succ i =>
      simp only [List.flatMap_cons, List.getElem_cons_succ]
      have : w * (i + 1) = w + w * i := by rw [Nat.mul_succ]; omega
      rw [this, ← List.drop_drop, List.drop_left' (le_length w x)]
      exact ih i (by simpa using hi)

theorem sum_containerSize_le (cs : List (Nat × List Nat)) :
    (cs.map (fun c => containerSize c.2)).sum ≤ 8192 * cs.length := by
  induction cs with
  | nil => simp
  | cons c cs ih =>
    simp only [List.map_cons, List.sum_cons, List.length_cons]
    have : containerSize c.2 ≤ 8192 := by
      unfold containerSize arrayLimit; split <;> omega
    omega

theorem serializedSize_lt (s : List Nat) (hs : Sorted s) (hb : ∀ x ∈ s, x < 2 ^ 32) :
    serializedSize s < 2 ^ 32 := by
  have hn := containers_length_le s hs hb
  have := sum_containerSize_le (containers s)
  simp only [serializedSize]
  omega

theorem sum_take_le (l : List Nat) (i : Nat) : (l.take i).sum ≤ l.sum := by
  have : l.sum = (l.take i).sum + (l.drop i).sum := by
    rw [← List.sum_append, List.take_append_drop]
  omega

theorem offsets_getElem_le (s : List Nat) (i : Nat)
    (hi : i < (offsets (8 + 8 * (containers s).length) (containers s)).length) :
    (offsets (8 + 8 * (containers s).length) (containers s))[i] ≤ serializedSize s := by
  rw [offsets_getElem]
  have := sum_take_le ((containers s).map (fun c => containerSize c.2)) i
  rw [← List.map_take] at this
  simp only [serializedSize]
  omega

/-- the `i`-th offset of the header is the byte position where the data of container `i` starts -/
theorem drop_offset (s : List Nat) (i : Nat)
    (hi : i < (offsets (8 + 8 * (containers s).length) (containers s)).length) :
    (encode s).drop (offsets (8 + 8 * (containers s).length) (containers s))[i]
      = ((containers s).drop i).flatMap (fun c => containerData c.2) := by
  rw [offsets_getElem, encode_eq]
  simp only [← List.append_assoc]
  have hsplit : (containers s).flatMap (fun c => containerData c.2)
      = ((containers s).take i).flatMap (fun c => containerData c.2)
        ++ ((containers s).drop i).flatMap (fun c => containerData c.2) := by
    rw [← List.flatMap_append, List.take_append_drop]
  rw [hsplit, ← List.append_assoc]
  apply List.drop_left'
  simp only [List.length_append, le_length, descrBytes_length, offsetBytes_length, dataBytes_length]
  omega

theorem header_offset (s : List Nat) (i : Nat)
    (hi : i < (offsets (8 + 8 * (containers s).length) (containers s)).length) :
    ((encode s).drop (8 + 4 * (containers s).length + 4 * i)).take 4
      = le 4 (offsets (8 + 8 * (containers s).length) (containers s))[i] := by
  rw [encode_eq]
  have h1 : ∀ X : Bytes, (le 4 cookieNoRun ++ (le 4 (containers s).length ++
      ((containers s).flatMap (fun c => le 2 c.1 ++ le 2 (c.2.length - 1)) ++ X))).drop
        (8 + 4 * (containers s).length + 4 * i) = X.drop (4 * i) := by
    intro X
    rw [← List.drop_drop]
    simp only [← List.append_assoc]
    rw [List.drop_left' (by simp only [List.length_append, le_length, descrBytes_length])]
  rw [h1, List.drop_append_of_le_length (by rw [offsetBytes_length]; rw [offsets_length] at hi; omega)]
  have h2 := getElem_flatMap_leBytes 4 (offsets (8 + 8 * (containers s).length) (containers s)) i hi
  rw [List.take_append_of_le_length, h2]
  rw [List.length_drop, offsetBytes_length]; rw [offsets_length] at hi; omega

end Roaring
end Arroy
