import ArroyModel.Check
import ArroyProofs.InsT
import ArroyProofs.Nns
import ArroyProofs.PqLemmas
/-! What self-lookup (C04, `Properties/C04.lean`) rests on: the margin the reader uses at a split node, the
priorities it gives to the two children, and the loop invariant `Run.selfLookup`: on routed subtrees, a query
equal to a stored item's own vector reaches that item with budget 1 whenever one tree separates it by
non-degenerate planes with decisive margins only. -/
namespace Arroy

/-- the split-plane normals of a tree -/
def T.normals : T → List (List Nat)
  | .leaf _ => []
  | .bucket _ _ => []
  | .node _ n l r => n :: (l.normals ++ r.normals)

/-- whatever the metadata, a tree of `Check.trees` is what `reify` reads at some tree key -/
theorem reify_of_mem_trees {c : Cfg} {s : Store} {t : T} (ht : t ∈ Check.trees c s) :
    ∃ r, reify c s (s.length + 1) (NodeId.mkTree r) = some t := by
  unfold Check.trees at ht
  split at ht
  · obtain ⟨r, _, hre⟩ := List.mem_filterMap.1 ht
    exact ⟨r, hre⟩
  · cases ht

namespace Reader
open Generated

theorem readerMargin_notNaN (c : Cfg) (qv normal : List Nat) : F32.isNaN (readerMargin c qv normal) = false := by
  unfold readerMargin
  simp only
  generalize (if c.metric.isZero normal = true then F32.zero else c.metric.margin c.host normal qv) = m0
  split
  · exact F32.isNaN_zero
  · rename_i h; simpa using h

/-- the margin `m` decides for side `b`: strictly positive for `true` (the right child), strictly negative for
`false` (the left child) -/
def onSide (m : Nat) (b : Bool) : Bool := if b then F32.lt F32.zero m else F32.lt m F32.zero

theorem onSide_not {m : Nat} {b : Bool} (h : onSide m b = true) : onSide m (!b) = false := by
  cases b <;> exact F32.lt_asymm h

theorem onSide_notNaN {m : Nat} {b : Bool} (h : onSide m b = true) : F32.isNaN m = false := by
  cases b
  · exact (F32.lt_notNaN h).1
  · exact (F32.lt_notNaN h).2

/-- a reader margin that decides is the true margin against a non-degenerate normal -/
theorem readerMargin_decisive (c : Cfg) (qv normal : List Nat) {b : Bool}
    (h : onSide (readerMargin c qv normal) b = true) :
    c.metric.isZero normal = false ∧ readerMargin c qv normal = c.metric.margin c.host normal qv := by
  have hn := onSide_notNaN h
  unfold readerMargin at h hn ⊢
  simp only at h hn ⊢
  cases hz : c.metric.isZero normal
  · simp only [hz, Bool.false_eq_true, if_false] at h ⊢
    refine ⟨trivial, ?_⟩
    split
    · rename_i hnan
      rw [if_pos hnan] at h
      cases b <;> simp [onSide, F32.lt_irrefl] at h
    · rfl
  · simp only [hz, if_true, F32.isNaN_zero, Bool.false_eq_true, if_false] at h
    cases b <;> simp [onSide, F32.lt_irrefl] at h

/-- conversely a deciding true margin against a non-degenerate normal is what the reader uses -/
theorem readerMargin_eq (c : Cfg) (qv normal : List Nat) (hz : c.metric.isZero normal = false) {b : Bool}
    (h : onSide (c.metric.margin c.host normal qv) b = true) :
    readerMargin c qv normal = c.metric.margin c.host normal qv := by
  simp [readerMargin, hz, onSide_notNaN h]

theorem pq_notNaN (d m : Nat) (right : Bool) (hd : F32.isNaN d = false) (hm : F32.isNaN m = false) :
    F32.isNaN (Metric.pqDistance d m right) = false := by
  unfold Metric.pqDistance
  split
  · exact F32.min_notNaN hm hd
  · exact F32.min_notNaN (by rw [F32.isNaN_neg]; exact hm) hd

/-- the child on side `b` gets a positive priority exactly when the margin decides for `b` (and the popped
node had a positive priority) -/
theorem pq_pos (d m : Nat) (b : Bool) (hd : F32.isNaN d = false) (hm : F32.isNaN m = false) :
    F32.lt F32.zero (Metric.pqDistance d m b) = true ↔ (onSide m b = true ∧ F32.lt F32.zero d = true) := by
  cases b
  · simp only [Metric.pqDistance, onSide, Bool.false_eq_true, if_false]
    rw [F32.pos_min (by rw [F32.isNaN_neg]; exact hm) hd, F32.pos_neg hm]
  · simp only [Metric.pqDistance, onSide, if_true]
    exact F32.pos_min hm hd

/-- a good path through a split node: the plane is non-degenerate, and the path goes on in the child on
the side the builder computes for the item, which is decisive -/
theorem goodPath_node (c : Cfg) (s : Store) (x id : Nat) (n : List Nat) (l r : T) :
    Check.goodPath c s x (.node id n l r) = true ↔
      c.metric.isZero n = false ∧
        ∃ b, Build.sideOf c s n x = some (some b) ∧ Check.goodPath c s x (if b then r else l) = true := by
  simp only [Check.goodPath, Check.decisive]
  cases c.metric.isZero n
  · cases Build.sideOf c s n x with
    | none => simp
    | some o =>
      cases o with
      | none => simp
      | some b => cases b <;> simp
  · simp

/-- a good path ends at the item -/
theorem goodPath_mem (c : Cfg) (s : Store) (x : Nat) (t : T) (h : Check.goodPath c s x t = true) : x ∈ t.items := by
  induction t with
  | leaf i => simp only [Check.goodPath, beq_iff_eq] at h; subst h; simp [T.items]
  | bucket id its => simpa [Check.goodPath, T.items] using h
  | node id n l r ihl ihr =>
    obtain ⟨_, b, _, hb⟩ := (goodPath_node c s x id n l r).1 h
    cases b
    · exact List.mem_append_left _ (ihl hb)
    · exact List.mem_append_right _ (ihr hb)

/-- the side of a stored item against a normal, in terms of the margin -/
theorem sideOf_stored (c : Cfg) (s : Store) (n : List Nat) (x : Nat) (h v : List Nat)
    (hx : s.get (c.itemKey x) = some (.leaf h v)) :
    Build.sideOf c s n x =
      some (if F32.lt F32.zero (c.metric.margin c.host v n) = true then some true
            else if F32.lt (c.metric.margin c.host v n) F32.zero = true then some false else none) := by
  simp only [Build.sideOf, Writer.itemLeaf, hx]
  rfl

/-- a stored item is on side `b` exactly when its margin decides for `b` -/
theorem sideOf_iff (c : Cfg) (s : Store) (n : List Nat) (x : Nat) (h v : List Nat)
    (hx : s.get (c.itemKey x) = some (.leaf h v)) (b : Bool) :
    Build.sideOf c s n x = some (some b) ↔ onSide (c.metric.margin c.host v n) b = true := by
  rw [sideOf_stored c s n x h v hx]
  by_cases hp : F32.lt F32.zero (c.metric.margin c.host v n) = true
  · cases b <;> simp [onSide, hp, F32.lt_asymm hp]
  · by_cases hn : F32.lt (c.metric.margin c.host v n) F32.zero = true <;> cases b <;> simp [onSide, hp, hn]

theorem size_pos (t : T) : 0 < t.size := by cases t <;> simp [T.size] <;> omega

/-- what the self-lookup invariant asks of a pending entry `p`, for the stored vector `v` of the item `x`: the
margin is symmetric between `v` and the normals below, the subtree is routed, the priority is not NaN, and a
positive priority means that the subtree contains `x` -/
def SelfEntry (c : Cfg) (cx : TreeCtx) (x : Nat) (v : List Nat) (p : Nat × T) : Prop :=
  (∀ n ∈ p.2.normals, c.metric.margin c.host v n = c.metric.margin c.host n v) ∧
  RoutedT cx p.2 ∧ F32.isNaN p.1 = false ∧ (F32.lt F32.zero p.1 = true → x ∈ p.2.items)

/-- **the loop invariant of self-lookup** (budget 1, no filter, query vector = the stored vector `v` of `x`;
`cx` is the builder's context `Build.treeCtx c o s`, of which routing reads the two fields below):
every pending entry is a `SelfEntry` and one of positive priority has a good path to `x`. Then the loop ends
with a list containing `x`. -/
theorem Run.selfLookup (c : Cfg) (cx : TreeCtx) (s : Store) (hside : cx.side = Build.sideOf c s)
    (hzero : cx.isZero = c.metric.isZero)
    (x : Nat) (h v : List Nat) (hx : s.get (c.itemKey x) = some (.leaf h v))
    (q : QueryOpts) (hq : q.candidates = none) {tq : List (Nat × T)} {r : Option (List Nat)}
    (hrun : Run c s v q 1 tq [] r) (hinv : ∀ p ∈ tq, SelfEntry c cx x v p)
    (hgood : ∃ p ∈ tq, F32.lt F32.zero p.1 = true ∧ Check.goodPath c s x p.2 = true) :
    ∃ out, r = some out ∧ x ∈ out := by
  generalize hnn : ([] : List Nat) = nns at hrun
  induction hrun with
  | stop hk => subst hnn; exact absurd hk (by decide)
  | empty => obtain ⟨p, hp, _⟩ := hgood; cases hp
  | @stuck tq tq' d i nns _ hperm hmax hni =>
    -- the popped entry is a maximum, hence positive, hence `x` itself
    obtain ⟨_, _, hdn, hct⟩ := hinv _ (hperm.mem_iff.2 List.mem_cons_self)
    obtain ⟨g, hg, hgpos, _⟩ := hgood
    have hdpos := pos_of_max (m := (d, (T.leaf i).ref)) (g := (g.1, g.2.ref)) hdn hgpos (hmax g hg)
    rw [← List.mem_singleton.1 (hct hdpos)] at hni
    exact absurd ⟨h, v, hx⟩ hni
  | @pop tq tq' d t nns r _ hperm hmax hrun ih =>
    subst hnn
    have hsub : ∀ p ∈ tq', p ∈ tq := fun p hp' => hperm.mem_iff.2 (List.mem_cons_of_mem _ hp')
    obtain ⟨hsyt, hrt, hdn, hct⟩ := hinv _ (hperm.mem_iff.2 List.mem_cons_self)
    obtain ⟨g, hg, hgpos, hgood'⟩ := hgood
    -- the popped entry is a maximum, hence positive, hence contains `x`
    have hdpos : F32.lt F32.zero d = true :=
      pos_of_max (m := (d, t.ref)) (g := (g.1, g.2.ref)) hdn hgpos (hmax g hg)
    have hxt : x ∈ t.items := hct hdpos
    cases t with
    | leaf i =>
      obtain rfl := List.mem_singleton.1 hxt
      have he : [] ++ T.emitted q (.leaf x) = [x] := by simp [T.emitted, inCandidates, hq]
      rw [he] at hrun
      exact ⟨[x], hrun.of_budget_met (Nat.le_refl _), List.mem_singleton.2 rfl⟩
    | bucket id ids =>
      have he : [] ++ T.emitted q (.bucket id ids) = ids := by simp [T.emitted, filt, hq]
      rw [he] at hrun
      exact ⟨ids, hrun.of_budget_met (List.length_pos_of_mem hxt), hxt⟩
    | node id nrm l r =>
      obtain ⟨M, hM⟩ : ∃ M, readerMargin c v nrm = M := ⟨_, rfl⟩
      have hpush : T.pushed c v d (.node id nrm l r) =
          [(Metric.pqDistance d M true, r), (Metric.pqDistance d M false, l)] := by rw [← hM]; rfl
      rw [hpush] at ih
      have hMn : F32.isNaN M = false := by rw [← hM]; exact readerMargin_notNaN c v nrm
      have hsymm : c.metric.margin c.host v nrm = c.metric.margin c.host nrm v :=
        hsyt nrm (by simp [T.normals])
      obtain ⟨hrz, hrl, hrr⟩ := hrt
      rw [hzero, hside] at hrz
      simp only [T.items, List.mem_append] at hxt
      -- a child of positive priority is on the side the builder computes for `x`
      have hside : ∀ b, F32.lt F32.zero (Metric.pqDistance d M b) = true →
          c.metric.isZero nrm = false ∧ Build.sideOf c s nrm x = some (some b) := by
        intro b hpos
        have hMb := ((pq_pos d M b hdn hMn).1 hpos).1
        rw [← hM] at hMb
        obtain ⟨hz, hMeq⟩ := readerMargin_decisive c v nrm hMb
        exact ⟨hz, (sideOf_iff c s nrm x h v hx b).2 (by rw [hsymm, ← hMeq]; exact hMb)⟩
      refine ih (List.forall_mem_cons.2
        ⟨⟨fun n' hn' => hsyt n' (by simp [T.normals, hn']), hrr, pq_notNaN d M true hdn hMn, fun hpos => ?_⟩,
          List.forall_mem_cons.2
            ⟨⟨fun n' hn' => hsyt n' (by simp [T.normals, hn']), hrl, pq_notNaN d M false hdn hMn, fun hpos => ?_⟩,
              fun p hp' => hinv p (hsub p hp')⟩⟩) ?_ rfl
      · obtain ⟨hz, hs⟩ := hside true hpos
        exact hxt.elim (fun hxl => absurd hs ((hrz hz).1 x hxl)) (fun hxr => hxr)
      · obtain ⟨hz, hs⟩ := hside false hpos
        exact hxt.elim (fun hxl => hxl) (fun hxr => absurd hs ((hrz hz).2 x hxr))
      · -- a good entry remains: the child the good path goes on in
        rcases List.mem_cons.1 (hperm.mem_iff.1 hg) with rfl | hg'
        · obtain ⟨hz', b, hs, hgb⟩ := (goodPath_node c s x id nrm l r).1 hgood'
          have hb := (sideOf_iff c s nrm x h v hx b).1 hs
          rw [hsymm] at hb
          have hMe : M = c.metric.margin c.host nrm v := by
            rw [← hM]; exact readerMargin_eq c v nrm hz' hb
          exact ⟨(Metric.pqDistance d M b, if b then r else l), by cases b <;> simp,
            (pq_pos d M b hdn hMn).2 ⟨by rw [hMe]; exact hb, hdpos⟩, hgb⟩
        · exact ⟨g, List.mem_cons_of_mem _ (List.mem_cons_of_mem _ hg'), hgpos, hgood'⟩

/-- the child the reader pops first below a split node when queried with `qv`: `some true` = right,
`some false` = left, `none` = the margin does not decide (zero, NaN, or a zeroed normal) -/
def readerFirst (c : Cfg) (qv normal : List Nat) : Option Bool :=
  if F32.lt F32.zero (readerMargin c qv normal) = true then some true
  else if F32.lt (readerMargin c qv normal) F32.zero = true then some false else none

theorem readerFirst_eq_some (c : Cfg) (qv normal : List Nat) (b : Bool) :
    readerFirst c qv normal = some b ↔ onSide (readerMargin c qv normal) b = true := by
  unfold readerFirst
  by_cases hp : F32.lt F32.zero (readerMargin c qv normal) = true
  · cases b <;> simp [onSide, hp, F32.lt_asymm hp]
  · by_cases hn : F32.lt (readerMargin c qv normal) F32.zero = true <;> cases b <;> simp [onSide, hp, hn]

/-- routing stated on the reader's side: below every non-degenerate plane no stored item is in the subtree the
reader would pop second for the item's own vector -/
def ReaderRouted (c : Cfg) (s : Store) : T → Prop
  | .leaf _ => True
  | .bucket _ _ => True
  | .node _ n l r =>
    (c.metric.isZero n = false →
      (∀ y ∈ l.items, ∀ hy vy, s.get (c.itemKey y) = some (.leaf hy vy) → readerFirst c vy n ≠ some true) ∧
      (∀ y ∈ r.items, ∀ hy vy, s.get (c.itemKey y) = some (.leaf hy vy) → readerFirst c vy n ≠ some false)) ∧
    ReaderRouted c s l ∧ ReaderRouted c s r

theorem sideOf_not_leaf (c : Cfg) (s : Store) (n : List Nat) (y : Nat)
    (h : ∀ hy vy, s.get (c.itemKey y) ≠ some (.leaf hy vy)) : Build.sideOf c s n y = none := by
  cases hg : s.get (c.itemKey y) with
  | none => simp [Build.sideOf, Writer.itemLeaf, hg]
  | some val =>
    cases val with
    | leaf h' v' => exact absurd hg (h h' v')
    | _ => simp [Build.sideOf, Writer.itemLeaf, hg]

end Reader
end Arroy
