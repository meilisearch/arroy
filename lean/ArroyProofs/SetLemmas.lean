import ArroyModel.Sets
/-! Laws of the sorted-list set algebra `IdSet` (the model of `RoaringBitmap`). -/
namespace Arroy
namespace IdSet

theorem sorted_cons {a : Nat} {l : List Nat} : Sorted (a :: l) ↔ (∀ x ∈ l, a < x) ∧ Sorted l := by
  induction l generalizing a with
  | nil => simp [Sorted]
  | cons b rest ih =>
    constructor
    · intro ⟨hab, hs⟩
      refine ⟨?_, hs⟩
      intro x hx
      rcases List.mem_cons.1 hx with rfl | hx
      · exact hab
      · exact Nat.lt_trans hab ((ih.1 hs).1 x hx)
    · intro ⟨h1, hs⟩
      exact ⟨h1 b (by simp), hs⟩

theorem sorted_iff_pairwise {l : List Nat} : Sorted l ↔ l.Pairwise (· < ·) := by
  induction l with
  | nil => simp [Sorted]
  | cons a l ih => rw [sorted_cons, List.pairwise_cons, ih]

theorem Sorted.nodup {l : List Nat} (h : Sorted l) : l.Nodup := by
  rw [sorted_iff_pairwise] at h
  exact h.imp (fun hab => Nat.ne_of_lt hab)

theorem Sorted.sublist {l l' : List Nat} (h : Sorted l) (hs : l'.Sublist l) : Sorted l' := by
  rw [sorted_iff_pairwise] at h ⊢
  exact h.sublist hs

theorem Sorted.tail {a : Nat} {l : List Nat} (h : Sorted (a :: l)) : Sorted l := (sorted_cons.1 h).2

theorem Sorted.head_lt {a : Nat} {l : List Nat} (h : Sorted (a :: l)) : ∀ x ∈ l, a < x := (sorted_cons.1 h).1

theorem Sorted.lt_of_lt_head {m y : Nat} {ys : List Nat} (h : Sorted (y :: ys)) (hm : m < y) :
    ∀ z ∈ y :: ys, m < z := by
  intro z hz
  rcases List.mem_cons.1 hz with rfl | hz
  · exact hm
  · exact Nat.lt_trans hm (h.head_lt z hz)

theorem sorted_nil : Sorted [] := trivial
theorem sorted_singleton (a : Nat) : Sorted [a] := trivial

theorem isSorted_iff {l : List Nat} : isSorted l = true ↔ Sorted l := by
  induction l with
  | nil => simp [isSorted, Sorted]
  | cons a l ih =>
    cases l with
    | nil => simp [isSorted, Sorted]
    | cons b rest => simp only [isSorted, Sorted, Bool.and_eq_true, decide_eq_true_eq, ih]

theorem sorted_ext {a b : List Nat} (ha : Sorted a) (hb : Sorted b) (h : ∀ x, x ∈ a ↔ x ∈ b) : a = b :=
  List.Perm.eq_of_pairwise (fun _ _ _ _ h1 h2 => absurd h1 (Nat.lt_asymm h2))
    (sorted_iff_pairwise.1 ha) (sorted_iff_pairwise.1 hb) ((List.perm_ext_iff_of_nodup ha.nodup hb.nodup).2 h)

theorem mem_insert {x : Nat} {l : List Nat} {z : Nat} : z ∈ insert x l ↔ z = x ∨ z ∈ l := by
  induction l with
  | nil => simp [insert]
  | cons y ys ih =>
    simp only [insert]
    split
    · simp
    · split
      · rename_i h1 h2; subst h2; simp
      · simp only [List.mem_cons, ih]
        exact or_left_comm

theorem sorted_insert {x : Nat} {l : List Nat} (h : Sorted l) : Sorted (insert x l) := by
  induction l with
  | nil => simp [insert, Sorted]
  | cons y ys ih =>
    simp only [insert]
    split
    · rename_i hxy
      exact sorted_cons.2 ⟨h.lt_of_lt_head hxy, h⟩
    · split
      · exact h
      · rename_i h1 h2
        refine sorted_cons.2 ⟨fun z hz => ?_, ih h.tail⟩
        rcases mem_insert.1 hz with rfl | hz
        · omega
        · exact h.head_lt z hz

theorem length_insert_le (x : Nat) (l : List Nat) : (insert x l).length ≤ l.length + 1 := by
  induction l with
  | nil => simp [insert]
  | cons y ys ih =>
    simp only [insert]
    split
    · simp
    · split
      · simp
      · simp only [List.length_cons]; omega

/-- membership in a union (no sortedness needed) -/
theorem mem_union {a b : List Nat} {z : Nat} : z ∈ union a b ↔ z ∈ a ∨ z ∈ b := by
  fun_induction union a b with
  | case1 b => simp
  | case2 a => simp
  | case3 x xs y ys h ih => simp only [List.mem_cons, ih]; exact or_assoc.symm
  | case4 x xs y ys h1 h2 ih => simp only [List.mem_cons, ih]; exact or_left_comm
  | case5 x xs y ys h1 h2 ih =>
    have : x = y := by omega
    subst this
    simp only [List.mem_cons, ih]; exact or_or_distrib_left

@[simp] theorem union_nil_left (b : List Nat) : union [] b = b := by simp [union]
@[simp] theorem union_nil_right (a : List Nat) : union a [] = a := by cases a <;> simp [union]

theorem lt_of_mem_union {m : Nat} {a b : List Nat} (ha : ∀ z ∈ a, m < z) (hb : ∀ z ∈ b, m < z) :
    ∀ z ∈ union a b, m < z :=
  fun z hz => (mem_union.1 hz).elim (ha z) (hb z)

theorem sorted_union {a b : List Nat} (ha : Sorted a) (hb : Sorted b) : Sorted (union a b) := by
  fun_induction union a b with
  | case1 b => exact hb
  | case2 a => exact ha
  | case3 x xs y ys h ih =>
    exact sorted_cons.2 ⟨lt_of_mem_union ha.head_lt (hb.lt_of_lt_head h), ih ha.tail hb⟩
  | case4 x xs y ys h1 h2 ih =>
    exact sorted_cons.2 ⟨lt_of_mem_union (ha.lt_of_lt_head h2) hb.head_lt, ih ha hb.tail⟩
  | case5 x xs y ys h1 h2 ih =>
    have : x = y := by omega
    subst this
    exact sorted_cons.2 ⟨lt_of_mem_union ha.head_lt hb.head_lt, ih ha.tail hb.tail⟩

theorem length_union_le (a b : List Nat) : (union a b).length ≤ a.length + b.length := by
  fun_induction union a b with
  | case1 b => simp
  | case2 a => simp
  | case3 x xs y ys h ih => simp only [List.length_cons] at ih ⊢; omega
  | case4 x xs y ys h1 h2 ih => simp only [List.length_cons] at ih ⊢; omega
  | case5 x xs y ys h1 h2 ih => simp only [List.length_cons] at ih ⊢; omega

theorem sublist_union_left (a b : List Nat) : a.Sublist (union a b) := by
  fun_induction union a b with
  | case1 b => simp
  | case2 a => simp
  | case3 x xs y ys h ih => exact ih.cons_cons _
  | case4 x xs y ys h1 h2 ih => exact ih.cons _
  | case5 x xs y ys h1 h2 ih => exact ih.cons_cons _

theorem sublist_union_right (a b : List Nat) : b.Sublist (union a b) := by
  fun_induction union a b with
  | case1 b => simp
  | case2 a => simp
  | case3 x xs y ys h ih => exact ih.cons _
  | case4 x xs y ys h1 h2 ih => exact ih.cons_cons _
  | case5 x xs y ys h1 h2 ih =>
    have : x = y := by omega
    subst this
    exact ih.cons_cons _

theorem length_le_union_left (a b : List Nat) : a.length ≤ (union a b).length :=
  (sublist_union_left a b).length_le

theorem length_le_union_right (a b : List Nat) : b.length ≤ (union a b).length :=
  (sublist_union_right a b).length_le

theorem length_le_union (a b : List Nat) : a.length ≤ (union a b).length := length_le_union_left a b

/-- a union that is not longer than its left operand adds nothing -/
theorem subset_of_length_union_eq (a b : List Nat) (h : (union a b).length = a.length) :
    ∀ x ∈ b, x ∈ a := by
  fun_induction union a b with
  | case1 b =>
    have : b = [] := List.eq_nil_of_length_eq_zero (by simpa using h)
    subst this; simp
  | case2 a h' => simp
  | case3 x xs y ys hlt ih =>
    simp only [List.length_cons, Nat.add_right_cancel_iff] at h
    intro z hz
    exact List.mem_cons_of_mem _ (ih h z hz)
  | case4 x xs y ys hnlt hlt ih =>
    have := length_le_union (x :: xs) ys
    simp only [List.length_cons] at h this
    omega
  | case5 x xs y ys hnlt hnlt' ih =>
    have : x = y := by omega
    subst this
    simp only [List.length_cons, Nat.add_right_cancel_iff] at h
    intro z hz
    rcases List.mem_cons.1 hz with rfl | hz
    · exact List.mem_cons_self
    · exact List.mem_cons_of_mem _ (ih h z hz)

theorem diff_sublist (a b : List Nat) : (diff a b).Sublist a := by
  fun_induction diff a b with
  | case1 b => simp
  | case2 a => simp
  | case3 x xs y ys h ih => exact ih.cons_cons _
  | case4 x xs y ys h1 h2 ih => exact ih
  | case5 x xs y ys h1 h2 ih => exact ih.cons _

@[simp] theorem diff_nil_left (b : List Nat) : diff [] b = [] := by simp [diff]
@[simp] theorem diff_nil_right (a : List Nat) : diff a [] = a := by cases a <;> simp [diff]

theorem mem_of_mem_diff {a b : List Nat} {z : Nat} (h : z ∈ diff a b) : z ∈ a := (diff_sublist a b).subset h

theorem sorted_diff {a : List Nat} (b : List Nat) (ha : Sorted a) : Sorted (diff a b) := ha.sublist (diff_sublist a b)

theorem length_diff_le (a b : List Nat) : (diff a b).length ≤ a.length := (diff_sublist a b).length_le

theorem diff_eq_of_length_eq {a b : List Nat} (h : (diff a b).length = a.length) : diff a b = a :=
  (diff_sublist a b).eq_of_length h

theorem mem_diff {a b : List Nat} (ha : Sorted a) (hb : Sorted b) {z : Nat} :
    z ∈ diff a b ↔ z ∈ a ∧ z ∉ b := by
  fun_induction diff a b with
  | case1 b => simp
  | case2 a => simp
  | case3 x xs y ys h ih =>
    -- the heads decide: a head below the other list is in no tail of it
    have hx := ha.head_lt
    have hy := hb.head_lt
    simp only [List.mem_cons, ih ha.tail hb, not_or]
    grind
  | case4 x xs y ys h1 h2 ih =>
    have hx := ha.head_lt
    simp only [List.mem_cons, ih ha hb.tail, not_or]
    grind
  | case5 x xs y ys h1 h2 ih =>
    have hx := ha.head_lt
    have hy := hb.head_lt
    simp only [List.mem_cons, ih ha.tail hb.tail, not_or]
    grind

theorem diff_eq_self_iff {a b : List Nat} (ha : Sorted a) (hb : Sorted b) :
    diff a b = a ↔ ∀ x ∈ a, x ∉ b := by
  constructor
  · intro h x hx
    rw [← h] at hx
    exact ((mem_diff ha hb).1 hx).2
  · intro h
    apply sorted_ext (sorted_diff b ha) ha
    intro z
    rw [mem_diff ha hb]
    exact ⟨fun h' => h'.1, fun h' => ⟨h', h z h'⟩⟩

theorem inter_sublist (a b : List Nat) : (inter a b).Sublist a := by
  fun_induction inter a b with
  | case1 b => simp
  | case2 a => simp
  | case3 x xs y ys h ih => exact ih.cons _
  | case4 x xs y ys h1 h2 ih => exact ih
  | case5 x xs y ys h1 h2 ih => exact ih.cons_cons _

theorem sorted_inter {a : List Nat} (b : List Nat) (ha : Sorted a) : Sorted (inter a b) := ha.sublist (inter_sublist a b)

theorem length_inter_le (a b : List Nat) : (inter a b).length ≤ a.length := (inter_sublist a b).length_le

theorem mem_inter {a b : List Nat} (ha : Sorted a) (hb : Sorted b) {z : Nat} :
    z ∈ inter a b ↔ z ∈ a ∧ z ∈ b := by
  fun_induction inter a b with
  | case1 b => simp
  | case2 a => simp
  | case3 x xs y ys h ih =>
    have hy := hb.head_lt
    simp only [List.mem_cons, ih ha.tail hb]
    grind
  | case4 x xs y ys h1 h2 ih =>
    have hx := ha.head_lt
    simp only [List.mem_cons, ih ha hb.tail]
    grind
  | case5 x xs y ys h1 h2 ih =>
    simp only [List.mem_cons, ih ha.tail hb.tail]
    grind

theorem mem_dedup {l : List Nat} {z : Nat} : z ∈ dedup l ↔ z ∈ l := by
  fun_induction dedup l with
  | case1 => simp
  | case2 a => simp
  | case3 a rest ih => rw [ih]; simp
  | case4 a b rest h ih => simp only [List.mem_cons, ih]

theorem dedup_sublist (l : List Nat) : (dedup l).Sublist l := by
  fun_induction dedup l with
  | case1 => simp
  | case2 a => simp
  | case3 a rest ih => exact ih.cons _
  | case4 a b rest h ih => exact ih.cons_cons _

theorem sorted_dedup {l : List Nat} (h : l.Pairwise (· ≤ ·)) : Sorted (dedup l) := by
  fun_induction dedup l with
  | case1 => trivial
  | case2 a => trivial
  | case3 a rest ih => exact ih (List.pairwise_cons.1 h).2
  | case4 a b rest hab ih =>
    have h' := List.pairwise_cons.1 h
    rw [sorted_cons]
    refine ⟨?_, ih h'.2⟩
    intro z hz
    have hz' := mem_dedup.1 hz
    have h1 := h'.1 z hz'
    have h2 := (List.pairwise_cons.1 h'.2).1
    rcases List.mem_cons.1 hz' with rfl | hz''
    · omega
    · have := h2 z hz''
      have := h'.1 b (by simp)
      omega

theorem dedup_eq_self {l : List Nat} (h : Sorted l) : dedup l = l := by
  fun_induction dedup l with
  | case1 => rfl
  | case2 a => rfl
  | case3 a rest ih => exact absurd h.1 (Nat.lt_irrefl _)
  | case4 a b rest hab ih => rw [ih h.2]

theorem mergeSort_pairwise (l : List Nat) : (l.mergeSort (fun a b => decide (a ≤ b))).Pairwise (· ≤ ·) := by
  have := List.pairwise_mergeSort (le := fun a b => decide (a ≤ b))
    (by intro a b c; simp only [decide_eq_true_eq]; omega)
    (by intro a b; simp only [Bool.or_eq_true, decide_eq_true_eq]; omega) l
  exact this.imp (by simp)

theorem sorted_ofList (l : List Nat) : Sorted (ofList l) := sorted_dedup (mergeSort_pairwise l)

theorem mem_ofList {l : List Nat} {z : Nat} : z ∈ ofList l ↔ z ∈ l := by
  unfold ofList
  rw [mem_dedup, List.mem_mergeSort]

theorem length_ofList_le (l : List Nat) : (ofList l).length ≤ l.length := by
  unfold ofList
  have := (dedup_sublist (l.mergeSort (fun a b => decide (a ≤ b)))).length_le
  rwa [List.length_mergeSort] at this

/-- on a duplicate-free list, `ofList` is a permutation (sorting only) -/
theorem ofList_perm {l : List Nat} (h : l.Nodup) : (ofList l).Perm l := by
  unfold ofList
  have hp := List.mergeSort_perm l (fun a b => decide (a ≤ b))
  have hnd : (l.mergeSort (fun a b => decide (a ≤ b))).Nodup := hp.nodup_iff.2 h
  have hs : Sorted (l.mergeSort (fun a b => decide (a ≤ b))) := by
    rw [sorted_iff_pairwise]
    have h1 := mergeSort_pairwise l
    have h2 : (l.mergeSort (fun a b => decide (a ≤ b))).Pairwise (· ≠ ·) := hnd
    exact (h1.and h2).imp (by intro a b ⟨h3, h4⟩; omega)
  rw [dedup_eq_self hs]
  exact hp

theorem length_ofList {l : List Nat} (h : l.Nodup) : (ofList l).length = l.length := (ofList_perm h).length_eq

theorem ofList_eq_self {l : List Nat} (h : Sorted l) : ofList l = l :=
  sorted_ext (sorted_ofList l) h (fun _ => mem_ofList)

end IdSet
end Arroy
