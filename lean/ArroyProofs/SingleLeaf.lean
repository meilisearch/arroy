import ArroyProofs.Resplit
import ArroyProofs.BuildPrefix
/-! The shortcut of `build` for an index that fits in one bucket
(`clear_db_and_create_a_single_leaf`). -/
namespace Arroy
open BuildM Generated IdSet

theorem Store.get_filter_of_none (s : Store) (p : Key × Val → Bool) (k : Key) (h : Store.get s k = none) :
    Store.get (s.filter p) k = none := by
  rw [Store.get_eq_none_iff] at h ⊢
  intro v hv
  exact h v (List.mem_filter.1 hv).1

theorem Store.get_none_of_not_wf {s : Store} (hw : Store.WF s) {k : Key} (hk : ¬ k.wf) : Store.get s k = none := by
  rw [Store.get_eq_none_iff]
  intro v hv
  exact hk (hw _ hv)

theorem get_deleteRange_tree (c : Cfg) (s : Store) (hw : Store.WF s) (hi : c.index < 65536) (k : Key) :
    Store.get (s.deleteRange (c.treeKey 0) (c.treeKey IdGen.u32Max)) k =
      if k.index = c.index ∧ k.mode = modeTree then none else Store.get s k := by
  by_cases hk : k.wf
  · rw [Store.get_deleteRange s _ _ k (c.treeKey_wf 0 hi (by decide)) (c.treeKey_wf _ hi (by decide)) hk]
    have hiff : ((c.treeKey 0).le k && k.le (c.treeKey IdGen.u32Max)) = true ↔
        (k.index = c.index ∧ k.mode = modeTree) := by
      obtain ⟨ki, km, kt⟩ := k
      simp only [Key.wf] at hk
      simp only [Bool.and_eq_true, Key.le_iff, Key.lt_iff, Cfg.treeKey, Key.mkTree, modeTree, IdGen.u32Max,
        Key.mk.injEq]
      omega
    by_cases hex : k.index = c.index ∧ k.mode = modeTree
    · rw [if_pos (hiff.2 hex), if_pos hex]
    · rw [if_neg (fun h => hex (hiff.1 h)), if_neg hex]
  · have h1 := Store.get_none_of_not_wf hw hk
    unfold Store.deleteRange
    rw [Store.get_filter_of_none _ _ _ h1, h1]
    split <;> rfl

theorem get_deleteRange_treeKey (c : Cfg) (s : Store) (hw : Store.WF s) (hi : c.index < 65536) (id : Nat) :
    Store.get (s.deleteRange (c.treeKey 0) (c.treeKey IdGen.u32Max)) (c.treeKey id) = none := by
  rw [get_deleteRange_tree c s hw hi, if_pos ⟨rfl, rfl⟩]

theorem get_deleteRange_other (c : Cfg) (s : Store) (hw : Store.WF s) (hi : c.index < 65536) (k : Key)
    (hk : ∀ i, k ≠ c.treeKey i) :
    Store.get (s.deleteRange (c.treeKey 0) (c.treeKey IdGen.u32Max)) k = Store.get s k := by
  rw [get_deleteRange_tree c s hw hi, if_neg]
  rintro ⟨h1, h2⟩
  exact hk k.item (Key.eq_of_fields h1 h2 rfl)

theorem singleLeaf_eq (c : Cfg) (items : List Nat) : Build.singleLeaf c items =
    (modifyStore (fun st => st.deleteRange (c.treeKey 0) (c.treeKey IdGen.u32Max)) >>= fun _ =>
      (if !items.isEmpty then modifyStore (fun st => st.put (c.treeKey 0) (.desc items)) else pure ()) >>= fun _ =>
      poll >>= fun _ =>
      Build.writeMetadata c items (if items.isEmpty then [] else [0]) >>= fun _ =>
      modifyStore (fun st => st.put c.versionKey (.version crateVersion.1 crateVersion.2.1 crateVersion.2.2))) := by
  unfold Build.singleLeaf
  cases items.isEmpty <;> rfl

theorem Cfg.versionKey_wf (c : Cfg) (hi : c.index < 65536) : c.versionKey.wf := by
  simp only [Cfg.versionKey, Key.mkVersion, Key.wf, versionKeyMode, versionKeyItem, modeMetadata]
  omega

theorem Cfg.versionKey_mode (c : Cfg) : c.versionKey.mode ≠ modeItem := by
  simp [Cfg.versionKey, Key.mkVersion, versionKeyMode, modeMetadata, modeItem]

theorem Cfg.versionKey_ne_metaKey (c : Cfg) : c.versionKey ≠ c.metaKey := by
  intro e
  have := congrArg Key.item e
  simp [Cfg.versionKey, Cfg.metaKey, Key.mkVersion, Key.mkMetadata, versionKeyItem, metadataKeyItem] at this

theorem Cfg.versionKey_ne_itemKey (c : Cfg) (id : Nat) : c.versionKey ≠ c.itemKey id :=
  Key.ne_of_mode_ne (show versionKeyMode ≠ modeItem by decide)

theorem Cfg.versionKey_ne_updatedKey (c : Cfg) (id : Nat) : c.versionKey ≠ c.updatedKey id :=
  Key.ne_of_mode_ne (show versionKeyMode ≠ modeUpdated by decide)

theorem writeMetadata_ok {c : Cfg} {items roots : List Nat} {st st' : BState} {u : Unit}
    (h : Build.writeMetadata c items roots st = .ok (u, st')) :
    st'.store = st.store.put c.metaKey (.metadata c.metric.nameBytes c.dims items roots) := by
  unfold Build.writeMetadata at h
  rw [← modifyStore_ok' h]

theorem singleLeaf_spec (c : Cfg) (items : List Nat) {st st' : BState} (hw : Store.WF st.store)
    (hi : c.index < 65536) (hs : Sorted items)
    (h : Build.singleLeaf c items st = .ok ((), st')) :
    StoreStep c st.store st'.store ∧
    Store.get st'.store c.metaKey =
      some (.metadata c.metric.nameBytes c.dims items (if items.isEmpty then [] else [0])) ∧
    (∀ k, (∀ i, k ≠ c.treeKey i) → k ≠ c.metaKey → k ≠ c.versionKey → Store.get st'.store k = Store.get st.store k) ∧
    Forest c st'.store (if items.isEmpty then [] else [0]) items (if items.isEmpty then [] else [.bucket 0 items]) := by
  rw [singleLeaf_eq] at h
  obtain ⟨u1, st1, h1, k1⟩ := BuildM.bind_ok.1 h
  clear h
  have e1 := modifyStore_ok' h1
  obtain ⟨u2, st2, h2, k2⟩ := BuildM.bind_ok.1 k1
  clear k1
  obtain ⟨u3, st3, h3, k3⟩ := BuildM.bind_ok.1 k2
  clear k2
  have e3 := NoWrite.poll _ _ _ h3
  obtain ⟨u4, st4, h4, k4⟩ := BuildM.bind_ok.1 k3
  clear k3
  have e4 := writeMetadata_ok h4
  have e5 := modifyStore_ok' k4
  subst e1
  -- the store after the optional put of the single bucket
  have hst2 : st2.store = if items.isEmpty then st.store.deleteRange (c.treeKey 0) (c.treeKey IdGen.u32Max)
      else (st.store.deleteRange (c.treeKey 0) (c.treeKey IdGen.u32Max)).put (c.treeKey 0) (.desc items) := by
    split at h2
    · rename_i hne
      have := modifyStore_ok' h2
      rw [← this]
      simp only [Bool.not_eq_eq_eq_not, Bool.not_true] at hne
      simp [hne]
    · rename_i hne
      obtain ⟨_, e⟩ := BuildM.pure_ok.1 h2
      rw [← e]
      simp only [Bool.not_eq_eq_eq_not, Bool.not_true, Bool.not_eq_false] at hne
      simp [hne]
  have hfinal : st'.store = (st2.store.put c.metaKey (.metadata c.metric.nameBytes c.dims items
      (if items.isEmpty then [] else [0]))).put c.versionKey
        (.version crateVersion.1 crateVersion.2.1 crateVersion.2.2) := by
    rw [← e5, e4, e3]
  have hstep2 : StoreStep c st.store st2.store := by
    rw [hst2]
    split
    · exact (StoreStep.refl _).deleteRange _ _
    · exact ((StoreStep.refl _).deleteRange _ _).put_tree _ _ (c.treeKey_wf 0 hi (by decide)) (c.treeKey_mode 0)
  refine ⟨?_, ?_, ?_, ?_⟩
  · rw [hfinal]
    exact ((hstep2.put_tree _ _ (c.metaKey_wf hi) c.metaKey_mode).put_tree _ _ (c.versionKey_wf hi) c.versionKey_mode)
  · rw [hfinal, Store.get_put_other _ _ _ _ (Ne.symm c.versionKey_ne_metaKey), Store.get_put_same]
  · intro k hk1 hk2 hk3
    rw [hfinal, Store.get_put_other _ _ _ _ hk3, Store.get_put_other _ _ _ _ hk2, hst2]
    split
    · rw [get_deleteRange_other c _ hw hi _ hk1]
    · rw [Store.get_put_other _ _ _ _ (hk1 0), get_deleteRange_other c _ hw hi _ hk1]
  · -- the tree keys are those after the optional put: none, or the one bucket added to the empty forest
    have f0 : Forest c (st.store.deleteRange (c.treeKey 0) (c.treeKey IdGen.u32Max)) [] items [] :=
      Forest.nil (get_deleteRange_treeKey c _ hw hi) items
    refine Forest.frame (s := st2.store) ?_ (fun i => by
      rw [hfinal, Store.get_put_other _ _ _ _ (Ne.symm (c.versionKey_ne_treeKey i)),
        Store.get_put_other _ _ _ _ (Ne.symm (c.metaKey_ne_treeKey i))])
    rw [hst2]
    cases items.isEmpty
    · exact f0.snoc 0 (by simp) hs
    · exact f0

end Arroy
