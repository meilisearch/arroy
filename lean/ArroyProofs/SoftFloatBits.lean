import ArroyProofs.SoftFloatSymm
/-! Decoding the result of `SF.roundPack` (core Lean only): for a significand `m > 0` whose exact value
`m·2^e` lies in the normal range, the result is the finite value with the sign handed in, the rounded
`p`-bit significand and the exponent `e + bitLen m - p` (any format; then binary32, for `SoftFloatReal`). -/
namespace Arroy.SF

theorem f32_ebits : f32.ebits = 8 := rfl

theorem unpack_packBits_zero (neg : Bool) : unpack f32 (packBits f32 neg 0 0) = .fin neg 0 (-149) := by
  rw [unpack_packBits f32 (by decide) neg 0 0 (by decide) (by decide)]
  rfl

/-- the last step of `roundPack` on a normalised significand and an exponent in the normal range -/
theorem unpack_finish (f : Fmt) (hp : 1 ≤ f.p) (neg : Bool) (mant : Nat) (q : Int)
    (hm1 : 2 ^ (f.p - 1) ≤ mant) (hm2 : mant < 2 ^ f.p) (hq1 : f.qmin ≤ q)
    (hq2 : q + (f.bias : Int) + ((f.p : Int) - 1) < (f.emaxField : Int)) :
    unpack f (finish f neg mant q) = .fin neg mant q := by
  have hpp := two_pow_pred hp
  have hE : f.emaxField < 2 ^ f.ebits := by
    have := Nat.two_pow_pos f.ebits
    unfold Fmt.emaxField; omega
  unfold Fmt.qmin at hq1
  unfold finish
  rw [if_neg (by omega), if_neg (by omega)]
  generalize hEd : (q + (f.bias : Int) + ((f.p : Int) - 1)).toNat = E
  have hu := unpack_packBits f hp neg E (mant - 2 ^ (f.p - 1)) (by omega) (by omega)
  rw [if_neg (by omega), if_neg (by omega), show mant - 2 ^ (f.p - 1) + 2 ^ (f.p - 1) = mant by omega,
    show (E : Int) - (f.bias : Int) - ((f.p : Int) - 1) = q by omega] at hu
  exact hu

/-- round to nearest: the rounded significand is within half a unit of the exact one; a set sticky
bit (the exact value is strictly above `m`) never sits exactly on the upper end -/
theorem roundMant_err (m s : Nat) (st : Bool) (hs : 0 < s) :
    roundMant m s st * 2 ^ s ≤ m + 2 ^ (s - 1) ∧ m ≤ roundMant m s st * 2 ^ s + 2 ^ (s - 1) ∧
    (st = true → m + 1 ≤ roundMant m s st * 2 ^ s + 2 ^ (s - 1)) := by
  obtain ⟨q, r, H, hP, hH, -, -, -, hm, hr, hR⟩ := roundMant_cases m s st hs
  rw [hR, hP, hH]
  cases st <;> simp only [Bool.false_eq_true, false_or, true_or, and_true, false_implies, forall_const]
    <;> split <;> simp only [Nat.add_mul, Nat.one_mul, Nat.mul_comm q (2 * H)] <;> omega

/-- the rounded significand of a `(24+s)`-bit number has 24 bits, or is `2^24` (carry) -/
theorem roundMant_range (m s : Nat) (st : Bool) (h1 : 2 ^ (23 + s) ≤ m) (h2 : m < 2 ^ (24 + s)) :
    2 ^ 23 ≤ roundMant m s st ∧ roundMant m s st ≤ 2 ^ 24 := by
  have hm : 2 ^ 23 ≤ m / 2 ^ s ∧ m / 2 ^ s < 2 ^ 24 := by
    constructor
    · rw [Nat.le_div_iff_mul_le (Nat.two_pow_pos _), ← Nat.pow_add]; exact h1
    · rw [Nat.div_lt_iff_lt_mul (Nat.two_pow_pos _), ← Nat.pow_add]; exact h2
  unfold roundMant; split <;> omega

/-- `roundPack` in the normal range: the last kept bit is `bitLen m - p` bits up -/
theorem roundPack_normal (f : Fmt) (neg : Bool) (m : Nat) (e : Int) (st : Bool) (hm : 0 < m)
    (h1 : f.qmin ≤ e + bitLen m - f.p) :
    roundPack f neg m e st =
      if bitLen m ≤ f.p then finish f neg (m * 2 ^ (f.p - bitLen m)) (e + bitLen m - f.p)
      else if roundMant m (bitLen m - f.p) st = 2 ^ f.p then
        finish f neg (2 ^ (f.p - 1)) (e + bitLen m - f.p + 1)
      else finish f neg (roundMant m (bitLen m - f.p) st) (e + bitLen m - f.p) := by
  have hq : qOf f m e = e + bitLen m - f.p := by unfold qOf; omega
  rw [roundPack_eq f neg m e st (nz_of_pos hm st), hq]
  by_cases hL : bitLen m ≤ f.p
  · rw [if_pos hL, if_pos (by omega), show (e + (bitLen m : Int) - f.p - e).natAbs = f.p - bitLen m by omega]
  · rw [if_neg hL, if_neg (by omega), show (e + (bitLen m : Int) - f.p - e).toNat = bitLen m - f.p by omega]
    simp only [beq_iff_eq]

/-- `roundPack_normal` and `unpack_finish` for binary32, with its constants put in -/
theorem roundPack_normal32 (neg : Bool) (m : Nat) (e : Int) (st : Bool) (hm : 0 < m)
    (h1 : -125 ≤ e + bitLen m) :
    roundPack f32 neg m e st =
      if bitLen m ≤ 24 then finish f32 neg (m * 2 ^ (24 - bitLen m)) (e + bitLen m - 24)
      else if roundMant m (bitLen m - 24) st = 2 ^ 24 then finish f32 neg (2 ^ 23) (e + bitLen m - 24 + 1)
      else finish f32 neg (roundMant m (bitLen m - 24) st) (e + bitLen m - 24) :=
  roundPack_normal f32 neg m e st hm (by rw [f32_consts.2.2.2.1, f32_consts.1]; omega)

theorem unpack_finish32 (neg : Bool) (mant : Nat) (q : Int) (hm1 : 2 ^ 23 ≤ mant) (hm2 : mant < 2 ^ 24)
    (hq1 : -149 ≤ q) (hq2 : q ≤ 104) : unpack f32 (finish f32 neg mant q) = .fin neg mant q := by
  obtain ⟨c1, c2, c3, c4, -⟩ := f32_consts
  exact unpack_finish f32 (by rw [c1]; omega) neg mant q hm1 hm2 (by rw [c4]; exact hq1)
    (by rw [c1, c2, c3]; omega)

/-- no rounding needed: at most 24 significant bits -/
theorem roundPack_exact (neg : Bool) (m : Nat) (e : Int) (st : Bool) (hm : 0 < m)
    (hn : bitLen m ≤ 24) (h1 : -125 ≤ e + bitLen m) (h2 : e + bitLen m ≤ 128) :
    unpack f32 (roundPack f32 neg m e st) =
      .fin neg (m * 2 ^ (24 - bitLen m)) (e + bitLen m - 24) := by
  obtain ⟨b1, b2⟩ := shl_bitLen_bounds hm hn
  rw [roundPack_normal32 neg m e st hm h1, if_pos hn]
  exact unpack_finish32 neg _ _ b1 b2 (by omega) (by omega)

/-- rounding by `bitLen m - 24 > 0` bits, no carry out of the significand -/
theorem roundPack_round (neg : Bool) (m : Nat) (e : Int) (st : Bool) (hm : 0 < m)
    (hn : 24 < bitLen m) (h1 : -125 ≤ e + bitLen m) (h2 : e + bitLen m ≤ 128)
    (hc : roundMant m (bitLen m - 24) st ≠ 2 ^ 24) :
    unpack f32 (roundPack f32 neg m e st) =
      .fin neg (roundMant m (bitLen m - 24) st) (e + bitLen m - 24) := by
  obtain ⟨hn0, hn1, hn2⟩ := bitLen_bounds hm
  have hr := roundMant_range m (bitLen m - 24) st
    (by rw [show 23 + (bitLen m - 24) = bitLen m - 1 by omega]; exact hn1)
    (by rw [show 24 + (bitLen m - 24) = bitLen m by omega]; exact hn2)
  rw [roundPack_normal32 neg m e st hm h1, if_neg (by omega), if_neg hc]
  exact unpack_finish32 neg _ _ hr.1 (by omega) (by omega) (by omega)

/-- rounding by `bitLen m - 24 > 0` bits with a carry: the result is the next power of two -/
theorem roundPack_carry (neg : Bool) (m : Nat) (e : Int) (st : Bool) (hm : 0 < m)
    (hn : 24 < bitLen m) (h1 : -125 ≤ e + bitLen m) (h2 : e + bitLen m ≤ 127)
    (hc : roundMant m (bitLen m - 24) st = 2 ^ 24) :
    unpack f32 (roundPack f32 neg m e st) = .fin neg (2 ^ 23) (e + bitLen m - 24 + 1) := by
  rw [roundPack_normal32 neg m e st hm h1, if_neg (by omega), if_pos hc]
  exact unpack_finish32 neg _ _ (by omega) (by omega) (by omega) (by omega)

/-- a carry means that the significand is within half a unit of `2^(24+s)` (at the top of the exponent
range this puts the exact value outside the normal range) -/
theorem carry_large (m s : Nat) (st : Bool) (hs : 0 < s) (hc : roundMant m s st = 2 ^ 24) :
    2 ^ (24 + s) ≤ m + 2 ^ (s - 1) := by
  have := (roundMant_err m s st hs).1
  rw [hc, ← Nat.pow_add] at this
  exact this

end Arroy.SF
