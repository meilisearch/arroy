import ArroyProofs.F32MonoDiv
/-! The cosine formula `(1 - clamp(x, -1, 1)) / 2` stays in `[0, 1]` (core Lean only): `1 - ·` is antitone
and `· / 2` is monotone, so the two ends `c = 1` and `c = -1` bound it. -/
namespace Arroy.SF

theorem half_one_sub_range {c : Nat} (h1 : F32.le F32.negOne c = true) (h2 : F32.le c F32.one = true) :
    F32.le F32.zero (F32.div (F32.sub F32.one c) F32.two) = true
    ∧ F32.le (F32.div (F32.sub F32.one c) F32.two) F32.one = true := by
  have lo := F32M.div_two_mono (F32M.sub_antitone F32.one (by decide) h2)
  have hi := F32M.div_two_mono (F32M.sub_antitone F32.one (by decide) h1)
  rw [show F32.div (F32.sub F32.one F32.one) F32.two = F32.zero by decide +kernel] at lo
  rw [show F32.div (F32.sub F32.one F32.negOne) F32.two = F32.one by decide +kernel] at hi
  exact ⟨lo, hi⟩

theorem clamp_range (x : Nat) (hx : isNaN f32 x = false) :
    F32.le F32.negOne (clamp f32 x F32.negOne F32.one) = true
    ∧ F32.le (clamp f32 x F32.negOne F32.one) F32.one = true := by
  unfold clamp gt
  cases h1 : lt f32 x F32.negOne
  · cases h2 : lt f32 F32.one x
    · simp only [Bool.false_eq_true, if_false]
      have n1 : isNaN f32 F32.negOne = false := by decide
      have n2 : isNaN f32 F32.one = false := by decide
      simp [F32.le, SF.le, hx, h1, h2, n1, n2]
    · simp only [Bool.false_eq_true, if_false, if_true]; decide
  · simp only [if_true]; decide

/-- the cosine formula on a non-NaN cosine: `(1 - clamp(x, -1, 1)) / 2 ∈ [0, 1]` -/
theorem cosine_formula_range (x : Nat) (hx : isNaN f32 x = false) :
    le f32 0 (div f32 (sub f32 F32.one (clamp f32 x F32.negOne F32.one)) F32.two) = true ∧
    le f32 (div f32 (sub f32 F32.one (clamp f32 x F32.negOne F32.one)) F32.two) F32.one = true := by
  obtain ⟨a, b⟩ := clamp_range x hx
  exact half_one_sub_range a b

theorem cosine_formula_nan (x : Nat) (hx : isNaN f32 x = true) :
    div f32 (sub f32 F32.one (clamp f32 x F32.negOne F32.one)) F32.two = qnan f32 := by
  have hu : unpack f32 x = .nan := by
    unfold isNaN at hx
    cases h : unpack f32 x <;> simp [h] at hx ⊢
  have hc : clamp f32 x F32.negOne F32.one = x := by
    unfold clamp gt lt; rw [hu, unpack_one, unpack_negOne]; simp [ltV]
  rw [hc]
  have hs : sub f32 F32.one x = qnan f32 := by
    unfold sub; rw [hu, unpack_one]; rfl
  rw [hs]
  have hq : unpack f32 (qnan f32) = .nan := by
    simp [unpack, qnan, packBits, f32, Fmt.emaxField]
  unfold div; rw [hq]

end Arroy.SF
