import ArroyProofs.SoftFloatBits
import Mathlib.Data.Real.Basic
import Mathlib.Tactic.Linarith
import Mathlib.Tactic.Ring
import Mathlib.Tactic.Positivity
import Mathlib.Tactic.FieldSimp
/-! The real value of a binary32 bit pattern, and the rounding-error theorem of `SF.roundPack`:
round-to-nearest has relative error at most `u = 2^-24` in the normal range. -/
namespace Arroy
namespace SFR
open SF

/-- `(-1)^neg` -/
noncomputable def sgn (b : Bool) : ℝ := if b then -1 else 1

/-- real value of an unpacked value (`0` for NaN and the infinities, which `Finite` excludes) -/
noncomputable def vReal : V → ℝ
  | .fin n m e => sgn n * (m : ℝ) * (2 : ℝ) ^ e
  | _ => 0

/-- real value of a binary32 bit pattern: `(-1)^neg · m · 2^e` -/
noncomputable def toReal (x : Nat) : ℝ := vReal (unpack f32 x)

/-- neither NaN nor infinite (decidable: the exponent field is not all ones, `SF.isFin_iff`) -/
def Finite (x : Nat) : Prop := isFin f32 x = true

instance (x : Nat) : Decidable (Finite x) := by unfold Finite; infer_instance

/-- unit roundoff of binary32 -/
noncomputable def u : ℝ := (2 : ℝ) ^ (-24 : ℤ)

/-- no underflow (at least the smallest normal number) and no overflow after rounding -/
def NormalRange (r : ℝ) : Prop :=
  (2 : ℝ) ^ (-126 : ℤ) ≤ |r| ∧ |r| < (2 : ℝ) ^ (128 : ℤ) * (1 - (2 : ℝ) ^ (-25 : ℤ))

/-- an exact result the standard model covers: zero (no rounding at all) or in the normal range -/
def NormalOrZero (r : ℝ) : Prop := r = 0 ∨ NormalRange r

theorem u_pos : 0 < u := by unfold u; positivity
theorem u_nonneg : 0 ≤ u := le_of_lt u_pos

/-- `SF.unpack` on binary32, with the constants of the format evaluated -/
theorem unpack_f32 (x : Nat) : unpack f32 x =
    if x / 8388608 % 256 == 255 then (if x % 8388608 == 0 then .inf (x / 2147483648 % 2 == 1) else .nan)
    else if x / 8388608 % 256 == 0 then .fin (x / 2147483648 % 2 == 1) (x % 8388608) (-149)
    else .fin (x / 2147483648 % 2 == 1) (x % 8388608 + 8388608)
      (((x / 8388608 % 256 : Nat) : Int) - 127 - (24 - 1)) := rfl

theorem finite_iff (x : Nat) : Finite x ↔ ∃ n m e, unpack f32 x = .fin n m e := by
  unfold Finite isFin
  cases unpack f32 x <;> simp

theorem toReal_of_unpack {x : Nat} {n : Bool} {m : Nat} {e : Int} (h : unpack f32 x = .fin n m e) :
    toReal x = sgn n * (m : ℝ) * (2 : ℝ) ^ e := by
  unfold toReal; rw [h]; rfl

theorem finite_of_unpack {x : Nat} {n : Bool} {m : Nat} {e : Int} (h : unpack f32 x = .fin n m e) :
    Finite x := (finite_iff x).2 ⟨n, m, e, h⟩

theorem abs_sgn (b : Bool) : |sgn b| = 1 := by cases b <;> simp [sgn]
theorem sgn_bne (s t : Bool) : sgn (s != t) = sgn s * sgn t := by cases s <;> cases t <;> simp [sgn]
theorem sgn_not (s : Bool) : sgn (!s) = - sgn s := by cases s <;> simp [sgn]
theorem sgn_ne_zero (b : Bool) : sgn b ≠ 0 := by cases b <;> simp [sgn]

theorem two_zpow_pos (e : ℤ) : 0 < (2 : ℝ) ^ e := zpow_pos (by norm_num) e

theorem toReal_eq_zero_iff {x : Nat} {n : Bool} {m : Nat} {e : Int} (h : unpack f32 x = .fin n m e) :
    toReal x = 0 ↔ m = 0 := by
  rw [toReal_of_unpack h]
  simp [sgn_ne_zero, (two_zpow_pos e).ne']

theorem abs_toReal {x : Nat} {n : Bool} {m : Nat} {e : Int} (h : unpack f32 x = .fin n m e) :
    |toReal x| = (m : ℝ) * (2 : ℝ) ^ e := by
  rw [toReal_of_unpack h, mul_assoc, abs_mul, abs_sgn, one_mul,
    abs_of_nonneg (mul_nonneg (Nat.cast_nonneg m) (two_zpow_pos e).le)]

theorem zpow_add_nat (e : ℤ) (k : ℕ) : (2 : ℝ) ^ (e + (k : ℤ)) = (2 : ℝ) ^ e * (2 : ℝ) ^ k := by
  rw [zpow_add₀ (two_ne_zero), zpow_natCast]

theorem cast_two_pow (k : ℕ) : ((2 ^ k : ℕ) : ℝ) = (2 : ℝ) ^ k := by push_cast; rfl

theorem mant_bounds {m : Nat} (hm : 0 < m) (e : Int) {t : ℝ} (ht0 : 0 ≤ t) (ht1 : t < 1) :
    (2 : ℝ) ^ (e + ((bitLen m : ℤ) - 1)) ≤ ((m : ℝ) + t) * (2 : ℝ) ^ e ∧
    ((m : ℝ) + t) * (2 : ℝ) ^ e < (2 : ℝ) ^ (e + (bitLen m : ℤ)) := by
  obtain ⟨hn0, hn1, hn2⟩ := bitLen_bounds hm
  have hE := two_zpow_pos e
  have c1 : (m : ℝ) + 1 ≤ (2 : ℝ) ^ (bitLen m) := by
    exact_mod_cast (show m + 1 ≤ 2 ^ bitLen m from hn2)
  have c2 : (2 : ℝ) ^ (bitLen m - 1) ≤ (m : ℝ) := by exact_mod_cast hn1
  constructor
  · rw [show e + ((bitLen m : ℤ) - 1) = e + ((bitLen m - 1 : ℕ) : ℤ) by omega, zpow_add_nat,
      _root_.mul_comm]
    exact mul_le_mul_of_nonneg_right (by linarith) hE.le
  · rw [zpow_add_nat, _root_.mul_comm ((2 : ℝ) ^ e)]
    exact mul_lt_mul_of_pos_right (by linarith) hE

/-- the integer facts `roundPack` needs, from the real-number range of the exact value -/
theorem range_bounds (m : Nat) (e : Int) (t : ℝ) (hm : 0 < m) (ht0 : 0 ≤ t) (ht1 : t < 1)
    (hN : NormalRange (((m : ℝ) + t) * (2 : ℝ) ^ e)) :
    -125 ≤ e + bitLen m ∧ e + bitLen m ≤ 128 := by
  obtain ⟨x1, x2⟩ := mant_bounds hm e ht0 ht1
  rw [NormalRange, abs_of_pos (lt_of_lt_of_le (two_zpow_pos _) x1)] at hN
  have h128 : (2 : ℝ) ^ (128 : ℤ) * (1 - (2 : ℝ) ^ (-25 : ℤ)) < (2 : ℝ) ^ (128 : ℤ) :=
    mul_lt_of_lt_one_right (two_zpow_pos _) (sub_lt_self 1 (two_zpow_pos _))
  have l := (zpow_lt_zpow_iff_right₀ (one_lt_two (α := ℝ))).1 (lt_of_le_of_lt hN.1 x2)
  have r := (zpow_lt_zpow_iff_right₀ (one_lt_two (α := ℝ))).1 (lt_of_le_of_lt x1 (hN.2.trans h128))
  omega

/-- `u · 2^(s+23) = 2^(s-1)`: half a unit in the last place of a `(24+s)`-bit significand -/
theorem u_mul_pow (s : ℕ) (hs : 0 < s) : u * (2 : ℝ) ^ (23 + s) = (2 : ℝ) ^ (s - 1) := by
  unfold u
  rw [← zpow_natCast, ← zpow_natCast, ← zpow_add₀ two_ne_zero]
  congr 1; omega

theorem exists_rel {x y u : ℝ} (hy : 0 < y) (h : |x - y| ≤ u * y) : ∃ δ : ℝ, |δ| ≤ u ∧ x = y * (1 + δ) :=
  ⟨(x - y) / y, by rw [abs_div, abs_of_pos hy, div_le_iff₀ hy]; exact h, by field_simp; ring⟩

/-- rounding a significand of `24 + s` bits by `s` bits changes the exact value `m + t` by at most half
a unit of the last place kept, which is at most `u·(m + t)` -/
theorem roundMant_real (m s : Nat) (st : Bool) (t : ℝ) (hs : 0 < s) (ht0 : 0 ≤ t) (ht1 : t < 1)
    (hst : st = false → t = 0) (h23 : 2 ^ (23 + s) ≤ m) :
    |((roundMant m s st : ℕ) : ℝ) * (2 : ℝ) ^ s - ((m : ℝ) + t)| ≤ u * ((m : ℝ) + t) := by
  obtain ⟨e1, e2, e3⟩ := roundMant_err m s st hs
  have r1 : ((roundMant m s st : ℕ) : ℝ) * (2 : ℝ) ^ s ≤ (m : ℝ) + (2 : ℝ) ^ (s - 1) := by
    exact_mod_cast e1
  have r2 : (m : ℝ) + t ≤ ((roundMant m s st : ℕ) : ℝ) * (2 : ℝ) ^ s + (2 : ℝ) ^ (s - 1) := by
    cases st
    · rw [hst rfl, add_zero]; exact_mod_cast e2
    · have : ((m : ℝ) + 1) ≤ ((roundMant m s true : ℕ) : ℝ) * (2 : ℝ) ^ s + (2 : ℝ) ^ (s - 1) := by
        exact_mod_cast e3 rfl
      linarith
  have r3 : (2 : ℝ) ^ (23 + s) ≤ (m : ℝ) := by exact_mod_cast h23
  have hhalf : (2 : ℝ) ^ (s - 1) ≤ u * ((m : ℝ) + t) := by
    rw [← u_mul_pow s hs]
    exact mul_le_mul_of_nonneg_left (by linarith) u_nonneg
  rw [abs_le]
  constructor <;> linarith

/-- **Rounding error of `roundPack`.** The exact value `±(m + t)·2^e` (`t = 0` without sticky bit,
`0 < t < 1` with it — the sticky bit is only honoured when `m` has more than 24 bits, as in `div` and
`sqrt`) in the normal range rounds to a finite value `±R·2^Q = ±(m + t)·2^e·(1 + δ)`, `|δ| ≤ 2^-24`. -/
theorem roundPack_fin (neg : Bool) (m : Nat) (e : Int) (st : Bool) (t : ℝ) (hm : 0 < m)
    (ht0 : 0 ≤ t) (ht1 : t < 1) (hst : st = false → t = 0) (hst' : st = true → 2 ^ 24 ≤ m)
    (hN : NormalRange (((m : ℝ) + t) * (2 : ℝ) ^ e)) :
    ∃ (R : Nat) (Q : Int) (δ : ℝ), unpack f32 (roundPack f32 neg m e st) = .fin neg R Q ∧ |δ| ≤ u ∧
      (R : ℝ) * (2 : ℝ) ^ Q = ((m : ℝ) + t) * (2 : ℝ) ^ e * (1 + δ) := by
  obtain ⟨h1, h2⟩ := range_bounds m e t hm ht0 ht1 hN
  obtain ⟨hn0, hn1, hn2⟩ := bitLen_bounds hm
  have hE := two_zpow_pos e
  have hA : 0 < (m : ℝ) + t := add_pos_of_pos_of_nonneg (by exact_mod_cast hm) ht0
  by_cases hn : bitLen m ≤ 24
  · -- exact
    have hst0 : st = false := by
      cases st
      · rfl
      · have : bitLen (2 ^ 24) ≤ bitLen m := bitLen_mono (by decide) (hst' rfl)
        rw [show bitLen (2 ^ 24) = 25 by decide] at this
        omega
    refine ⟨_, _, 0, roundPack_exact neg m e st hm hn h1 h2, by simp [u_nonneg], ?_⟩
    rw [hst hst0]
    have hq : e + (bitLen m : ℤ) - 24 = e + (-((24 - bitLen m : ℕ) : ℤ)) := by omega
    rw [hq, zpow_add₀ two_ne_zero, zpow_neg, zpow_natCast]
    push_cast
    have : (2 : ℝ) ^ (24 - bitLen m) ≠ 0 := by positivity
    field_simp
    ring
  · -- rounding by `s` bits
    obtain ⟨s, hs⟩ : ∃ s, bitLen m = 24 + s := ⟨bitLen m - 24, by omega⟩
    have hs0 : 0 < s := by omega
    have hsub : bitLen m - 24 = s := by omega
    have h23 : 2 ^ (23 + s) ≤ m := by
      rw [show 23 + s = bitLen m - 1 by omega]; exact hn1
    obtain ⟨δ, hδ, hval⟩ := exists_rel hA (roundMant_real m s st t hs0 ht0 ht1 hst h23)
    have hQ : (2 : ℝ) ^ (e + (bitLen m : ℤ) - 24) = (2 : ℝ) ^ s * (2 : ℝ) ^ e := by
      rw [show e + (bitLen m : ℤ) - 24 = e + (s : ℤ) by omega, zpow_add_nat, _root_.mul_comm]
    by_cases hc : roundMant m s st = 2 ^ 24
    · -- carry: not at the top of the exponent range, where the exact value would reach `2^128 − 2^103`
      have h2' : e + (bitLen m : ℤ) ≤ 127 := by
        by_contra hcon
        have he : e + (bitLen m : ℤ) = 128 := by omega
        have hl : (2 : ℝ) ^ (24 + s) ≤ (m : ℝ) + (2 : ℝ) ^ (s - 1) := by
          exact_mod_cast carry_large m s st hs0 hc
        have a1 : (2 : ℝ) ^ (24 + s) * (2 : ℝ) ^ e = (2 : ℝ) ^ (128 : ℤ) := by
          rw [_root_.mul_comm, ← zpow_add_nat]; congr 1; omega
        have a2 : (2 : ℝ) ^ (s - 1) * (2 : ℝ) ^ e = (2 : ℝ) ^ (103 : ℤ) := by
          rw [_root_.mul_comm, ← zpow_add_nat]; congr 1; omega
        have a3 : (2 : ℝ) ^ (128 : ℤ) * (2 : ℝ) ^ (-25 : ℤ) = (2 : ℝ) ^ (103 : ℤ) := by
          rw [← zpow_add₀ two_ne_zero]; norm_num
        have a4 : ((2 : ℝ) ^ (24 + s) - (2 : ℝ) ^ (s - 1)) * (2 : ℝ) ^ e ≤ ((m : ℝ) + t) * (2 : ℝ) ^ e :=
          mul_le_mul_of_nonneg_right (by linarith only [hl, ht0]) hE.le
        have hi := hN.2
        rw [abs_of_pos (mul_pos hA hE)] at hi
        linarith only [a1, a2, a3, a4, hi]
      refine ⟨_, _, δ, roundPack_carry neg m e st hm (by omega) h1 h2' (by rw [hsub]; exact hc), hδ, ?_⟩
      rw [show e + (bitLen m : ℤ) - 24 + 1 = e + ((s + 1 : ℕ) : ℤ) by omega, zpow_add_nat,
        mul_right_comm _ ((2 : ℝ) ^ e), ← hval, hc]
      push_cast
      ring
    · have hup := roundPack_round neg m e st hm (by omega) h1 h2 (by rw [hsub]; exact hc)
      rw [hsub] at hup
      refine ⟨_, _, δ, hup, hδ, ?_⟩
      rw [hQ, mul_right_comm _ ((2 : ℝ) ^ e), ← hval]; ring

theorem normalRange_sgn (n : Bool) (x : ℝ) : NormalRange (sgn n * x) ↔ NormalRange x := by
  unfold NormalRange; rw [abs_mul, abs_sgn, one_mul]

theorem normalRange_ne_zero {r : ℝ} (h : NormalRange r) : r ≠ 0 := by
  intro h0
  have := h.1
  rw [h0, abs_zero] at this
  have := two_zpow_pos (-126)
  linarith

/-- **`roundPack_real`**: the value of the rounded result is the exact value `v = ±(m + t)·2^e` times
`1 + δ`, `|δ| ≤ 2^-24` (hypotheses as in `roundPack_fin`). -/
theorem roundPack_real (neg : Bool) (m : Nat) (e : Int) (st : Bool) (t : ℝ) (hm : 0 < m)
    (ht0 : 0 ≤ t) (ht1 : t < 1) (hst : st = false → t = 0) (hst' : st = true → 2 ^ 24 ≤ m)
    (hN : NormalRange (sgn neg * (((m : ℝ) + t) * (2 : ℝ) ^ e))) :
    Finite (roundPack f32 neg m e st) ∧ ∃ δ : ℝ, |δ| ≤ u ∧
      toReal (roundPack f32 neg m e st) = sgn neg * (((m : ℝ) + t) * (2 : ℝ) ^ e) * (1 + δ) := by
  rw [normalRange_sgn] at hN
  obtain ⟨R, Q, δ, hu, hδ, hv⟩ := roundPack_fin neg m e st t hm ht0 ht1 hst hst' hN
  refine ⟨finite_of_unpack hu, δ, hδ, ?_⟩
  rw [toReal_of_unpack hu, mul_assoc, hv]; ring

/-- the sticky-free case, as `add`, `sub`, `mul` and `fma` use it: the exact value `r = ±m·2^e` is zero
(then the result is a zero) or in the normal range -/
theorem round_or_zero (z neg : Bool) (m : Nat) (e : Int) (r : ℝ)
    (hr : r = sgn neg * (m : ℝ) * (2 : ℝ) ^ e) (hN : NormalOrZero r) :
    Finite (if (m == 0) = true then packBits f32 z 0 0 else roundPack f32 neg m e) ∧ ∃ δ : ℝ, |δ| ≤ u ∧
      toReal (if (m == 0) = true then packBits f32 z 0 0 else roundPack f32 neg m e) = r * (1 + δ) := by
  by_cases h0 : m = 0
  · subst h0
    have hu := unpack_packBits_zero z
    refine ⟨by simpa using finite_of_unpack hu, 0, by simp [u_nonneg], ?_⟩
    simp only [beq_self_eq_true, if_true]
    rw [toReal_of_unpack hu, hr]; simp
  · have hb : (m == 0) = false := by simpa using h0
    simp only [hb, Bool.false_eq_true, if_false]
    have hm : 0 < m := Nat.pos_of_ne_zero h0
    have hr' : r = sgn neg * (((m : ℝ) + 0) * (2 : ℝ) ^ e) := by rw [hr]; ring
    have hN' : NormalRange r := hN.resolve_left (by
      rw [hr]
      exact mul_ne_zero (mul_ne_zero (sgn_ne_zero neg) (Nat.cast_ne_zero.2 h0)) (two_zpow_pos e).ne')
    rw [hr'] at hN' ⊢
    exact roundPack_real neg m e false 0 hm (le_refl _) (by norm_num) (fun _ => rfl)
      (fun h => by cases h) hN'

theorem roundPack_zero (neg : Bool) (e : Int) : roundPack f32 neg 0 e = packBits f32 neg 0 0 := by
  unfold roundPack; simp

theorem sgn_natAbs (s : ℤ) : sgn (decide (s < 0)) * ((s.natAbs : ℕ) : ℝ) = (s : ℝ) := by
  rw [Nat.cast_natAbs, Int.cast_abs]
  by_cases h : s < 0
  · have : (s : ℝ) < 0 := by exact_mod_cast h
    simp [sgn, h, abs_of_neg this]
  · have : (0 : ℝ) ≤ s := by exact_mod_cast (not_lt.mp h)
    simp [sgn, h, abs_of_nonneg this]

theorem pow_toNat_mul (e1 e : ℤ) (h : e ≤ e1) :
    (2 : ℝ) ^ ((e1 - e).toNat) * (2 : ℝ) ^ e = (2 : ℝ) ^ e1 := by
  rw [← zpow_natCast, ← zpow_add₀ two_ne_zero]; congr 1; omega

theorem sgn_int (n : Bool) (a : ℤ) : (((if n = true then -a else a) : ℤ) : ℝ) = sgn n * (a : ℝ) := by
  cases n <;> simp [sgn]

theorem exactAdd_real (n1 : Bool) (m1 : Nat) (e1 : Int) (n2 : Bool) (m2 : Nat) (e2 : Int) :
    sgn (exactAdd n1 m1 e1 n2 m2 e2).1 * ((exactAdd n1 m1 e1 n2 m2 e2).2.1 : ℝ)
        * (2 : ℝ) ^ (exactAdd n1 m1 e1 n2 m2 e2).2.2
      = sgn n1 * (m1 : ℝ) * (2 : ℝ) ^ e1 + sgn n2 * (m2 : ℝ) * (2 : ℝ) ^ e2 := by
  unfold exactAdd
  simp only
  rw [sgn_natAbs]
  have h1 := pow_toNat_mul e1 (min e1 e2) (min_le_left _ _)
  have h2 := pow_toNat_mul e2 (min e1 e2) (min_le_right _ _)
  rw [Int.cast_add, sgn_int, sgn_int]
  push_cast
  rw [← h1, ← h2]
  generalize (2 : ℝ) ^ (min e1 e2) = E
  ring

theorem mul_unpack (a b : Nat) : F32.mul a b = match unpack f32 a, unpack f32 b with
    | .nan, _ | _, .nan => qnan f32
    | .inf s, .inf t => infBits f32 (s != t)
    | .inf s, .fin t m _ => if m == 0 then qnan f32 else infBits f32 (s != t)
    | .fin s m _, .inf t => if m == 0 then qnan f32 else infBits f32 (s != t)
    | .fin s m1 e1, .fin t m2 e2 => roundPack f32 (s != t) (m1 * m2) (e1 + e2) := by
  unfold F32.mul SF.mul
  cases unpack F32.fmt a <;> cases unpack F32.fmt b <;> rfl

theorem mul_std (a b : Nat) (ha : Finite a) (hb : Finite b)
    (hN : NormalOrZero (toReal a * toReal b)) :
    Finite (F32.mul a b) ∧ ∃ δ : ℝ, |δ| ≤ u ∧ toReal (F32.mul a b) = toReal a * toReal b * (1 + δ) := by
  obtain ⟨s, m1, e1, hua⟩ := (finite_iff a).1 ha
  obtain ⟨t, m2, e2, hub⟩ := (finite_iff b).1 hb
  have hmul : F32.mul a b =
      if (m1 * m2 == 0) = true then packBits f32 (s != t) 0 0 else roundPack f32 (s != t) (m1 * m2) (e1 + e2) := by
    rw [mul_unpack, hua, hub]
    by_cases h0 : m1 * m2 = 0
    · simp only [h0, beq_self_eq_true, if_true]; exact roundPack_zero _ _
    · have : (m1 * m2 == 0) = false := by simpa using h0
      simp only [this, Bool.false_eq_true, if_false]
  rw [hmul]
  apply round_or_zero
  · rw [toReal_of_unpack hua, toReal_of_unpack hub, sgn_bne, zpow_add₀ two_ne_zero]
    push_cast; ring
  · exact hN

theorem addV_real (n1 : Bool) (m1 : Nat) (e1 : Int) (n2 : Bool) (m2 : Nat) (e2 : Int)
    (hN : NormalOrZero (sgn n1 * (m1 : ℝ) * (2 : ℝ) ^ e1 + sgn n2 * (m2 : ℝ) * (2 : ℝ) ^ e2)) :
    Finite (addV f32 (.fin n1 m1 e1) (.fin n2 m2 e2)) ∧ ∃ δ : ℝ, |δ| ≤ u ∧
      toReal (addV f32 (.fin n1 m1 e1) (.fin n2 m2 e2))
        = (sgn n1 * (m1 : ℝ) * (2 : ℝ) ^ e1 + sgn n2 * (m2 : ℝ) * (2 : ℝ) ^ e2) * (1 + δ) := by
  have hx := exactAdd_real n1 m1 e1 n2 m2 e2
  rw [addV_fin]
  exact round_or_zero _ _ _ _ _ hx.symm hN

/-- **addition** satisfies the standard model (the exact sum is formed by `exactAdd`, then rounded) -/
theorem add_std (a b : Nat) (ha : Finite a) (hb : Finite b)
    (hN : NormalOrZero (toReal a + toReal b)) :
    Finite (F32.add a b) ∧ ∃ δ : ℝ, |δ| ≤ u ∧ toReal (F32.add a b) = (toReal a + toReal b) * (1 + δ) := by
  obtain ⟨s, m1, e1, hua⟩ := (finite_iff a).1 ha
  obtain ⟨t, m2, e2, hub⟩ := (finite_iff b).1 hb
  have h : F32.add a b = addV f32 (.fin s m1 e1) (.fin t m2 e2) := by
    unfold F32.add SF.add
    show addV f32 (unpack f32 a) (unpack f32 b) = _
    rw [hua, hub]
  rw [h, toReal_of_unpack hua, toReal_of_unpack hub] at *
  exact addV_real _ _ _ _ _ _ hN

theorem sub_std (a b : Nat) (ha : Finite a) (hb : Finite b)
    (hN : NormalOrZero (toReal a - toReal b)) :
    Finite (F32.sub a b) ∧ ∃ δ : ℝ, |δ| ≤ u ∧ toReal (F32.sub a b) = (toReal a - toReal b) * (1 + δ) := by
  obtain ⟨s, m1, e1, hua⟩ := (finite_iff a).1 ha
  obtain ⟨t, m2, e2, hub⟩ := (finite_iff b).1 hb
  have h : F32.sub a b = addV f32 (.fin s m1 e1) (.fin (!t) m2 e2) := by
    unfold F32.sub SF.sub
    show addV f32 (unpack f32 a) (negV (unpack f32 b)) = _
    rw [hua, hub]; rfl
  have e : toReal a - toReal b
      = sgn s * (m1 : ℝ) * (2 : ℝ) ^ e1 + sgn (!t) * (m2 : ℝ) * (2 : ℝ) ^ e2 := by
    rw [toReal_of_unpack hua, toReal_of_unpack hub, sgn_not]; ring
  rw [e] at hN
  rw [h, e]
  exact addV_real _ _ _ _ _ _ hN

/-- **fused multiply-add** satisfies the standard model: one rounding of the exact `a·b + c` -/
theorem fma_std (a b c : Nat) (ha : Finite a) (hb : Finite b) (hc : Finite c)
    (hN : NormalOrZero (toReal a * toReal b + toReal c)) :
    Finite (F32.fma a b c) ∧ ∃ δ : ℝ, |δ| ≤ u ∧
      toReal (F32.fma a b c) = (toReal a * toReal b + toReal c) * (1 + δ) := by
  obtain ⟨s, m1, e1, hua⟩ := (finite_iff a).1 ha
  obtain ⟨t, m2, e2, hub⟩ := (finite_iff b).1 hb
  obtain ⟨w, m3, e3, huc⟩ := (finite_iff c).1 hc
  have hx := exactAdd_real (s != t) (m1 * m2) (e1 + e2) w m3 e3
  have h : F32.fma a b c =
      if ((exactAdd (s != t) (m1 * m2) (e1 + e2) w m3 e3).2.1 == 0) = true
      then packBits f32 ((s != t) && w) 0 0
      else roundPack f32 (exactAdd (s != t) (m1 * m2) (e1 + e2) w m3 e3).1
        (exactAdd (s != t) (m1 * m2) (e1 + e2) w m3 e3).2.1
        (exactAdd (s != t) (m1 * m2) (e1 + e2) w m3 e3).2.2 := by
    unfold F32.fma SF.fma
    show (match unpack f32 a, unpack f32 b, unpack f32 c with
      | .nan, _, _ | _, .nan, _ | _, _, .nan => qnan f32
      | .fin s m1 e1, .fin t m2 e2, .fin u m3 e3 =>
        let (n, m, e) := exactAdd (s != t) (m1 * m2) (e1 + e2) u m3 e3
        if m == 0 then packBits f32 ((s != t) && u) 0 0 else roundPack f32 n m e
      | x, y, z => _) = _
    rw [hua, hub, huc]
  rw [h]
  apply round_or_zero
  · rw [hx, toReal_of_unpack hua, toReal_of_unpack hub, toReal_of_unpack huc, sgn_bne,
      zpow_add₀ two_ne_zero]
    push_cast; ring
  · exact hN

end SFR
end Arroy
