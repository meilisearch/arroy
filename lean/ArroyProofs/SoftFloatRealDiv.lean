import ArroyProofs.SoftFloatReal
import Mathlib.Tactic.LinearCombination
/-! Division and square root of the soft-float model satisfy the standard model: their quotient / root
digits plus the sticky bit describe the exact real result, which `roundPack_real` then rounds. -/
namespace Arroy
namespace SFR
open SF

theorem sgn_inv (b : Bool) : (sgn b)⁻¹ = sgn b := by cases b <;> simp [sgn]

theorem div_std (a b : Nat) (ha : Finite a) (hb : Finite b) (hb0 : toReal b ≠ 0)
    (hN : NormalOrZero (toReal a / toReal b)) :
    Finite (F32.div a b) ∧ ∃ δ : ℝ, |δ| ≤ u ∧ toReal (F32.div a b) = toReal a / toReal b * (1 + δ) := by
  obtain ⟨s, m1, e1, hua⟩ := (finite_iff a).1 ha
  obtain ⟨t, m2, e2, hub⟩ := (finite_iff b).1 hb
  have hm2 : m2 ≠ 0 := fun h0 => hb0 ((toReal_eq_zero_iff hub).2 h0)
  have hb2 : (m2 == 0) = false := by simpa using hm2
  have hm2' : (0 : ℝ) < m2 := by exact_mod_cast Nat.pos_of_ne_zero hm2
  by_cases hm1 : m1 = 0
  · -- zero dividend
    have hu := unpack_packBits_zero (s != t)
    rw [show F32.div a b = _ from div_zero_fin f32 a b s t m2 e1 e2 (hm1 ▸ hua) hub hb2]
    refine ⟨finite_of_unpack hu, 0, by simp [u_nonneg], ?_⟩
    rw [toReal_of_unpack hu, (toReal_eq_zero_iff hua).2 hm1]; simp
  · have hb1 : (m1 == 0) = false := by simpa using hm1
    rw [show F32.div a b = _ from div_fin f32 a b s t m1 m2 e1 e2 hua hub hb1 hb2]
    -- the quotient digits: at least 25 of them
    have hp : f32.p = 24 := rfl
    generalize hk : f32.p + 3 + bitLen m2 = k at *
    have hdm := Nat.div_add_mod (m1 * 2 ^ k) m2
    have hrl := Nat.mod_lt (m1 * 2 ^ k) (Nat.pos_of_ne_zero hm2)
    have hq24 : 2 ^ 24 ≤ m1 * 2 ^ k / m2 := by
      rw [Nat.le_div_iff_mul_le (Nat.pos_of_ne_zero hm2)]
      obtain ⟨_, _, hn2⟩ := bitLen_bounds (Nat.pos_of_ne_zero hm2)
      calc 2 ^ 24 * m2 ≤ 2 ^ 24 * 2 ^ bitLen m2 := Nat.mul_le_mul_left _ (Nat.le_of_lt hn2)
        _ = 2 ^ (24 + bitLen m2) := (Nat.pow_add _ _ _).symm
        _ ≤ 2 ^ k := Nat.pow_le_pow_right (by decide) (by omega)
        _ ≤ m1 * 2 ^ k := Nat.le_mul_of_pos_left _ (Nat.pos_of_ne_zero hm1)
    generalize m1 * 2 ^ k / m2 = q at *
    generalize m1 * 2 ^ k % m2 = r at *
    -- the exact quotient is `±(q + r/m2)·2^(e1−e2−k)`
    have hnum : (m1 : ℝ) * (2 : ℝ) ^ k = (m2 : ℝ) * q + r := by exact_mod_cast hdm.symm
    have hexact : toReal a / toReal b
        = sgn (s != t) * (((q : ℝ) + (r : ℝ) / m2) * (2 : ℝ) ^ (e1 - e2 - (k : ℤ))) := by
      have hq' : (q : ℝ) + (r : ℝ) / m2 = (m1 : ℝ) * (2 : ℝ) ^ k / m2 := by
        rw [hnum, add_div, mul_div_cancel_left₀ _ hm2'.ne']
      have h2 : (2 : ℝ) ^ e2 ≠ 0 := (two_zpow_pos e2).ne'
      have h3 : (2 : ℝ) ^ k ≠ 0 := by positivity
      rw [toReal_of_unpack hua, toReal_of_unpack hub, sgn_bne, hq', zpow_sub₀ two_ne_zero,
        zpow_sub₀ two_ne_zero, zpow_natCast, mul_assoc (sgn t), div_mul_eq_div_div, div_eq_mul_inv _ (sgn t),
        sgn_inv]
      field_simp
    rw [hexact] at hN ⊢
    have hN' : NormalRange (sgn (s != t) * (((q : ℝ) + (r : ℝ) / m2) * (2 : ℝ) ^ (e1 - e2 - (k : ℤ)))) := by
      refine hN.resolve_left ?_
      rw [← hexact]
      exact div_ne_zero (mt (toReal_eq_zero_iff hua).1 hm1) hb0
    have ht1 : (r : ℝ) / m2 < 1 := by
      rw [div_lt_one hm2']; exact_mod_cast hrl
    exact roundPack_real (s != t) q _ (r != 0) ((r : ℝ) / m2) (Nat.lt_of_lt_of_le (by decide) hq24)
      (by positivity) ht1
      (fun h => by
        have : r = 0 := by simpa using h
        rw [this]; simp)
      (fun _ => hq24) hN'

theorem sqrt_unpack (a : Nat) : F32.sqrt a = match unpack f32 a with
    | .nan => qnan f32
    | .inf s => if s then qnan f32 else infBits f32 false
    | .fin s m e =>
      if m == 0 then packBits f32 s 0 0 else if s then qnan f32 else
        if (e - 52) % 2 == 0
        then roundPack f32 false (Nat.sqrt (m * 2 ^ 52)) ((e - 52) / 2)
          (Nat.sqrt (m * 2 ^ 52) * Nat.sqrt (m * 2 ^ 52) != m * 2 ^ 52)
        else roundPack f32 false (Nat.sqrt (m * 2 ^ 53)) ((e - 52 - 1) / 2)
          (Nat.sqrt (m * 2 ^ 53) * Nat.sqrt (m * 2 ^ 53) != m * 2 ^ 53) := by
  have hp : F32.fmt.p = 24 := rfl
  unfold F32.sqrt SF.sqrt
  cases unpack F32.fmt a with
  | nan => rfl
  | inf s => rfl
  | fin s m e =>
    simp only [hp, Nat.reduceAdd, Nat.reduceMul, Nat.cast_ofNat]
    by_cases hpar : ((e - 52) % 2 == 0) = true
    · simp only [hpar, if_true]
    · simp only [hpar, Bool.false_eq_true, if_false]

theorem natSqrt_bracket (M : Nat) {z : ℝ} (hz0 : 0 ≤ z) (hz : z * z = M) :
    (Nat.sqrt M : ℝ) ≤ z ∧ z < (Nat.sqrt M : ℝ) + 1 ∧
    (Nat.sqrt M * Nat.sqrt M = M → z = Nat.sqrt M) := by
  have hr : (0 : ℝ) ≤ Nat.sqrt M := Nat.cast_nonneg _
  refine ⟨?_, ?_, fun h => ?_⟩
  · rw [mul_self_le_mul_self_iff hr hz0, hz]
    exact_mod_cast Nat.sqrt_le M
  · rw [mul_self_lt_mul_self_iff hz0 (by positivity), hz]
    exact_mod_cast Nat.lt_succ_sqrt M
  · rw [← mul_self_inj hz0 hr, hz]
    exact_mod_cast h.symm

theorem scale_half (m k : Nat) (e h : Int) (hh : h + h = e - k) :
    ((m * 2 ^ k : Nat) : ℝ) * ((2 : ℝ) ^ h * (2 : ℝ) ^ h) = (m : ℝ) * (2 : ℝ) ^ e := by
  have hk : (2 : ℝ) ^ k ≠ 0 := by positivity
  rw [← zpow_add₀ two_ne_zero, hh, zpow_sub₀ two_ne_zero, zpow_natCast]
  push_cast
  field_simp

/-- **square root** satisfies the standard model: for the non-negative `y` with `y·y = toReal a`
(zero or in the normal range) the result is `y·(1+δ)` -/
theorem sqrt_std (a : Nat) (ha : Finite a) (y : ℝ) (hy0 : 0 ≤ y) (hy : y * y = toReal a)
    (hN : NormalOrZero y) :
    Finite (F32.sqrt a) ∧ ∃ δ : ℝ, |δ| ≤ u ∧ toReal (F32.sqrt a) = y * (1 + δ) := by
  obtain ⟨s, m, e, hua⟩ := (finite_iff a).1 ha
  have hra := toReal_of_unpack hua
  by_cases hm : m = 0
  · have hu := unpack_packBits_zero s
    have hy' : y = 0 := mul_self_eq_zero.mp (by rw [hy, (toReal_eq_zero_iff hua).2 hm])
    rw [sqrt_unpack, hua]
    simp only [hm, beq_self_eq_true, if_true]
    refine ⟨finite_of_unpack hu, 0, by simp [u_nonneg], ?_⟩
    rw [toReal_of_unpack hu, hy']; simp
  · have hmb : (m == 0) = false := by simpa using hm
    have hm' : (0 : ℝ) < m := by exact_mod_cast Nat.pos_of_ne_zero hm
    have hE := two_zpow_pos e
    -- the radicand is positive
    have hs : s = false := by
      cases s
      · rfl
      · have : toReal a < 0 := by
          rw [hra]; simp only [sgn, if_true]
          have := mul_pos hm' hE
          linarith
        have := mul_self_nonneg y
        linarith
    subst hs
    have hval : y * y = (m : ℝ) * (2 : ℝ) ^ e := by rw [hy, hra]; simp [sgn]
    -- even exponent `2h` and scaled significand `M ≥ 2^52`
    obtain ⟨M, h, hM52, hMe, hsq⟩ : ∃ (M : Nat) (h : Int), 2 ^ 52 ≤ M ∧
        (M : ℝ) * ((2 : ℝ) ^ h * (2 : ℝ) ^ h) = (m : ℝ) * (2 : ℝ) ^ e ∧
        F32.sqrt a = roundPack f32 false (Nat.sqrt M) h (Nat.sqrt M * Nat.sqrt M != M) := by
      rw [sqrt_unpack, hua]
      simp only [hmb, Bool.false_eq_true, if_false]
      by_cases hpar : (e - 52) % 2 = 0
      · exact ⟨m * 2 ^ 52, (e - 52) / 2, Nat.le_mul_of_pos_left _ (Nat.pos_of_ne_zero hm),
          scale_half m 52 e _ (by omega), by simp [hpar]⟩
      · exact ⟨m * 2 ^ 53, (e - 52 - 1) / 2, Nat.le_trans (by decide : 2 ^ 52 ≤ 2 ^ 53)
          (Nat.le_mul_of_pos_left _ (Nat.pos_of_ne_zero hm)), scale_half m 53 e _ (by omega),
          by simp [hpar]⟩
    -- `z = y / 2^h` is the exact root of `M`; the root digits `r` are its integer part
    have hH := two_zpow_pos h
    have hz2 : (y / (2 : ℝ) ^ h) * (y / (2 : ℝ) ^ h) = (M : ℝ) := by
      have : (2 : ℝ) ^ h * (2 : ℝ) ^ h ≠ 0 := by positivity
      rw [div_mul_div_comm, hval, ← hMe, mul_div_assoc, div_self this, mul_one]
    have hyz : y = y / (2 : ℝ) ^ h * (2 : ℝ) ^ h := (div_mul_cancel₀ y hH.ne').symm
    obtain ⟨hzr, hzr1, hzeq⟩ := natSqrt_bracket M (div_nonneg hy0 hH.le) hz2
    have hr26 : 2 ^ 26 ≤ Nat.sqrt M := Nat.le_sqrt.mpr (Nat.le_trans (by decide) hM52)
    generalize y / (2 : ℝ) ^ h = z at *
    generalize Nat.sqrt M = r at *
    have hy_ne : y ≠ 0 := by
      intro h0
      rw [h0, zero_mul] at hval
      exact (mul_pos hm' hE).ne hval
    have hexact : y = sgn false * (((r : ℝ) + (z - r)) * (2 : ℝ) ^ h) := by
      rw [hyz]; simp [sgn]
    have R := roundPack_real false r h (r * r != M) (z - r) (Nat.lt_of_lt_of_le (by decide) hr26)
      (by linarith) (by linarith)
      (fun hst => by rw [hzeq (by simpa using hst)]; ring)
      (fun _ => Nat.le_trans (by decide) hr26) (hexact ▸ hN.resolve_left hy_ne)
    rw [← hexact, ← hsq] at R
    exact R

end SFR
end Arroy
