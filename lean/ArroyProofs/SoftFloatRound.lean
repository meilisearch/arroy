import ArroyModel.SoftFloat
/-! `SF.roundPack` with its pieces named (`qOf`, `roundMant`, `finish`) and its equation; `bitLen`;
the constants of binary32 (core Lean only). -/
namespace Arroy.SF

/-- the last step of `roundPack`: assemble sign, exponent `q` (of the last mantissa bit) and mantissa -/
def finish (f : Fmt) (neg : Bool) (mant : Nat) (q : Int) : Nat :=
  if mant < 2^(f.p - 1) then packBits f neg 0 mant
  else
    if q + (f.bias : Int) + ((f.p : Int) - 1) ≥ (f.emaxField : Int) then infBits f neg
    else packBits f neg (q + (f.bias : Int) + ((f.p : Int) - 1)).toNat (mant - 2^(f.p - 1))

/-- `m / 2^s` rounded to nearest, ties to even -/
def roundMant (m s : Nat) (sticky : Bool) : Nat :=
  if m % 2^s > 2^(s-1) || (m % 2^s == 2^(s-1) && (sticky || m / 2^s % 2 == 1)) then m / 2^s + 1 else m / 2^s

/-- exponent of the last kept bit -/
def qOf (f : Fmt) (m : Nat) (e : Int) : Int := Max.max (e + (bitLen m : Int) - (f.p : Int)) f.qmin

/-- `roundPack` with its pieces named -/
def roundPack' (f : Fmt) (neg : Bool) (m : Nat) (e : Int) (sticky : Bool) : Nat :=
  if m == 0 && !sticky then packBits f neg 0 0 else
  let pr : Nat × Int :=
    if qOf f m e - e ≤ 0 then (m * 2^((qOf f m e - e).natAbs), qOf f m e)
    else if roundMant m (qOf f m e - e).toNat sticky == 2^f.p then (2^(f.p - 1), qOf f m e + 1)
    else (roundMant m (qOf f m e - e).toNat sticky, qOf f m e)
  finish f neg pr.1 pr.2

theorem roundPack_eq' (f : Fmt) (neg : Bool) (m : Nat) (e : Int) (sticky : Bool) :
    roundPack f neg m e sticky = roundPack' f neg m e sticky := by
  unfold roundPack roundPack' finish roundMant qOf
  rfl

theorem roundPack_eq (f : Fmt) (neg : Bool) (m : Nat) (e : Int) (sticky : Bool)
    (h : (m == 0 && !sticky) = false) :
    roundPack f neg m e sticky =
      if qOf f m e - e ≤ 0 then finish f neg (m * 2^((qOf f m e - e).natAbs)) (qOf f m e)
      else if roundMant m (qOf f m e - e).toNat sticky == 2^f.p then finish f neg (2^(f.p - 1)) (qOf f m e + 1)
      else finish f neg (roundMant m (qOf f m e - e).toNat sticky) (qOf f m e) := by
  rw [roundPack_eq']
  unfold roundPack'
  simp only [h, Bool.false_eq_true, if_false]
  split
  · rfl
  · split <;> rfl

/-- `addV` on two finite values: the exact sum, then a signed zero or one rounding -/
theorem addV_fin (f : Fmt) (n1 : Bool) (m1 : Nat) (e1 : Int) (n2 : Bool) (m2 : Nat) (e2 : Int) :
    addV f (.fin n1 m1 e1) (.fin n2 m2 e2) =
      if ((exactAdd n1 m1 e1 n2 m2 e2).2.1 == 0) = true then packBits f (n1 && n2) 0 0
      else roundPack f (exactAdd n1 m1 e1 n2 m2 e2).1 (exactAdd n1 m1 e1 n2 m2 e2).2.1
        (exactAdd n1 m1 e1 n2 m2 e2).2.2 := rfl

/-- `div` on two finite non-zero values: `f.p + 3 + bitLen m2` extra quotient bits and a sticky bit -/
theorem div_fin (f : Fmt) (a b : Nat) (s t : Bool) (m1 m2 : Nat) (e1 e2 : Int)
    (ha : unpack f a = .fin s m1 e1) (hb : unpack f b = .fin t m2 e2) (h1 : (m1 == 0) = false) (h2 : (m2 == 0) = false) :
    SF.div f a b = roundPack f (s != t) (m1 * 2^(f.p + 3 + bitLen m2) / m2)
      (e1 - e2 - ((f.p + 3 + bitLen m2 : Nat) : Int)) (m1 * 2^(f.p + 3 + bitLen m2) % m2 != 0) := by
  unfold SF.div
  rw [ha, hb]
  simp only [h1, h2, Bool.false_eq_true, if_false]

theorem div_zero_fin (f : Fmt) (a b : Nat) (s t : Bool) (m2 : Nat) (e1 e2 : Int)
    (ha : unpack f a = .fin s 0 e1) (hb : unpack f b = .fin t m2 e2) (h2 : (m2 == 0) = false) :
    SF.div f a b = packBits f (s != t) 0 0 := by
  unfold SF.div
  rw [ha, hb]
  simp only [h2, Bool.false_eq_true, if_false, beq_self_eq_true, if_true]

theorem bitLen_bounds {m : Nat} (hm : 0 < m) : 1 ≤ bitLen m ∧ 2^(bitLen m - 1) ≤ m ∧ m < 2^(bitLen m) := by
  have h0 : m ≠ 0 := by omega
  unfold bitLen
  simp only [h0, if_false]
  exact ⟨by omega, by simpa using Nat.log2_self_le h0, Nat.lt_log2_self⟩

theorem bitLen_eq {n L : Nat} (hL : 0 < L) (h1 : 2 ^ (L - 1) ≤ n) (h2 : n < 2 ^ L) : bitLen n = L := by
  obtain ⟨a, b, c⟩ := bitLen_bounds (Nat.lt_of_lt_of_le (Nat.two_pow_pos _) h1)
  have q1 := (Nat.pow_lt_pow_iff_right (by decide : 1 < 2)).mp (Nat.lt_of_le_of_lt b h2)
  have q2 := (Nat.pow_lt_pow_iff_right (by decide : 1 < 2)).mp (Nat.lt_of_le_of_lt h1 c)
  omega

theorem bitLen_le {n L : Nat} (h : n < 2 ^ L) : bitLen n ≤ L := by
  rcases Nat.eq_zero_or_pos n with h0 | h0
  · subst h0; exact Nat.zero_le _
  · obtain ⟨-, h2, -⟩ := bitLen_bounds h0
    have := (Nat.pow_lt_pow_iff_right (by decide : 1 < 2)).mp (Nat.lt_of_le_of_lt h2 h)
    omega

theorem bitLen_mono {a b : Nat} (ha : 0 < a) (hab : a ≤ b) : bitLen a ≤ bitLen b := by
  obtain ⟨_, h2, _⟩ := bitLen_bounds ha
  obtain ⟨_, _, h3⟩ := bitLen_bounds (Nat.lt_of_lt_of_le ha hab)
  have := (Nat.pow_lt_pow_iff_right (by decide : 1 < 2)).mp
    (Nat.lt_of_le_of_lt h2 (Nat.lt_of_le_of_lt hab h3))
  omega

/-- a number shifted up to exactly `p` bits -/
theorem shl_bitLen_bounds {m : Nat} (hm : 0 < m) {p : Nat} (hL : bitLen m ≤ p) :
    2 ^ (p - 1) ≤ m * 2 ^ (p - bitLen m) ∧ m * 2 ^ (p - bitLen m) < 2 ^ p := by
  obtain ⟨h0, h1, h2⟩ := bitLen_bounds hm
  constructor
  · rw [show p - 1 = (bitLen m - 1) + (p - bitLen m) by omega, Nat.pow_add]
    exact Nat.mul_le_mul_right _ h1
  · calc m * 2 ^ (p - bitLen m) < 2 ^ bitLen m * 2 ^ (p - bitLen m) :=
          Nat.mul_lt_mul_of_pos_right h2 (Nat.two_pow_pos _)
      _ = 2 ^ p := by rw [← Nat.pow_add]; congr 1; omega

theorem nz_of_pos {m : Nat} (hm : 0 < m) (st : Bool) : (m == 0 && !st) = false := by
  have : m ≠ 0 := by omega
  simp [this]

theorem two_pow_pred {s : Nat} (hs : 0 < s) : 2 ^ s = 2 * 2 ^ (s - 1) := by
  rw [show s = (s - 1) + 1 by omega, Nat.pow_succ, Nat.add_sub_cancel]; omega

theorem roundMant_spec (m s : Nat) (st : Bool) :
    roundMant m s st =
      if 2 ^ (s - 1) < m % 2 ^ s ∨ (m % 2 ^ s = 2 ^ (s - 1) ∧ (st = true ∨ m / 2 ^ s % 2 = 1))
      then m / 2 ^ s + 1 else m / 2 ^ s := by
  unfold roundMant
  simp only [Bool.or_eq_true, Bool.and_eq_true, decide_eq_true_eq, beq_iff_eq, gt_iff_lt]

/-- `roundMant` on quotient `q` and remainder `r` of `m` by `2^s = 2·H`: rounded up iff `r` is above
the half unit `H`, or on it with the sticky bit set or `q` odd. The proofs about `roundMant` start here:
`omega` sees `q`, `r`, `H` as variables. -/
theorem roundMant_cases (m s : Nat) (st : Bool) (hs : 0 < s) :
    ∃ q r H, 2 ^ s = 2 * H ∧ 2 ^ (s - 1) = H ∧ 0 < H ∧ m / 2 ^ s = q ∧ m % 2 ^ s = r ∧
      m = 2 * H * q + r ∧ r < 2 * H ∧
      roundMant m s st = if H < r ∨ (r = H ∧ (st = true ∨ q % 2 = 1)) then q + 1 else q := by
  refine ⟨m / 2 ^ s, m % 2 ^ s, 2 ^ (s - 1), two_pow_pred hs, rfl, Nat.two_pow_pos _, rfl, rfl, ?_, ?_, ?_⟩
  · rw [← two_pow_pred hs]; exact (Nat.div_add_mod m (2 ^ s)).symm
  · rw [← two_pow_pred hs]; exact Nat.mod_lt m (Nat.two_pow_pos s)
  · exact roundMant_spec m s st

theorem roundMant_le_succ (m s : Nat) (sticky : Bool) : roundMant m s sticky ≤ m / 2^s + 1 := by
  unfold roundMant; split <;> omega

theorem f32_consts : f32.p = 24 ∧ f32.bias = 127 ∧ f32.emaxField = 255 ∧ f32.qmin = -149 ∧ f32.width = 32 := by
  decide

theorem qOf_f32 (m : Nat) (e : Int) : qOf f32 m e = Max.max (e + (bitLen m : Int) - 24) (-149) := by
  obtain ⟨c1, c2, c3, c4, c5⟩ := f32_consts
  unfold qOf; rw [c1, c4]; rfl

theorem unpack_one : unpack f32 F32.one = .fin false 8388608 (-23) := by
  simp [unpack, F32.one, f32, Fmt.width, Fmt.emaxField, Fmt.bias]
theorem unpack_negOne : unpack f32 F32.negOne = .fin true 8388608 (-23) := by
  simp [unpack, F32.negOne, f32, Fmt.width, Fmt.emaxField, Fmt.bias]
theorem unpack_two : unpack f32 F32.two = .fin false 8388608 (-22) := by
  simp [unpack, F32.two, f32, Fmt.width, Fmt.emaxField, Fmt.bias]
theorem unpack_inf : unpack f32 0x7f800000 = .inf false := by rfl
theorem unpack_zero : unpack f32 0 = .fin false 0 (-149) := by
  simp [unpack, f32, Fmt.width, Fmt.emaxField, Fmt.qmin, Fmt.bias]

end Arroy.SF
