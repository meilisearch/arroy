import ArroyProofs.SoftFloatRound
/-! Bit-for-bit symmetry facts of the soft-float model (core Lean only):
`add`, `mul`, `fma` commute for all bit patterns (NaNs are canonicalised to `qnan`);
`a - b` and `b - a` differ at most in the sign bit, hence `(a-b)²` and `|a-b|` are symmetric;
`x - x = +0` for finite `x`. -/
namespace Arroy.SF

theorem exactAdd_comm (n1 : Bool) (m1 : Nat) (e1 : Int) (n2 : Bool) (m2 : Nat) (e2 : Int) :
    exactAdd n1 m1 e1 n2 m2 e2 = exactAdd n2 m2 e2 n1 m1 e1 := by
  unfold exactAdd
  simp only [Int.min_comm e1 e2]
  rw [Int.add_comm]

theorem addV_comm (f : Fmt) (x y : V) : addV f x y = addV f y x := by
  cases x with
  | nan => cases y <;> simp [addV]
  | inf a =>
    cases y with
    | nan => simp [addV]
    | inf b => cases a <;> cases b <;> simp [addV]
    | fin n m e => simp [addV]
  | fin n1 m1 e1 =>
    cases y with
    | nan => simp [addV]
    | inf b => simp [addV]
    | fin n2 m2 e2 =>
      simp only [addV]
      rw [exactAdd_comm n1 m1 e1 n2 m2 e2, Bool.and_comm n1 n2]

theorem add_comm (f : Fmt) (a b : Nat) : add f a b = add f b a := addV_comm f _ _

theorem mul_comm (f : Fmt) (a b : Nat) : mul f a b = mul f b a := by
  unfold mul
  cases unpack f a with
  | nan => cases unpack f b <;> rfl
  | inf s =>
    cases unpack f b with
    | nan => rfl
    | inf t => simp only [bne_comm (a := s) (b := t)]
    | fin t m e => simp only [bne_comm (a := s) (b := t)]
  | fin s m1 e1 =>
    cases unpack f b with
    | nan => rfl
    | inf t => simp only [bne_comm (a := s) (b := t)]
    | fin t m2 e2 => simp only [bne_comm (a := s) (b := t), Nat.mul_comm m1 m2, Int.add_comm e1 e2]

theorem fma_comm (f : Fmt) (a b c : Nat) : fma f a b c = fma f b a c := by
  unfold fma
  cases unpack f a with
  | nan => cases unpack f b <;> cases unpack f c <;> rfl
  | inf s =>
    cases unpack f b with
    | nan => cases unpack f c <;> rfl
    | inf t => cases unpack f c <;> simp only [bne_comm (a := s) (b := t)]
    | fin t m e => cases unpack f c <;> simp only [bne_comm (a := s) (b := t)]
  | fin s m1 e1 =>
    cases unpack f b with
    | nan => cases unpack f c <;> rfl
    | inf t => cases unpack f c <;> simp only [bne_comm (a := s) (b := t)]
    | fin t m2 e2 =>
      cases unpack f c <;> simp only [bne_comm (a := s) (b := t), Nat.mul_comm m1 m2, Int.add_comm e1 e2]

/-- weight of the sign bit -/
def signW (f : Fmt) : Nat := 2^(f.width - 1)

theorem signW_eq (f : Fmt) (hp : 1 ≤ f.p) : signW f = 2^(f.p - 1) * 2^f.ebits := by
  unfold signW Fmt.width
  rw [← Nat.pow_add]; congr 1; omega

theorem packBits_fields (f : Fmt) (hp : 1 ≤ f.p) (neg : Bool) (ex frac : Nat)
    (hex : ex < 2 ^ f.ebits) (hf : frac < 2 ^ (f.p - 1)) :
    packBits f neg ex frac % 2 ^ (f.p - 1) = frac
    ∧ packBits f neg ex frac / 2 ^ (f.p - 1) % 2 ^ f.ebits = ex
    ∧ (packBits f neg ex frac / 2 ^ (f.width - 1) % 2 == 1) = neg := by
  have hW := signW_eq f hp
  unfold signW at hW
  unfold packBits
  rw [hW]
  have hlt : ex * 2 ^ (f.p - 1) + frac < 2 ^ (f.p - 1) * 2 ^ f.ebits := by
    have := Nat.mul_le_mul_right (2 ^ (f.p - 1)) (Nat.succ_le_of_lt hex)
    rw [Nat.succ_mul, Nat.mul_comm (2 ^ f.ebits)] at this
    omega
  generalize 2 ^ (f.p - 1) = P at *
  generalize 2 ^ f.ebits = E at *
  have hP : 0 < P := by omega
  have hPE : 0 < P * E := Nat.lt_of_le_of_lt (Nat.zero_le _) hlt
  cases neg
  · simp only [Bool.false_eq_true, if_false, Nat.zero_add]
    obtain ⟨q1, r1⟩ := (Nat.div_mod_unique hP).2 ⟨show frac + P * ex = ex * P + frac by rw [Nat.mul_comm]; omega, hf⟩
    rw [q1, r1, Nat.mod_eq_of_lt hex, Nat.div_eq_of_lt hlt]
    exact ⟨rfl, rfl, rfl⟩
  · simp only [if_true]
    obtain ⟨q1, r1⟩ := (Nat.div_mod_unique hP).2
      ⟨show frac + P * (E + ex) = P * E + ex * P + frac by rw [Nat.mul_add, Nat.mul_comm P ex]; omega, hf⟩
    obtain ⟨q2, -⟩ := (Nat.div_mod_unique hPE).2
      ⟨show ex * P + frac + P * E * 1 = P * E + ex * P + frac by omega, hlt⟩
    rw [q1, r1, q2, Nat.add_mod_left, Nat.mod_eq_of_lt hex]
    exact ⟨rfl, rfl, rfl⟩

theorem unpack_packBits (f : Fmt) (hp : 1 ≤ f.p) (neg : Bool) (ex frac : Nat)
    (hex : ex < 2 ^ f.ebits) (hf : frac < 2 ^ (f.p - 1)) :
    unpack f (packBits f neg ex frac) =
      if ex = f.emaxField then (if frac = 0 then .inf neg else .nan)
      else if ex = 0 then .fin neg frac f.qmin
      else .fin neg (frac + 2 ^ (f.p - 1)) ((ex : Int) - (f.bias : Int) - ((f.p : Int) - 1)) := by
  obtain ⟨a1, a2, a3⟩ := packBits_fields f hp neg ex frac hex hf
  unfold unpack
  simp only [a1, a2, a3, beq_iff_eq]
theorem unpack_flip (f : Fmt) (a b : Nat)
    (h1 : b % 2^(f.p - 1) = a % 2^(f.p - 1))
    (h2 : b / 2^(f.p - 1) % 2^f.ebits = a / 2^(f.p - 1) % 2^f.ebits)
    (h3 : (b / 2^(f.width - 1) % 2 == 1) = !(a / 2^(f.width - 1) % 2 == 1)) :
    unpack f b = negV (unpack f a) := by
  unfold unpack
  simp only [h1, h2, h3]
  split
  · split <;> simp [negV]
  · split <;> simp [negV]

/-- adding the weight of the sign bit flips the sign and nothing else (for every natural number,
also those with bits above the format's width, which `unpack` ignores) -/
theorem unpack_add_signW (f : Fmt) (hp : 1 ≤ f.p) (a : Nat) :
    unpack f (a + signW f) = negV (unpack f a) := by
  apply unpack_flip
  · rw [signW_eq f hp, Nat.add_mul_mod_self_left]
  · rw [signW_eq f hp, Nat.add_mul_div_left _ _ (Nat.two_pow_pos _), Nat.add_mod_right]
  · show ((a + 2^(f.width - 1)) / 2^(f.width - 1) % 2 == 1) = _
    rw [Nat.add_div_right _ (Nat.two_pow_pos _)]
    have : a / 2^(f.width - 1) % 2 = 0 ∨ a / 2^(f.width - 1) % 2 = 1 := by omega
    rcases this with h | h
    · have : (a / 2^(f.width - 1) + 1) % 2 = 1 := by omega
      simp [h, this]
    · have : (a / 2^(f.width - 1) + 1) % 2 = 0 := by omega
      simp [h, this]

theorem negV_negV (x : V) : negV (negV x) = x := by cases x <;> simp [negV]

theorem unpack_neg (f : Fmt) (hp : 1 ≤ f.p) (a : Nat) : unpack f (neg f a) = negV (unpack f a) := by
  unfold neg
  split
  · rename_i h
    have hge : signW f ≤ a := by
      apply Nat.le_of_not_lt
      intro hlt
      rw [show a / 2 ^ (f.width - 1) = 0 from Nat.div_eq_of_lt hlt] at h
      exact absurd h (by decide)
    have := unpack_add_signW f hp (a - signW f)
    rw [Nat.sub_add_cancel hge] at this
    rw [this, negV_negV]; rfl
  · exact unpack_add_signW f hp a

/-- two bit patterns that are equal or differ exactly by the sign bit -/
def NegRel (f : Fmt) (r r' : Nat) : Prop := r' = r ∨ r' = r + signW f ∨ r = r' + signW f

theorem NegRel.unpack {f : Fmt} (hp : 1 ≤ f.p) {r r' : Nat} (h : NegRel f r r') :
    unpack f r' = unpack f r ∨ unpack f r' = negV (unpack f r) := by
  rcases h with h | h | h
  · left; rw [h]
  · right; rw [h, unpack_add_signW f hp]
  · right; rw [h, unpack_add_signW f hp, negV_negV]

theorem packBits_true (f : Fmt) (ex frac : Nat) :
    packBits f true ex frac = packBits f false ex frac + signW f := by
  simp only [packBits, signW, if_true, Bool.false_eq_true, if_false]; omega

theorem NegRel.packBits (f : Fmt) (n n' : Bool) (ex frac : Nat) :
    NegRel f (packBits f n ex frac) (packBits f n' ex frac) := by
  cases n <;> cases n'
  · exact Or.inl rfl
  · exact Or.inr (Or.inl (packBits_true f ex frac))
  · exact Or.inr (Or.inr (packBits_true f ex frac))
  · exact Or.inl rfl

theorem finish_shape (f : Fmt) (mant : Nat) (q : Int) :
    ∃ ex frac, ∀ neg, finish f neg mant q = packBits f neg ex frac := by
  unfold finish infBits
  split
  · exact ⟨_, _, fun _ => rfl⟩
  · split <;> exact ⟨_, _, fun _ => rfl⟩

/-- the sign of `roundPack` is the sign handed in; exponent and fraction do not depend on it -/
theorem roundPack_shape (f : Fmt) (m : Nat) (e : Int) (sticky : Bool) :
    ∃ ex frac, ∀ neg, roundPack f neg m e sticky = packBits f neg ex frac := by
  simp only [roundPack_eq']
  unfold roundPack'
  split
  · exact ⟨_, _, fun _ => rfl⟩
  · exact finish_shape f _ _

theorem NegRel.roundPack (f : Fmt) (n n' : Bool) (m : Nat) (e : Int) (sticky : Bool) :
    NegRel f (roundPack f n m e sticky) (roundPack f n' m e sticky) := by
  obtain ⟨ex, frac, h⟩ := roundPack_shape f m e sticky
  rw [h n, h n']; exact NegRel.packBits f n n' ex frac

theorem NegRel.infBits (f : Fmt) (n n' : Bool) : NegRel f (infBits f n) (infBits f n') :=
  NegRel.packBits f n n' _ _

theorem NegRel.refl (f : Fmt) (r : Nat) : NegRel f r r := Or.inl rfl

theorem exactAdd_swap (n1 : Bool) (m1 : Nat) (e1 : Int) (n2 : Bool) (m2 : Nat) (e2 : Int) :
    ∃ (s : Int) (e : Int),
      exactAdd n1 m1 e1 (!n2) m2 e2 = (decide (s < 0), s.natAbs, e) ∧
      exactAdd n2 m2 e2 (!n1) m1 e1 = (decide (-s < 0), s.natAbs, e) := by
  unfold exactAdd
  refine ⟨_, _, rfl, ?_⟩
  simp only [Int.min_comm e2 e1]
  have key : ∀ a b : Int, ((if n2 = true then -b else b) + if (!n1) = true then -a else a)
       = -((if n1 = true then -a else a) + if (!n2) = true then -b else b) := by
    intro a b; cases n1 <;> cases n2 <;> simp <;> omega
  rw [key, Int.natAbs_neg]

/-- `b - a` is `a - b` with at most the sign bit changed (both NaN, or equal zeros, or negations) -/
theorem sub_swap (f : Fmt) (a b : Nat) : NegRel f (sub f a b) (sub f b a) := by
  unfold sub
  cases unpack f a with
  | nan => cases unpack f b <;> exact NegRel.refl _ _
  | inf s =>
    cases unpack f b with
    | nan => exact NegRel.refl _ _
    | inf t =>
      cases s <;> cases t <;> simp only [addV, negV] <;>
        first | exact NegRel.refl _ _ | exact NegRel.infBits f _ _
    | fin t m e => exact NegRel.infBits f _ _
  | fin s m1 e1 =>
    cases unpack f b with
    | nan => exact NegRel.refl _ _
    | inf t => exact NegRel.infBits f _ _
    | fin t m2 e2 =>
      simp only [addV, negV]
      obtain ⟨z, e, h1, h2⟩ := exactAdd_swap s m1 e1 t m2 e2
      rw [h1, h2]
      simp only
      split
      · exact NegRel.packBits f _ _ 0 0
      · exact NegRel.roundPack f _ _ _ _ _

theorem mul_self_negRel (f : Fmt) (hp : 1 ≤ f.p) {r r' : Nat} (h : NegRel f r r') :
    mul f r r = mul f r' r' := by
  unfold mul
  rcases h.unpack hp with h | h <;> rw [h]
  cases unpack f r <;> simp [negV]

theorem fma_self_negRel (f : Fmt) (hp : 1 ≤ f.p) {r r' : Nat} (h : NegRel f r r') (c : Nat) :
    fma f r r c = fma f r' r' c := by
  unfold fma
  rcases h.unpack hp with h | h <;> rw [h]
  cases unpack f r <;> cases unpack f c <;> simp [negV]

theorem abs_negRel (f : Fmt) {r r' : Nat} (h : NegRel f r r') : abs f r = abs f r' := by
  unfold abs
  rcases h with h | h | h
  · rw [h]
  · rw [h]; exact (Nat.add_mod_right _ _).symm
  · rw [h]; exact Nat.add_mod_right _ _

theorem sub_sq_symm (f : Fmt) (hp : 1 ≤ f.p) (a b : Nat) :
    mul f (sub f a b) (sub f a b) = mul f (sub f b a) (sub f b a) :=
  mul_self_negRel f hp (sub_swap f a b)

theorem sub_fma_symm (f : Fmt) (hp : 1 ≤ f.p) (a b c : Nat) :
    fma f (sub f a b) (sub f a b) c = fma f (sub f b a) (sub f b a) c :=
  fma_self_negRel f hp (sub_swap f a b) c

theorem sub_abs_symm (f : Fmt) (a b : Nat) : abs f (sub f a b) = abs f (sub f b a) :=
  abs_negRel f (sub_swap f a b)

/-- neither NaN nor infinite -/
def isFin (f : Fmt) (a : Nat) : Bool := match unpack f a with | .fin _ _ _ => true | _ => false

theorem isFin_iff (f : Fmt) (a : Nat) :
    isFin f a = (a / 2^(f.p - 1) % 2^f.ebits != f.emaxField) := by
  unfold isFin unpack
  simp only [bne]
  cases (a / 2^(f.p - 1) % 2^f.ebits == f.emaxField)
  · simp only [Bool.false_eq_true, if_false, Bool.not_false]
    cases (a / 2^(f.p - 1) % 2^f.ebits == 0) <;> rfl
  · simp only [if_true, Bool.not_true]
    cases (a % 2^(f.p - 1) == 0) <;> rfl

theorem exactAdd_self (n : Bool) (m : Nat) (e : Int) : exactAdd n m e (!n) m e = (false, 0, e) := by
  unfold exactAdd
  have key : ∀ a : Int, ((if n = true then -a else a) + if (!n) = true then -a else a) = 0 := by
    intro a; cases n <;> simp <;> omega
  simp only [key]
  simp

theorem sub_self (f : Fmt) (a : Nat) (h : isFin f a = true) : sub f a a = 0 := by
  unfold sub
  unfold isFin at h
  cases hx : unpack f a with
  | nan => simp [hx] at h
  | inf s => simp [hx] at h
  | fin n m e =>
    simp only [addV, negV, exactAdd_self]
    cases n <;> simp [packBits]

end Arroy.SF
