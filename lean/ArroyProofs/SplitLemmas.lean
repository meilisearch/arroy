import ArroyModel.Tree
import ArroyProofs.SetLemmas
/-! `randomSplit` / `sideSplit` partition their input into two sublists; `sideSplit` sends every
item with a decisive margin to the side of its margin. -/
namespace Arroy
open IdSet

/-- what a partition into two sublists gives -/
structure Partition (ins left right : List Nat) : Prop where
  perm : (left ++ right).Perm ins
  subl : left.Sublist ins
  subr : right.Sublist ins

theorem Partition.mem {ins left right : List Nat} (p : Partition ins left right) (x : Nat) :
    x ∈ ins ↔ x ∈ left ∨ x ∈ right := by
  rw [← p.perm.mem_iff, List.mem_append]

theorem Partition.sortedl {ins left right : List Nat} (p : Partition ins left right) (h : Sorted ins) :
    Sorted left := h.sublist p.subl

theorem Partition.sortedr {ins left right : List Nat} (p : Partition ins left right) (h : Sorted ins) :
    Sorted right := h.sublist p.subr

theorem Partition.disjoint {ins left right : List Nat} (p : Partition ins left right) (h : ins.Nodup) :
    ∀ x ∈ left, x ∉ right := by
  have := (p.perm.nodup_iff).2 h
  rw [List.nodup_append] at this
  intro x hl hr
  exact this.2.2 x hl x hr rfl

theorem Partition.length {ins left right : List Nat} (p : Partition ins left right) :
    left.length + right.length = ins.length := by
  rw [← p.perm.length_eq, List.length_append]

theorem Partition.nil : Partition [] [] [] := ⟨List.Perm.refl _, List.Sublist.refl _, List.Sublist.refl _⟩

theorem Partition.consl {ins left right : List Nat} (p : Partition ins left right) (x : Nat) :
    Partition (x :: ins) (x :: left) right :=
  ⟨List.Perm.cons x p.perm, p.subl.cons_cons x, p.subr.cons x⟩

theorem Partition.consr {ins left right : List Nat} (p : Partition ins left right) (x : Nat) :
    Partition (x :: ins) left (x :: right) :=
  ⟨List.perm_middle.trans (List.Perm.cons x p.perm), p.subl.cons x, p.subr.cons_cons x⟩

theorem randomSplit_spec {xs : List Nat} {rs : List Bool} {l r : List Nat} {rs' : List Bool}
    (h : randomSplit xs rs = some (l, r, rs')) : Partition xs l r := by
  induction xs generalizing rs l r rs' with
  | nil =>
    simp only [randomSplit, Option.some.injEq, Prod.mk.injEq] at h
    obtain ⟨rfl, rfl, _⟩ := h
    exact .nil
  | cons x xs ih =>
    cases rs with
    | nil => simp [randomSplit] at h
    | cons b rs =>
      simp only [randomSplit] at h
      split at h
      · rename_i l0 r0 rs0 h0
        split at h <;> simp only [Option.some.injEq, Prod.mk.injEq] at h <;> obtain ⟨rfl, rfl, _⟩ := h
        · exact (ih h0).consl x
        · exact (ih h0).consr x
      · cases h

/-- `sideSplit` partitions, and no item with a decisive margin ends up on the other side -/
structure SideSplit (cx : TreeCtx) (n xs l r : List Nat) : Prop extends Partition xs l r where
  left : ∀ x ∈ l, cx.side n x ≠ some (some true)
  right : ∀ x ∈ r, cx.side n x ≠ some (some false)

theorem SideSplit.consl {cx : TreeCtx} {n xs l r : List Nat} (p : SideSplit cx n xs l r) {x : Nat}
    (hx : cx.side n x ≠ some (some true)) : SideSplit cx n (x :: xs) (x :: l) r :=
  ⟨p.toPartition.consl x, List.forall_mem_cons.2 ⟨hx, p.left⟩, p.right⟩

theorem SideSplit.consr {cx : TreeCtx} {n xs l r : List Nat} (p : SideSplit cx n xs l r) {x : Nat}
    (hx : cx.side n x ≠ some (some false)) : SideSplit cx n (x :: xs) l (x :: r) :=
  ⟨p.toPartition.consr x, p.left, List.forall_mem_cons.2 ⟨hx, p.right⟩⟩

theorem sideSplit_spec {cx : TreeCtx} {n : List Nat} {xs : List Nat} {rs : List Bool}
    {l r : List Nat} {rs' : List Bool} (h : sideSplit cx n xs rs = .ok (l, r, rs')) : SideSplit cx n xs l r := by
  induction xs generalizing rs l r rs' with
  | nil =>
    simp only [sideSplit, Except.ok.injEq, Prod.mk.injEq] at h
    obtain ⟨rfl, rfl, _⟩ := h
    exact ⟨.nil, fun _ h => (nomatch h), fun _ h => (nomatch h)⟩
  | cons x xs ih =>
    simp only [sideSplit] at h
    split at h
    · cases h
    · -- a decisive margin: the item goes to its side
      rename_i right hside
      split at h
      · rename_i l0 r0 rs0 h0
        split at h <;> simp only [Except.ok.injEq, Prod.mk.injEq] at h <;> obtain ⟨rfl, rfl, _⟩ := h
        · exact (ih h0).consr (by simp_all)
        · exact (ih h0).consl (by simp_all)
      · cases h
    · -- undecided: the oracle chooses, either side is allowed
      rename_i hside
      split at h
      · cases h
      · rename_i b rs1
        split at h
        · rename_i l0 r0 rs0 h0
          split at h <;> simp only [Except.ok.injEq, Prod.mk.injEq] at h <;> obtain ⟨rfl, rfl, _⟩ := h
          · exact (ih h0).consl (by simp [hside])
          · exact (ih h0).consr (by simp [hside])
        · cases h

/-- the split step of `insert_items_in_file` on a split node with normal `n` -/
def Split (cx : TreeCtx) (n : List Nat) (ins : List Nat) (rs : List Bool)
    (left right : List Nat) (rs1 : List Bool) : Prop :=
  if cx.isZero n then randomSplit ins rs = some (left, right, rs1)
  else sideSplit cx n ins rs = .ok (left, right, rs1)

theorem split_partition {cx : TreeCtx} {n ins : List Nat} {rs : List Bool} {left right : List Nat}
    {rs1 : List Bool} (h : Split cx n ins rs left right rs1) : Partition ins left right := by
  unfold Split at h
  split at h
  · exact randomSplit_spec h
  · exact (sideSplit_spec h).toPartition

theorem split_routed {cx : TreeCtx} {n ins : List Nat} {rs : List Bool} {left right : List Nat}
    {rs1 : List Bool} (h : Split cx n ins rs left right rs1) (hz : cx.isZero n = false) :
    (∀ x ∈ left, cx.side n x ≠ some (some true)) ∧ (∀ x ∈ right, cx.side n x ≠ some (some false)) := by
  unfold Split at h
  rw [if_neg (by simp [hz])] at h
  exact ⟨(sideSplit_spec h).left, (sideSplit_spec h).right⟩

end Arroy
