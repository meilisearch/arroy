import ArroyModel.Split
import ArroyProofs.BQLemmas
/-! Value-free facts about the split search (`ArroyModel/Split.lean`): the two-means loop keeps the
length of its two centroids and looks at no more than `twoMeansIterations` draws; on two or more draws
`createSplit` is `finish` of the two centroids (`createSplit_cons2`); the length of what `finish` returns.
Nothing here looks at a float value: NaN, infinities and zeros are just bit patterns. -/
namespace Arroy
namespace Split
open Generated

theorem normalize_vec_length (w : Work) (h : Host) (l : MLeaf) :
    (normalize w h l).vec.length = l.vec.length := by
  unfold normalize
  simp only
  split
  · simp
  · rfl

theorem init_vec (w : Work) (h : Host) (l : MLeaf) : (init w h l).vec = l.vec := by
  cases w <;> rfl

theorem updateMean_vec_length (mean k : MLeaf) (nrm c : Nat) :
    (updateMean mean k nrm c).vec.length = min mean.vec.length k.vec.length := by
  simp [updateMean]

theorem step_length {d : Nat} (w : Work) (h : Host) (cosine : Bool) (s : TM) (k : MLeaf)
    (hp : s.p.vec.length = d) (hq : s.q.vec.length = d) (hk : k.vec.length = d) :
    (step w h cosine s k).p.vec.length = d ∧ (step w h cosine s k).q.vec.length = d := by
  unfold step
  simp only
  generalize (if cosine = true then norm w h k else F32.one) = nrm
  split
  · exact ⟨hp, hq⟩
  · split
    · refine ⟨?_, hq⟩
      show (init w h (updateMean s.p k nrm s.ic)).vec.length = d
      rw [init_vec, updateMean_vec_length, hp, hk, Nat.min_self]
    · split
      · refine ⟨hp, ?_⟩
        show (init w h (updateMean s.q k nrm s.jc)).vec.length = d
        rw [init_vec, updateMean_vec_length, hq, hk, Nat.min_self]
      · exact ⟨hp, hq⟩

theorem foldl_step_length {d : Nat} (w : Work) (h : Host) (cosine : Bool) (ks : List MLeaf) :
    ∀ (s : TM), s.p.vec.length = d → s.q.vec.length = d → (∀ k ∈ ks, k.vec.length = d) →
      (ks.foldl (step w h cosine) s).p.vec.length = d ∧ (ks.foldl (step w h cosine) s).q.vec.length = d := by
  induction ks with
  | nil => intro s hp hq _; exact ⟨hp, hq⟩
  | cons k ks ih =>
    intro s hp hq hk
    simp only [List.foldl_cons]
    obtain ⟨h1, h2⟩ := step_length w h cosine s k hp hq (hk k (by simp))
    exact ih _ h1 h2 (fun k' hk' => hk k' (List.mem_cons_of_mem _ hk'))

theorem twoMeans_length {d : Nat} (w : Work) (h : Host) (cosine : Bool) (p q : MLeaf) (ks : List MLeaf)
    (hp : p.vec.length = d) (hq : q.vec.length = d) (hk : ∀ k ∈ ks, k.vec.length = d) :
    (twoMeans w h cosine p q ks).1.vec.length = d ∧ (twoMeans w h cosine p q ks).2.vec.length = d := by
  unfold twoMeans
  simp only
  apply foldl_step_length
  · simp only [init_vec]; split
    · rw [normalize_vec_length, hp]
    · exact hp
  · simp only [init_vec]; split
    · rw [normalize_vec_length, hq]
    · exact hq
  · intro k hk'
    exact hk k (List.mem_of_mem_take hk')

theorem twoMeans_take (w : Work) (h : Host) (cosine : Bool) (p q : MLeaf) (ks : List MLeaf) :
    twoMeans w h cosine p q (ks.take twoMeansIterations) = twoMeans w h cosine p q ks := by
  unfold twoMeans
  simp only [List.take_take, Nat.min_self]

/-- the vector `create_split` returns from the two centroids -/
def finish (m : Metric) (h : Host) (pq : MLeaf × MLeaf) : List Nat :=
  let v := List.zipWith F32.sub pq.1.vec pq.2.vec
  if m.isBq then
    let b := BQ.pack v
    let n := bqNorm m b
    if F32.gt n F32.zero then BQ.pack ((BQ.unpack b).map (fun x => F32.div x n)) else b
  else
    (normalize m.work h { vec := v, extra := F32.sub pq.1.extra pq.2.extra }).vec

theorem createSplit_cons2 (m : Metric) (h : Host) (a b : List Nat × List Nat) (rest : List (List Nat × List Nat)) :
    createSplit m h (a :: b :: rest) =
      some (finish m h (twoMeans m.work h m.cosineFlag (ofStored m h a.1 a.2) (ofStored m h b.1 b.2)
        (rest.map fun hv => ofStored m h hv.1 hv.2))) := by
  unfold createSplit finish
  simp only [List.map_cons]
  split <;> rfl

theorem createSplit_nil (m : Metric) (h : Host) : createSplit m h [] = none := rfl
theorem createSplit_one (m : Metric) (h : Host) (a : List Nat × List Nat) : createSplit m h [a] = none := rfl

theorem ofStored_vec_f32 (m : Metric) (h : Host) (hdr vec : List Nat) (hm : m.isBq = false) :
    (ofStored m h hdr vec).vec = vec := by
  simp [ofStored, hm]

theorem ofStored_vec_bq (m : Metric) (h : Host) (hdr vec : List Nat) (hm : m.isBq = true) :
    (ofStored m h hdr vec).vec = BQ.unpack vec := by
  simp [ofStored, hm]

theorem unpack_length (ws : List Nat) : (BQ.unpack ws).length = quantizedWordBits * ws.length := by
  induction ws with
  | nil => rfl
  | cons w ws ih =>
    rw [BQL.unpack_cons, List.length_append, BQL.unpackWord_length, ih, List.length_cons]
    simp only [quantizedWordBits]; omega

theorem pack_length_words (xs : List Nat) (w : Nat) (hx : xs.length = quantizedWordBits * w) :
    (BQ.pack xs).length = w := by
  rw [BQL.pack_length, hx]
  simp only [quantizedWordBits]; omega

theorem finish_length_f32 {d : Nat} (m : Metric) (h : Host) (pq : MLeaf × MLeaf) (hm : m.isBq = false)
    (hp : pq.1.vec.length = d) (hq : pq.2.vec.length = d) : (finish m h pq).length = d := by
  unfold finish
  simp only [hm, Bool.false_eq_true, if_false]
  rw [normalize_vec_length]
  simp [hp, hq]

theorem finish_length_bq {w : Nat} (m : Metric) (h : Host) (pq : MLeaf × MLeaf) (hm : m.isBq = true)
    (hp : pq.1.vec.length = quantizedWordBits * w) (hq : pq.2.vec.length = quantizedWordBits * w) :
    (finish m h pq).length = w := by
  unfold finish
  simp only [hm, if_true]
  have hb : (BQ.pack (List.zipWith F32.sub pq.1.vec pq.2.vec)).length = w :=
    pack_length_words _ w (by simp [hp, hq])
  split
  · apply pack_length_words
    rw [List.length_map, unpack_length, hb]
  · exact hb

/-- an answer of `createSplit` is `finish` of the two centroids found from the first two draws and the rest -/
theorem createSplit_eq_some {m : Metric} {h : Host} {drawn : List (List Nat × List Nat)} {n : List Nat}
    (hn : createSplit m h drawn = some n) :
    ∃ a b rest, drawn = a :: b :: rest ∧
      n = finish m h (twoMeans m.work h m.cosineFlag (ofStored m h a.1 a.2) (ofStored m h b.1 b.2)
        (rest.map fun hv => ofStored m h hv.1 hv.2)) := by
  match drawn, hn with
  | [], hn => cases hn
  | [a], hn => cases hn
  | a :: b :: rest, hn =>
    rw [createSplit_cons2] at hn
    cases hn
    exact ⟨a, b, rest, rfl, rfl⟩

/-- the two centroids have the length `L` of the working vectors of the draws -/
theorem twoMeans_stored_length {L : Nat} (m : Metric) (h : Host) (a b : List Nat × List Nat)
    (rest : List (List Nat × List Nat))
    (hd : ∀ hv ∈ a :: b :: rest, (ofStored m h hv.1 hv.2).vec.length = L) :
    (twoMeans m.work h m.cosineFlag (ofStored m h a.1 a.2) (ofStored m h b.1 b.2)
        (rest.map fun hv => ofStored m h hv.1 hv.2)).1.vec.length = L ∧
    (twoMeans m.work h m.cosineFlag (ofStored m h a.1 a.2) (ofStored m h b.1 b.2)
        (rest.map fun hv => ofStored m h hv.1 hv.2)).2.vec.length = L := by
  apply twoMeans_length
  · exact hd a List.mem_cons_self
  · exact hd b (List.mem_cons_of_mem _ List.mem_cons_self)
  · intro k hk
    obtain ⟨hv, hmem, rfl⟩ := List.mem_map.1 hk
    exact hd hv (List.mem_cons_of_mem _ (List.mem_cons_of_mem _ hmem))

end Split
end Arroy
