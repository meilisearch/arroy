import ArroyModel.Build
import ArroyProofs.Heap
import ArroyProofs.SetLemmas
import ArroyProofs.BuildM
/-! The write-back library: what `TmpNodes` staged (`to_delete`, then `to_insert`) applied to
the store, as a function (`applyStaged`), its pointwise description (`applyStaged_get`: removed ids are
gone, the last put wins, everything else is untouched), the adequacy criterion `Adequate` with the
`writeback` lemma, the way the tree routines establish it (`Adequate.of_cells`), and the link with
the monadic `Build.writeBack`. -/
namespace Arroy
open BuildM

def eraseAll (c : Cfg) (s : Store) (ids : List Nat) : Store :=
  ids.foldl (fun st id => st.erase (c.treeKey id)) s

def putAllMap (c : Cfg) (remap : Nat → Nat) (s : Store) (ps : List (Nat × Val)) : Store :=
  ps.foldl (fun st p => st.put (c.treeKey (remap p.1)) p.2) s

def putAll (c : Cfg) (s : Store) (ps : List (Nat × Val)) : Store :=
  ps.foldl (fun st p => st.put (c.treeKey p.1) p.2) s

theorem putAllMap_id (c : Cfg) (s : Store) (ps : List (Nat × Val)) : putAllMap c id s ps = putAll c s ps := rfl

/-- the effect of `TmpNodes` on the store: erase every removed id, then apply (in order) the puts whose
    id was not removed -/
def applyStaged (c : Cfg) (s : Store) (removed : List Nat) (puts : List (Nat × Val)) : Store :=
  putAll c (eraseAll c s removed) (puts.filter (fun p => !(removed.contains p.1)))

theorem get_eraseAll (c : Cfg) (s : Store) (ids : List Nat) (k : Key) :
    Store.get (eraseAll c s ids) k = if k ∈ ids.map c.treeKey then none else Store.get s k := by
  induction ids generalizing s with
  | nil => rfl
  | cons i ids ih =>
    show Store.get (eraseAll c (s.erase (c.treeKey i)) ids) k = _
    rw [ih]
    by_cases hk : k = c.treeKey i
    · subst hk; simp [Store.get_erase_same]
    · simp [hk, Store.get_erase_other _ _ _ hk]

theorem get_eraseAll_of_not (c : Cfg) (s : Store) (ids : List Nat) (k : Key)
    (h : ∀ i ∈ ids, k ≠ c.treeKey i) : Store.get (eraseAll c s ids) k = Store.get s k := by
  rw [get_eraseAll, if_neg]
  intro hm
  obtain ⟨i, hi, e⟩ := List.mem_map.1 hm
  exact h i hi e.symm

theorem get_eraseAll_treeKey (c : Cfg) (s : Store) (ids : List Nat) (i : Nat) :
    Store.get (eraseAll c s ids) (c.treeKey i) = if i ∈ ids then none else Store.get s (c.treeKey i) := by
  rw [get_eraseAll]
  simp only [List.mem_map, Cfg.treeKey_inj, exists_eq_right]

/-- last put wins -/
def lastPut (ps : List (Nat × Val)) (i : Nat) : Option Val :=
  (ps.reverse.find? (fun p => p.1 = i)).map (·.2)

theorem lastPut_nil (i : Nat) : lastPut [] i = none := rfl

theorem lastPut_append (a b : List (Nat × Val)) (i : Nat) :
    lastPut (a ++ b) i = (lastPut b i).or (lastPut a i) := by
  unfold lastPut
  rw [List.reverse_append, List.find?_append]
  cases List.find? (fun p => decide (p.1 = i)) b.reverse <;> simp

theorem lastPut_eq_none_iff (ps : List (Nat × Val)) (i : Nat) :
    lastPut ps i = none ↔ i ∉ ps.map (·.1) := by
  simp only [lastPut, Option.map_eq_none_iff, List.find?_eq_none, List.mem_reverse, List.mem_map,
    decide_eq_true_eq, not_exists, not_and]

theorem lastPut_none {ps : List (Nat × Val)} {i : Nat} (h : ∀ p ∈ ps, p.1 ≠ i) : lastPut ps i = none := by
  rw [lastPut_eq_none_iff, List.mem_map]
  rintro ⟨p, hp, e⟩
  exact h p hp e

theorem lastPut_single (i : Nat) (v : Val) : lastPut [(i, v)] i = some v := by
  simp [lastPut]

theorem lastPut_cons (p : Nat × Val) (ps : List (Nat × Val)) (i : Nat) :
    lastPut (p :: ps) i = (lastPut ps i).or (if p.1 = i then some p.2 else none) := by
  have : p :: ps = [p] ++ ps := rfl
  rw [this, lastPut_append]
  congr 1
  by_cases h : p.1 = i <;> simp [lastPut, h]

theorem mem_of_lastPut {ps : List (Nat × Val)} {i : Nat} {v : Val} (h : lastPut ps i = some v) : (i, v) ∈ ps := by
  unfold lastPut at h
  rw [Option.map_eq_some_iff] at h
  obtain ⟨p, hp, rfl⟩ := h
  have h1 := List.mem_of_find?_eq_some hp
  have h2 := List.find?_some hp
  simp only [decide_eq_true_eq] at h2
  subst h2
  exact List.mem_reverse.1 h1

theorem mem_of_lastPut_eq_some {ps : List (Nat × Val)} {i : Nat} {v : Val}
    (h : lastPut ps i = some v) : (i, v) ∈ ps := mem_of_lastPut h

theorem lastPut_filter (ps : List (Nat × Val)) (rm : List Nat) (i : Nat) (hi : i ∉ rm) :
    lastPut (ps.filter (fun p => !(rm.contains p.1))) i = lastPut ps i := by
  unfold lastPut
  rw [← List.filter_reverse]
  congr 1
  induction ps.reverse with
  | nil => rfl
  | cons p ps ih =>
    by_cases hr : p.1 ∈ rm
    · have hp : ¬ p.1 = i := fun e => hi (e ▸ hr)
      have hc : rm.contains p.1 = true := by simpa using hr
      rw [List.filter_cons]
      simp only [hc, Bool.not_true, Bool.false_eq_true, ↓reduceIte]
      rw [ih, List.find?_cons]
      simp [hp]
    · have hc : rm.contains p.1 = false := by simpa using hr
      rw [List.filter_cons]
      simp only [hc, Bool.not_false, ↓reduceIte]
      rw [List.find?_cons, List.find?_cons, ih]

theorem get_putAll_of_not (c : Cfg) (s : Store) (ps : List (Nat × Val)) (k : Key)
    (h : ∀ p ∈ ps, k ≠ c.treeKey p.1) : Store.get (putAll c s ps) k = Store.get s k := by
  induction ps generalizing s with
  | nil => rfl
  | cons p ps ih =>
    simp only [putAll, List.foldl_cons]
    have := ih (s.put (c.treeKey p.1) p.2) (fun q hq => h q (List.mem_cons_of_mem _ hq))
    simp only [putAll] at this
    rw [this, Store.get_put_other _ _ _ _ (h p (by simp))]

theorem get_putAll (c : Cfg) (s : Store) (ps : List (Nat × Val)) (i : Nat) :
    Store.get (putAll c s ps) (c.treeKey i) = (lastPut ps i).or (Store.get s (c.treeKey i)) := by
  induction ps generalizing s with
  | nil => simp [putAll, lastPut]
  | cons p ps ih =>
    simp only [putAll, List.foldl_cons]
    have := ih (s.put (c.treeKey p.1) p.2)
    simp only [putAll] at this
    rw [this, lastPut_cons]
    cases lastPut ps i with
    | some v => simp
    | none =>
      by_cases hpi : p.1 = i
      · subst hpi; simp [Store.get_put_same]
      · have : c.treeKey i ≠ c.treeKey p.1 := fun e => hpi (Cfg.treeKey_inj.1 e).symm
        simp [hpi, Store.get_put_other _ _ _ _ this]

/-- pointwise description of the staged writes on tree keys: removed ids are gone, otherwise the last
    put wins, otherwise the old content stays -/
theorem applyStaged_get (c : Cfg) (s : Store) (removed : List Nat) (puts : List (Nat × Val)) (i : Nat) :
    Store.get (applyStaged c s removed puts) (c.treeKey i) =
      if i ∈ removed then none else (lastPut puts i).or (Store.get s (c.treeKey i)) := by
  unfold applyStaged
  rw [get_putAll, get_eraseAll_treeKey]
  split
  · rename_i h
    rw [lastPut_none]
    · rfl
    · intro p hp e
      have := (List.mem_filter.1 hp).2
      simp [e, h] at this
  · rename_i h
    rw [lastPut_filter _ _ _ h]

/-- keys that are not tree keys of this index (items, metadata, other indexes) are untouched -/
theorem applyStaged_get_other (c : Cfg) (s : Store) (removed : List Nat) (puts : List (Nat × Val)) (k : Key)
    (h : ∀ i, k ≠ c.treeKey i) : Store.get (applyStaged c s removed puts) k = Store.get s k := by
  unfold applyStaged
  rw [get_putAll_of_not _ _ _ _ (fun p _ => h p.1), get_eraseAll_of_not _ _ _ _ (fun i _ => h i)]

theorem applyStaged_get_other' (c : Cfg) (s : Store) (removed : List Nat) (puts : List (Nat × Val)) (k : Key)
    (h : k.index ≠ c.index ∨ k.mode ≠ Generated.modeTree) :
    Store.get (applyStaged c s removed puts) k = Store.get s k := by
  apply applyStaged_get_other
  rintro i rfl
  simp [Cfg.treeKey, Key.mkTree] at h

/-- Adequacy of staged writes for producing tree `t'` from store `s`: every cell of `t'` is either
    freshly put (last, and not removed) or untouched and already there. -/
def Adequate (c : Cfg) (removed : List Nat) (puts : List (Nat × Val)) (s : Store) (t' : T) : Prop :=
  ∀ cell ∈ t'.cells, cell.1 ∉ removed ∧
    (lastPut puts cell.1 = some cell.2 ∨ (lastPut puts cell.1 = none ∧ s.get (c.treeKey cell.1) = some cell.2))

theorem writeback {c : Cfg} {removed : List Nat} {puts : List (Nat × Val)} {s : Store} {t' : T}
    (ad : Adequate c removed puts s t') : Holds c (applyStaged c s removed puts) t' := by
  intro cell hc
  obtain ⟨hnr, hput⟩ := ad cell hc
  rw [applyStaged_get, if_neg hnr]
  rcases hput with hp | ⟨hp, hh⟩
  · simp [hp]
  · simp [hp, hh]

/-- cells are functional in their id when the ids are distinct -/
theorem cells_functional {t : T} (hnd : t.ids.Nodup) {i : Nat} {v w : Val}
    (hv : (i, v) ∈ t.cells) (hw : (i, w) ∈ t.cells) : v = w := by
  rw [← cells_ids] at hnd
  generalize t.cells = cs at hnd hv hw
  induction cs with
  | nil => cases hv
  | cons c cs ih =>
    simp only [List.map_cons, List.nodup_cons, List.mem_map, not_exists, not_and] at hnd
    rcases List.mem_cons.1 hv with hv' | hv' <;> rcases List.mem_cons.1 hw with hw' | hw'
    · rw [← hv'] at hw'; cases hw'; rfl
    · subst hv'; exact absurd rfl (hnd.1 (i, w) hw')
    · subst hw'; exact absurd rfl (hnd.1 (i, v) hv')
    · exact ih hnd.2 hv' hw'

/-- how the tree routines establish adequacy: no id of `t'` is removed, every put at an id of `t'` is
    a cell of `t'`, and every cell of `t'` that is not put is already in the store -/
theorem Adequate.of_cells {c : Cfg} {rm : List Nat} {puts : List (Nat × Val)} {s : Store} {t' : T}
    (hnd : t'.ids.Nodup) (hrm : ∀ i ∈ rm, i ∉ t'.ids)
    (hputs : ∀ p ∈ puts, p.1 ∈ t'.ids → p ∈ t'.cells)
    (hold : ∀ cell ∈ t'.cells, cell.1 ∉ puts.map (·.1) → s.get (c.treeKey cell.1) = some cell.2) :
    Adequate c rm puts s t' := by
  intro cell hc
  have hid := mem_ids_of_mem_cells hc
  refine ⟨fun hm => hrm _ hm hid, ?_⟩
  cases hl : lastPut puts cell.1 with
  | none => exact Or.inr ⟨rfl, hold cell hc ((lastPut_eq_none_iff _ _).1 hl)⟩
  | some v =>
    left
    have hm := hputs _ (mem_of_lastPut hl) hid
    rw [cells_functional hnd hm (show (cell.1, cell.2) ∈ t'.cells from hc)]

theorem adequate_of_cells {c : Cfg} {puts : List (Nat × Val)} {s : Store} {t' : T}
    (hnd : t'.ids.Nodup) (hputs : ∀ p ∈ puts, p ∈ t'.cells)
    (hold : ∀ cell ∈ t'.cells, cell.1 ∉ puts.map (·.1) → s.get (c.treeKey cell.1) = some cell.2) :
    Adequate c [] puts s t' :=
  Adequate.of_cells hnd (fun _ h => nomatch h) (fun p hp _ => hputs p hp) hold

/-- several trees sharing one `TmpNodes`: the concatenated staged writes are adequate for each tree,
    provided every tree and its writes stay inside a territory `terr` of ids, and the territories are
    pairwise disjoint (`Adequate` only looks at the ids of the tree) -/
theorem Adequate.flatMap {α : Type} {c : Cfg} {s : Store} (terr rm : α → List Nat) (ps : α → List (Nat × Val))
    (tr : α → T) (l : List α) (hnd : (l.flatMap terr).Nodup)
    (htr : ∀ a ∈ l, ∀ i ∈ (tr a).ids, i ∈ terr a) (hps : ∀ a ∈ l, ∀ p ∈ ps a, p.1 ∈ terr a)
    (hrm : ∀ a ∈ l, ∀ i ∈ rm a, i ∈ terr a) (had : ∀ a ∈ l, Adequate c (rm a) (ps a) s (tr a)) :
    ∀ a ∈ l, Adequate c (l.flatMap rm) (l.flatMap ps) s (tr a) := by
  intro a ha cell hc
  obtain ⟨h1, h2⟩ := had a ha cell hc
  have hid : cell.1 ∈ terr a := htr a ha _ (mem_ids_of_mem_cells hc)
  obtain ⟨l₁, l₂, rfl⟩ := List.append_of_mem ha
  simp only [List.flatMap_append, List.flatMap_cons, List.nodup_append] at hnd
  obtain ⟨_, ⟨_, _, d2⟩, d1⟩ := hnd
  -- an id in the territory of another tree is not in the territory of `a`
  have other : ∀ b, b ∈ l₁ ∨ b ∈ l₂ → ∀ i ∈ terr b, i ≠ cell.1 := by
    rintro b (hb | hb) i hi e
    · exact d1 i (List.mem_flatMap.2 ⟨b, hb, hi⟩) _ (List.mem_append_left _ hid) e
    · exact d2 _ hid i (List.mem_flatMap.2 ⟨b, hb, hi⟩) e.symm
  have mem : ∀ b, b ∈ l₁ ∨ b ∈ l₂ → b ∈ l₁ ++ a :: l₂ := fun b hb =>
    List.mem_append.2 (hb.imp id (List.mem_cons_of_mem _))
  have noput : ∀ l' : List α, (∀ b ∈ l', b ∈ l₁ ∨ b ∈ l₂) → lastPut (l'.flatMap ps) cell.1 = none := by
    intro l' hl'
    apply lastPut_none
    intro p hp
    obtain ⟨b, hb, hpb⟩ := List.mem_flatMap.1 hp
    exact other b (hl' b hb) _ (hps b (mem b (hl' b hb)) p hpb)
  refine ⟨?_, ?_⟩
  · simp only [List.flatMap_append, List.flatMap_cons, List.mem_append, List.mem_flatMap]
    rintro (⟨b, hb, hi⟩ | hi | ⟨b, hb, hi⟩)
    · exact other b (Or.inl hb) _ (hrm b (mem b (Or.inl hb)) _ hi) rfl
    · exact h1 hi
    · exact other b (Or.inr hb) _ (hrm b (mem b (Or.inr hb)) _ hi) rfl
  · rw [List.flatMap_append, List.flatMap_cons, lastPut_append, lastPut_append,
      noput l₂ (fun _ h => Or.inr h), noput l₁ (fun _ h => Or.inl h), Option.none_or, Option.or_none]
    exact h2

theorem Adequate.frame {c : Cfg} {rm : List Nat} {ps : List (Nat × Val)} {s s' : Store} {t' : T}
    (ad : Adequate c rm ps s t')
    (agree : ∀ i ∈ t'.ids, Store.get s' (c.treeKey i) = Store.get s (c.treeKey i)) : Adequate c rm ps s' t' := by
  intro cell hc
  obtain ⟨h1, h2⟩ := ad cell hc
  refine ⟨h1, ?_⟩
  rw [agree _ (mem_ids_of_mem_cells hc)]
  exact h2

theorem forEach_poll_modify {α : Type} (f : α → Store → Store) (l : List α) {st st' : BState}
    (h : forEach l (fun x => bind' poll (fun _ => modifyStore (f x))) st = .ok ((), st')) :
    st' = { st with store := l.foldl (fun s x => f x s) st.store, polls := st.polls + l.length } := by
  induction l generalizing st with
  | nil => simp only [forEach, pure, pure'] at h; cases h; rfl
  | cons x xs ih =>
    obtain ⟨_, s1, hx, h⟩ := bind'_ok.1 h
    obtain ⟨_, s2, hp, hm⟩ := bind'_ok.1 hx
    cases hm
    rw [ih h, poll_ok hp]
    simp only [List.foldl_cons, List.length_cons, BState.mk.injEq, true_and, and_true]
    omega

theorem forEach_poll_modify_ok_of_none {α : Type} (f : α → Store → Store) (l : List α) {st : BState}
    (hc : st.cancelAt = none) :
    forEach l (fun x => bind' poll (fun _ => modifyStore (f x))) st =
      .ok ((), { st with store := l.foldl (fun s x => f x s) st.store, polls := st.polls + l.length }) := by
  induction l generalizing st with
  | nil => rfl
  | cons x xs ih =>
    simp only [forEach, bind', poll_ok_of_none hc, modifyStore]
    rw [ih (by exact hc)]
    simp only [List.foldl_cons, List.length_cons, Except.ok.injEq, Prod.mk.injEq, BState.mk.injEq, true_and, and_true]
    omega

theorem writeBack_eq (c : Cfg) (removed : List Nat) (puts : List (Nat × Val)) (remap : Nat → Nat) {st st' : BState}
    (h : Build.writeBack c removed puts remap st = .ok ((), st')) :
    st' = { st with
      store := putAllMap c remap (eraseAll c st.store (IdSet.ofList removed))
        (puts.filter (fun p => !(removed.contains p.1))),
      polls := st.polls + (IdSet.ofList removed).length + (puts.filter (fun p => !(removed.contains p.1))).length } := by
  obtain ⟨_, s1, h1, h2⟩ := bind_ok.1 h
  rw [forEach_poll_modify (fun (p : Nat × Val) st => st.put (c.treeKey (remap p.1)) p.2) _ h2,
    forEach_poll_modify (fun id st => st.erase (c.treeKey id)) _ h1]
  rfl

theorem applyStaged_nil (c : Cfg) (s : Store) (puts : List (Nat × Val)) : applyStaged c s [] puts = putAll c s puts := by
  simp only [applyStaged, eraseAll, List.foldl_nil, List.contains_nil, Bool.not_false]
  congr 1
  exact List.filter_eq_self.2 (fun _ _ => rfl)

theorem putAll_append (c : Cfg) (s : Store) (a b : List (Nat × Val)) :
    putAll c s (a ++ b) = putAll c (putAll c s a) b := by
  simp [putAll, List.foldl_append]

theorem putAllMap_eq_putAll (c : Cfg) (remap : Nat → Nat) (s : Store) (ps : List (Nat × Val)) :
    putAllMap c remap s ps = putAll c s (ps.map (fun p => (remap p.1, p.2))) := by
  simp only [putAllMap, putAll, List.foldl_map]

theorem writeBack_nil_store (c : Cfg) (puts : List (Nat × Val)) (remap : Nat → Nat) {st st' : BState}
    (h : Build.writeBack c [] puts remap st = .ok ((), st')) :
    st'.store = putAll c st.store (puts.map (fun p => (remap p.1, p.2))) := by
  rw [writeBack_eq c [] puts remap h]
  simp only [IdSet.ofList_eq_self IdSet.sorted_nil, eraseAll, List.foldl_nil, List.contains_nil, Bool.not_false]
  rw [List.filter_eq_self.2 (fun _ _ => rfl), putAllMap_eq_putAll]

theorem writeBack_ok_of_none (c : Cfg) (removed : List Nat) (puts : List (Nat × Val)) (remap : Nat → Nat) {st : BState}
    (hc : st.cancelAt = none) : ∃ st', Build.writeBack c removed puts remap st = .ok ((), st') := by
  unfold Build.writeBack
  simp only [bind, bind']
  rw [forEach_poll_modify_ok_of_none (fun id st => st.erase (c.treeKey id)) _ hc]
  simp only
  rw [forEach_poll_modify_ok_of_none (fun (p : Nat × Val) st => st.put (c.treeKey (remap p.1)) p.2) _ (by exact hc)]
  exact ⟨_, rfl⟩

theorem get_eraseAll_congr (c : Cfg) (s : Store) (a b : List Nat) (h : ∀ i, i ∈ a ↔ i ∈ b) (k : Key) :
    Store.get (eraseAll c s a) k = Store.get (eraseAll c s b) k := by
  rw [get_eraseAll, get_eraseAll]
  simp only [List.mem_map, h]

theorem get_putAll_congr (c : Cfg) (s s' : Store) (ps : List (Nat × Val)) (h : ∀ k, Store.get s k = Store.get s' k) (k : Key) :
    Store.get (putAll c s ps) k = Store.get (putAll c s' ps) k := by
  induction ps generalizing s s' with
  | nil => exact h k
  | cons p ps ih =>
    simp only [putAll, List.foldl_cons]
    apply ih
    intro k'
    by_cases hk : k' = c.treeKey p.1
    · subst hk; rw [Store.get_put_same, Store.get_put_same]
    · rw [Store.get_put_other _ _ _ _ hk, Store.get_put_other _ _ _ _ hk, h]

/-- `writeBack` computes `applyStaged` (the removals are sorted and deduplicated first: same lookups) -/
theorem writeBack_store (c : Cfg) (removed : List Nat) (puts : List (Nat × Val)) {st st' : BState}
    (h : Build.writeBack c removed puts id st = .ok ((), st')) :
    (∀ k, Store.get st'.store k = Store.get (applyStaged c st.store removed puts) k) ∧
    st'.polls = st.polls + (IdSet.ofList removed).length + (puts.filter (fun p => !(removed.contains p.1))).length ∧
    st'.cancelAt = st.cancelAt ∧ st'.normals = st.normals ∧ st'.rands = st.rands ∧ st'.batches = st.batches := by
  have e := writeBack_eq c removed puts id h
  subst e
  refine ⟨?_, rfl, rfl, rfl, rfl, rfl⟩
  intro k
  simp only [putAllMap_id, applyStaged]
  exact get_putAll_congr c _ _ _ (get_eraseAll_congr c _ _ _ (fun _ => IdSet.mem_ofList)) k

end Arroy
