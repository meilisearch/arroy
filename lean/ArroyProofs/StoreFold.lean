import ArroyProofs.StoreLaws
/-! Folds of `put` over a list of writes (`putAll`), `get` after such a fold, extensionality of sorted
stores, `get` after a key-preserving `map`. Used by C17 (upgrade) and C18 (metric change). -/
namespace Arroy
namespace Store

def putAll (acc : Store) (ws : List (Key × Val)) : Store := ws.foldl (fun s w => s.put w.1 w.2) acc

@[simp] theorem putAll_nil (acc : Store) : putAll acc [] = acc := rfl
@[simp] theorem putAll_cons (acc : Store) (w : Key × Val) (ws : List (Key × Val)) :
    putAll acc (w :: ws) = putAll (acc.put w.1 w.2) ws := rfl

theorem putAll_append (acc : Store) (a b : List (Key × Val)) :
    putAll acc (a ++ b) = putAll (putAll acc a) b := by
  unfold putAll; rw [List.foldl_append]

theorem foldl_putAll {α} (f : α → List (Key × Val)) (l : List α) (acc : Store) :
    l.foldl (fun acc x => putAll acc (f x)) acc = putAll acc (l.flatMap f) := by
  induction l generalizing acc with
  | nil => rfl
  | cons x rest ih => rw [List.foldl_cons, ih, List.flatMap_cons, putAll_append]

theorem putAll_sorted {acc : Store} (h : Sorted acc) (ws : List (Key × Val)) : Sorted (putAll acc ws) := by
  induction ws generalizing acc with
  | nil => exact h
  | cons w ws ih => exact ih (put_sorted h _ _)

theorem putAll_wf {acc : Store} (h : WF acc) {ws : List (Key × Val)} (hw : ∀ w ∈ ws, w.1.wf) :
    WF (putAll acc ws) := by
  induction ws generalizing acc with
  | nil => exact h
  | cons w ws ih =>
    exact ih (put_wf h (hw w (List.mem_cons_self ..)) _) (fun x hx => hw x (List.mem_cons_of_mem _ hx))

/-- writes to the same key agree on the value -/
def Functional (ws : List (Key × Val)) : Prop := ∀ a ∈ ws, ∀ b ∈ ws, a.1 = b.1 → a.2 = b.2

theorem Functional.tail {w : Key × Val} {ws : List (Key × Val)} (h : Functional (w :: ws)) : Functional ws :=
  fun a ha b hb => h a (List.mem_cons_of_mem _ ha) b (List.mem_cons_of_mem _ hb)

theorem get_putAll_of_not_mem (acc : Store) (ws : List (Key × Val)) (k : Key) (h : ∀ w ∈ ws, w.1 ≠ k) :
    Store.get (putAll acc ws) k = Store.get acc k := by
  induction ws generalizing acc with
  | nil => rfl
  | cons w ws ih =>
    rw [putAll_cons, ih _ (fun x hx => h x (List.mem_cons_of_mem _ hx)), get_put,
      if_neg (fun e => h w (List.mem_cons_self ..) e.symm)]

theorem snoc_induction {α : Type} {P : List α → Prop} (nil : P []) (snoc : ∀ l a, P l → P (l ++ [a])) :
    ∀ l, P l := by
  intro l
  rw [← List.reverse_reverse l]
  induction l.reverse with
  | nil => exact nil
  | cons a l ih => rw [List.reverse_cons]; exact snoc _ a ih

/-- the last write to a key decides (induction from the end of the list) -/
theorem get_putAll {ws : List (Key × Val)} (hf : Functional ws) (acc : Store) (k : Key) (v : Val) :
    Store.get (putAll acc ws) k = some v ↔
      (k, v) ∈ ws ∨ ((∀ w ∈ ws, w.1 ≠ k) ∧ Store.get acc k = some v) := by
  induction ws using snoc_induction with
  | nil => simp
  | snoc ws w ih =>
    have hf' : Functional ws :=
      fun a ha b hb => hf a (List.mem_append_left _ ha) b (List.mem_append_left _ hb)
    obtain ⟨kw, vw⟩ := w
    rw [putAll_append, putAll_cons, putAll_nil, get_put]
    by_cases hk : k = kw
    · subst hk
      rw [if_pos rfl]
      constructor
      · intro h; cases h; exact Or.inl (by simp)
      · rintro (h | ⟨hn, _⟩)
        · have := hf (k, v) h (k, vw) (by simp) rfl
          rw [show v = vw from this]
        · exact absurd rfl (hn (k, vw) (by simp))
    · rw [if_neg hk, ih hf']
      have hne : (k, v) ≠ (kw, vw) := fun e => hk (congrArg Prod.fst e)
      simp only [List.mem_append, List.mem_singleton, hne, or_false]
      constructor
      · rintro (h | ⟨hn, hg⟩)
        · exact Or.inl h
        · exact Or.inr ⟨fun x hx => hx.elim (hn x) (fun e => e ▸ Ne.symm hk), hg⟩
      · rintro (h | ⟨hn, hg⟩)
        · exact Or.inl h
        · exact Or.inr ⟨fun x hx => hn x (Or.inl hx), hg⟩

theorem get_putAll_nil {ws : List (Key × Val)} (hf : Functional ws) (k : Key) (v : Val) :
    Store.get (putAll [] ws) k = some v ↔ (k, v) ∈ ws := by
  rw [get_putAll hf]
  simp [get]

theorem get_none_of_head_lt {k : Key} {s : Store} (h : ∀ x ∈ s, k.lt x.1 = true) : Store.get s k = none := by
  rw [get_eq_none_iff]
  intro v hv
  have := h _ hv
  simp [Key.lt_irrefl] at this

theorem ext_of_sorted {a b : Store} (ha : Sorted a) (hb : Sorted b)
    (h : ∀ k, Store.get a k = Store.get b k) : a = b := by
  rw [sorted_iff_pairwise] at ha hb
  induction a generalizing b with
  | nil =>
    cases b with
    | nil => rfl
    | cons y b' =>
      have := h y.1
      simp [get] at this
  | cons x a' ih =>
    cases b with
    | nil =>
      have := h x.1
      simp [get] at this
    | cons y b' =>
      obtain ⟨kx, vx⟩ := x
      obtain ⟨ky, vy⟩ := y
      have ⟨hax, ha'⟩ := List.pairwise_cons.1 ha
      have ⟨hby, hb'⟩ := List.pairwise_cons.1 hb
      by_cases hk : kx = ky
      · subst hk
        have hv : vx = vy := by
          have := h kx
          simpa [get] using this
        subst hv
        congr 1
        apply ih ha' hb'
        intro k
        by_cases hkk : kx = k
        · subst hkk
          rw [get_none_of_head_lt (fun x hx => hax x hx), get_none_of_head_lt (fun x hx => hby x hx)]
        · have := h k
          simpa [get, hkk] using this
      · exfalso
        have h1 := h kx
        simp only [get, if_true, if_false, Ne.symm hk] at h1
        have h2 := h ky
        simp only [get, if_true, hk, if_false] at h2
        have m1 := hby _ (mem_of_get h1.symm)
        have m2 := hax _ (mem_of_get h2)
        simp only at m1 m2
        rw [Key.lt_asymm m1] at m2
        cases m2

theorem get_map_val (s : Store) (f : Key → Val → Val) (k : Key) :
    Store.get (s.map (fun kv => (kv.1, f kv.1 kv.2))) k = (Store.get s k).map (f k) := by
  induction s with
  | nil => rfl
  | cons kv rest ih =>
    obtain ⟨k0, v0⟩ := kv
    by_cases hk : k0 = k
    · subst hk; simp [get]
    · simp only [List.map_cons, get, hk, if_false, ih]

theorem map_val_sorted {s : Store} (hs : Sorted s) (f : Key → Val → Val) :
    Sorted (s.map (fun kv => (kv.1, f kv.1 kv.2))) := by
  rw [sorted_iff_pairwise] at *
  rw [List.pairwise_map]
  exact hs

theorem map_val_wf {s : Store} (hs : WF s) (f : Key → Val → Val) :
    WF (s.map (fun kv => (kv.1, f kv.1 kv.2))) := by
  intro x hx
  obtain ⟨y, hy, rfl⟩ := List.mem_map.1 hx
  exact hs y hy

def sortedB : Store → Bool
  | [] => true
  | [_] => true
  | a :: b :: rest => a.1.lt b.1 && sortedB (b :: rest)

theorem sortedB_iff (s : Store) : sortedB s = true ↔ Sorted s := by
  induction s with
  | nil => simp [sortedB, Sorted]
  | cons a rest ih =>
    cases rest with
    | nil => simp [sortedB, Sorted]
    | cons b rest' => simp only [sortedB, Sorted, Bool.and_eq_true, ih]

instance instDecidableSortedB (s : Store) : Decidable (Sorted s) := decidable_of_iff _ (sortedB_iff s)

end Store
end Arroy
