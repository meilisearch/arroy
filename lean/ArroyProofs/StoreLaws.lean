import ArroyProofs.StoreLemmas
import ArroyProofs.PrefixLemmas
import ArroyProofs.SetLemmas
/-! More laws of `Store`: `Key.lt` is a strict total order, `Sorted` / `WF` and their preservation,
`get` after deletes, `putAppend`, characterisation of prefixes, `keysOf`. -/
namespace Arroy

/-! ## `Key.lt` is a strict total order (on all keys, well-formed or not) -/
namespace Key

theorem lt_irrefl (a : Key) : a.lt a = false := by
  have := lt_iff a a
  cases h : a.lt a
  · rfl
  · rw [h] at this; have := this.1 rfl; omega

theorem lt_trans {a b c : Key} (h1 : a.lt b = true) (h2 : b.lt c = true) : a.lt c = true := by
  rw [lt_iff] at *
  rcases h1 with h1 | ⟨e1, h1⟩ <;> rcases h2 with h2 | ⟨e2, h2⟩
  · exact Or.inl (Nat.lt_trans h1 h2)
  · exact Or.inl (e2 ▸ h1)
  · exact Or.inl (e1 ▸ h2)
  · refine Or.inr ⟨e1.trans e2, ?_⟩
    rcases h1 with h1 | ⟨e1', h1⟩ <;> rcases h2 with h2 | ⟨e2', h2⟩
    · exact Or.inl (Nat.lt_trans h1 h2)
    · exact Or.inl (e2' ▸ h1)
    · exact Or.inl (e1' ▸ h2)
    · exact Or.inr ⟨e1'.trans e2', Nat.lt_trans h1 h2⟩

theorem lt_asymm {a b : Key} (h : a.lt b = true) : b.lt a = false := by
  cases h' : b.lt a
  · rfl
  · rw [lt_iff] at *; omega

theorem eq_of_fields {a b : Key} (h1 : a.index = b.index) (h2 : a.mode = b.mode) (h3 : a.item = b.item) :
    a = b := by
  cases a; cases b; simp_all

theorem ne_of_mode_ne {a b : Key} (h : a.mode ≠ b.mode) : a ≠ b := fun e => h (congrArg Key.mode e)

theorem lt_trichotomy (a b : Key) : a.lt b = true ∨ a = b ∨ b.lt a = true := by
  rw [lt_iff, lt_iff]
  rcases Nat.lt_trichotomy a.index b.index with h | h | h
  · exact Or.inl (Or.inl h)
  · rcases Nat.lt_trichotomy a.mode b.mode with h' | h' | h'
    · exact Or.inl (Or.inr ⟨h, Or.inl h'⟩)
    · rcases Nat.lt_trichotomy a.item b.item with h'' | h'' | h''
      · exact Or.inl (Or.inr ⟨h, Or.inr ⟨h', h''⟩⟩)
      · exact Or.inr (Or.inl (eq_of_fields h h' h''))
      · exact Or.inr (Or.inr (Or.inr ⟨h.symm, Or.inr ⟨h'.symm, h''⟩⟩))
    · exact Or.inr (Or.inr (Or.inr ⟨h.symm, Or.inl h'⟩))
  · exact Or.inr (Or.inr (Or.inl h))

theorem ne_of_lt {a b : Key} (h : a.lt b = true) : a ≠ b := by
  intro e; subst e; rw [lt_irrefl] at h; cases h

theorem le_iff (a b : Key) : a.le b = true ↔ a.lt b = true ∨ a = b := by
  unfold le
  rcases lt_trichotomy a b with h | h | h
  · simp [h, lt_asymm h]
  · subst h; simp [lt_irrefl]
  · simp [h, lt_asymm h]
    intro e; subst e; rw [lt_irrefl] at h; cases h

end Key

namespace Store

theorem contains_iff (s : Store) (k : Key) : s.contains k = true ↔ Store.get s k ≠ none := by
  unfold contains
  cases Store.get s k <;> simp

theorem contains_eq_false_iff (s : Store) (k : Key) : s.contains k = false ↔ Store.get s k = none := by
  unfold contains
  cases Store.get s k <;> simp

theorem mem_of_get {s : Store} {k : Key} {v : Val} (h : Store.get s k = some v) : (k, v) ∈ s := by
  induction s with
  | nil => simp [get] at h
  | cons kv rest ih =>
    obtain ⟨k0, v0⟩ := kv
    by_cases hk : k0 = k
    · subst hk; simp [get] at h; subst h; simp
    · simp only [get, hk, if_false] at h
      exact List.mem_cons_of_mem _ (ih h)

theorem get_eq_none_iff (s : Store) (k : Key) : Store.get s k = none ↔ ∀ v, (k, v) ∉ s := by
  induction s with
  | nil => simp [get]
  | cons kv rest ih =>
    obtain ⟨k0, v0⟩ := kv
    by_cases hk : k0 = k
    · subst hk
      simp only [get, if_true]
      constructor
      · intro h; cases h
      · intro h; exact absurd (List.mem_cons_self ..) (h v0)
    · simp only [get, hk, if_false, ih, List.mem_cons, Prod.mk.injEq]
      constructor
      · intro h v hv
        rcases hv with ⟨e, _⟩ | hv
        · exact hk e.symm
        · exact h v hv
      · intro h v hv; exact h v (Or.inr hv)

theorem get_isSome_iff (s : Store) (k : Key) : (Store.get s k).isSome = true ↔ ∃ v, (k, v) ∈ s := by
  constructor
  · intro h
    cases hg : Store.get s k with
    | none => rw [hg] at h; cases h
    | some v => exact ⟨v, mem_of_get hg⟩
  · intro ⟨v, hv⟩
    cases hg : Store.get s k with
    | none => exact absurd hv ((get_eq_none_iff s k).1 hg v)
    | some v => rfl

theorem delete_fst (s : Store) (k : Key) : (s.delete k).1 = s.erase k := rfl
theorem delete_snd (s : Store) (k : Key) : (s.delete k).2 = s.contains k := rfl

theorem get_delete (s : Store) (k k' : Key) :
    Store.get (s.delete k).1 k' = if k' = k then none else Store.get s k' := get_erase s k k'

theorem delete_reports (s : Store) (k : Key) : (s.delete k).2 = (Store.get s k).isSome := delete_snd s k

theorem get_deletePrefix (s : Store) (i : Nat) (m : Option Nat) (k : Key) :
    Store.get (s.deletePrefix i m) k =
      if isPrefixOf (encodePrefix i m) (encodeKey k) = true then none else Store.get s k := by
  unfold deletePrefix
  rw [get_filter_key s (fun k => !(isPrefixOf (encodePrefix i m) (encodeKey k))) k]
  cases isPrefixOf (encodePrefix i m) (encodeKey k) <;> simp

theorem get_prefixIter (s : Store) (i : Nat) (m : Option Nat) (k : Key) :
    Store.get (s.prefixIter i m) k =
      if isPrefixOf (encodePrefix i m) (encodeKey k) = true then Store.get s k else none := by
  unfold prefixIter
  exact get_filter_key s (fun k => isPrefixOf (encodePrefix i m) (encodeKey k)) k

theorem get_deleteRange_bytes (s : Store) (lo hi k : Key) :
    Store.get (s.deleteRange lo hi) k =
      if (lexLt (encodeKey k) (encodeKey lo) || lexLt (encodeKey hi) (encodeKey k)) = true
      then Store.get s k else none := by
  unfold deleteRange
  exact get_filter_key s (fun k => lexLt (encodeKey k) (encodeKey lo) || lexLt (encodeKey hi) (encodeKey k)) k

/-- `delete_range lo ..= hi` removes exactly the keys with `lo ≤ k ≤ hi` in `Key` order (well-formed keys) -/
theorem get_deleteRange (s : Store) (lo hi k : Key) (hlo : lo.wf) (hhi : hi.wf) (hk : k.wf) :
    Store.get (s.deleteRange lo hi) k =
      if (lo.le k && k.le hi) = true then none else Store.get s k := by
  rw [get_deleteRange_bytes, C16.C16_key_order k lo hk hlo, C16.C16_key_order hi k hhi hk]
  unfold Key.le
  cases k.lt lo <;> cases hi.lt k <;> simp

theorem erase_eq_self_of_get_none (s : Store) (k : Key) (h : Store.get s k = none) : s.erase k = s := by
  unfold erase
  rw [List.filter_eq_self]
  intro kv hkv
  obtain ⟨k0, v0⟩ := kv
  have := (get_eq_none_iff s k).1 h v0
  simp only [ne_eq, decide_not, Bool.not_eq_eq_eq_not, Bool.not_true, decide_eq_false_iff_not]
  intro e; subst e; exact this hkv

theorem delete_absent (s : Store) (k : Key) (h : Store.get s k = none) : s.delete k = (s, false) := by
  unfold delete
  rw [erase_eq_self_of_get_none s k h, (contains_eq_false_iff s k).2 h]

/-! ## `Sorted` as `Pairwise`, well-formed stores -/

theorem sorted_iff_pairwise (s : Store) : Sorted s ↔ s.Pairwise (fun a b => a.1.lt b.1 = true) := by
  induction s with
  | nil => simp [Sorted]
  | cons a rest ih =>
    cases rest with
    | nil => simp [Sorted]
    | cons b rest' =>
      simp only [Sorted, ih, List.pairwise_cons]
      constructor
      · intro ⟨hab, hb, hr⟩
        refine ⟨?_, hb, hr⟩
        intro x hx
        rcases List.mem_cons.1 hx with e | hx
        · subst e; exact hab
        · exact Key.lt_trans hab (hb x hx)
      · intro ⟨ha, hb, hr⟩
        exact ⟨ha b (List.mem_cons_self ..), hb, hr⟩

/-- every key of the store is a well-formed key (fits `u16`/`u8`/`u32`) -/
def WF (s : Store) : Prop := ∀ kv ∈ s, kv.1.wf

theorem sorted_nil : Sorted ([] : Store) := trivial
theorem wf_nil : WF ([] : Store) := by intro kv h; cases h

theorem mem_put {s : Store} {k : Key} {v : Val} {x : Key × Val} (h : x ∈ s.put k v) : x = (k, v) ∨ x ∈ s := by
  induction s with
  | nil => exact Or.inl (List.mem_singleton.1 h)
  | cons kv rest ih =>
    obtain ⟨k0, v0⟩ := kv
    rcases put_cases k0 v0 rest k v with ⟨_, e⟩ | ⟨_, e⟩ | ⟨_, _, e⟩ <;> rw [e] at h <;>
      rcases List.mem_cons.1 h with e' | h
    · exact Or.inl e'
    · exact Or.inr h
    · exact Or.inl e'
    · exact Or.inr (List.mem_cons_of_mem _ h)
    · exact Or.inr (e' ▸ List.mem_cons_self ..)
    · exact (ih h).imp id (List.mem_cons_of_mem _)

theorem put_sorted {s : Store} (hs : Sorted s) (k : Key) (v : Val) : Sorted (s.put k v) := by
  rw [sorted_iff_pairwise] at *
  induction s with
  | nil => exact List.pairwise_singleton _ _
  | cons kv rest ih =>
    obtain ⟨k0, v0⟩ := kv
    have ⟨h0, hr⟩ := List.pairwise_cons.1 hs
    rcases put_cases k0 v0 rest k v with ⟨hlt, e⟩ | ⟨rfl, e⟩ | ⟨hnlt, hne, e⟩ <;> rw [e]
    · refine List.pairwise_cons.2 ⟨fun x hx => ?_, hs⟩
      rcases List.mem_cons.1 hx with rfl | hx
      · exact hlt
      · exact Key.lt_trans hlt (h0 x hx)
    · exact List.pairwise_cons.2 ⟨h0, hr⟩
    · have hlt : k0.lt k = true := by
        rcases Key.lt_trichotomy k0 k with h | h | h
        · exact h
        · exact absurd h hne
        · rw [hnlt] at h; cases h
      refine List.pairwise_cons.2 ⟨fun x hx => ?_, ih hr⟩
      rcases mem_put hx with rfl | hx
      · exact hlt
      · exact h0 x hx

theorem put_wf {s : Store} (hs : WF s) {k : Key} (hk : k.wf) (v : Val) : WF (s.put k v) := by
  intro x hx
  rcases mem_put hx with e | hx
  · subst e; exact hk
  · exact hs x hx

theorem filter_sorted {s : Store} (hs : Sorted s) (p : Key × Val → Bool) : Sorted (s.filter p) := by
  rw [sorted_iff_pairwise] at *
  exact hs.filter p

theorem filter_wf {s : Store} (hs : WF s) (p : Key × Val → Bool) : WF (s.filter p) := by
  intro x hx; exact hs x (List.mem_filter.1 hx).1

theorem erase_sorted {s : Store} (hs : Sorted s) (k : Key) : Sorted (s.erase k) := filter_sorted hs _
theorem erase_wf {s : Store} (hs : WF s) (k : Key) : WF (s.erase k) := filter_wf hs _
theorem delete_sorted {s : Store} (hs : Sorted s) (k : Key) : Sorted (s.delete k).1 := filter_sorted hs _
theorem delete_wf {s : Store} (hs : WF s) (k : Key) : WF (s.delete k).1 := filter_wf hs _
theorem deletePrefix_sorted {s : Store} (hs : Sorted s) (i : Nat) (m : Option Nat) :
    Sorted (s.deletePrefix i m) := filter_sorted hs _
theorem deletePrefix_wf {s : Store} (hs : WF s) (i : Nat) (m : Option Nat) : WF (s.deletePrefix i m) :=
  filter_wf hs _
theorem prefixIter_sorted {s : Store} (hs : Sorted s) (i : Nat) (m : Option Nat) :
    Sorted (s.prefixIter i m) := filter_sorted hs _
theorem prefixIter_wf {s : Store} (hs : WF s) (i : Nat) (m : Option Nat) : WF (s.prefixIter i m) :=
  filter_wf hs _
theorem deleteRange_sorted {s : Store} (hs : Sorted s) (lo hi : Key) : Sorted (s.deleteRange lo hi) :=
  filter_sorted hs _
theorem deleteRange_wf {s : Store} (hs : WF s) (lo hi : Key) : WF (s.deleteRange lo hi) := filter_wf hs _

/-- in a sorted store every key occurs once: `get` is membership -/
theorem get_eq_some_iff {s : Store} (hs : Sorted s) (k : Key) (v : Val) :
    Store.get s k = some v ↔ (k, v) ∈ s := by
  refine ⟨mem_of_get, ?_⟩
  rw [sorted_iff_pairwise] at hs
  induction s with
  | nil => intro h; cases h
  | cons kv rest ih =>
    obtain ⟨k0, v0⟩ := kv
    have ⟨h0, hr⟩ := List.pairwise_cons.1 hs
    intro h
    rcases List.mem_cons.1 h with e | h
    · cases e; simp [get]
    · have : k0 ≠ k := Key.ne_of_lt (h0 _ h)
      simp only [get, this, if_false]
      exact ih hr h

theorem eq_of_key_eq {s : Store} (hs : Sorted s) {x y : Key × Val} (hx : x ∈ s) (hy : y ∈ s) (h : x.1 = y.1) :
    x = y := by
  obtain ⟨kx, vx⟩ := x
  obtain ⟨ky, vy⟩ := y
  simp only at h
  subst h
  have h1 := (get_eq_some_iff hs kx vx).2 hx
  have h2 := (get_eq_some_iff hs kx vy).2 hy
  rw [h1] at h2
  cases h2; rfl

theorem maxKey?_nil : maxKey? ([] : Store) = none := rfl

theorem maxKey?_eq_none_iff (s : Store) : maxKey? s = none ↔ s = [] := by
  unfold maxKey?
  cases s with
  | nil => simp
  | cons a r => simp [List.getLast?_eq_none_iff]

theorem maxKey?_spec {s : Store} (hs : Sorted s) {m : Key} (h : maxKey? s = some m) :
    (∃ v, (m, v) ∈ s) ∧ ∀ kv ∈ s, kv.1 = m ∨ kv.1.lt m = true := by
  rw [sorted_iff_pairwise] at hs
  unfold maxKey? at h
  cases hl : s.getLast? with
  | none => rw [hl] at h; cases h
  | some last =>
    rw [hl] at h
    simp only [Option.map_some, Option.some.injEq] at h
    obtain ⟨init, rfl⟩ := List.getLast?_eq_some_iff.1 hl
    subst h
    refine ⟨⟨last.2, by simp⟩, ?_⟩
    intro kv hkv
    rcases List.mem_append.1 hkv with h | h
    · right
      have := List.pairwise_append.1 hs
      exact this.2.2 kv h last (by simp)
    · left; simp at h; rw [h]

/-- `put_with_flags(APPEND)` succeeds iff the new key is greater than every key of the database -/
theorem putAppend_isSome_iff {s : Store} (hs : Sorted s) (k : Key) (v : Val) :
    (∃ s', s.putAppend k v = some s') ↔ ∀ kv ∈ s, kv.1.lt k = true := by
  unfold putAppend
  cases hm : maxKey? s with
  | none =>
    have : s = [] := (maxKey?_eq_none_iff s).1 hm
    subst this; simp
  | some m =>
    have ⟨⟨vm, hmem⟩, hdom⟩ := maxKey?_spec hs hm
    simp only
    constructor
    · intro ⟨s', h⟩
      split at h
      · rename_i hlt
        intro kv hkv
        rcases hdom kv hkv with e | h'
        · rw [e]; exact hlt
        · exact Key.lt_trans h' hlt
      · cases h
    · intro h
      have : m.lt k = true := h (m, vm) hmem
      simp [this]

theorem putAppend_eq_none_iff {s : Store} (hs : Sorted s) (k : Key) (v : Val) :
    s.putAppend k v = none ↔ ∃ kv ∈ s, k.le kv.1 = true := by
  rw [← Option.not_isSome_iff_eq_none, Option.isSome_iff_exists, putAppend_isSome_iff hs k v]
  constructor
  · intro h
    refine Classical.byContradiction fun hn => h fun kv hkv => ?_
    cases hlt : kv.1.lt k
    · exact absurd ⟨kv, hkv, by rw [Key.le, hlt]; rfl⟩ hn
    · rfl
  · rintro ⟨kv, hkv, hle⟩ h
    rw [Key.le, h kv hkv] at hle
    cases hle

theorem put_eq_append {s : Store} (k : Key) (v : Val) (h : ∀ kv ∈ s, kv.1.lt k = true) :
    s.put k v = s ++ [(k, v)] := by
  induction s with
  | nil => rfl
  | cons kv rest ih =>
    obtain ⟨k0, v0⟩ := kv
    have h0 : k0.lt k = true := h (k0, v0) (List.mem_cons_self ..)
    simp only [put, Key.lt_asymm h0, Key.ne_of_lt h0, if_false, Bool.false_eq_true, List.cons_append]
    rw [ih (fun kv hkv => h kv (List.mem_cons_of_mem _ hkv))]

theorem putAppend_eq_put {s s' : Store} (hs : Sorted s) {k : Key} {v : Val} (h : s.putAppend k v = some s') :
    s' = s.put k v := by
  have hall := (putAppend_isSome_iff hs k v).1 ⟨s', h⟩
  rw [put_eq_append k v hall]
  unfold putAppend at h
  cases hm : maxKey? s with
  | none =>
    have : s = [] := (maxKey?_eq_none_iff s).1 hm
    subst this
    rw [hm] at h; simp at h; simp [h]
  | some m =>
    rw [hm] at h
    simp only at h
    split at h
    · simp at h; exact h.symm
    · cases h

theorem get_putAppend {s s' : Store} (hs : Sorted s) {k : Key} {v : Val} (h : s.putAppend k v = some s')
    (k' : Key) : Store.get s' k' = Store.get (s.put k v) k' := by
  rw [putAppend_eq_put hs h]

theorem putAppend_sorted {s s' : Store} (hs : Sorted s) {k : Key} {v : Val} (h : s.putAppend k v = some s') :
    Sorted s' := by
  rw [putAppend_eq_put hs h]; exact put_sorted hs k v

theorem putAppend_wf {s s' : Store} (hs : Sorted s) (hw : WF s) {k : Key} (hk : k.wf) {v : Val}
    (h : s.putAppend k v = some s') : WF s' := by
  rw [putAppend_eq_put hs h]; exact put_wf hw hk v

/-- keys of index `i` always match the index prefix (no well-formedness needed) -/
theorem isPrefixOf_index_self (k : Key) : isPrefixOf (encodePrefix k.index none) (encodeKey k) = true :=
  (isPrefixOf_index_all k.index k).2 rfl

theorem isPrefixOf_kind_self (k : Key) :
    isPrefixOf (encodePrefix k.index (some k.mode)) (encodeKey k) = true :=
  (isPrefixOf_kind_all k.index k.mode k).2 ⟨rfl, rfl⟩

theorem mem_prefixIter_iff {s : Store} (hw : WF s) (i m : Nat) (hi : i < 65536) (hm : m < 256)
    (kv : Key × Val) : kv ∈ s.prefixIter i (some m) ↔ kv ∈ s ∧ kv.1.index = i ∧ kv.1.mode = m := by
  unfold prefixIter
  rw [List.mem_filter]
  constructor
  · intro ⟨h1, h2⟩
    exact ⟨h1, (isPrefixOf_kind i m kv.1 (hw kv h1) hi hm).1 h2⟩
  · intro ⟨h1, h2⟩
    exact ⟨h1, (isPrefixOf_kind i m kv.1 (hw kv h1) hi hm).2 h2⟩

/-- without well-formedness: entries of that index and mode are always visited -/
theorem mem_prefixIter_of_mem {s : Store} {kv : Key × Val} (h : kv ∈ s) :
    kv ∈ s.prefixIter kv.1.index (some kv.1.mode) := by
  unfold prefixIter
  exact List.mem_filter.2 ⟨h, isPrefixOf_kind_self kv.1⟩

theorem keysOf_sorted {s : Store} (hs : Sorted s) (hw : WF s) (i m : Nat) (hi : i < 65536) (hm : m < 256) :
    IdSet.Sorted (keysOf s i m) := by
  rw [IdSet.sorted_iff_pairwise]
  unfold keysOf
  rw [List.pairwise_map]
  have hp := (sorted_iff_pairwise _).1 (prefixIter_sorted hs i (some m))
  refine hp.imp_of_mem ?_
  intro a b ha hb hlt
  have ha' := (mem_prefixIter_iff hw i m hi hm a).1 ha
  have hb' := (mem_prefixIter_iff hw i m hi hm b).1 hb
  rw [Key.lt_iff] at hlt
  omega

theorem mem_keysOf_iff {s : Store} (hw : WF s) (i m id : Nat) (hi : i < 65536) (hm : m < 256) :
    id ∈ keysOf s i m ↔ (Store.get s ⟨i, m, id⟩).isSome = true := by
  rw [get_isSome_iff]
  unfold keysOf
  rw [List.mem_map]
  constructor
  · intro ⟨kv, hkv, hid⟩
    have ⟨h1, h2, h3⟩ := (mem_prefixIter_iff hw i m hi hm kv).1 hkv
    refine ⟨kv.2, ?_⟩
    have : kv.1 = ⟨i, m, id⟩ := Key.eq_of_fields h2 h3 hid
    rw [← this]; exact h1
  · intro ⟨v, hv⟩
    exact ⟨(⟨i, m, id⟩, v), (mem_prefixIter_iff hw i m hi hm _).2 ⟨hv, rfl, rfl⟩, rfl⟩

theorem prefixIter_eq_nil_iff {s : Store} (hw : WF s) (i m : Nat) (hi : i < 65536) (hm : m < 256) :
    s.prefixIter i (some m) = [] ↔ ∀ id, Store.get s ⟨i, m, id⟩ = none := by
  constructor
  · intro h id
    rw [get_eq_none_iff]
    intro v hv
    have := (mem_prefixIter_iff hw i m hi hm (⟨i, m, id⟩, v)).2 ⟨hv, rfl, rfl⟩
    rw [h] at this; cases this
  · intro h
    rw [List.eq_nil_iff_forall_not_mem]
    intro kv hkv
    have ⟨h1, h2, h3⟩ := (mem_prefixIter_iff hw i m hi hm kv).1 hkv
    have : kv.1 = ⟨i, m, kv.1.item⟩ := Key.eq_of_fields h2 h3 rfl
    have hn := (get_eq_none_iff s _).1 (h kv.1.item) kv.2
    rw [← this] at hn
    exact hn h1

/-- one direction holds for every store: a present key makes its prefix iterator non-empty -/
theorem prefixIter_ne_nil_of_get {s : Store} {k : Key} (h : (Store.get s k).isSome = true) :
    s.prefixIter k.index (some k.mode) ≠ [] := by
  obtain ⟨v, hv⟩ := (get_isSome_iff s k).1 h
  intro e
  have := mem_prefixIter_of_mem hv
  simp only at this
  rw [e] at this; cases this

theorem get_deletePrefix_index (s : Store) (i : Nat) (k : Key) (hk : k.wf) (hi : i < 65536) :
    Store.get (s.deletePrefix i none) k = if k.index = i then none else Store.get s k := by
  simp only [get_deletePrefix, isPrefixOf_index i k hk hi]

theorem get_deletePrefix_index_mode (s : Store) (i m : Nat) (k : Key) (hk : k.wf) (hi : i < 65536)
    (hm : m < 256) :
    Store.get (s.deletePrefix i (some m)) k = if k.index = i ∧ k.mode = m then none else Store.get s k := by
  simp only [get_deletePrefix, isPrefixOf_kind i m k hk hi hm]

theorem get_prefixIter_index_mode (s : Store) (i m : Nat) (k : Key) (hk : k.wf) (hi : i < 65536)
    (hm : m < 256) :
    Store.get (s.prefixIter i (some m)) k = if k.index = i ∧ k.mode = m then Store.get s k else none := by
  simp only [get_prefixIter, isPrefixOf_kind i m k hk hi hm]

/-! ## filters through `put` / `erase` / `deletePrefix` (frame laws for prefix iteration) -/

theorem filter_put_of_false (s : Store) (p : Key → Bool) (k : Key) (v : Val) (h : p k = false) :
    (s.put k v).filter (fun kv => p kv.1) = s.filter (fun kv => p kv.1) := by
  have hk : ∀ (w : Val) (l : Store), ((k, w) :: l).filter (fun kv => p kv.1) = l.filter (fun kv => p kv.1) :=
    fun w l => List.filter_cons_of_neg (by rw [h]; decide)
  induction s with
  | nil => exact hk v []
  | cons kv rest ih =>
    obtain ⟨k0, v0⟩ := kv
    rcases put_cases k0 v0 rest k v with ⟨_, e⟩ | ⟨rfl, e⟩ | ⟨_, _, e⟩ <;> rw [e]
    · exact hk v _
    · rw [hk, hk]
    · rw [List.filter_cons, List.filter_cons, ih]

theorem prefixIter_put_other (s : Store) (k : Key) (v : Val) (i : Nat) (m : Option Nat)
    (h : isPrefixOf (encodePrefix i m) (encodeKey k) = false) :
    (s.put k v).prefixIter i m = s.prefixIter i m :=
  filter_put_of_false s (fun k => isPrefixOf (encodePrefix i m) (encodeKey k)) k v h

/-- filtering on a property of the key that holds throughout one (index, kind) leaves the cursor over that
    kind as it is -/
theorem prefixIter_filter_key {s : Store} (hw : Store.WF s) (p : Key → Bool) (i m : Nat) (hi : i < 65536)
    (hm : m < 256) (hp : ∀ k : Key, k.index = i → k.mode = m → p k = true) :
    Store.prefixIter (s.filter (fun kv => p kv.1)) i (some m) = Store.prefixIter s i (some m) := by
  unfold Store.prefixIter
  rw [List.filter_filter]
  apply List.filter_congr
  intro kv hkv
  cases hpre : isPrefixOf (encodePrefix i (some m)) (encodeKey kv.1) with
  | false => rfl
  | true =>
    obtain ⟨h1, h2⟩ := (isPrefixOf_kind i m kv.1 (hw kv hkv) hi hm).1 hpre
    rw [hp kv.1 h1 h2]; rfl

theorem prefixIter_erase_other (s : Store) (k : Key) (i : Nat) (m : Option Nat)
    (h : isPrefixOf (encodePrefix i m) (encodeKey k) = false) :
    (s.erase k).prefixIter i m = s.prefixIter i m := by
  unfold prefixIter erase
  rw [List.filter_filter]
  apply List.filter_congr
  intro kv _
  by_cases hk : kv.1 = k
  · rw [hk, h]; rfl
  · simp [hk]

theorem prefixIter_deletePrefix_other {s : Store} (hw : WF s) (i j m : Nat) (hi : i < 65536) (hj : j < 65536)
    (hm : m < 256) (hne : i ≠ j) :
    (s.deletePrefix j none).prefixIter i (some m) = s.prefixIter i (some m) :=
  prefixIter_filter_key hw (fun k => !(isPrefixOf (encodePrefix j none) (encodeKey k))) i m hi hm (fun k h1 _ => by
    rw [Bool.not_eq_true', Bool.eq_false_iff]
    intro h
    rw [isPrefixOf_index_all, h1, Nat.mod_eq_of_lt hi, Nat.mod_eq_of_lt hj] at h
    exact hne h)

end Store
end Arroy
