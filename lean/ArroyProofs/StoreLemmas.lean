import ArroyModel.Store
/-! Basic laws of the store operations (`get` after `put` / `erase` / filters). -/
namespace Arroy
namespace Store

theorem get_cons (kv : Key × Val) (rest : Store) (k : Key) :
    Store.get (kv :: rest) k = if kv.1 = k then some kv.2 else Store.get rest k := rfl

/-- `put` on a non-empty store: the new entry goes in front, replaces the head, or goes into the tail -/
theorem put_cases (k0 : Key) (v0 : Val) (rest : Store) (k : Key) (v : Val) :
    (k.lt k0 = true ∧ put ((k0, v0) :: rest) k v = (k, v) :: (k0, v0) :: rest) ∨
    (k0 = k ∧ put ((k0, v0) :: rest) k v = (k, v) :: rest) ∨
    (k.lt k0 = false ∧ k0 ≠ k ∧ put ((k0, v0) :: rest) k v = (k0, v0) :: put rest k v) := by
  have e : put ((k0, v0) :: rest) k v =
      if k.lt k0 = true then (k, v) :: (k0, v0) :: rest
      else if k0 = k then (k, v) :: rest else (k0, v0) :: put rest k v := rfl
  rw [e]
  cases k.lt k0
  · by_cases he : k0 = k
    · exact Or.inr (Or.inl ⟨he, by rw [if_neg (by decide), if_pos he]⟩)
    · exact Or.inr (Or.inr ⟨rfl, he, by rw [if_neg (by decide), if_neg he]⟩)
  · exact Or.inl ⟨rfl, if_pos rfl⟩

theorem get_put (s : Store) (k k' : Key) (v : Val) :
    Store.get (s.put k v) k' = if k' = k then some v else Store.get s k' := by
  have hc : ∀ r : Store, Store.get ((k, v) :: r) k' = if k' = k then some v else Store.get r k' := by
    intro r
    rw [get_cons]
    by_cases h : k' = k
    · rw [if_pos h, if_pos h.symm]
    · rw [if_neg h, if_neg (Ne.symm h)]
  induction s with
  | nil => exact hc []
  | cons kv rest ih =>
    obtain ⟨k0, v0⟩ := kv
    rcases put_cases k0 v0 rest k v with ⟨_, e⟩ | ⟨rfl, e⟩ | ⟨_, hne, e⟩ <;> rw [e]
    · exact hc _
    · rw [hc, get_cons]
      by_cases h : k' = k0
      · rw [if_pos h, if_pos h]
      · rw [if_neg h, if_neg h, if_neg (Ne.symm h)]
    · rw [get_cons, get_cons, ih]
      by_cases h0 : k0 = k'
      · rw [if_pos h0, if_pos h0, if_neg (h0 ▸ hne)]
      · rw [if_neg h0, if_neg h0]

theorem get_put_same (s : Store) (k : Key) (v : Val) : (s.put k v).get k = some v := by
  rw [get_put, if_pos rfl]

theorem get_put_other (s : Store) (k k' : Key) (v : Val) (h : k' ≠ k) : (s.put k v).get k' = s.get k' := by
  rw [get_put, if_neg h]

/-- a filter whose verdict on the entries of key `k` does not depend on the value keeps or drops `k` -/
theorem get_filter_const (s : Store) (p : Key × Val → Bool) (k : Key) (b : Bool) (hp : ∀ v, p (k, v) = b) :
    Store.get (s.filter p) k = if b = true then s.get k else none := by
  induction s with
  | nil => cases b <;> rfl
  | cons kv rest ih =>
    obtain ⟨k0, v0⟩ := kv
    by_cases hk : k0 = k
    · subst hk
      cases b <;> simp_all [get_cons]
    · cases hpk : p (k0, v0) <;> simp_all [get_cons]

theorem get_filter (s : Store) (p : Key × Val → Bool) (k : Key) (hp : ∀ v, p (k, v) = true) :
    Store.get (s.filter p) k = s.get k :=
  get_filter_const s p k true hp

theorem get_filter_none (s : Store) (p : Key × Val → Bool) (k : Key) (hp : ∀ v, p (k, v) = false) :
    Store.get (s.filter p) k = none :=
  get_filter_const s p k false hp

theorem get_filter_key (s : Store) (p : Key → Bool) (k : Key) :
    Store.get (s.filter (fun kv => p kv.1)) k = if p k = true then Store.get s k else none :=
  get_filter_const s _ k (p k) (fun _ => rfl)

theorem get_erase (s : Store) (k k' : Key) :
    Store.get (s.erase k) k' = if k' = k then none else Store.get s k' := by
  unfold erase
  rw [get_filter_key s (fun k0 => decide (k0 ≠ k)) k']
  by_cases h : k' = k <;> simp [h]

theorem get_erase_same (s : Store) (k : Key) : (s.erase k).get k = none := by
  rw [get_erase, if_pos rfl]

theorem get_erase_other (s : Store) (k k' : Key) (h : k' ≠ k) : (s.erase k).get k' = s.get k' := by
  rw [get_erase, if_neg h]

end Store
end Arroy
