import ArroyProofs.InPlaceEq
import ArroyProofs.NoFuel
import ArroyProofs.StoreLaws
import ArroyProofs.SelfLookup
import ArroyProofs.BuildPrefix
/-! A predicate `P` on the normals of split nodes through the tree-level routines: `reify`, `delT`,
`insertT` and `makeT` only ever produce normals they read, normals of the oracle, or
`List.replicate n.length 0` of such a normal.

`StoreOk Q s`: every entry of `s` satisfies `Q` (list membership, so no sortedness of the store is
needed). `BuildQ c P Q` collects what a build of index `c` needs of the two predicates. -/
namespace Arroy
open Generated BuildM

/-- `P` holds of the normal of a split value (anything else passes) -/
def Val.NOk (P : List Nat → Prop) : Val → Prop
  | .split _ _ n => P n
  | _ => True

@[simp] theorem Val.nok_split (P : List Nat → Prop) (l r : NodeId) (n : List Nat) : Val.NOk P (.split l r n) ↔ P n := Iff.rfl
@[simp] theorem Val.nok_desc (P : List Nat → Prop) (s : List Nat) : Val.NOk P (.desc s) ↔ True := Iff.rfl
@[simp] theorem Val.nok_leaf (P : List Nat → Prop) (h v : List Nat) : Val.NOk P (.leaf h v) ↔ True := Iff.rfl
@[simp] theorem Val.nok_metadata (P : List Nat → Prop) (a : Bytes) (b : Nat) (e f : List Nat) :
    Val.NOk P (.metadata a b e f) ↔ True := Iff.rfl
@[simp] theorem Val.nok_version (P : List Nat → Prop) (a b e : Nat) : Val.NOk P (.version a b e) ↔ True := Iff.rfl

theorem Val.nok_true (v : Val) : Val.NOk (fun _ => True) v := by
  cases v <;> trivial

/-- the entry predicate `Q` holds of every entry of the store (list membership: no sortedness needed) -/
def StoreOk (Q : Key → Val → Prop) (s : Store) : Prop := ∀ kv ∈ s, Q kv.1 kv.2

/-- what a build of index `c` needs of the predicates: `P` for split normals, `Q` for store entries -/
structure BuildQ (c : Cfg) (P : List Nat → Prop) (Q : Key → Val → Prop) : Prop where
  zero : ∀ n, P n → P (List.replicate n.length 0)
  tree : ∀ id v, Val.NOk P v → Q (c.treeKey id) v
  ofTree : ∀ id l r n, Q (c.treeKey id) (.split l r n) → P n
  /-- the metadata record a build writes -/
  metadata : ∀ it r, Q c.metaKey (.metadata c.metric.nameBytes c.dims it r)
  /-- the version record the single-bucket shortcut writes -/
  version : Q c.versionKey (.version crateVersion.1 crateVersion.2.1 crateVersion.2.2)
  dot : c.metric = .dot → ∀ k h w s,
    isPrefixOf (encodePrefix c.index (some modeItem)) (encodeKey k) = true →
    Q k (.leaf h w) → Q k (dotVal c s (k, w))

/-- every normal of the tree satisfies `P` -/
def TOk (P : List Nat → Prop) (t : T) : Prop := ∀ n ∈ t.normals, P n

/-- every staged split node has a normal satisfying `P` -/
def PutsOk (P : List Nat → Prop) (puts : List (Nat × Val)) : Prop := ∀ p ∈ puts, Val.NOk P p.2

@[simp] theorem tok_leaf (P : List Nat → Prop) (i : Nat) : TOk P (.leaf i) ↔ True := by simp [TOk, T.normals]
@[simp] theorem tok_bucket (P : List Nat → Prop) (id : Nat) (s : List Nat) : TOk P (.bucket id s) ↔ True := by
  simp [TOk, T.normals]
@[simp] theorem tok_node (P : List Nat → Prop) (id : Nat) (n : List Nat) (l r : T) :
    TOk P (.node id n l r) ↔ P n ∧ TOk P l ∧ TOk P r := by
  simp only [TOk, T.normals, List.mem_cons, List.mem_append]
  constructor
  · intro h
    exact ⟨h n (Or.inl rfl), fun x hx => h x (Or.inr (Or.inl hx)), fun x hx => h x (Or.inr (Or.inr hx))⟩
  · rintro ⟨h1, h2, h3⟩ x (rfl | hx | hx)
    · exact h1
    · exact h2 x hx
    · exact h3 x hx

@[simp] theorem putsOk_nil (P : List Nat → Prop) : PutsOk P [] ↔ True := by simp [PutsOk]
@[simp] theorem putsOk_cons (P : List Nat → Prop) (p : Nat × Val) (ps : List (Nat × Val)) :
    PutsOk P (p :: ps) ↔ Val.NOk P p.2 ∧ PutsOk P ps := by simp [PutsOk]
@[simp] theorem putsOk_append (P : List Nat → Prop) (a b : List (Nat × Val)) :
    PutsOk P (a ++ b) ↔ PutsOk P a ∧ PutsOk P b := by
  simp only [PutsOk, List.mem_append]
  constructor
  · intro h; exact ⟨fun p hp => h p (Or.inl hp), fun p hp => h p (Or.inr hp)⟩
  · rintro ⟨h1, h2⟩ p (hp | hp)
    · exact h1 p hp
    · exact h2 p hp
theorem putsOk_ite (P : List Nat → Prop) (p : Prop) [Decidable p] (x : Nat × Val) (hx : Val.NOk P x.2) :
    PutsOk P (if p then [x] else []) := by
  split <;> simp [hx]

/-! ## the store -/

theorem StoreOk.nil (Q : Key → Val → Prop) : StoreOk Q [] := by
  intro kv h; cases h

theorem StoreOk.put {Q : Key → Val → Prop} {s : Store} (h : StoreOk Q s) (k : Key) (v : Val) (hv : Q k v) :
    StoreOk Q (Store.put s k v) := by
  intro kv hkv
  rcases Store.mem_put hkv with rfl | hm
  · exact hv
  · exact h kv hm

theorem StoreOk.filter {Q : Key → Val → Prop} {s : Store} (h : StoreOk Q s) (p : Key × Val → Bool) :
    StoreOk Q (s.filter p) := by
  intro kv hkv
  exact h kv (List.mem_filter.1 hkv).1

theorem StoreOk.erase {Q : Key → Val → Prop} {s : Store} (h : StoreOk Q s) (k : Key) :
    StoreOk Q (Store.erase s k) := by
  unfold Store.erase; exact h.filter _

theorem StoreOk.deleteRange {Q : Key → Val → Prop} {s : Store} (h : StoreOk Q s) (lo hi : Key) :
    StoreOk Q (Store.deleteRange s lo hi) := by
  unfold Store.deleteRange; exact h.filter _

theorem StoreOk.deletePrefix {Q : Key → Val → Prop} {s : Store} (h : StoreOk Q s) (index : Nat) (mode : Option Nat) :
    StoreOk Q (Store.deletePrefix s index mode) := by
  unfold Store.deletePrefix; exact h.filter _

theorem StoreOk.foldl {Q : Key → Val → Prop} {β : Type} (f : Store → β → Store)
    (hf : ∀ s x, StoreOk Q s → StoreOk Q (f s x)) (l : List β) :
    ∀ s, StoreOk Q s → StoreOk Q (l.foldl f s) := by
  induction l with
  | nil => intro s h; exact h
  | cons x xs ih => intro s h; exact ih _ (hf s x h)

/-- what is stored under a key satisfies `Q` -/
theorem StoreOk.of_get {Q : Key → Val → Prop} {s : Store} (h : StoreOk Q s) {k : Key} {v : Val}
    (hg : Store.get s k = some v) : Q k v :=
  h (k, v) (Store.mem_of_get hg)

/-! ## the tree-level routines -/

/-- a tree read out of a store has the normals of the store -/
theorem reify_tok {c : Cfg} {P : List Nat → Prop} {s : Store}
    (hs : ∀ id l r n, Store.get s (c.treeKey id) = some (.split l r n) → P n) :
    ∀ (fuel : Nat) (ref : NodeId) (t : T), reify c s fuel ref = some t → TOk P t := by
  intro fuel
  induction fuel with
  | zero => intro ref t h; simp [reify] at h
  | succ fuel ih =>
    intro ref t h
    unfold reify at h
    split at h
    · cases h; simp
    · split at h
      · split at h
        · cases h; simp
        · rename_i l r n hg
          split at h
          · rename_i tl tr hl hr
            cases h
            rw [tok_node]
            exact ⟨hs _ _ _ _ hg, ih _ _ hl, ih _ _ hr⟩
          · cases h
        · cases h
      · cases h

/-- the trees `Check.trees` reads have the normals of the store -/
theorem trees_tok' {c : Cfg} {P : List Nat → Prop} {s : Store}
    (hs : ∀ id l r n, Store.get s (c.treeKey id) = some (.split l r n) → P n) :
    ∀ t ∈ Check.trees c s, TOk P t := by
  intro t ht
  obtain ⟨r, hr⟩ := reify_of_mem_trees ht
  exact reify_tok hs _ _ _ hr

/-- the `.node` arm of `delT`, on the two recursive results as variables -/
theorem delNode_tok {P : List Nat → Prop} (cap id : Nat) (n : List Nat) (l r : T) (a b : DelRes) (hn : P n)
    (ha : TOk P a.tree ∧ PutsOk P a.puts) (hb : TOk P b.tree ∧ PutsOk P b.puts) :
    TOk P (InPlace.delNode cap id n l r a b).tree ∧ PutsOk P (InPlace.delNode cap id n l r a b).puts := by
  obtain ⟨a1, a2⟩ := ha
  obtain ⟨b1, b2⟩ := hb
  have hab := (putsOk_append P a.puts b.puts).2 ⟨a2, b2⟩
  -- case by case through the three `if`s (`split` on the record-valued `if`s is slow to check)
  have hite : ∀ (p : Prop) [Decidable p] (x y : DelRes), (TOk P x.tree ∧ PutsOk P x.puts) →
      (TOk P y.tree ∧ PutsOk P y.puts) → TOk P (if p then x else y).tree ∧ PutsOk P (if p then x else y).puts :=
    fun p _ x y hx hy => by split <;> assumption
  refine hite _ _ _ ?_ (hite _ _ _ ⟨b1, hab⟩ (hite _ _ _ ⟨a1, hab⟩ ?_))
  · exact ⟨(tok_bucket ..).2 trivial, (putsOk_append ..).2 ⟨hab, (putsOk_cons ..).2 ⟨trivial, (putsOk_nil P).2 trivial⟩⟩⟩
  · exact ⟨(tok_node ..).2 ⟨hn, a1, b1⟩, (putsOk_append ..).2 ⟨hab, putsOk_ite _ _ _ hn⟩⟩

/-- the normals of the pruned tree, and of the split nodes it stages, are normals of the tree -/
theorem delT_tok {P : List Nat → Prop} (cap : Nat) (D : List Nat) (t : T) (ht : TOk P t) :
    TOk P (delT cap D t).tree ∧ PutsOk P (delT cap D t).puts := by
  induction t with
  | leaf i => exact ⟨(tok_leaf P i).2 trivial, (putsOk_nil P).2 trivial⟩
  | bucket id s => exact ⟨(tok_bucket ..).2 trivial, putsOk_ite _ _ _ trivial⟩
  | node id n l r ihl ihr =>
    rw [tok_node] at ht
    rw [InPlace.delT_node]
    exact delNode_tok cap id n l r _ _ ht.1 (ihl ht.2.1) (ihr ht.2.2)

/-- the same for `insert_items_in_file` -/
theorem insertT_tok {P : List Nat → Prop} (cx : TreeCtx) (t : T) (ins : List Nat) (g : IdGen) (rs : List Bool)
    (res : InsRes) (h : insertT cx t ins g rs = .ok res) (ht : TOk P t) :
    TOk P res.tree ∧ PutsOk P res.puts := by
  induction t generalizing ins g rs res with
  | leaf i =>
    rcases insertT_leaf_ok h with ⟨_, id, g', _, rfl⟩ | ⟨_, rfl⟩ <;> simp
  | bucket id s =>
    rcases insertT_bucket_ok h with ⟨_, rfl⟩ | ⟨_, rfl⟩ <;> simp
  | node id n l r ihl ihr =>
    rw [tok_node] at ht
    obtain ⟨hn, hl, hr⟩ := ht
    obtain ⟨left, right, rs1, a, b, _, ha, hb, rfl⟩ := insertT_node_ok h
    obtain ⟨a1, a2⟩ := ihl _ _ _ _ ha hl
    obtain ⟨b1, b2⟩ := ihr _ _ _ _ hb hr
    simp only [tok_node, putsOk_append]
    exact ⟨⟨hn, a1, b1⟩, ⟨a2, b2⟩, putsOk_ite _ _ _ hn⟩

/-- with an oracle whose normals all satisfy `P` (closed under `n ↦ List.replicate n.length 0`), every
    normal of the tree made (an oracle normal, or `List.replicate n.length 0` of one after a random
    split), every staged split node and what is left of the oracle satisfy `P` -/
theorem makeT_tok {P : List Nat → Prop} (hzero : ∀ n, P n → P (List.replicate n.length 0))
    (cx : TreeCtx) (fuel : Nat) (items : List Nat) (g : IdGen)
    (normals : List (List Nat)) (rs : List Bool) (res : MakeRes)
    (h : makeT cx fuel items g normals rs = .ok res) (hN : ∀ n ∈ normals, P n) :
    TOk P res.tree ∧ PutsOk P res.puts ∧ ∀ n ∈ res.normals, P n := by
  induction fuel generalizing items g normals rs res with
  | zero => simp [makeT] at h
  | succ fuel ih =>
    simp only [makeT] at h
    split at h
    · cases h; simp; exact hN
    · split at h
      · split at h
        · cases h
        · cases h; simp; exact hN
      · split at h
        · cases h
        · rename_i n l r normals1 rs1 k hcs
          obtain ⟨hn, hsub⟩ := chooseSplit_normals_mem hcs
          have hN1 : ∀ x ∈ normals1, P x := fun x hx => hN x (hsub x hx)
          have hnd : P n := hN n hn
          split at h
          · cases h
          · rename_i n' l' r' rs2 hdec
            have hn' : P n' := by
              split at hdec
              · split at hdec
                · cases hdec; exact hzero _ hnd
                · cases hdec
              · cases hdec; exact hnd
            split at h
            · cases h
            · rename_i a ha
              obtain ⟨a1, a2, a3⟩ := ih _ _ _ _ _ ha hN1
              split at h
              · cases h
              · rename_i b hb
                obtain ⟨b1, b2, b3⟩ := ih _ _ _ _ _ hb a3
                split at h
                · cases h
                · cases h
                  simp only [tok_node, putsOk_append, putsOk_cons, putsOk_nil, Val.nok_split]
                  exact ⟨⟨hn', a1, b1⟩, ⟨⟨a2, b2⟩, hn', trivial⟩, b3⟩

end Arroy
