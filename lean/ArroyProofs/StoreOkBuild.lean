import ArroyProofs.BuildFrame
/-! `Writer::build` keeps "every entry of the store satisfies `Q` and every normal left in the oracle
satisfies `P`" for every pair of predicates with `BuildQ c P Q`: an instance of `BuildKeeps`. -/
namespace Arroy
open Generated BuildM

variable {c : Cfg} {P : List Nat → Prop} {Q : Key → Val → Prop}

theorem BuildQ.keeps (hq : BuildQ c P Q) : BuildKeeps c P (StoreOk Q) where
  zero := hq.zero
  read := fun _ id l r n hs hg => hq.ofTree id l r n (hs.of_get hg)
  putTree := fun _ id v hs hv => hs.put _ _ (hq.tree id v hv)
  putMeta := fun _ it r hs => hs.put _ _ (hq.metadata it r)
  putVersion := fun _ hs => hs.put _ _ hq.version
  erase := fun _ _ _ _ hs => hs.erase _
  delRange := fun _ hs => hs.deleteRange _ _

theorem BuildQ.preprocessDot (hq : BuildQ c P Q) (hm : c.metric = .dot) {s : Store} (h : StoreOk Q s) :
    StoreOk Q (Build.preprocessDot c s) :=
  Build.preprocessDot_inv (StoreOk Q) c s h
    (fun _ kv _ hh e h1 h2 hst => hst.put _ _ (e ▸ hq.dot hm kv.1 hh kv.2 s h2 (h _ h1)))

/-- **one build**: from a store all of whose entries satisfy `Q`, with an oracle all of whose normals
    satisfy `P`, a successful build ends on a store all of whose entries satisfy `Q` -/
theorem Build.build_storeOk (hq : BuildQ c P Q)
    (o : BuildOpts) (fuel : Nat) (st st' : BState) (h : Build.build c o fuel st = .ok ((), st'))
    (hs : StoreOk Q st.store) (hN : ∀ n ∈ st.normals, P n) : StoreOk Q st'.store :=
  (Build.build_keeps hq.keeps (fun hm _ => hq.preprocessDot hm) o fuel st () st' ⟨hs, hN⟩ h).1.1

/-- the trees `Check.trees` reads have the normals of the store -/
theorem trees_tok {c : Cfg} {P : List Nat → Prop} {Q : Key → Val → Prop} (hq : BuildQ c P Q) {s : Store}
    (hs : StoreOk Q s) : ∀ t ∈ Check.trees c s, TOk P t :=
  trees_tok' (fun id l r n hg => hq.ofTree id l r n (hs.of_get hg))

end Arroy
