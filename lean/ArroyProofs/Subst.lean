import ArroyProofs.GrowForest
/-! Tree surgery: replacing the bucket with id `b` by a tree `u` rooted at `b`. -/
namespace Arroy
open Generated IdSet

namespace T

/-- replace the bucket `b` by `u` -/
def subst : T → Nat → T → T
  | .leaf i, _, _ => .leaf i
  | .bucket id s, b, u => if id = b then u else .bucket id s
  | .node id n l r, b, u => .node id n (l.subst b u) (r.subst b u)

/-- `b` is not a node of `t`, or it is a bucket of `t` holding `its` -/
def At (b : Nat) (its : List Nat) (t : T) : Prop := b ∉ t.ids ∨ (b, its) ∈ t.buckets

theorem subst_of_not_mem {b : Nat} (u : T) {t : T} (h : b ∉ t.ids) : t.subst b u = t := by
  induction t with
  | leaf i => rfl
  | bucket id s =>
    simp only [ids, List.mem_singleton] at h
    simp only [subst]
    exact if_neg (fun e : id = b => h e.symm)
  | node id n l r ihl ihr =>
    simp only [ids, List.mem_cons, List.mem_append, not_or] at h
    simp only [subst, ihl h.2.1, ihr h.2.2]

theorem At.node {b : Nat} {its : List Nat} {id : Nat} {n : List Nat} {l r : T}
    (hnd : (T.node id n l r).ids.Nodup) (h : At b its (.node id n l r)) :
    id ≠ b ∧ l.ids.Nodup ∧ r.ids.Nodup ∧ At b its l ∧ At b its r ∧ (b ∈ l.ids → b ∉ r.ids) := by
  simp only [ids, List.nodup_cons, List.nodup_append, List.mem_append, not_or] at hnd
  obtain ⟨⟨hidl, hidr⟩, hndl, hndr, hdisj⟩ := hnd
  refine ⟨?_, hndl, hndr, ?_, ?_, fun hl hr => hdisj b hl b hr rfl⟩
  · rcases h with h | h
    · intro e; exact h (by simp [ids, e])
    · simp only [buckets, List.mem_append] at h
      intro e
      subst e
      rcases h with h | h
      · exact hidl (buckets_ids h)
      · exact hidr (buckets_ids h)
  · rcases h with h | h
    · exact Or.inl (fun hm => h (by simp [ids, hm]))
    · simp only [buckets, List.mem_append] at h
      rcases h with h | h
      · exact Or.inr h
      · exact Or.inl (fun hm => hdisj b hm b (buckets_ids h) rfl)
  · rcases h with h | h
    · exact Or.inl (fun hm => h (by simp [ids, hm]))
    · simp only [buckets, List.mem_append] at h
      rcases h with h | h
      · exact Or.inl (fun hm => hdisj b (buckets_ids h) b hm rfl)
      · exact Or.inr h

theorem subst_ref {b : Nat} {u : T} (hu : u.ref = NodeId.mkTree b) (t : T) : (t.subst b u).ref = t.ref := by
  cases t with
  | leaf i => rfl
  | bucket id s =>
    simp only [subst]
    split
    · rename_i e; subst e; exact hu
    · rfl
  | node id n l r => rfl

/-- what replacing the bucket `b` (holding `its`) of `t` by `u` gives (`t'`), for a tree `t` with distinct node ids -/
structure SubstSpec (b : Nat) (its : List Nat) (u t t' : T) : Prop where
  ids : ∀ i, i ∈ t'.ids ↔ (i ∈ t.ids ∧ i ≠ b) ∨ (b ∈ t.ids ∧ i ∈ u.ids)
  nodup : u.ids.Nodup → (∀ i ∈ u.ids, i = b ∨ i ∉ t.ids) → t'.ids.Nodup
  items : (∀ x, x ∈ u.items ↔ x ∈ its) → ∀ x, x ∈ t'.items ↔ x ∈ t.items
  items_nodup : (∀ x, x ∈ u.items ↔ x ∈ its) → u.items.Nodup → t.items.Nodup → t'.items.Nodup
  routed : ∀ cx, (∀ x, x ∈ u.items ↔ x ∈ its) → RoutedT cx u → RoutedT cx t → RoutedT cx t'
  /-- `s'` holds the new tree if it holds `u` and agrees with a store holding `t` away from `b` -/
  holds : ∀ (c : Cfg) (s s' : Store), Holds c s t → Holds c s' u → u.ref = NodeId.mkTree b →
    (∀ i ∈ t.ids, i ≠ b → Store.get s' (c.treeKey i) = Store.get s (c.treeKey i)) → Holds c s' t'

theorem subst_spec {b : Nat} {its : List Nat} {u t : T} (hnd : t.ids.Nodup) (hat : At b its t) :
    SubstSpec b its u t (t.subst b u) := by
  induction t with
  | leaf j =>
    exact ⟨by simp [subst, ids], fun _ _ => hnd, fun _ _ => Iff.rfl, fun _ _ h => h, fun _ _ _ h => h,
      fun _ _ _ _ _ _ _ cell hc => nomatch hc⟩
  | bucket id s =>
    by_cases e : id = b
    · subst e
      have hs : its = s := by
        rcases hat with h | h
        · exact absurd (by simp [ids]) h
        · simpa [buckets] using h
      simp only [subst, ↓reduceIte]
      exact ⟨by simp [ids], fun hu _ => hu, fun hu x => by rw [hu x, hs]; rfl, fun _ hu _ => hu,
        fun _ _ hu _ => hu, fun _ _ _ _ hu _ _ => hu⟩
    · simp only [subst, e, ↓reduceIte]
      refine ⟨fun i => ?_, fun _ _ => hnd, fun _ _ => Iff.rfl, fun _ _ h => h, fun _ _ _ h => h,
        fun c s s' hh _ _ agree => hh.frame (fun i hi => agree i hi ?_)⟩
      · simp only [ids, List.mem_singleton]
        constructor
        · rintro rfl; exact Or.inl ⟨rfl, e⟩
        · rintro (⟨h1, _⟩ | ⟨h1, _⟩)
          · exact h1
          · exact absurd h1.symm e
      · rw [ids, List.mem_singleton] at hi
        exact hi ▸ e
  | node id n l r ihl ihr =>
    obtain ⟨hne, hndl, hndr, hal, har, hlr⟩ := hat.node hnd
    have L := ihl hndl hal
    have R := ihr hndr har
    simp only [ids, List.nodup_cons, List.nodup_append, List.mem_append, not_or] at hnd
    obtain ⟨⟨hidl, hidr⟩, _, _, hdisj⟩ := hnd
    simp only [subst]
    refine ⟨fun i => ?_, fun hu hfresh => ?_, fun hu x => ?_, fun hu hun htn => ?_, fun cx hu hur ht => ?_,
      fun c s s' hh hu href agree => ?_⟩
    · simp only [ids, List.mem_cons, List.mem_append, L.ids, R.ids]
      grind
    · have hfl : ∀ i ∈ u.ids, i = b ∨ i ∉ l.ids := fun i hi' => (hfresh i hi').imp_right (fun h hm => h (by simp [ids, hm]))
      have hfr : ∀ i ∈ u.ids, i = b ∨ i ∉ r.ids := fun i hi' => (hfresh i hi').imp_right (fun h hm => h (by simp [ids, hm]))
      have hfid : id ∉ u.ids := fun h2 => (hfresh id h2).elim hne (fun h => h (by simp [ids]))
      simp only [ids, List.nodup_cons, List.nodup_append, List.mem_append, L.ids, R.ids]
      refine ⟨fun hh => hh.elim ?_ ?_, L.nodup hu hfl, R.nodup hu hfr, ?_⟩
      · rintro (⟨h1, _⟩ | ⟨_, h2⟩)
        · exact hidl h1
        · exact hfid h2
      · rintro (⟨h1, _⟩ | ⟨_, h2⟩)
        · exact hidr h1
        · exact hfid h2
      · intro a ha c hc e
        subst e
        rcases ha with ⟨h1, h2⟩ | ⟨h1, h2⟩
        · rcases hc with ⟨h3, _⟩ | ⟨_, h4⟩
          · exact hdisj a h1 a h3 rfl
          · exact (hfl a h4).elim h2 (fun h => h h1)
        · rcases hc with ⟨h3, h4⟩ | ⟨h3, _⟩
          · exact (hfr a h2).elim h4 (fun h => h h3)
          · exact hlr h1 h3
    · simp only [items, List.mem_append, L.items hu, R.items hu]
    · simp only [items, List.nodup_append] at htn ⊢
      exact ⟨L.items_nodup hu hun htn.1, R.items_nodup hu hun htn.2.1,
        fun a ha c hc => htn.2.2 a ((L.items hu a).1 ha) c ((R.items hu c).1 hc)⟩
    · obtain ⟨h1, h2, h3⟩ := ht
      refine ⟨fun hz => ?_, L.routed cx hu hur h2, R.routed cx hu hur h3⟩
      exact ⟨fun x hx => (h1 hz).1 x ((L.items hu x).1 hx), fun x hx => (h1 hz).2 x ((R.items hu x).1 hx)⟩
    · have hl := L.holds c s s' hh.left hu href (fun i hi => agree i (by simp [ids, hi]))
      have hr := R.holds c s s' hh.right hu href (fun i hi => agree i (by simp [ids, hi]))
      intro cell hc
      simp only [cells, List.mem_cons, List.mem_append] at hc
      rcases hc with rfl | hc | hc
      · simp only
        rw [subst_ref href, subst_ref href, agree id (by simp [ids]) hne]
        exact hh.root
      · exact hl cell hc
      · exact hr cell hc

theorem mem_ids_subst {b : Nat} {its : List Nat} {u : T} {t : T} (hnd : t.ids.Nodup) (hat : At b its t) (i : Nat) :
    i ∈ (t.subst b u).ids ↔ (i ∈ t.ids ∧ i ≠ b) ∨ (b ∈ t.ids ∧ i ∈ u.ids) := (subst_spec hnd hat).ids i

theorem wf_subst {b : Nat} {u : T} {t : T} (hu : Arroy.WF u) (ht : Arroy.WF t) : Arroy.WF (t.subst b u) := by
  induction t with
  | leaf j => exact ht
  | bucket id s =>
    simp only [subst]
    split
    · exact hu
    · exact ht
  | node id n l r ihl ihr => exact ⟨ihl ht.1, ihr ht.2⟩

theorem buckets_subst {b : Nat} {u : T} {t : T} (p : Nat × List Nat) (h : p ∈ (t.subst b u).buckets) :
    p ∈ u.buckets ∨ (p ∈ t.buckets ∧ p.1 ≠ b) := by
  induction t with
  | leaf j => simp [subst, buckets] at h
  | bucket id s =>
    simp only [subst] at h
    split at h
    · exact Or.inl h
    · rename_i e
      simp only [buckets, List.mem_singleton] at h
      subst h
      exact Or.inr ⟨by simp [buckets], e⟩
  | node id n l r ihl ihr =>
    simp only [subst, buckets, List.mem_append] at h ⊢
    rcases h with h | h
    · exact (ihl h).imp (fun h => h) (fun ⟨h1, h2⟩ => ⟨Or.inl h1, h2⟩)
    · exact (ihr h).imp (fun h => h) (fun ⟨h1, h2⟩ => ⟨Or.inr h1, h2⟩)

end T

/-- a node whose cell is a bucket cell is a bucket of the tree -/
theorem bucket_of_holds {c : Cfg} {s : Store} {t : T} {b : Nat} {its : List Nat} (hh : Holds c s t)
    (hb : b ∈ t.ids) (hg : Store.get s (c.treeKey b) = some (.desc its)) : (b, its) ∈ t.buckets := by
  induction t with
  | leaf j => simp [T.ids] at hb
  | bucket id s0 =>
    simp only [T.ids, List.mem_singleton] at hb
    subst hb
    have := hh.bucket
    rw [hg] at this
    simp only [Option.some.injEq, Val.desc.injEq] at this
    simp [T.buckets, this]
  | node id n l r ihl ihr =>
    simp only [T.ids, List.mem_cons, List.mem_append] at hb
    simp only [T.buckets, List.mem_append]
    rcases hb with rfl | hb | hb
    · have := hh.root
      rw [hg] at this
      simp at this
    · exact Or.inl (ihl hh.left hb)
    · exact Or.inr (ihr hh.right hb)

/-- the bucket `b` lies in one tree, but `subst b u` is mapped over all of them: hence `T.At`, which also
    allows `b ∉ t.ids` (then `subst` does nothing, `T.subst_of_not_mem`) -/
theorem Forest.subst {c : Cfg} {s s' : Store} {roots items : List Nat} {ts : List T} (f : Forest c s roots items ts)
    {b : Nat} {its : List Nat} {u : T}
    (hg : Store.get s (c.treeKey b) = some (.desc its))
    (href : u.ref = NodeId.mkTree b) (hund : u.ids.Nodup)
    (hfresh : ∀ i ∈ u.ids, i = b ∨ i ∉ ts.flatMap T.ids)
    (hu : Holds c s' u)
    (frame : ∀ k, (∀ i ∈ u.ids, k ≠ c.treeKey i) → Store.get s' k = Store.get s k)
    (huwf : WF u) (huin : u.items.Nodup) (huit : ∀ x, x ∈ u.items ↔ x ∈ its) :
    Forest c s' roots items (ts.map (fun t => t.subst b u)) ∧ (∀ t ∈ ts, T.At b its t) := by
  have hbu : b ∈ u.ids := by
    have := (T.ref_eq_mkTree_of_not_leaf (T.not_leaf_of_ref href)).2
    rw [href] at this
    exact this
  have hbold : b ∈ ts.flatMap T.ids := (f.cover b).1 (by rw [hg]; rfl)
  have hat : ∀ t ∈ ts, T.At b its t := by
    intro t ht
    by_cases hb : b ∈ t.ids
    · exact Or.inr (bucket_of_holds (f.holds t ht) hb hg)
    · exact Or.inl hb
  have hmem : ∀ i, i ∈ (ts.map (fun t => t.subst b u)).flatMap T.ids ↔ (i ∈ ts.flatMap T.ids ∧ i ≠ b) ∨ i ∈ u.ids := by
    intro i
    rw [List.flatMap_map]
    simp only [List.mem_flatMap]
    constructor
    · rintro ⟨t, ht, hi⟩
      rcases (T.mem_ids_subst (f.tree_nodup ht) (hat t ht) i).1 hi with ⟨h1, h2⟩ | ⟨_, h2⟩
      · exact Or.inl ⟨⟨t, ht, h1⟩, h2⟩
      · exact Or.inr h2
    · rintro (⟨⟨t, ht, h1⟩, h2⟩ | h)
      · exact ⟨t, ht, (T.mem_ids_subst (f.tree_nodup ht) (hat t ht) i).2 (Or.inl ⟨h1, h2⟩)⟩
      · obtain ⟨t, ht, hbt⟩ := List.mem_flatMap.1 hbold
        exact ⟨t, ht, (T.mem_ids_subst (f.tree_nodup ht) (hat t ht) i).2 (Or.inr ⟨hbt, h⟩)⟩
  refine ⟨⟨?_, ?_, ?_, ?_, ?_, ?_, ?_⟩, hat⟩
  · rw [List.map_map, ← f.refs]
    apply List.map_congr_left
    intro t _
    exact T.subst_ref href t
  · refine List.forall_mem_map.2 (fun t ht => ?_)
    apply (T.subst_spec (f.tree_nodup ht) (hat t ht)).holds c s s' (f.holds t ht) hu href
    intro i hi hne
    apply frame
    intro j hj e
    have := Cfg.treeKey_inj.1 e
    subst this
    rcases hfresh i hj with h | h
    · exact hne h
    · exact h (List.mem_flatMap.2 ⟨t, ht, hi⟩)
  · have hnd := f.ids_nodup
    rw [List.flatMap_map]
    rw [List.nodup_iff_pairwise_ne, List.pairwise_flatMap] at hnd ⊢
    refine ⟨?_, ?_⟩
    · intro t ht
      rw [← List.nodup_iff_pairwise_ne]
      exact (T.subst_spec (f.tree_nodup ht) (hat t ht)).nodup hund
        (fun i hi => (hfresh i hi).imp (fun h => h) (fun h hm => h (List.mem_flatMap.2 ⟨t, ht, hm⟩)))
    · apply hnd.2.imp_of_mem
      intro t1 t2 ht1 ht2 hR x hx y hy e
      subst e
      rcases (T.mem_ids_subst (f.tree_nodup ht1) (hat t1 ht1) x).1 hx with ⟨h1, h2⟩ | ⟨h1, h2⟩
      · rcases (T.mem_ids_subst (f.tree_nodup ht2) (hat t2 ht2) x).1 hy with ⟨h3, _⟩ | ⟨_, h4⟩
        · exact hR x h1 x h3 rfl
        · rcases hfresh x h4 with h | h
          · exact h2 h
          · exact h (List.mem_flatMap.2 ⟨t1, ht1, h1⟩)
      · rcases (T.mem_ids_subst (f.tree_nodup ht2) (hat t2 ht2) x).1 hy with ⟨h3, h4⟩ | ⟨h3, _⟩
        · rcases hfresh x h2 with h | h
          · exact h4 h
          · exact h (List.mem_flatMap.2 ⟨t2, ht2, h3⟩)
        · exact hR b h1 b h3 rfl
  · intro id
    rw [hmem]
    constructor
    · intro hsome
      by_cases hid : id ∈ u.ids
      · exact Or.inr hid
      · rw [frame _ (fun i hi e => hid (by rw [Cfg.treeKey_inj.1 e]; exact hi))] at hsome
        refine Or.inl ⟨(f.cover id).1 hsome, ?_⟩
        intro e; subst e; exact hid hbu
    · rintro (⟨h1, _⟩ | h)
      · by_cases hid : id ∈ u.ids
        · exact hu.isSome hid
        · rw [frame _ (fun i hi e => hid (by rw [Cfg.treeKey_inj.1 e]; exact hi))]
          exact (f.cover id).2 h1
      · exact hu.isSome h
  · exact List.forall_mem_map.2 (fun t ht => T.wf_subst huwf (f.wf t ht))
  · exact List.forall_mem_map.2 (fun t ht =>
      (T.subst_spec (f.tree_nodup ht) (hat t ht)).items_nodup huit huin (f.items_nodup t ht))
  · refine List.forall_mem_map.2 (fun t ht x => ?_)
    rw [(T.subst_spec (f.tree_nodup ht) (hat t ht)).items huit, f.reach t ht x]

end Arroy
