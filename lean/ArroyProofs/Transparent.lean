import ArroyProofs.BuildM
/-! Cancellation transparency of `BuildM` computations (helpers for property C10).

`erase st` forgets the cancel schedule.  `TransparentAt m st` relates the run of `m` from `st`
to the fault-free run from `erase st`; `Transparent m` is the same for every start state.
The predicate is closed under every construct of `ArroyModel/Build.lean` except the swallowed
cancellation of `usedTreeNode`, which is handled by `Doomed` (the firing call has been made,
so every later `poll` fails). -/
namespace Arroy
open BuildM Generated

namespace Transp

/-- forget the cancel schedule -/
def erase (st : BState) : BState := { st with cancelAt := none }

/-- the firing call of the callback has not been made yet -/
def Safe (st : BState) : Prop := ∀ n, st.cancelAt = some n → st.polls ≤ n

/-- the firing call of the callback has been made (and, if we are still running, swallowed) -/
def Doomed (st : BState) : Prop := ∃ n, st.cancelAt = some n ∧ n < st.polls

@[simp] theorem erase_store (st : BState) : (erase st).store = st.store := rfl
@[simp] theorem erase_polls (st : BState) : (erase st).polls = st.polls := rfl
@[simp] theorem erase_cancelAt (st : BState) : (erase st).cancelAt = none := rfl
@[simp] theorem erase_normals (st : BState) : (erase st).normals = st.normals := rfl
@[simp] theorem erase_rands (st : BState) : (erase st).rands = st.rands := rfl
@[simp] theorem erase_batches (st : BState) : (erase st).batches = st.batches := rfl
@[simp] theorem erase_erase (st : BState) : erase (erase st) = erase st := rfl

theorem erase_eq_self {st : BState} (h : st.cancelAt = none) : erase st = st := by
  cases st; simp_all [erase]

theorem safe_erase (st : BState) : Safe (erase st) := by
  intro n h; simp at h

theorem not_safe_of_doomed {st : BState} (h : Doomed st) : ¬ Safe st := by
  intro hs
  obtain ⟨n, h1, h2⟩ := h
  have := hs n h1
  omega

/-- Relation between the run of `m` from `st` and the fault-free run from `erase st`:
* a successful run is also the fault-free run (same result, same final state up to the schedule),
  it never decreases the poll counter, keeps the schedule, and has not made the firing call;
* a failing run either fails with `cancelled` — and then the fault-free run, if it succeeds,
  makes more than `n` polls — or fails exactly like the fault-free run. -/
structure TransparentAt (m : BuildM α) (st : BState) : Prop where
  ok : ∀ a st', m st = .ok (a, st') →
    m (erase st) = .ok (a, erase st') ∧ st.polls ≤ st'.polls ∧ st'.cancelAt = st.cancelAt ∧
      (Safe st → Safe st')
  err : ∀ e, m st = .error e →
    (∃ k, e = .cancelled k ∧
      ∀ n a st', st.cancelAt = some n → m (erase st) = .ok (a, st') → n < st'.polls) ∨
    m (erase st) = .error e

def Transparent (m : BuildM α) : Prop := ∀ st, TransparentAt m st

/-- transparency from the states whose store satisfies `P` -/
def TransparentOn (P : Store → Prop) (m : BuildM α) : Prop := ∀ st, P st.store → TransparentAt m st

/-- `m` maps stores satisfying `P` to stores satisfying `Q` -/
def StorePost (P Q : Store → Prop) (m : BuildM α) : Prop :=
  ∀ st a st', P st.store → m st = .ok (a, st') → Q st'.store

theorem Transparent.on {m : BuildM α} (h : Transparent m) (P : Store → Prop) : TransparentOn P m :=
  fun st _ => h st

/-- the simple form of transparency, as a `match` -/
theorem TransparentAt.simple {m : BuildM α} {st : BState} (h : TransparentAt m st) :
    match m st with
    | .ok (a, st') => m (erase st) = .ok (a, erase st')
    | .error e => (∃ k, e = .cancelled k) ∨ m (erase st) = .error e := by
  cases hm : m st with
  | ok r => obtain ⟨a, st'⟩ := r; exact (h.ok a st' hm).1
  | error e =>
    rcases h.err e hm with ⟨k, hk, _⟩ | h2
    · exact Or.inl ⟨k, hk⟩
    · exact Or.inr h2

theorem bind'_getStore (f : Store → BuildM β) (st : BState) : bind' getStore f st = f st.store st := rfl

theorem TransparentAt.bind' {m : BuildM α} {f : α → BuildM β} {st : BState}
    (hm : TransparentAt m st)
    (hf : ∀ a st1, m st = .ok (a, st1) → TransparentAt (f a) st1)
    (hf' : ∀ a st1, m (erase st) = .ok (a, st1) → TransparentAt (f a) st1) :
    TransparentAt (bind' m f) st := by
  constructor
  · intro b st2 h
    cases hms : m st with
    | error e => rw [bind'_of_err hms] at h; cases h
    | ok r =>
      obtain ⟨a, st1⟩ := r
      rw [bind'_of_ok hms] at h
      obtain ⟨h1, h2, h3, h4⟩ := hm.ok a st1 hms
      obtain ⟨g1, g2, g3, g4⟩ := (hf a st1 hms).ok b st2 h
      refine ⟨?_, by omega, by rw [g3, h3], fun hs => g4 (h4 hs)⟩
      rw [bind'_of_ok h1]; exact g1
  · intro e h
    cases hms : m st with
    | error e' =>
      rw [bind'_of_err hms] at h
      injection h with h
      subst h
      rcases hm.err _ hms with ⟨k, hk, hn⟩ | h2
      · refine Or.inl ⟨k, hk, ?_⟩
        intro n b st2 hc hb
        cases hme : m (erase st) with
        | error e'' => rw [bind'_of_err hme] at hb; cases hb
        | ok r =>
          obtain ⟨a, st1⟩ := r
          rw [bind'_of_ok hme] at hb
          have := hn n a st1 hc hme
          have := ((hf' a st1 hme).ok b st2 hb).2.1
          omega
      · exact Or.inr (bind'_of_err h2)
    | ok r =>
      obtain ⟨a, st1⟩ := r
      rw [bind'_of_ok hms] at h
      obtain ⟨h1, h2, h3, h4⟩ := hm.ok a st1 hms
      rcases (hf a st1 hms).err e h with ⟨k, hk, hn⟩ | g2
      · refine Or.inl ⟨k, hk, ?_⟩
        intro n b st2 hc hb
        rw [bind'_of_ok h1] at hb
        exact hn n b st2 (by rw [h3, hc]) hb
      · refine Or.inr ?_
        rw [bind'_of_ok h1]; exact g2

theorem Transparent.bind' {m : BuildM α} {f : α → BuildM β} (hm : Transparent m)
    (hf : ∀ a, Transparent (f a)) : Transparent (bind' m f) :=
  fun st => TransparentAt.bind' (hm st) (fun a st1 _ => hf a st1) (fun a st1 _ => hf a st1)

theorem Transparent.bind {m : BuildM α} {f : α → BuildM β} (hm : Transparent m)
    (hf : ∀ a, Transparent (f a)) : Transparent (m >>= f) :=
  Transparent.bind' hm hf

theorem TransparentOn.bind' {P Q : Store → Prop} {m : BuildM α} {f : α → BuildM β}
    (hm : TransparentOn P m) (hpost : StorePost P Q m) (hf : ∀ a, TransparentOn Q (f a)) :
    TransparentOn P (bind' m f) := by
  intro st hP
  refine TransparentAt.bind' (hm st hP) (fun a st1 h => hf a st1 (hpost st a st1 hP h)) ?_
  intro a st1 h
  exact hf a st1 (hpost (erase st) a st1 hP h)

/-- a pure read-and-update of the state that does not look at the schedule or the counter -/
theorem Transparent.update (g : BState → α) (u : BState → BState)
    (hg : ∀ s, g (erase s) = g s) (hu : ∀ s, u (erase s) = erase (u s))
    (hp : ∀ s, (u s).polls = s.polls) (hc : ∀ s, (u s).cancelAt = s.cancelAt) :
    Transparent (fun s => .ok (g s, u s) : BuildM α) := by
  intro st
  constructor
  · intro a st' h
    cases h
    refine ⟨by simp [hg, hu], by rw [hp]; exact Nat.le_refl _, hc st, ?_⟩
    intro hs n hn
    rw [hc] at hn; rw [hp]; exact hs n hn
  · intro e h; cases h

theorem Transparent.pure' (a : α) : Transparent (pure' a) :=
  Transparent.update (fun _ => a) id (fun _ => rfl) (fun _ => rfl) (fun _ => rfl) (fun _ => rfl)

theorem Transparent.pure (a : α) : Transparent (pure a : BuildM α) := Transparent.pure' a

theorem Transparent.fail (e : Err) : Transparent (fail e : BuildM α) := by
  intro st
  constructor
  · intro a st' h; cases h
  · intro e' h; cases h; exact Or.inr rfl

theorem Transparent.ite {p : Prop} [Decidable p] {x y : BuildM α} (hx : Transparent x) (hy : Transparent y) :
    Transparent (if p then x else y) := by
  split
  · exact hx
  · exact hy

theorem Transparent.getStore : Transparent getStore :=
  Transparent.update (fun s => s.store) id (fun _ => rfl) (fun _ => rfl) (fun _ => rfl) (fun _ => rfl)

theorem Transparent.setStore (s : Store) : Transparent (setStore s) :=
  Transparent.update (fun _ => ()) (fun st => { st with store := s })
    (fun _ => rfl) (fun _ => rfl) (fun _ => rfl) (fun _ => rfl)

theorem Transparent.modifyStore (f : Store → Store) : Transparent (modifyStore f) :=
  Transparent.update (fun _ => ()) (fun st => { st with store := f st.store })
    (fun _ => rfl) (fun _ => rfl) (fun _ => rfl) (fun _ => rfl)

theorem Transparent.setRands (r : List Bool) :
    Transparent (fun s => .ok ((), { s with rands := r }) : BuildM Unit) :=
  Transparent.update (fun _ => ()) (fun st => { st with rands := r })
    (fun _ => rfl) (fun _ => rfl) (fun _ => rfl) (fun _ => rfl)

theorem Transparent.setNormalsRands (n : List (List Nat)) (r : List Bool) :
    Transparent (fun s => .ok ((), { s with normals := n, rands := r }) : BuildM Unit) :=
  Transparent.update (fun _ => ()) (fun st => { st with normals := n, rands := r })
    (fun _ => rfl) (fun _ => rfl) (fun _ => rfl) (fun _ => rfl)

theorem Transparent.liftExcept (x : Except Err α) : Transparent (liftExcept x) := by
  cases x with
  | ok a => exact Transparent.pure' a
  | error e => exact Transparent.fail e

theorem Transparent.nextBatch : Transparent nextBatch := by
  intro st
  constructor
  · intro a st' h
    unfold BuildM.nextBatch at h ⊢
    cases hb : st.batches with
    | nil => simp [hb] at h
    | cons k rest =>
      simp only [hb] at h
      cases h
      refine ⟨by simp [hb, erase], Nat.le_refl _, rfl, fun hs => hs⟩
  · intro e h
    unfold BuildM.nextBatch at h ⊢
    cases hb : st.batches with
    | nil => simp only [hb] at h; cases h; exact Or.inr (by simp [hb])
    | cons k rest => simp [hb] at h

theorem poll_some_lt {st : BState} {n : Nat} (h : st.cancelAt = some n) (hn : st.polls < n) :
    poll st = .ok ((), { st with polls := st.polls + 1 }) := by
  have : ¬ n ≤ st.polls := by omega
  simp [poll, h, this]

theorem poll_some_ge {st : BState} {n : Nat} (h : st.cancelAt = some n) (hn : n ≤ st.polls) :
    poll st = .error (.cancelled (st.polls + 1)) := by
  simp [poll, h, hn]

theorem Transparent.poll : Transparent poll := by
  intro st
  cases hc : st.cancelAt with
  | none =>
    constructor
    · intro a st' h
      rw [poll_none hc] at h; cases h
      refine ⟨by rw [poll_none (erase_cancelAt st)]; rfl, by simp, rfl, ?_⟩
      intro _ n hn
      simp [hc] at hn
    · intro e h; rw [poll_none hc] at h; cases h
  | some n =>
    by_cases hn : n ≤ st.polls
    · constructor
      · intro a st' h; rw [poll_some_ge hc hn] at h; cases h
      · intro e h
        rw [poll_some_ge hc hn] at h; cases h
        refine Or.inl ⟨_, rfl, ?_⟩
        intro n' a st' hc' he
        rw [poll_none (erase_cancelAt st)] at he
        cases he
        rw [hc] at hc'
        cases hc'
        simp; omega
    · have hlt : st.polls < n := by omega
      constructor
      · intro a st' h
        rw [poll_some_lt hc hlt] at h; cases h
        refine ⟨by rw [poll_none (erase_cancelAt st)]; rfl, by simp, rfl, ?_⟩
        intro _ n' hn'
        simp only [hc] at hn'
        cases hn'
        simp; omega
      · intro e h; rw [poll_some_lt hc hlt] at h; cases h

theorem Transparent.pollN (k : Nat) : Transparent (pollN k) := by
  induction k with
  | zero => exact Transparent.pure' ()
  | succ k ih => exact Transparent.bind' Transparent.poll (fun _ => ih)

theorem Transparent.forEach (xs : List α) (f : α → BuildM Unit) (hf : ∀ a, Transparent (f a)) :
    Transparent (forEach xs f) := by
  induction xs with
  | nil => exact Transparent.pure' ()
  | cons x xs ih => exact Transparent.bind' (hf x) (fun _ => ih)

/-- the state-peeking lambdas of `Build.lean`: the continuation may look at the whole state,
    provided it does not look at the schedule -/
theorem Transparent.peek {f : BState → BuildM β} (hf : ∀ s, Transparent (f s))
    (hinv : ∀ s, f (erase s) = f s) :
    Transparent ((fun s => .ok (s, s) : BuildM BState) >>= f) := by
  intro st
  have e1 : ((fun s => .ok (s, s) : BuildM BState) >>= f) st = f st st := rfl
  have e2 : ((fun s => .ok (s, s) : BuildM BState) >>= f) (erase st) = f st (erase st) := by
    show f (erase st) (erase st) = _
    rw [hinv]
  have h := hf st st
  constructor
  · intro a st' hm
    rw [e1] at hm; rw [e2]
    exact h.ok a st' hm
  · intro e hm
    rw [e1] at hm; rw [e2]
    exact h.err e hm

theorem poll_doomed {st : BState} (h : Doomed st) : ∃ k, poll st = .error (.cancelled k) := by
  obtain ⟨n, h1, h2⟩ := h
  exact ⟨_, poll_some_ge h1 (by omega)⟩

/-- `m` keeps the schedule and never decreases the counter: doomedness is preserved -/
theorem Transparent.doomed {m : BuildM α} (hm : Transparent m) {st st' : BState} {a : α}
    (h : m st = .ok (a, st')) (hd : Doomed st) : Doomed st' := by
  obtain ⟨n, h1, h2⟩ := hd
  obtain ⟨_, g2, g3, _⟩ := (hm st).ok a st' h
  exact ⟨n, by rw [g3, h1], by omega⟩

/-- the two clauses of `TransparentAt` as one `match` on the outcome -/
theorem Transparent.simple {m : BuildM α} (h : Transparent m) : ∀ st,
    match m st with
    | .ok (a, st') => m (erase st) = .ok (a, erase st')
    | .error e => (∃ k, e = .cancelled k) ∨ m (erase st) = .error e :=
  fun st => (h st).simple

end Transp
end Arroy
