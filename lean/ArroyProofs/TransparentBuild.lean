import ArroyProofs.Transparent
import ArroyProofs.TreeView
/-! `Build.buildWith mk` — `Writer::build` drawing its node ids from the generator `mk used`; `build` is
`buildWith IdGen.new` — and the two halves `afterUsedWith` / `afterUsed` of its main path (`buildWith_eq`, `build_eq`):
the functions the forest chain and the build theorems are about are defined HERE. Then: transparency of every
routine of `ArroyModel/Build.lean`, the swallowed cancellation of `used_tree_node`, and the store facts needed to
carry `RootsPresent` to that point. -/
namespace Arroy
open BuildM Generated

namespace Build

/-- `Writer::build` drawing its node ids from the generator `mk used` (`used`: the tree ids in use) -/
def buildWith (mk : List Nat → IdGen) (c : Cfg) (o : BuildOpts) (loopFuel : Nat) : BuildM Unit := do
  preProcessItems c
  let items ← itemIndices c
  let updated ← resetUpdated c
  if fits (cap c o) items.length then singleLeaf c items else
  let toDelete := updated
  let toInsert := IdSet.inter items updated
  let s ← getStore
  let roots := match s.get c.metaKey with
    | some (.metadata _ _ _ roots) => roots
    | _ => []
  let used ← usedTreeNode c
  let g := mk used
  let target := targetNTrees o c.dims items.length roots.length
  let roots ← deleteExtraTrees c (roots.length - target) roots
  let roots ← deleteItemsFromTrees c o roots toDelete
  let (large, g) ← insertItemsInCurrentTrees c o roots (toInsert.length + 1) toInsert g
  let (roots, large, g) ← newTrees c items (target - roots.length) roots large g
  incrementalIndexLargeDescendants c o loopFuel large g
  writeMetadata c items roots

theorem buildWith_new : buildWith IdGen.new = build := rfl

end Build

namespace Transp

open Build

theorem preProcessItems_tr (c : Cfg) : Transparent (preProcessItems c) :=
  .bind .poll fun _ => .ite (.modifyStore _) (.pure _)

theorem itemIndices_tr (c : Cfg) : Transparent (itemIndices c) :=
  .bind .getStore fun _ => .bind (.pollN _) fun _ => .pure _

theorem resetUpdated_tr (c : Cfg) : Transparent (resetUpdated c) :=
  .bind .getStore fun _ => .bind (.forEach _ _ fun _ => .bind .poll fun _ => .modifyStore _) fun _ => .pure _

theorem writeMetadata_tr (c : Cfg) (a b) : Transparent (writeMetadata c a b) := .modifyStore _

theorem singleLeaf_tr (c : Cfg) (items) : Transparent (singleLeaf c items) :=
  .bind (.modifyStore _) fun _ =>
    .ite (.bind (.modifyStore _) fun _ => .bind .poll fun _ => .bind (writeMetadata_tr _ _ _) fun _ => .modifyStore _)
      (.bind .poll fun _ => .bind (writeMetadata_tr _ _ _) fun _ => .modifyStore _)

theorem reifyRoot_tr (c : Cfg) (s r) : Transparent (reifyRoot c s r) := by
  unfold reifyRoot
  split
  · exact .pure _
  · exact .fail _

theorem writeBack_tr (c : Cfg) (a b d) : Transparent (writeBack c a b d) :=
  .bind (.forEach _ _ fun _ => .bind .poll fun _ => .modifyStore _) fun _ =>
    .forEach _ _ fun _ => .bind .poll fun _ => .modifyStore _

theorem deleteLoop_tr (c : Cfg) (o D s roots) : Transparent (deleteLoop c o D s roots) := by
  induction roots with
  | nil => exact .pure _
  | cons r rest ih =>
    exact .bind .poll fun _ => .bind (reifyRoot_tr _ _ _) fun _ => .bind (.pollN _) fun _ =>
      .bind ih fun ⟨_, _, _⟩ => .pure _

theorem deleteExtraTrees_tr (c : Cfg) (k roots) : Transparent (deleteExtraTrees c k roots) := by
  induction k generalizing roots with
  | zero => exact .pure _
  | succ k ih =>
    unfold deleteExtraTrees
    refine .bind .poll fun _ => ?_
    split
    · exact .pure _
    · exact .bind .getStore fun _ => .bind (.liftExcept _) fun _ => .bind (.setStore _) fun _ => ih _

theorem deleteItemsFromTrees_tr (c : Cfg) (o roots D) : Transparent (deleteItemsFromTrees c o roots D) :=
  .bind .getStore fun _ => .bind (deleteLoop_tr _ _ _ _ _) fun ⟨_, _, _⟩ =>
    .bind (writeBack_tr _ _ _ _) fun _ => .pure _

theorem insertRoots_tr (c : Cfg) (o snap batch roots g) : Transparent (insertRoots c o snap batch roots g) := by
  induction roots generalizing g with
  | nil => exact .pure _
  | cons r rest ih =>
    exact .bind .poll fun _ => .bind (reifyRoot_tr _ _ _) fun _ =>
      .peek (fun _ => .bind (.liftExcept _) fun _ => .bind (.setRands _) fun _ => .bind (.pollN _) fun _ =>
        .bind (ih _) fun ⟨_, _, _⟩ => .pure _) (fun _ => rfl)

theorem insertItemsInCurrentTrees_tr (c : Cfg) (o roots fuel toInsert g) :
    Transparent (insertItemsInCurrentTrees c o roots fuel toInsert g) := by
  induction fuel generalizing toInsert g with
  | zero => exact .fail _
  | succ k ih =>
    exact .ite (.pure _) (.bind .poll fun _ => .bind .getStore fun _ => .bind .nextBatch fun _ =>
      .ite (.fail _) (.bind (insertRoots_tr _ _ _ _ _ _) fun ⟨_, _, _⟩ =>
        .bind (.forEach _ _ fun _ => writeBack_tr _ _ _ _) fun _ => .bind (ih _ _) fun ⟨_, _⟩ => .pure _))

theorem newTrees_tr (c : Cfg) (items k roots large g) : Transparent (newTrees c items k roots large g) := by
  induction k generalizing roots large g with
  | zero => exact .pure _
  | succ k ih => exact .bind (.liftExcept _) fun ⟨_, _⟩ => .bind (.modifyStore _) fun _ => ih _ _ _

theorem incrementalIndexLargeDescendants_tr (c : Cfg) (o fuel large g) :
    Transparent (incrementalIndexLargeDescendants c o fuel large g) := by
  induction fuel generalizing large g with
  | zero => exact .ite (.pure _) (.fail _)
  | succ k ih =>
    unfold incrementalIndexLargeDescendants
    split
    · exact .pure _
    · refine .bind .poll fun _ => .bind .getStore fun _ => ?_
      split
      · exact .bind .nextBatch fun _ => .ite (.fail _) (.peek (fun _ =>
          .bind (.liftExcept _) fun _ => .bind (.setNormalsRands _ _) fun _ => .bind (.pollN _) fun _ =>
          .bind (writeBack_tr _ _ _ _) fun _ => .bind (insertItemsInCurrentTrees_tr _ _ _ _ _ _) fun ⟨_, _⟩ => ih _ _)
          (fun _ => rfl))
      · exact .fail _


/-- what `buildWith` does after `used_tree_node`, with generator `g0` -/
def afterUsedWith (g0 : IdGen) (c : Cfg) (o : BuildOpts) (loopFuel : Nat) (items updated roots : List Nat) :
    BuildM Unit := do
  let toDelete := updated
  let toInsert := IdSet.inter items updated
  let g := g0
  let target := targetNTrees o c.dims items.length roots.length
  let roots ← deleteExtraTrees c (roots.length - target) roots
  let roots ← deleteItemsFromTrees c o roots toDelete
  let (large, g) ← insertItemsInCurrentTrees c o roots (toInsert.length + 1) toInsert g
  let (roots, large, g) ← newTrees c items (target - roots.length) roots large g
  incrementalIndexLargeDescendants c o loopFuel large g
  writeMetadata c items roots

/-- what `build` does after `used_tree_node` -/
def afterUsed (c : Cfg) (o : BuildOpts) (loopFuel : Nat) (items updated roots used : List Nat) : BuildM Unit := do
  let toDelete := updated
  let toInsert := IdSet.inter items updated
  let g := IdGen.new used
  let target := targetNTrees o c.dims items.length roots.length
  let roots ← deleteExtraTrees c (roots.length - target) roots
  let roots ← deleteItemsFromTrees c o roots toDelete
  let (large, g) ← insertItemsInCurrentTrees c o roots (toInsert.length + 1) toInsert g
  let (roots, large, g) ← newTrees c items (target - roots.length) roots large g
  incrementalIndexLargeDescendants c o loopFuel large g
  writeMetadata c items roots

theorem afterUsedWith_new (c : Cfg) (o : BuildOpts) (fuel : Nat) (items updated roots used : List Nat) :
    afterUsedWith (IdGen.new used) c o fuel items updated roots = afterUsed c o fuel items updated roots used := rfl

theorem buildWith_eq (mk : List Nat → IdGen) (c : Cfg) (o : BuildOpts) (fuel : Nat) :
    buildWith mk c o fuel =
      bind' (preProcessItems c) (fun _ => bind' (itemIndices c) (fun items => bind' (resetUpdated c) (fun updated =>
        if fits (cap c o) items.length then singleLeaf c items else
        bind' getStore (fun s => bind' (usedTreeNode c)
          (fun used => afterUsedWith (mk used) c o fuel items updated (rootsOf c s)))))) := rfl

theorem build_eq (c : Cfg) (o : BuildOpts) (fuel : Nat) :
    build c o fuel =
      bind' (preProcessItems c) (fun _ => bind' (itemIndices c) (fun items => bind' (resetUpdated c) (fun updated =>
        if fits (cap c o) items.length then singleLeaf c items else
        bind' getStore (fun s => bind' (usedTreeNode c) (afterUsed c o fuel items updated (rootsOf c s)))))) := rfl

theorem afterUsedWith_tr (g0 : IdGen) (c : Cfg) (o fuel items updated roots) :
    Transparent (afterUsedWith g0 c o fuel items updated roots) :=
  .bind (deleteExtraTrees_tr _ _ _) fun _ => .bind (deleteItemsFromTrees_tr _ _ _ _) fun _ =>
    .bind (insertItemsInCurrentTrees_tr _ _ _ _ _ _) fun ⟨_, _⟩ => .bind (newTrees_tr _ _ _ _ _ _) fun ⟨_, _, _⟩ =>
    .bind (incrementalIndexLargeDescendants_tr _ _ _ _ _) fun _ => writeMetadata_tr _ _ _

theorem deleteItemsFromTrees_doomed (c : Cfg) (o : BuildOpts) (roots D : List Nat) {st : BState}
    (hd : Doomed st) (hr : roots ≠ []) : ∃ k, deleteItemsFromTrees c o roots D st = .error (.cancelled k) := by
  obtain ⟨k, hk⟩ := poll_doomed hd
  refine ⟨k, ?_⟩
  cases roots with
  | nil => exact absurd rfl hr
  | cons r rest =>
    unfold deleteItemsFromTrees deleteLoop
    simp only [bind, BuildM.bind', getStore, hk]

theorem deleteExtraTrees_doomed (c : Cfg) (k : Nat) (roots : List Nat) {st : BState}
    (hd : Doomed st) : ∃ j, deleteExtraTrees c (k+1) roots st = .error (.cancelled j) := by
  obtain ⟨j, hj⟩ := poll_doomed hd
  refine ⟨j, ?_⟩
  unfold deleteExtraTrees
  simp only [bind, BuildM.bind', hj]

/-- after a swallowed cancellation, with at least one root, the rest of the build fails with `cancelled` -/
theorem afterUsedWith_doomed (g0 : IdGen) (c : Cfg) (o : BuildOpts) (fuel : Nat) (items updated roots : List Nat)
    {st : BState} (hd : Doomed st) (hr : roots ≠ []) :
    ∃ k, afterUsedWith g0 c o fuel items updated roots st = .error (.cancelled k) := by
  unfold afterUsedWith
  dsimp only
  cases hk : roots.length - targetNTrees o c.dims items.length roots.length with
  | zero =>
    obtain ⟨j, hj⟩ := deleteItemsFromTrees_doomed c o roots updated hd hr
    refine ⟨j, ?_⟩
    simp only [deleteExtraTrees, bind, BuildM.bind', pure, BuildM.pure', hj]
  | succ k =>
    obtain ⟨j, hj⟩ := deleteExtraTrees_doomed c k roots hd
    exact ⟨j, by simp only [bind, BuildM.bind', hj]⟩


/-- the cancel schedule fires inside `used_tree_node` (where it is swallowed) -/
def Swallows (c : Cfg) (st : BState) : Prop :=
  ∃ n, st.cancelAt = some n ∧ (st.store.keysOf c.index modeTree).length ≠ 0 ∧
    n < st.polls + (st.store.keysOf c.index modeTree).length

theorem usedTreeNode_erase (c : Cfg) (st : BState) :
    usedTreeNode c (erase st) =
      .ok (st.store.keysOf c.index modeTree,
        erase { st with polls := st.polls + (st.store.keysOf c.index modeTree).length }) := rfl

theorem usedTreeNode_noswallow (c : Cfg) {st : BState} (h : ¬ Swallows c st) :
    usedTreeNode c st =
      .ok (st.store.keysOf c.index modeTree,
        { st with polls := st.polls + (st.store.keysOf c.index modeTree).length }) := by
  unfold usedTreeNode
  cases hc : st.cancelAt with
  | none => rfl
  | some n =>
    have : ¬ ((st.store.keysOf c.index modeTree).length ≠ 0 ∧
        n < st.polls + (st.store.keysOf c.index modeTree).length) := fun hh => h ⟨n, hc, hh.1, hh.2⟩
    simp only [this, if_false]

theorem usedTreeNode_swallow (c : Cfg) {st : BState} {n : Nat} (hc : st.cancelAt = some n)
    (h1 : (st.store.keysOf c.index modeTree).length ≠ 0)
    (h2 : n < st.polls + (st.store.keysOf c.index modeTree).length) :
    usedTreeNode c st = .ok ([], { st with polls := Nat.max n st.polls + 1 }) := by
  unfold usedTreeNode
  simp only [hc, h1, h2, ne_eq, not_false_eq_true, and_self, if_true]

theorem usedTreeNode_at (c : Cfg) {st : BState} (h : ¬ Swallows c st) :
    TransparentAt (usedTreeNode c) st := by
  constructor
  · intro a st' hm
    rw [usedTreeNode_noswallow c h] at hm
    cases hm
    refine ⟨usedTreeNode_erase c st, Nat.le_add_right _ _, rfl, ?_⟩
    intro hs n hn
    have h1 := hs n hn
    have hn' : st.cancelAt = some n := hn
    show st.polls + _ ≤ n
    by_cases h0 : (st.store.keysOf c.index modeTree).length = 0
    · omega
    · by_cases h2 : n < st.polls + (st.store.keysOf c.index modeTree).length
      · exact absurd ⟨n, hn', h0, h2⟩ h
      · omega
  · intro e hm
    rw [usedTreeNode_noswallow c h] at hm
    cases hm

/-- `used_tree_node` followed by a transparent continuation which, should the cancellation be
    swallowed, fails with `cancelled` from every doomed state -/
theorem usedThen_at (c : Cfg) {f : List Nat → BuildM β} {st : BState} (hf : ∀ u, Transparent (f u))
    (hd : Swallows c st → ∀ st1, Doomed st1 → ∃ k, f [] st1 = .error (.cancelled k)) :
    TransparentAt (bind' (usedTreeNode c) f) st := by
  by_cases hs : Swallows c st
  · obtain ⟨n, hc, h1, h2⟩ := hs
    have hu := usedTreeNode_swallow c hc h1 h2
    have hdoom : Doomed { st with polls := Nat.max n st.polls + 1 } :=
      ⟨n, hc, by show n < max n st.polls + 1; omega⟩
    obtain ⟨k, hk⟩ := hd ⟨n, hc, h1, h2⟩ _ hdoom
    have hrun : bind' (usedTreeNode c) f st = .error (.cancelled k) := by
      rw [bind'_of_ok hu]; exact hk
    constructor
    · intro a st' hm; rw [hrun] at hm; cases hm
    · intro e hm
      rw [hrun] at hm
      injection hm with hm
      subst hm
      refine Or.inl ⟨k, rfl, ?_⟩
      intro n' b st2 hc' hb
      rw [hc] at hc'; cases hc'
      rw [bind'_of_ok (usedTreeNode_erase c st)] at hb
      have := ((hf _ _).ok b st2 hb).2.1
      simp only [erase_polls] at this
      omega
  · exact TransparentAt.bind' (usedTreeNode_at c hs) (fun a st1 _ => hf a st1) (fun a st1 _ => hf a st1)


/-! ## the first steps of `build` do not change what `used_tree_node` and the metadata lookup see -/

def KeepsView (c : Cfg) (m : BuildM α) : Prop :=
  ∀ st a st', m st = .ok (a, st') → TreeView c st'.store = TreeView c st.store

theorem KeepsView.bind' {c : Cfg} {m : BuildM α} {f : α → BuildM β} (hm : KeepsView c m)
    (hf : ∀ a, KeepsView c (f a)) : KeepsView c (bind' m f) := by
  intro st b st2 h
  cases hms : m st with
  | error e => rw [bind'_of_err hms] at h; cases h
  | ok r =>
    obtain ⟨a, st1⟩ := r
    rw [bind'_of_ok hms] at h
    rw [hf a st1 b st2 h, hm st a st1 hms]

theorem KeepsView.of_store_eq {c : Cfg} {m : BuildM α}
    (h : ∀ st a st', m st = .ok (a, st') → st'.store = st.store) : KeepsView c m := by
  intro st a st' hm; rw [h st a st' hm]

theorem KeepsView.pure' (c : Cfg) (a : α) : KeepsView c (pure' a) :=
  KeepsView.of_store_eq (by intro st a st' h; cases h; rfl)

theorem KeepsView.getStore (c : Cfg) : KeepsView c getStore :=
  KeepsView.of_store_eq (by intro st a st' h; cases h; rfl)

theorem KeepsView.poll (c : Cfg) : KeepsView c poll := by
  apply KeepsView.of_store_eq
  intro st a st' h
  unfold BuildM.poll at h
  split at h
  · split at h
    · cases h
    · cases h; rfl
  · cases h; rfl

theorem KeepsView.pollN (c : Cfg) (k : Nat) : KeepsView c (pollN k) := by
  induction k with
  | zero => exact KeepsView.pure' c ()
  | succ k ih => exact KeepsView.bind' (KeepsView.poll c) (fun _ => ih)

theorem KeepsView.modifyStore (c : Cfg) (f : Store → Store) (hf : ∀ s, TreeView c (f s) = TreeView c s) :
    KeepsView c (modifyStore f) := by
  intro st a st' h
  cases h
  exact hf st.store

theorem KeepsView.forEach (c : Cfg) (xs : List α) (f : α → BuildM Unit) (hf : ∀ a, KeepsView c (f a)) :
    KeepsView c (forEach xs f) := by
  induction xs with
  | nil => exact KeepsView.pure' c ()
  | cons x xs ih => exact KeepsView.bind' (hf x) (fun _ => ih)

theorem preProcessItems_keeps (c : Cfg) : KeepsView c (preProcessItems c) := by
  unfold preProcessItems
  refine KeepsView.bind' (KeepsView.poll c) (fun _ => ?_)
  split
  · exact KeepsView.modifyStore c _ (treeView_preprocessDot c)
  · exact KeepsView.pure' c ()

theorem itemIndices_keeps (c : Cfg) : KeepsView c (itemIndices c) := by
  unfold itemIndices
  refine KeepsView.bind' (KeepsView.getStore c) (fun s => ?_)
  exact KeepsView.bind' (KeepsView.pollN c _) (fun _ => KeepsView.pure' c _)

theorem resetUpdated_keeps (c : Cfg) : KeepsView c (resetUpdated c) := by
  unfold resetUpdated
  refine KeepsView.bind' (KeepsView.getStore c) (fun s => ?_)
  refine KeepsView.bind' (KeepsView.forEach c _ _ (fun id => ?_)) (fun _ => KeepsView.pure' c _)
  exact KeepsView.bind' (KeepsView.poll c)
    (fun _ => KeepsView.modifyStore c _ (fun s => treeView_erase_updated c s id))

theorem KeepsView.post {c : Cfg} {m : BuildM α} (h : KeepsView c m) :
    StorePost (RootsPresent c) (RootsPresent c) m := by
  intro st a st' hP hm
  exact (rootsPresent_of_view (h st a st' hm)).2 hP

theorem TransparentAt.getStore_bind {f : Store → BuildM β} {st : BState}
    (h : TransparentAt (f st.store) st) : TransparentAt (BuildM.bind' BuildM.getStore f) st :=
  ⟨fun a st' hm => h.ok a st' hm, fun e hm => h.err e hm⟩

theorem buildWith_transparentOn (mk : List Nat → IdGen) (c : Cfg) (o : BuildOpts) (fuel : Nat) :
    TransparentOn (RootsPresent c) (buildWith mk c o fuel) := by
  rw [buildWith_eq]
  refine TransparentOn.bind' ((preProcessItems_tr c).on _) (preProcessItems_keeps c).post (fun _ => ?_)
  refine TransparentOn.bind' ((itemIndices_tr c).on _) (itemIndices_keeps c).post (fun items => ?_)
  refine TransparentOn.bind' ((resetUpdated_tr c).on _) (resetUpdated_keeps c).post (fun updated => ?_)
  intro st hP
  split
  · exact singleLeaf_tr c items st
  · apply TransparentAt.getStore_bind
    refine usedThen_at c (fun u => afterUsedWith_tr (mk u) c o fuel items updated _) ?_
    intro hs st1 hd
    refine afterUsedWith_doomed (mk []) c o fuel items updated _ hd (hP ?_)
    obtain ⟨n, _, h0, _⟩ := hs
    intro e
    rw [e] at h0
    exact h0 rfl

theorem build_transparentOn (c : Cfg) (o : BuildOpts) (fuel : Nat) :
    TransparentOn (RootsPresent c) (build c o fuel) :=
  buildWith_transparentOn IdGen.new c o fuel

end Transp
end Arroy
