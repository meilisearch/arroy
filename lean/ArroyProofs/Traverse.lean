import ArroyProofs.Forest
import ArroyProofs.ReaderSets
import ArroyProofs.PqLemmas
/-! The traversal loop of `nns_by_leaf`. `traverse_succ` is the loop's one equation, in terms of one iteration
(`popStep`). On a queue whose entries point to subtrees the store holds (`qOf`), `traverse_run` describes the loop
by the relation `Run`, and `Run.split` says what it collects: part of what the pending subtrees contribute, all
of it unless the budget stopped the loop. -/
namespace Arroy
open Generated Reader

namespace Reader

/-- the ids a bucket contributes under the filter of `q` -/
def filt (q : QueryOpts) (ids : List Nat) : List Nat :=
  match q.candidates with | some cs => IdSet.inter ids cs | none => ids

theorem traverse_desc_eq (q : QueryOpts) (ids : List Nat) :
    (match q.candidates with | some cs => IdSet.inter ids cs | none => ids) = filt q ids := rfl

theorem filt_length_le (q : QueryOpts) (ids : List Nat) : (filt q ids).length ≤ ids.length := by
  unfold filt; split
  · exact IdSet.length_inter_le _ _
  · exact Nat.le_refl _

theorem mem_filt_sub {q : QueryOpts} {ids : List Nat} {x : Nat} (h : x ∈ filt q ids) :
    x ∈ ids ∧ inCandidates q x = true := by
  unfold filt at h
  unfold inCandidates
  cases hq : q.candidates with
  | none => rw [hq] at h; exact ⟨h, rfl⟩
  | some cs =>
    rw [hq] at h
    have := IdSet.mem_inter_sub _ _ _ h
    exact ⟨this.1, by simpa using this.2⟩

/-- on a sorted bucket and a sorted filter, `filt` keeps exactly the members inside the filter -/
theorem mem_filt {q : QueryOpts} {ids : List Nat} (hs : IdSet.Sorted ids)
    (hc : ∀ cs, q.candidates = some cs → IdSet.Sorted cs) {x : Nat} :
    x ∈ filt q ids ↔ (x ∈ ids ∧ inCandidates q x = true) := by
  unfold filt inCandidates
  cases hq : q.candidates with
  | none => simp
  | some cs => simp [IdSet.mem_inter hs (hc cs hq)]

/-- the margin the reader uses at a split node: 0 for a zeroed normal (random split) and for a NaN margin -/
def readerMargin (c : Cfg) (qv normal : List Nat) : Nat :=
  let margin0 := if c.metric.isZero normal then F32.zero else c.metric.margin c.host normal qv
  if F32.isNaN margin0 then F32.zero else margin0

/-- `id` is stored as a leaf -/
def IsLeaf (c : Cfg) (s : Store) (id : Nat) : Prop := ∃ h v, s.get (c.itemKey id) = some (.leaf h v)

/-- one iteration of the loop after the budget test: `none` on an empty queue, otherwise the next queue and
candidate list -/
def popStep (c : Cfg) (s : Store) (qv : List Nat) (q : QueryOpts) (queue : List (Nat × NodeId)) (nns : List Nat) :
    Except Err (Option (List (Nat × NodeId) × List Nat)) :=
  match popMax queue with
  | none => .ok none
  | some ((dist, node), queue') =>
    match s.get ⟨c.index, node.mode, node.item⟩ with
    | none => .error (.missingKey c.index node.mode node.item)
    | some (.leaf _ _) => .ok (some (queue', if inCandidates q node.item then nns ++ [node.item] else nns))
    | some (.desc ids) => .ok (some (queue', nns ++ filt q ids))
    | some (.split l r normal) =>
      .ok (some ((Metric.pqDistance dist (readerMargin c qv normal) true, r) ::
        (Metric.pqDistance dist (readerMargin c qv normal) false, l) :: queue', nns))
    | some _ => .error (.panic "unexpected value under a node key")

theorem traverse_succ (c : Cfg) (s : Store) (qv : List Nat) (q : QueryOpts) (k fuel : Nat)
    (queue : List (Nat × NodeId)) (nns : List Nat) :
    traverse c s qv q k (fuel + 1) queue nns =
      if nns.length ≥ k then .ok nns else
      match popStep c s qv q queue nns with
      | .error e => .error e
      | .ok none => .ok nns
      | .ok (some (queue', nns')) => traverse c s qv q k fuel queue' nns' := by
  rw [traverse, popStep]
  by_cases hk : nns.length ≥ k
  · rw [if_pos hk, if_pos hk]
  · rw [if_neg hk, if_neg hk]
    cases popMax queue with
    | none => rfl
    | some p =>
      obtain ⟨⟨dist, node⟩, queue'⟩ := p
      dsimp only
      cases s.get ⟨c.index, node.mode, node.item⟩ with
      | none => rfl
      | some v => cases v <;> rfl

/-- an iteration only appends, and only candidates that pass the filter -/
theorem popStep_appends {c : Cfg} {s : Store} {qv : List Nat} {q : QueryOpts} {queue queue' : List (Nat × NodeId)}
    {nns nns' : List Nat} (h : popStep c s qv q queue nns = .ok (some (queue', nns'))) :
    ∃ add, nns' = nns ++ add ∧ ∀ x ∈ add, inCandidates q x = true := by
  unfold popStep at h
  split at h
  · cases h
  · split at h
    · cases h
    · cases h
      split
      · rename_i hc
        exact ⟨[_], rfl, fun x hx => by rw [List.mem_singleton.1 hx]; exact hc⟩
      · exact ⟨[], (List.append_nil _).symm, fun x hx => by cases hx⟩
    · cases h
      exact ⟨_, rfl, fun x hx => (mem_filt_sub hx).2⟩
    · cases h
      exact ⟨[], (List.append_nil _).symm, fun x hx => by cases hx⟩
    · cases h

/-- the loop only appends, and only candidates that pass the filter (no hypothesis on the store) -/
theorem traverse_appends (c : Cfg) (s : Store) (qv : List Nat) (q : QueryOpts) (k fuel : Nat)
    (queue : List (Nat × NodeId)) (nns out : List Nat) (h : traverse c s qv q k fuel queue nns = .ok out) :
    ∃ add, out = nns ++ add ∧ ∀ x ∈ add, inCandidates q x = true := by
  induction fuel generalizing queue nns with
  | zero => cases h
  | succ n ih =>
    rw [traverse_succ] at h
    split at h
    · cases h; exact ⟨[], (List.append_nil _).symm, fun x hx => by cases hx⟩
    · split at h
      · cases h
      · cases h; exact ⟨[], (List.append_nil _).symm, fun x hx => by cases hx⟩
      · rename_i hs
        obtain ⟨a₁, rfl, h₁⟩ := popStep_appends hs
        obtain ⟨a₂, rfl, h₂⟩ := ih _ _ h
        refine ⟨a₁ ++ a₂, List.append_assoc _ _ _, fun x hx => ?_⟩
        rcases List.mem_append.1 hx with hx | hx
        · exact h₁ x hx
        · exact h₂ x hx

/-- **prefix lemma**: the sequence of pops does not depend on the budget. From the same state and with
the same fuel, if the loop with budget `k₂` succeeds then so does the loop with any `k₁ ≤ k₂`, and the
candidate list collected for `k₁` is a prefix of the one collected for `k₂`. -/
theorem traverse_prefix (c : Cfg) (s : Store) (qv : List Nat) (q : QueryOpts) (k₁ k₂ : Nat) (hk : k₁ ≤ k₂)
    (fuel : Nat) (queue : List (Nat × NodeId)) (nns out₂ : List Nat)
    (h : traverse c s qv q k₂ fuel queue nns = .ok out₂) :
    ∃ out₁, traverse c s qv q k₁ fuel queue nns = .ok out₁ ∧ out₁ <+: out₂ := by
  induction fuel generalizing queue nns with
  | zero => cases h
  | succ n ih =>
    have hext : nns <+: out₂ := by
      obtain ⟨add, rfl, _⟩ := traverse_appends c s qv q k₂ _ queue nns out₂ h
      exact List.prefix_append _ _
    rw [traverse_succ] at h ⊢
    by_cases h1 : nns.length ≥ k₁
    · exact ⟨nns, if_pos h1, hext⟩
    · rw [if_neg h1]
      rw [if_neg (by omega)] at h
      generalize popStep c s qv q queue nns = r at h ⊢
      rcases r with e | _ | ⟨queue', nns'⟩
      · cases h
      · exact ⟨nns, rfl, hext⟩
      · exact ih _ _ h

end Reader

/-- what the traversal appends to `nns` for the subtree `t` once all of it has been popped -/
def T.collect (q : QueryOpts) : T → List Nat
  | .leaf i => if inCandidates q i then [i] else []
  | .bucket _ ids => filt q ids
  | .node _ _ l r => l.collect q ++ r.collect q

/-- what the traversal appends when the root of `t` is popped -/
def T.emitted (q : QueryOpts) : T → List Nat
  | .leaf i => if inCandidates q i then [i] else []
  | .bucket _ ids => filt q ids
  | .node _ _ _ _ => []

/-- the subtrees the traversal queues when the root of `t` is popped at priority `d` -/
def T.pushed (c : Cfg) (qv : List Nat) (d : Nat) : T → List (Nat × T)
  | .node _ n l r =>
    [(Metric.pqDistance d (readerMargin c qv n) true, r), (Metric.pqDistance d (readerMargin c qv n) false, l)]
  | _ => []

namespace Reader

theorem collect_length_le (q : QueryOpts) (t : T) : (t.collect q).length ≤ t.items.length := by
  induction t with
  | leaf i => simp only [T.collect, T.items]; split <;> simp
  | bucket id ids => exact filt_length_le q ids
  | node id n l r ihl ihr => simp only [T.collect, T.items, List.length_append]; omega

/-- everything collected is reachable and passes the filter -/
theorem mem_collect_sub (q : QueryOpts) (t : T) (x : Nat) (h : x ∈ t.collect q) :
    x ∈ t.items ∧ inCandidates q x = true := by
  induction t with
  | leaf i =>
    simp only [T.collect] at h
    split at h
    · rw [List.mem_singleton.1 h]; exact ⟨List.mem_singleton.2 rfl, by assumption⟩
    · cases h
  | bucket id ids => exact mem_filt_sub h
  | node id n l r ihl ihr =>
    simp only [T.collect, T.items, List.mem_append] at h ⊢
    rcases h with h | h
    · exact ⟨Or.inl (ihl h).1, (ihl h).2⟩
    · exact ⟨Or.inr (ihr h).1, (ihr h).2⟩

/-- with sorted buckets and a sorted filter, exactly the reachable items inside the filter are collected -/
theorem mem_collect {c : Cfg} {s : Store} (q : QueryOpts) (t : T) (hd : DescSorted c s) (ht : Holds c s t)
    (hc : ∀ cs, q.candidates = some cs → IdSet.Sorted cs) (x : Nat) :
    x ∈ t.collect q ↔ (x ∈ t.items ∧ inCandidates q x = true) := by
  refine ⟨mem_collect_sub q t x, ?_⟩
  induction t with
  | leaf i =>
    rintro ⟨h1, h2⟩
    rw [List.mem_singleton.1 h1] at h2 ⊢
    simp [T.collect, h2]
  | bucket id ids => exact (mem_filt (hd id ids ht.bucket) hc).2
  | node id n l r ihl ihr =>
    rintro ⟨h1, h2⟩
    simp only [T.items, T.collect, List.mem_append] at h1 ⊢
    exact h1.imp (fun h => ihl ht.left ⟨h, h2⟩) (fun h => ihr ht.right ⟨h, h2⟩)

/-- without a filter everything reachable is collected, with no hypothesis -/
theorem collect_none (q : QueryOpts) (hq : q.candidates = none) (t : T) : t.collect q = t.items := by
  induction t with
  | leaf i => simp [T.collect, T.items, inCandidates, hq]
  | bucket id ids => simp [T.collect, T.items, filt, hq]
  | node id n l r ihl ihr => simp [T.collect, T.items, ihl, ihr]

/-- `popMax` on a queue that is the image of a list of richer entries: it pops the image of one of
them and leaves the image of the others -/
theorem popMax_map {α : Type} (f : α → Nat × NodeId) : ∀ (l : List α),
    (l = [] ∧ popMax (l.map f) = none) ∨
    ∃ a l', popMax (l.map f) = some (f a, l'.map f) ∧ l.Perm (a :: l')
  | [] => Or.inl ⟨rfl, rfl⟩
  | x :: xs => by
    right
    rcases popMax_map f xs with ⟨rfl, _⟩ | ⟨a, l', hp, hperm⟩
    · exact ⟨x, [], rfl, List.Perm.refl _⟩
    · simp only [List.map_cons, popMax, hp]
      split
      · exact ⟨x, a :: l', rfl, List.Perm.cons x hperm⟩
      · exact ⟨a, x :: l', rfl, (List.Perm.cons x hperm).trans (List.Perm.swap a x l')⟩

/-- the image of the tree queue `tq` as the model's queue -/
abbrev qOf (tq : List (Nat × T)) : List (Nat × NodeId) := tq.map fun p => (p.1, p.2.ref)

/-- an iteration that pops an entry pointing to a subtree `t` the store holds (a stored leaf, if an item) -/
theorem popStep_tree {c : Cfg} {s : Store} {qv : List Nat} {q : QueryOpts} {queue queue' : List (Nat × NodeId)}
    {nns : List Nat} {d : Nat} {t : T} (hp : popMax queue = some ((d, t.ref), queue')) (ht : Holds c s t)
    (hl : ∀ i, t = .leaf i → IsLeaf c s i) :
    popStep c s qv q queue nns = .ok (some (qOf (t.pushed c qv d) ++ queue', nns ++ t.emitted q)) := by
  unfold popStep
  rw [hp]
  cases t with
  | leaf i =>
    obtain ⟨h, v, hg⟩ := hl i rfl
    have hg' : s.get ⟨c.index, (T.leaf i).ref.mode, (T.leaf i).ref.item⟩ = some (.leaf h v) := hg
    simp only [hg', T.pushed, T.emitted, List.map_nil, List.nil_append]
    have : (T.leaf i).ref.item = i := rfl
    rw [this]
    split <;> simp
  | bucket id ids =>
    have hg : s.get ⟨c.index, (T.bucket id ids).ref.mode, (T.bucket id ids).ref.item⟩ = some (.desc ids) :=
      ht.bucket
    simp only [hg, T.pushed, T.emitted, List.map_nil, List.nil_append]
  | node id nrm l r =>
    have hg : s.get ⟨c.index, (T.node id nrm l r).ref.mode, (T.node id nrm l r).ref.item⟩ =
        some (.split l.ref r.ref nrm) := ht.root
    simp only [hg, T.pushed, T.emitted, List.map_cons, List.map_nil, List.cons_append, List.nil_append,
      List.append_nil]

theorem holds_pushed {c : Cfg} {s : Store} {qv : List Nat} {d : Nat} {t : T} (ht : Holds c s t)
    {p : Nat × T} (hp : p ∈ t.pushed c qv d) : Holds c s p.2 := by
  cases t with
  | node id n l r =>
    simp only [T.pushed, List.mem_cons, List.not_mem_nil, or_false] at hp
    rcases hp with rfl | rfl
    · exact ht.right
    · exact ht.left
  | _ => cases hp

theorem items_pushed {c : Cfg} {qv : List Nat} {d : Nat} {t : T} {p : Nat × T} (hp : p ∈ t.pushed c qv d)
    {x : Nat} (hx : x ∈ p.2.items) : x ∈ t.items := by
  cases t with
  | node id n l r =>
    simp only [T.pushed, List.mem_cons, List.not_mem_nil, or_false] at hp
    rcases hp with rfl | rfl
    · exact List.mem_append_right _ hx
    · exact List.mem_append_left _ hx
  | _ => cases hp

theorem size_pushed (c : Cfg) (qv : List Nat) (d : Nat) (t : T) :
    ((t.pushed c qv d).map (fun p => p.2.size)).sum + 1 = t.size := by
  cases t <;> simp [T.pushed, T.size] <;> omega

/-- everything the pending subtrees `tq` can still contribute -/
def pending (q : QueryOpts) (tq : List (Nat × T)) : List Nat := tq.flatMap fun p => p.2.collect q

/-- popping `t`: its contribution is what its root emits plus what the pushed subtrees contribute -/
theorem pending_pop (c : Cfg) (qv : List Nat) (q : QueryOpts) {tq tq' : List (Nat × T)} {d : Nat} {t : T}
    (hperm : tq.Perm ((d, t) :: tq')) :
    (pending q tq).Perm (t.emitted q ++ pending q (t.pushed c qv d ++ tq')) := by
  refine (hperm.flatMap_right _).trans ?_
  unfold pending
  rw [List.flatMap_cons, List.flatMap_append, ← List.append_assoc]
  refine List.Perm.append_right _ ?_
  cases t with
  | node id n l r => simpa [T.collect, T.emitted, T.pushed] using List.perm_append_comm
  | _ => simp [T.collect, T.emitted, T.pushed]

/-- `Run c s qv q k tq nns r`: the loop with budget `k`, started with the subtrees `tq` pending and `nns`
collected, ends with `r = some out`, or reaches an item entry that is not stored as a leaf (`r = none`: the
model fails there). Each iteration pops an entry that no pending entry exceeds in the queue order. -/
inductive Run (c : Cfg) (s : Store) (qv : List Nat) (q : QueryOpts) (k : Nat) :
    List (Nat × T) → List Nat → Option (List Nat) → Prop
  | stop {tq : List (Nat × T)} {nns : List Nat} : k ≤ nns.length → Run c s qv q k tq nns (some nns)
  | empty {nns : List Nat} : Run c s qv q k [] nns (some nns)
  | pop {tq tq' : List (Nat × T)} {d : Nat} {t : T} {nns : List Nat} {r : Option (List Nat)} : nns.length < k →
      tq.Perm ((d, t) :: tq') → (∀ p ∈ tq, entryLt (d, t.ref) (p.1, p.2.ref) = false) →
      Run c s qv q k (t.pushed c qv d ++ tq') (nns ++ t.emitted q) r → Run c s qv q k tq nns r
  | stuck {tq tq' : List (Nat × T)} {d i : Nat} {nns : List Nat} : nns.length < k →
      tq.Perm ((d, .leaf i) :: tq') → (∀ p ∈ tq, entryLt (d, (T.leaf i).ref) (p.1, p.2.ref) = false) →
      ¬ IsLeaf c s i → Run c s qv q k tq nns none

/-- started on a queue of subtrees the store holds with `fuel` above the total size of the pending subtrees,
the loop runs as `Run` says, whatever the budget -/
theorem traverse_run (c : Cfg) (s : Store) (qv : List Nat) (q : QueryOpts) (k : Nat) :
    ∀ (fuel : Nat) (tq : List (Nat × T)) (nns : List Nat),
    (∀ p ∈ tq, Holds c s p.2) → (tq.map (fun p => p.2.size)).sum < fuel →
    ∃ r, Run c s qv q k tq nns r ∧
      ∀ out, r = some out → traverse c s qv q k fuel (qOf tq) nns = .ok out := by
  intro fuel
  induction fuel with
  | zero => intro tq nns _ hf; omega
  | succ n ih =>
    intro tq nns hh hf
    by_cases hstop : nns.length ≥ k
    · exact ⟨_, .stop hstop, fun out ho => by cases ho; rw [traverse_succ, if_pos hstop]⟩
    · rcases popMax_map (fun p : Nat × T => (p.1, p.2.ref)) tq with ⟨rfl, _⟩ | ⟨⟨d, t⟩, tq', hp, hperm⟩
      · exact ⟨_, .empty, fun out ho => by cases ho; rw [traverse_succ, if_neg hstop]; rfl⟩
      · have hin : (d, t) ∈ tq := hperm.mem_iff.2 List.mem_cons_self
        have hsub : ∀ p ∈ tq', p ∈ tq := fun p hp' => hperm.mem_iff.2 (List.mem_cons_of_mem _ hp')
        have hsz : (tq.map (fun p => p.2.size)).sum = t.size + (tq'.map (fun p => p.2.size)).sum := by
          rw [(hperm.map _).sum_nat]; rfl
        have hmax : ∀ p ∈ tq, entryLt (d, t.ref) (p.1, p.2.ref) = false :=
          fun p hp' => popMax_max _ _ _ hp _ (List.mem_map.2 ⟨p, hp', rfl⟩)
        by_cases hl : ∃ i, t = .leaf i ∧ ¬ IsLeaf c s i
        · obtain ⟨i, rfl, hni⟩ := hl
          exact ⟨none, .stuck (by omega) hperm hmax hni, fun out ho => by cases ho⟩
        · obtain ⟨r, hr, ho⟩ := ih (t.pushed c qv d ++ tq') (nns ++ t.emitted q)
            (fun p hp' => (List.mem_append.1 hp').elim (holds_pushed (hh _ hin)) (hh p ∘ hsub p))
            (by have := size_pushed c qv d t; rw [List.map_append, List.sum_append]; omega)
          refine ⟨r, .pop (by omega) hperm hmax hr, fun out hout => ?_⟩
          rw [traverse_succ, if_neg hstop,
            popStep_tree hp (hh _ hin) (fun i ht => Classical.byContradiction fun h => hl ⟨i, ht, h⟩)]
          dsimp only
          rw [← List.map_append]
          exact ho out hout

/-- if every item of the pending subtrees is stored as a leaf, the loop ends -/
theorem Run.isSome {c : Cfg} {s : Store} {qv : List Nat} {q : QueryOpts} {k : Nat} {tq : List (Nat × T)}
    {nns : List Nat} {r : Option (List Nat)} (h : Run c s qv q k tq nns r)
    (hl : ∀ p ∈ tq, ∀ x ∈ p.2.items, IsLeaf c s x) : ∃ out, r = some out := by
  induction h with
  | stop => exact ⟨_, rfl⟩
  | empty => exact ⟨_, rfl⟩
  | pop _ hperm _ _ ih =>
    refine ih fun p hp x hx => ?_
    rcases List.mem_append.1 hp with hp | hp
    · exact hl _ (hperm.mem_iff.2 List.mem_cons_self) x (items_pushed hp hx)
    · exact hl p (hperm.mem_iff.2 (List.mem_cons_of_mem _ hp)) x hx
  | stuck _ hperm _ hni =>
    exact absurd (hl _ (hperm.mem_iff.2 List.mem_cons_self) _ (List.mem_singleton.2 rfl)) hni

/-- once the budget is met the loop returns what it has -/
theorem Run.of_budget_met {c : Cfg} {s : Store} {qv : List Nat} {q : QueryOpts} {k : Nat} {tq : List (Nat × T)}
    {nns : List Nat} {r : Option (List Nat)} (h : Run c s qv q k tq nns r) (hk : k ≤ nns.length) :
    r = some nns := by
  cases h with
  | stop => rfl
  | empty => rfl
  | pop h' => omega
  | stuck h' => omega

/-- **what the loop collects**: `out` is `nns` followed by part of what the pending subtrees contribute
(`rest`; `left` is what stays behind), and nothing stays behind unless the budget stopped the loop. The order
of pops does not matter. -/
theorem Run.split {c : Cfg} {s : Store} {qv : List Nat} {q : QueryOpts} {k : Nat} {tq : List (Nat × T)}
    {nns out : List Nat} (h : Run c s qv q k tq nns (some out)) :
    ∃ rest left, out = nns ++ rest ∧ (rest ++ left).Perm (pending q tq) ∧ (k ≤ out.length ∨ left = []) := by
  generalize hr : some out = r at h
  induction h with
  | @stop tq nns hk =>
    cases hr
    exact ⟨[], pending q tq, (List.append_nil _).symm, .refl _, .inl (by simpa using hk)⟩
  | empty => cases hr; exact ⟨[], [], (List.append_nil _).symm, .refl _, .inr rfl⟩
  | @pop tq tq' d t nns r _ hperm _ _ ih =>
    obtain ⟨rest, left, rfl, hp, hk⟩ := ih hr
    refine ⟨t.emitted q ++ rest, left, List.append_assoc _ _ _, ?_, hk⟩
    rw [List.append_assoc]
    exact (hp.append_left _).trans (pending_pop c qv q hperm).symm
  | stuck => cases hr

end Reader

namespace Store
theorem mem_keys_of_get {s : Store} {k : Key} {v : Val} (h : Store.get s k = some v) : k ∈ s.map (·.1) := by
  induction s with
  | nil => simp [Store.get] at h
  | cons kv rest ih =>
    obtain ⟨k', v'⟩ := kv
    simp only [Store.get] at h
    split at h
    · rename_i hk; subst hk; simp
    · simp only [List.map_cons, List.mem_cons]; exact Or.inr (ih h)
end Store

namespace Reader

theorem size_le_ids (t : T) : t.size ≤ 2 * t.ids.length + 1 := by
  induction t with
  | leaf i => simp [T.size]
  | bucket id ids => simp [T.size, T.ids]
  | node id n l r ihl ihr => simp only [T.size, T.ids, List.length_cons, List.length_append]; omega

theorem sum_size_le (ts : List T) : (ts.map T.size).sum ≤ 2 * (ts.flatMap T.ids).length + ts.length := by
  induction ts with
  | nil => simp
  | cons t ts ih =>
    have := size_le_ids t
    simp only [List.map_cons, List.sum_cons, List.flatMap_cons, List.length_append, List.length_cons]
    omega

/-- the forest has at most as many tree nodes as the store has entries -/
theorem forest_ids_le {c : Cfg} {s : Store} {ts : List T} (hh : ∀ t ∈ ts, Holds c s t)
    (hnd : (ts.flatMap T.ids).Nodup) : (ts.flatMap T.ids).length ≤ s.length := by
  have h1 : ((ts.flatMap T.ids).map c.treeKey).Nodup :=
    List.Pairwise.map c.treeKey (fun a b hab h => hab (c.treeKey_inj_of_eq h)) hnd
  have h2 := h1.length_le_of_subset (l₂ := s.map (·.1)) (by
    intro k hk
    obtain ⟨id, hid, rfl⟩ := List.mem_map.1 hk
    obtain ⟨t, ht, hid'⟩ := List.mem_flatMap.1 hid
    rw [← cells_ids] at hid'
    obtain ⟨cell, hc, rfl⟩ := List.mem_map.1 hid'
    exact Store.mem_keys_of_get (hh t ht cell hc))
  simpa using h2

theorem forest_length {c : Cfg} {s : Store} {rd : ReaderState} {ts : List T} (F : ForestWith c s rd ts) :
    ts.length = rd.roots.length := by
  simpa using congrArg List.length F.refs

/-- a valid forest over a non-empty index has a tree -/
theorem forest_exists_tree {c : Cfg} {s : Store} {rd : ReaderState} {ts : List T} (F : ForestWith c s rd ts)
    (hne : rd.items ≠ []) : ∃ t, t ∈ ts := by
  apply List.exists_mem_of_ne_nil
  intro e
  have := forest_length F
  rw [e] at this
  exact F.roots_ne hne (List.length_eq_zero_iff.1 this.symm)

/-- the fuel `nnsByLeaf` passes is enough: every pop consumes a distinct split node, bucket or item child -/
theorem forest_fuel {c : Cfg} {s : Store} {rd : ReaderState} {ts : List T} (F : ForestWith c s rd ts) :
    (ts.map T.size).sum < 2 * s.length + rd.roots.length + 2 := by
  have h1 := sum_size_le ts
  have h2 := forest_ids_le F.holds F.ids_nodup
  have h3 := forest_length F
  omega

/-- the initial queue of `nnsByLeaf` as a queue of trees -/
theorem forest_queue_eq {c : Cfg} {s : Store} {rd : ReaderState} {ts : List T} (F : ForestWith c s rd ts) :
    (rd.roots.map fun r => (F32.inf, NodeId.mkTree r)) = qOf (ts.map fun t => (F32.inf, t)) := by
  have : (rd.roots.map fun r => (F32.inf, NodeId.mkTree r)) =
      (rd.roots.map NodeId.mkTree).map (fun n => (F32.inf, n)) := by simp [List.map_map]
  rw [this, ← F.refs]; simp [qOf, List.map_map]

/-- on a valid forest the traversal started by `nnsByLeaf` never fails, for any budget and filter, and runs as
`Run` says from the queue of all trees -/
theorem traverse_forest {c : Cfg} {s : Store} {rd : ReaderState} {ts : List T} (F : ForestWith c s rd ts)
    (qv : List Nat) (q : QueryOpts) (k : Nat) :
    ∃ nns, traverse c s qv q k (2 * s.length + rd.roots.length + 2)
        (rd.roots.map fun r => (F32.inf, NodeId.mkTree r)) [] = .ok nns ∧
      Run c s qv q k (ts.map fun t => (F32.inf, t)) [] (some nns) := by
  rw [forest_queue_eq F]
  obtain ⟨r, hr, ho⟩ := traverse_run c s qv q k (2 * s.length + rd.roots.length + 2) (ts.map fun t => (F32.inf, t)) []
    (List.forall_mem_map.2 F.holds)
    (by have := forest_fuel F; simpa [List.map_map, Function.comp_def] using this)
  obtain ⟨nns, rfl⟩ := hr.isSome
    (List.forall_mem_map.2 fun t ht x hx => F.stored x ((F.reach t ht x).1 hx))
  exact ⟨nns, ho nns rfl, hr⟩

/-- what it collects: part of what the trees contribute under the filter, all of it unless the budget was met -/
theorem traverse_forest_split {c : Cfg} {s : Store} {rd : ReaderState} {ts : List T} (F : ForestWith c s rd ts)
    (qv : List Nat) (q : QueryOpts) (k : Nat) :
    ∃ nns left, traverse c s qv q k (2 * s.length + rd.roots.length + 2)
        (rd.roots.map fun r => (F32.inf, NodeId.mkTree r)) [] = .ok nns ∧
      (nns ++ left).Perm (ts.flatMap (T.collect q)) ∧ (k ≤ nns.length ∨ left = []) := by
  obtain ⟨nns, hn, hr⟩ := traverse_forest F qv q k
  obtain ⟨rest, left, rfl, hp, hk⟩ := hr.split
  refine ⟨_, left, hn, ?_, hk⟩
  simpa [pending, List.flatMap_map] using hp

/-- what the traversal of a valid forest returns are items of the index that pass the filter -/
theorem forest_split_mem {c : Cfg} {s : Store} {rd : ReaderState} {ts : List T} (F : ForestWith c s rd ts)
    (q : QueryOpts) {nns left : List Nat} (hp : (nns ++ left).Perm (ts.flatMap (T.collect q))) :
    ∀ x ∈ nns, x ∈ rd.items ∧ inCandidates q x = true := by
  intro x hx
  obtain ⟨t, ht, hxt⟩ := List.mem_flatMap.1 (hp.subset (List.mem_append_left _ hx))
  have := mem_collect_sub q t x hxt
  exact ⟨(F.reach t ht x).1 this.1, this.2⟩

/-- the total number of candidates of a valid forest is at most trees × items -/
theorem forest_candidates_le {c : Cfg} {s : Store} {rd : ReaderState} {ts : List T} (F : ForestWith c s rd ts)
    (q : QueryOpts) : (ts.flatMap (T.collect q)).length ≤ rd.roots.length * rd.items.length := by
  rw [← forest_length F]
  have key : ∀ (l : List T), (∀ t ∈ l, t ∈ ts) →
      (l.flatMap (T.collect q)).length ≤ l.length * rd.items.length := by
    intro l
    induction l with
    | nil => simp
    | cons t l ih =>
      intro hsub
      have ht : t ∈ ts := hsub t List.mem_cons_self
      have h1 := collect_length_le q t
      have h2 : t.items.length = rd.items.length :=
        ((List.perm_ext_iff_of_nodup (F.items_nodup t ht) F.sorted.nodup).2 (F.reach t ht)).length_eq
      have := ih (fun t' ht' => hsub t' (List.mem_cons_of_mem _ ht'))
      simp only [List.flatMap_cons, List.length_append, List.length_cons, Nat.add_mul, Nat.one_mul]
      omega
  exact key ts (fun _ h => h)

end Reader
end Arroy
