import ArroyProofs.Nns
/-! Fuel irrelevance and locality of the reader: `traverse` returns the same `.ok` for every larger
fuel; `traverse`, `scoreAll` and `nnsByLeaf` read the store only through `Store.get` on keys of the
queried index; a valid forest transfers between stores that agree on these keys. -/
namespace Arroy
open Generated
namespace Reader

/-- the two stores answer `get` identically on every key whose index field is `c.index` -/
def SameIndex (c : Cfg) (s s' : Store) : Prop :=
  ∀ m id, Store.get s' ⟨c.index, m, id⟩ = Store.get s ⟨c.index, m, id⟩

theorem SameIndex.symm {c : Cfg} {s s' : Store} (h : SameIndex c s s') : SameIndex c s' s :=
  fun m id => (h m id).symm

theorem SameIndex.item {c : Cfg} {s s' : Store} (h : SameIndex c s s') (id : Nat) :
    Store.get s' (c.itemKey id) = Store.get s (c.itemKey id) := h _ _

theorem SameIndex.tree {c : Cfg} {s s' : Store} (h : SameIndex c s s') (id : Nat) :
    Store.get s' (c.treeKey id) = Store.get s (c.treeKey id) := h _ _

theorem traverse_fuel_mono (c : Cfg) (s : Store) (qv : List Nat) (q : QueryOpts) (searchK : Nat) :
    ∀ (fuel : Nat) (queue : List (Nat × NodeId)) (nns out : List Nat),
      traverse c s qv q searchK fuel queue nns = .ok out →
      ∀ fuel', fuel ≤ fuel' → traverse c s qv q searchK fuel' queue nns = .ok out := by
  intro fuel
  induction fuel with
  | zero => intro queue nns out h; cases h
  | succ n ih =>
    intro queue nns out h fuel' hf
    obtain ⟨m, rfl⟩ : ∃ m, fuel' = m + 1 := ⟨fuel' - 1, by omega⟩
    rw [traverse_succ] at h ⊢
    by_cases hk : nns.length ≥ searchK
    · rwa [if_pos hk] at h ⊢
    · rw [if_neg hk] at h ⊢
      generalize popStep c s qv q queue nns = r at h ⊢
      rcases r with e | _ | ⟨queue', nns'⟩
      · exact h
      · exact h
      · exact ih _ _ _ h m (by omega)

theorem traverse_fuel_irrelevant (c : Cfg) (s : Store) (qv : List Nat) (q : QueryOpts) (searchK : Nat)
    (f₁ f₂ : Nat) (queue : List (Nat × NodeId)) (nns out₁ out₂ : List Nat)
    (h₁ : traverse c s qv q searchK f₁ queue nns = .ok out₁)
    (h₂ : traverse c s qv q searchK f₂ queue nns = .ok out₂) : out₁ = out₂ := by
  rcases Nat.le_total f₁ f₂ with hle | hle
  · have := traverse_fuel_mono c s qv q searchK f₁ queue nns out₁ h₁ f₂ hle
    rw [this] at h₂; cases h₂; rfl
  · have := traverse_fuel_mono c s qv q searchK f₂ queue nns out₂ h₂ f₁ hle
    rw [this] at h₁; cases h₁; rfl

theorem popStep_congr (c : Cfg) {s s' : Store} (hs : SameIndex c s s') (qv : List Nat) (q : QueryOpts)
    (queue : List (Nat × NodeId)) (nns : List Nat) : popStep c s' qv q queue nns = popStep c s qv q queue nns := by
  unfold popStep
  cases popMax queue with
  | none => rfl
  | some p => dsimp only; rw [hs p.1.2.mode p.1.2.item]

/-- **locality of the traversal**: it reads only keys of index `c.index` -/
theorem traverse_congr (c : Cfg) {s s' : Store} (hs : SameIndex c s s') (qv : List Nat) (q : QueryOpts)
    (searchK : Nat) : ∀ (fuel : Nat) (queue : List (Nat × NodeId)) (nns : List Nat),
      traverse c s' qv q searchK fuel queue nns = traverse c s qv q searchK fuel queue nns := by
  intro fuel
  induction fuel with
  | zero => intro queue nns; rfl
  | succ n ih =>
    intro queue nns
    rw [traverse_succ, traverse_succ, popStep_congr c hs]
    simp only [ih]

theorem scoreAll_congr (c : Cfg) {s s' : Store} (hs : SameIndex c s s') (qh qv : List Nat) (ids : List Nat) :
    scoreAll c s' qh qv ids = scoreAll c s qh qv ids := by
  induction ids with
  | nil => rfl
  | cons id rest ih =>
    rw [scoreAll, scoreAll, hs.item id, ih]

end Reader
open Reader

/-- a valid forest only mentions keys of its own index -/
theorem ForestWith.congr {c : Cfg} {s s' : Store} {rd : ReaderState} {ts : List T}
    (F : ForestWith c s rd ts) (hs : SameIndex c s s') : ForestWith c s' rd ts where
  refs := F.refs
  holds := fun t ht => (F.holds t ht).frame (fun i _ => hs.tree i)
  reach := F.reach
  items_nodup := F.items_nodup
  ids_nodup := F.ids_nodup
  sorted := F.sorted
  stored := fun x hx => by
    obtain ⟨h, v, hg⟩ := F.stored x hx
    exact ⟨h, v, by rw [hs.item x]; exact hg⟩
  roots_ne := F.roots_ne

theorem ForestOK.congr {c : Cfg} {s s' : Store} {rd : ReaderState} (F : ForestOK c s rd)
    (hs : SameIndex c s s') : ForestOK c s' rd := by
  obtain ⟨ts, F⟩ := F
  exact ⟨ts, F.congr hs⟩

namespace Reader

/-- `nnsByLeaf` is determined by the outcome of its traversal and by the `get`s of its index -/
theorem nnsByLeaf_congr_of_traverse (c : Cfg) {s s' : Store} (hs : SameIndex c s s') (rd : ReaderState)
    (qh qv : List Nat) (q : QueryOpts)
    (ht : traverse c s' qv q (budget c.metric rd.roots.length q) (2 * s'.length + rd.roots.length + 2)
        (rd.roots.map fun r => (F32.inf, NodeId.mkTree r)) [] =
      traverse c s qv q (budget c.metric rd.roots.length q) (2 * s.length + rd.roots.length + 2)
        (rd.roots.map fun r => (F32.inf, NodeId.mkTree r)) []) :
    nnsByLeaf c s' rd qh qv q = nnsByLeaf c s rd qh qv q := by
  unfold nnsByLeaf
  simp only [ht, scoreAll_congr c hs]

/-- **the answer on a valid forest does not depend on the rest of the store**: if `s'` agrees with `s`
on the keys of index `c.index` (it may have any number of other entries, so the fuel
`2 * s.length + …` differs), every query gives the same answer -/
theorem nnsByLeaf_congr_of_forest (c : Cfg) {s s' : Store} (hs : SameIndex c s s') (rd : ReaderState)
    (F : ForestOK c s rd) (qh qv : List Nat) (q : QueryOpts) :
    nnsByLeaf c s' rd qh qv q = nnsByLeaf c s rd qh qv q := by
  apply nnsByLeaf_congr_of_traverse c hs
  obtain ⟨ts, F⟩ := F
  obtain ⟨nns, hn, _⟩ := traverse_forest F qv q (budget c.metric rd.roots.length q)
  obtain ⟨nns', hn', _⟩ := traverse_forest (F.congr hs) qv q (budget c.metric rd.roots.length q)
  rw [traverse_congr c hs] at hn'
  have := traverse_fuel_irrelevant c s qv q _ _ _ _ _ _ _ hn hn'
  subst this
  rw [traverse_congr c hs, hn, hn']

/-- without any hypothesis on the forest: an answer obtained on `s` is obtained on every `s'` that
agrees on the keys of the index and has at least as many entries -/
theorem nnsByLeaf_congr_of_ok (c : Cfg) {s s' : Store} (hs : SameIndex c s s') (hlen : s.length ≤ s'.length)
    (rd : ReaderState) (qh qv : List Nat) (q : QueryOpts) (ans : List (Nat × Nat))
    (h : nnsByLeaf c s rd qh qv q = .ok ans) : nnsByLeaf c s' rd qh qv q = .ok ans := by
  rcases nnsByLeaf_ok_inv c s rd qh qv q ans h with ⟨he, rfl⟩ | ⟨nns, _, ht, _, _⟩
  · exact nnsByLeaf_empty c s' rd qh qv q he
  · rw [← h]
    apply nnsByLeaf_congr_of_traverse c hs
    rw [traverse_congr c hs, ht]
    exact traverse_fuel_mono c s qv q _ _ _ _ _ ht _ (by omega)

end Reader
end Arroy
