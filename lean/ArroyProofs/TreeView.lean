import ArroyModel.Build
import ArroyProofs.KeyLemmas
import ArroyProofs.StoreLemmas
/-! What `used_tree_node` and the metadata lookup see of a store (the tree keys and the metadata
entry) is not changed by the first steps of `build` (item preprocessing, reset of the updated keys).
Namespace `Transp`: the files on the transparency of `build` (Transparent*.lean) continue it; `rootsOf`
(the roots recorded in the metadata) is used well beyond them. -/
namespace Arroy
open Generated

namespace Transp

/-- the roots recorded in the metadata entry (none if it is missing) -/
def rootsOf (c : Cfg) (s : Store) : List Nat :=
  match s.get c.metaKey with
  | some (.metadata _ _ _ roots) => roots
  | _ => []

/-- the part of the store read by `used_tree_node` and by the metadata lookup of `build` -/
def TreeView (c : Cfg) (s : Store) : List Nat × Option Val :=
  (s.keysOf c.index modeTree, s.get c.metaKey)

/-- forest invariant (one direction): if there are tree keys, the metadata lists at least one root -/
def RootsPresent (c : Cfg) (s : Store) : Prop :=
  s.keysOf c.index modeTree ≠ [] → rootsOf c s ≠ []

instance (c : Cfg) (s : Store) : Decidable (RootsPresent c s) := by
  unfold RootsPresent; infer_instance

theorem rootsPresent_of_view {c : Cfg} {s s' : Store} (h : TreeView c s' = TreeView c s) :
    RootsPresent c s' ↔ RootsPresent c s := by
  simp only [TreeView, Prod.mk.injEq] at h
  unfold RootsPresent rootsOf
  rw [h.1, h.2]

theorem encodeKey_eq (k : Key) :
    encodeKey k = be 2 k.index ++ (be 1 k.mode ++ (be 4 k.item ++ be 1 keyPadding)) := by
  simp [encodeKey, keyFields, keyFieldBytes, encInt]

def hasPrefix (i m : Nat) (k : Key) : Bool := isPrefixOf (encodePrefix i (some m)) (encodeKey k)

theorem hasPrefix_self (k : Key) : hasPrefix k.index k.mode k = true := by
  unfold hasPrefix isPrefixOf
  rw [List.isPrefixOf_iff_prefix, encodeKey_eq]
  simp only [encodePrefix]
  rw [← List.append_assoc]
  exact List.prefix_append _ _

theorem hasPrefix_unique {i m m' : Nat} {k : Key} (h : hasPrefix i m k = true)
    (hne : be 1 m ≠ be 1 m') : hasPrefix i m' k = false := by
  cases h' : hasPrefix i m' k with
  | false => rfl
  | true =>
    exfalso
    unfold hasPrefix isPrefixOf at h h'
    rw [List.isPrefixOf_iff_prefix] at h h'
    obtain ⟨t, ht⟩ := h
    obtain ⟨t', ht'⟩ := h'
    simp only [encodePrefix, List.append_assoc] at ht ht'
    have e1 := ht.trans ht'.symm
    have e2 := List.append_cancel_left e1
    exact hne (List.append_inj_left e2 (by simp [be_length]))

theorem tree_of_item {i : Nat} {k : Key} (h : hasPrefix i modeItem k = true) :
    hasPrefix i modeTree k = false := hasPrefix_unique h (by decide)

theorem ne_meta_of_item {i : Nat} {k : Key} (h : hasPrefix i modeItem k = true) :
    k ≠ Key.mkMetadata i := by
  intro e
  subst e
  have h1 : hasPrefix i modeMetadata (Key.mkMetadata i) = true := hasPrefix_self (Key.mkMetadata i)
  have := hasPrefix_unique h1 (m' := modeItem) (by decide)
  rw [h] at this; cases this

theorem tree_of_updated (i id : Nat) : hasPrefix i modeTree (Key.mkUpdated i id) = false :=
  hasPrefix_unique (m := modeUpdated) (hasPrefix_self (Key.mkUpdated i id)) (by decide)

theorem updated_ne_meta (i id : Nat) : Key.mkUpdated i id ≠ Key.mkMetadata i := by
  intro e
  have : modeUpdated = metadataKeyMode := congrArg Key.mode e
  revert this; decide

theorem filter_put_of_not (p : Key → Bool) (s : Store) (k : Key) (v : Val) (hk : p k = false) :
    List.filter (fun kv => p kv.1) (s.put k v) = List.filter (fun kv => p kv.1) s := by
  induction s with
  | nil => simp [Store.put, hk]
  | cons kv rest ih =>
    obtain ⟨k', v'⟩ := kv
    simp only [Store.put]
    split
    · simp [List.filter, hk]
    · split
      · rename_i h2
        subst h2
        simp [List.filter, hk]
      · simp only [List.filter, ih]

theorem filter_erase_of_not (p : Key → Bool) (s : Store) (k : Key) (hk : p k = false) :
    List.filter (fun kv => p kv.1) (s.erase k) = List.filter (fun kv => p kv.1) s := by
  unfold Store.erase
  rw [List.filter_filter]
  apply List.filter_congr
  intro kv _
  by_cases h : kv.1 = k
  · simp [h, hk]
  · simp [h]

theorem keysOf_eq (s : Store) (i m : Nat) :
    s.keysOf i m = (List.filter (fun kv => hasPrefix i m kv.1) s).map (·.1.item) := rfl

theorem treeView_put (c : Cfg) (s : Store) (k : Key) (v : Val) (hk : hasPrefix c.index modeItem k = true) :
    TreeView c (s.put k v) = TreeView c s := by
  unfold TreeView
  rw [keysOf_eq, keysOf_eq, filter_put_of_not _ s k v (tree_of_item hk),
    Store.get_put_other s k c.metaKey v (Ne.symm (ne_meta_of_item hk))]

theorem treeView_erase_updated (c : Cfg) (s : Store) (id : Nat) :
    TreeView c (s.erase (c.updatedKey id)) = TreeView c s := by
  unfold TreeView
  rw [keysOf_eq, keysOf_eq, filter_erase_of_not _ s (c.updatedKey id) (tree_of_updated c.index id),
    Store.get_erase_other s (c.updatedKey id) c.metaKey (Ne.symm (updated_ne_meta c.index id))]

theorem treeView_foldl_put (c : Cfg) {β : Type} (l : List (Key × β)) (g : Key × β → Val)
    (hl : ∀ x ∈ l, hasPrefix c.index modeItem x.1 = true) (s : Store) :
    TreeView c (l.foldl (fun st kv => st.put kv.1 (g kv)) s) = TreeView c s := by
  induction l generalizing s with
  | nil => rfl
  | cons x xs ih =>
    simp only [List.foldl_cons]
    rw [ih (fun y hy => hl y (List.mem_cons_of_mem _ hy)), treeView_put c s x.1 _ (hl x List.mem_cons_self)]

theorem treeView_preprocessDot (c : Cfg) (s : Store) : TreeView c (Build.preprocessDot c s) = TreeView c s := by
  unfold Build.preprocessDot
  apply treeView_foldl_put
  intro x hx
  simp only [List.mem_filterMap] at hx
  obtain ⟨kv, hkv, hm⟩ := hx
  have hp : hasPrefix c.index modeItem kv.1 = true := by
    unfold Store.prefixIter at hkv
    exact (List.mem_filter.1 hkv).2
  split at hm
  · cases hm; exact hp
  · cases hm

end Transp
end Arroy
