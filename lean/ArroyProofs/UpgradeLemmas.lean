import ArroyProofs.StoreFold
import ArroyProofs.SetLemmas
import ArroyModel.Upgrade
/-! The upgrade functions as lists of writes: `up04to05` and `down` in closed form. -/
namespace Arroy.Upgrade
open Arroy Generated Store

/-- a tree node after the upgrade: the kinds of the children of a split node are renumbered -/
def upVal : Val → Val
  | .split l r n => .split ⟨(remapMode l.mode).getD l.mode, l.item⟩ ⟨(remapMode r.mode).getD r.mode, r.item⟩ n
  | other => other

/-- a tree node in the old layout -/
def downVal : Val → Val
  | .split l r n => .split ⟨(unmapMode l.mode).getD l.mode, l.item⟩ ⟨(unmapMode r.mode).getD r.mode, r.item⟩ n
  | other => other

/-- what a successful `upEntry` writes -/
def upWrites (kv : Key × Val) : List (Key × Val) :=
  if kv.1.mode = oldModeItem then [(⟨kv.1.index, modeItem, kv.1.item⟩, kv.2)]
  else if kv.1.mode = oldModeTree then [(⟨kv.1.index, modeTree, kv.1.item⟩, upVal kv.2)]
  else if kv.1.mode = oldModeMetadata then
    if kv.1.item = 0 then
      match kv.2 with
      | .metadata _ d i r => [(⟨kv.1.index, modeMetadata, 0⟩, .metadata cosineName d i r)]
      | _ => []
    else if kv.1.item = 1 then
      match kv.2 with
      | .desc ids => ids.map (fun id => (⟨kv.1.index, modeUpdated, id⟩, Val.unit))
      | _ => []
    else []
  else []

theorem upWrites_item {k' : Key} (v' : Val) (h : k'.mode = oldModeItem) :
    upWrites (k', v') = [(⟨k'.index, modeItem, k'.item⟩, v')] := by
  unfold upWrites; simp only; rw [if_pos h]

theorem upWrites_tree {k' : Key} (v' : Val) (h : k'.mode = oldModeTree) :
    upWrites (k', v') = [(⟨k'.index, modeTree, k'.item⟩, upVal v')] := by
  unfold upWrites; simp only; rw [if_neg (by rw [h]; decide), if_pos h]

theorem upWrites_meta {k' : Key} (nm : Bytes) (d : Nat) (i r : List Nat) (h : k'.mode = oldModeMetadata)
    (h0 : k'.item = 0) :
    upWrites (k', .metadata nm d i r) = [(⟨k'.index, modeMetadata, 0⟩, .metadata cosineName d i r)] := by
  unfold upWrites; simp only; rw [if_neg (by rw [h]; decide), if_neg (by rw [h]; decide), if_pos h, if_pos h0]

theorem upWrites_bitmap {k' : Key} (ids : List Nat) (h : k'.mode = oldModeMetadata) (h1 : k'.item = 1) :
    upWrites (k', .desc ids) = ids.map (fun id => (⟨k'.index, modeUpdated, id⟩, Val.unit)) := by
  unfold upWrites; simp only
  rw [if_neg (by rw [h]; decide), if_neg (by rw [h]; decide), if_pos h, if_neg (by rw [h1]; decide), if_pos h1]

theorem upEntry_item (acc : Store) {k : Key} (v : Val) (h : k.mode = oldModeItem) :
    upEntry acc (k, v) = .ok (acc.put ⟨k.index, modeItem, k.item⟩ v) := by
  unfold upEntry; simp only; rw [if_pos h]

theorem upEntry_tree (acc : Store) {k : Key} (v : Val) (h : k.mode = oldModeTree) :
    upEntry acc (k, v) =
      match v with
      | .split l r n =>
        match remapMode l.mode, remapMode r.mode with
        | some a, some b => .ok (acc.put ⟨k.index, modeTree, k.item⟩ (.split ⟨a, l.item⟩ ⟨b, r.item⟩ n))
        | none, _ => .error (.cannotDecodeKeyMode l.mode)
        | _, none => .error (.cannotDecodeKeyMode r.mode)
      | other => .ok (acc.put ⟨k.index, modeTree, k.item⟩ other) := by
  unfold upEntry remapNode; simp only; rw [if_neg (by rw [h]; decide), if_pos h]
  cases v with
  | split l r n => dsimp only; cases remapMode l.mode <;> cases remapMode r.mode <;> rfl
  | _ => rfl

theorem upEntry_split (acc : Store) {k : Key} (l r : NodeId) (n : List Nat) (h : k.mode = oldModeTree) :
    upEntry acc (k, .split l r n) =
      match remapMode l.mode, remapMode r.mode with
      | some a, some b => .ok (acc.put ⟨k.index, modeTree, k.item⟩ (.split ⟨a, l.item⟩ ⟨b, r.item⟩ n))
      | none, _ => .error (.cannotDecodeKeyMode l.mode)
      | _, none => .error (.cannotDecodeKeyMode r.mode) :=
  upEntry_tree acc _ h

theorem upEntry_meta (acc : Store) {k : Key} (v : Val) (h : k.mode = oldModeMetadata) :
    upEntry acc (k, v) =
      if k.item = 0 then
        match v with
        | .metadata _ dims items roots =>
          .ok (acc.put ⟨k.index, modeMetadata, 0⟩ (.metadata cosineName dims items roots))
        | _ => .error (.panic "metadata does not decode")
      else if k.item = 1 then
        match v with
        | .desc ids => .ok (ids.foldl (fun s id => s.put ⟨k.index, modeUpdated, id⟩ .unit) acc)
        | _ => .ok acc
      else .error (.panic "unexpected metadata entry") := by
  unfold upEntry; simp only; rw [if_neg (by rw [h]; decide), if_neg (by rw [h]; decide), if_pos h]
  split
  · cases v <;> rfl
  · split
    · cases v <;> rfl
    · rfl

/-- the old-layout entries `upEntry` accepts -/
def UpGood (kv : Key × Val) : Prop :=
  kv.1.mode = oldModeItem ∨
  (kv.1.mode = oldModeTree ∧
    ∀ l r n, kv.2 = .split l r n → (remapMode l.mode).isSome = true ∧ (remapMode r.mode).isSome = true) ∨
  (kv.1.mode = oldModeMetadata ∧ kv.1.item = 0 ∧ ∃ nm d i r, kv.2 = .metadata nm d i r) ∨
  (kv.1.mode = oldModeMetadata ∧ kv.1.item = 1)

theorem upEntry_good (acc : Store) (kv : Key × Val) (h : UpGood kv) :
    upEntry acc kv = .ok (putAll acc (upWrites kv)) := by
  obtain ⟨k, v⟩ := kv
  rcases h with h | ⟨h, hc⟩ | ⟨h, h0, nm, d, i, r, hv⟩ | ⟨h, h1⟩
  · rw [upEntry_item acc v h, upWrites_item v h]; rfl
  · rw [upWrites_tree v h]
    cases v with
    | split l r n =>
      obtain ⟨hl, hr⟩ := hc l r n rfl
      obtain ⟨a, ha⟩ := Option.isSome_iff_exists.1 hl
      obtain ⟨b, hb⟩ := Option.isSome_iff_exists.1 hr
      rw [upEntry_split acc l r n h, upVal, ha, hb]
      rfl
    | _ => rw [upEntry_tree acc _ h]; rfl
  · simp only at h h0 hv
    subst hv
    rw [upEntry_meta acc _ h, upWrites_meta nm d i r h h0, if_pos h0]; rfl
  · simp only at h h1
    rw [upEntry_meta acc v h, if_neg (by rw [h1]; decide), if_pos h1]
    cases v with
    | desc ids => rw [upWrites_bitmap ids h h1, putAll, List.foldl_map]
    | _ =>
      unfold upWrites
      rw [if_neg (by rw [h]; decide), if_neg (by rw [h]; decide), if_pos h, if_neg (by rw [h1]; decide), if_pos h1]
      rfl

theorem foldlM_upEntry (old : List (Key × Val)) (acc : Store) (h : ∀ kv ∈ old, UpGood kv) :
    old.foldlM upEntry acc = .ok (putAll acc (old.flatMap upWrites)) := by
  induction old generalizing acc with
  | nil => rfl
  | cons kv rest ih =>
    rw [List.foldlM_cons, upEntry_good acc kv (h kv (List.mem_cons_self ..))]
    show rest.foldlM upEntry _ = _
    rw [ih _ (fun x hx => h x (List.mem_cons_of_mem _ hx)), List.flatMap_cons, putAll_append]

/-- on acceptable input the upgrade is the list of its writes applied to the empty database -/
theorem up04to05_good (old : List (Key × Val)) (h : ∀ kv ∈ old, UpGood kv) :
    up04to05 old = .ok (putAll [] (old.flatMap upWrites)) := foldlM_upEntry old [] h

/-- first pass of `down`: items, tree nodes, metadata -/
def downWrites (oldName : Bytes) (kv : Key × Val) : List (Key × Val) :=
  if kv.1.mode = modeItem then [(⟨kv.1.index, oldModeItem, kv.1.item⟩, kv.2)]
  else if kv.1.mode = modeTree then [(⟨kv.1.index, oldModeTree, kv.1.item⟩, downVal kv.2)]
  else if kv.1.mode = metadataKeyMode ∧ kv.1.item = metadataKeyItem then
    match kv.2 with
    | .metadata _ d i r => [(⟨kv.1.index, oldModeMetadata, 0⟩, .metadata oldName d i r)]
    | _ => []
  else []

theorem downWrites_item (oldName : Bytes) {k : Key} (v : Val) (h : k.mode = modeItem) :
    downWrites oldName (k, v) = [(⟨k.index, oldModeItem, k.item⟩, v)] := by
  unfold downWrites; simp only; rw [if_pos h]

theorem downWrites_tree (oldName : Bytes) {k : Key} (v : Val) (h : k.mode = modeTree) :
    downWrites oldName (k, v) = [(⟨k.index, oldModeTree, k.item⟩, downVal v)] := by
  unfold downWrites; simp only; rw [if_neg (by rw [h]; decide), if_pos h]

theorem downWrites_meta (oldName : Bytes) {k : Key} (nm : Bytes) (d : Nat) (i r : List Nat)
    (h : k.mode = metadataKeyMode) (h0 : k.item = metadataKeyItem) :
    downWrites oldName (k, .metadata nm d i r) = [(⟨k.index, oldModeMetadata, 0⟩, .metadata oldName d i r)] := by
  unfold downWrites; simp only; rw [if_neg (by rw [h]; decide), if_neg (by rw [h]; decide), if_pos ⟨h, h0⟩]

def bitmapKey (i : Nat) : Key := ⟨i, oldModeMetadata, 1⟩

def curIds (acc : Store) (key : Key) : List Nat :=
  match Store.get acc key with
  | some (.desc ids) => ids
  | _ => []

/-- second pass of `down`: one updated mark into the bitmap of its index -/
def markStep (acc : List (Key × Val)) (kv : Key × Val) : List (Key × Val) :=
  if kv.1.mode = modeUpdated then
    Store.put acc (bitmapKey kv.1.index) (.desc (IdSet.insert kv.1.item (curIds acc (bitmapKey kv.1.index))))
  else acc

theorem down_eq (oldName : Bytes) (s : Store) :
    down oldName s = s.foldl markStep (putAll [] (s.flatMap (downWrites oldName))) := by
  unfold down
  simp only
  rw [← foldl_putAll]
  congr 1
  · funext acc kv
    obtain ⟨k, v⟩ := kv
    unfold markStep curIds bitmapKey insertOld
    simp only
    split
    · cases hg : Store.get acc ⟨k.index, oldModeMetadata, 1⟩ with
      | none => rfl
      | some x => cases x <;> rfl
    · rfl
  · congr 1
    funext acc kv
    obtain ⟨k, v⟩ := kv
    unfold downWrites insertOld
    simp only
    split
    · rfl
    · split
      · cases v <;> rfl
      · split
        · cases v <;> rfl
        · rfl

theorem mem_downWrites_iff (oldName : Bytes) (k k' : Key) (v v' : Val) :
    (k', v') ∈ downWrites oldName (k, v) ↔
      (k.mode = modeItem ∧ k' = ⟨k.index, oldModeItem, k.item⟩ ∧ v' = v) ∨
      (k.mode = modeTree ∧ k' = ⟨k.index, oldModeTree, k.item⟩ ∧ v' = downVal v) ∨
      (k.mode = metadataKeyMode ∧ k.item = metadataKeyItem ∧ ∃ nm d i r, v = .metadata nm d i r ∧
        k' = ⟨k.index, oldModeMetadata, 0⟩ ∧ v' = .metadata oldName d i r) := by
  constructor
  · intro h
    by_cases h1 : k.mode = modeItem
    · rw [downWrites_item oldName v h1, List.mem_singleton, Prod.mk.injEq] at h
      exact Or.inl ⟨h1, h.1, h.2⟩
    by_cases h2 : k.mode = modeTree
    · rw [downWrites_tree oldName v h2, List.mem_singleton, Prod.mk.injEq] at h
      exact Or.inr (Or.inl ⟨h2, h.1, h.2⟩)
    by_cases h3 : k.mode = metadataKeyMode ∧ k.item = metadataKeyItem
    · cases v with
      | metadata nm d i r =>
        rw [downWrites_meta oldName nm d i r h3.1 h3.2, List.mem_singleton, Prod.mk.injEq] at h
        exact Or.inr (Or.inr ⟨h3.1, h3.2, nm, d, i, r, rfl, h.1, h.2⟩)
      | _ => unfold downWrites at h; rw [if_neg h1, if_neg h2, if_pos h3] at h; cases h
    · unfold downWrites at h; rw [if_neg h1, if_neg h2, if_neg h3] at h; cases h
  · rintro (⟨h1, rfl, rfl⟩ | ⟨h1, rfl, rfl⟩ | ⟨h1, h0, nm, d, i, r, rfl, rfl, rfl⟩)
    · rw [downWrites_item _ _ h1]; exact List.mem_singleton.2 rfl
    · rw [downWrites_tree _ _ h1]; exact List.mem_singleton.2 rfl
    · rw [downWrites_meta _ _ _ _ _ h1 h0]; exact List.mem_singleton.2 rfl

theorem length_downWrites_le (oldName : Bytes) (kv : Key × Val) : (downWrites oldName kv).length ≤ 1 := by
  unfold downWrites
  split
  · simp
  · split
    · simp
    · split
      · split <;> simp
      · simp

/-- the source key of an old-layout key written by the first pass -/
theorem downWrites_src {oldName : Bytes} {kv w : Key × Val} (h : w ∈ downWrites oldName kv) :
    kv.1 = if w.1.mode = oldModeItem then ⟨w.1.index, modeItem, w.1.item⟩
      else if w.1.mode = oldModeTree then ⟨w.1.index, modeTree, w.1.item⟩
      else ⟨w.1.index, metadataKeyMode, metadataKeyItem⟩ := by
  obtain ⟨k, v⟩ := kv
  obtain ⟨k', v'⟩ := w
  rcases (mem_downWrites_iff oldName k k' v v').1 h with ⟨h1, h2, _⟩ | ⟨h1, h2, _⟩ | ⟨h1, h1', _, _, _, _, _, h2, _⟩
  · subst h2
    show k = if oldModeItem = oldModeItem then _ else _
    rw [if_pos rfl]; exact Key.eq_of_fields rfl h1 rfl
  · subst h2
    show k = if oldModeTree = oldModeItem then _ else if oldModeTree = oldModeTree then _ else _
    rw [if_neg (by decide), if_pos rfl]; exact Key.eq_of_fields rfl h1 rfl
  · subst h2
    show k = if oldModeMetadata = oldModeItem then _ else if oldModeMetadata = oldModeTree then _ else _
    rw [if_neg (by decide), if_neg (by decide)]; exact Key.eq_of_fields rfl h1 h1'

theorem downWrites_not_bitmap {oldName : Bytes} {kv w : Key × Val} (h : w ∈ downWrites oldName kv) :
    ¬ (w.1.mode = oldModeMetadata ∧ w.1.item = 1) := by
  obtain ⟨k, v⟩ := kv
  obtain ⟨k', v'⟩ := w
  rintro ⟨hm, hi⟩
  rcases (mem_downWrites_iff oldName k k' v v').1 h with ⟨_, h2, _⟩ | ⟨_, h2, _⟩ | ⟨_, _, _, _, _, _, _, h2, _⟩
  · rw [h2] at hm; exact absurd hm (show ¬ oldModeItem = oldModeMetadata by decide)
  · rw [h2] at hm; exact absurd hm (show ¬ oldModeTree = oldModeMetadata by decide)
  · rw [h2] at hi; exact absurd hi (show ¬ 0 = 1 by decide)

theorem functional_downWrites (oldName : Bytes) {s : Store} (hs : Sorted s) :
    Functional (s.flatMap (downWrites oldName)) := by
  intro a ha b hb hab
  obtain ⟨x, hx, hax⟩ := List.mem_flatMap.1 ha
  obtain ⟨y, hy, hby⟩ := List.mem_flatMap.1 hb
  have hxy : x.1 = y.1 := by rw [downWrites_src hax, downWrites_src hby, hab]
  have := eq_of_key_eq hs hx hy hxy
  subst this
  have hl := length_downWrites_le oldName x
  match hd : downWrites oldName x, hl with
  | [], _ => rw [hd] at hax; cases hax
  | [w], _ =>
    rw [hd] at hax hby
    simp only [List.mem_singleton] at hax hby
    rw [hax, hby]

/-- the ids of the updated marks of index `i`, in store order -/
def marks (i : Nat) (l : List (Key × Val)) : List Nat :=
  (l.filter (fun kv => decide (kv.1.mode = modeUpdated ∧ kv.1.index = i))).map (·.1.item)

def insertAll (xs : List Nat) (init : List Nat) : List Nat := xs.foldl (fun a x => IdSet.insert x a) init

theorem mem_insertAll {xs init : List Nat} {z : Nat} : z ∈ insertAll xs init ↔ z ∈ xs ∨ z ∈ init := by
  unfold insertAll
  induction xs generalizing init with
  | nil => simp
  | cons x xs ih =>
    rw [List.foldl_cons, ih, IdSet.mem_insert, List.mem_cons]
    constructor
    · rintro (h | h | h)
      · exact Or.inl (Or.inr h)
      · exact Or.inl (Or.inl h)
      · exact Or.inr h
    · rintro ((h | h) | h)
      · exact Or.inr (Or.inl h)
      · exact Or.inl h
      · exact Or.inr (Or.inr h)

theorem sorted_insertAll {xs init : List Nat} (h : IdSet.Sorted init) : IdSet.Sorted (insertAll xs init) := by
  unfold insertAll
  induction xs generalizing init with
  | nil => exact h
  | cons x xs ih => exact ih (IdSet.sorted_insert h)

theorem mem_marks_iff {i id : Nat} {l : List (Key × Val)} :
    id ∈ marks i l ↔ ∃ v, ((⟨i, modeUpdated, id⟩ : Key), v) ∈ l := by
  unfold marks
  simp only [List.mem_map, List.mem_filter, decide_eq_true_eq]
  constructor
  · rintro ⟨⟨k, v⟩, ⟨hm, h1, h2⟩, h3⟩
    simp only at h1 h2 h3
    have : k = ⟨i, modeUpdated, id⟩ := Key.eq_of_fields h2 h1 h3
    rw [← this]; exact ⟨v, hm⟩
  · rintro ⟨v, hv⟩
    exact ⟨_, ⟨hv, rfl, rfl⟩, rfl⟩

theorem foldl_markStep_sorted {acc : Store} (h : Sorted acc) (l : List (Key × Val)) :
    Sorted (l.foldl markStep acc) := by
  induction l generalizing acc with
  | nil => exact h
  | cons kv rest ih =>
    apply ih
    unfold markStep
    split
    · exact put_sorted h _ _
    · exact h

/-- the second pass writes bitmap keys only -/
theorem get_foldl_markStep_other (l : List (Key × Val)) (acc : Store) (k' : Key)
    (h : ¬ (k'.mode = oldModeMetadata ∧ k'.item = 1)) :
    Store.get (l.foldl markStep acc) k' = Store.get acc k' := by
  induction l generalizing acc with
  | nil => rfl
  | cons kv rest ih =>
    rw [List.foldl_cons, ih]
    unfold markStep
    split
    · exact (get_put _ _ _ _).trans (if_neg fun e => h (by rw [e]; exact ⟨rfl, rfl⟩))
    · rfl

theorem curIds_of_get {acc : Store} {key : Key} {ids : List Nat} (h : Store.get acc key = some (.desc ids)) :
    curIds acc key = ids := by
  unfold curIds; rw [h]

theorem get_foldl_markStep_bitmap (l : List (Key × Val)) (acc : Store) (i : Nat) :
    Store.get (l.foldl markStep acc) (bitmapKey i) =
      if marks i l = [] then Store.get acc (bitmapKey i)
      else some (.desc (insertAll (marks i l) (curIds acc (bitmapKey i)))) := by
  induction l generalizing acc with
  | nil => rfl
  | cons kv rest ih =>
    rw [List.foldl_cons, ih]
    by_cases hm : kv.1.mode = modeUpdated
    · by_cases hi : kv.1.index = i
      · have hmk : marks i (kv :: rest) = kv.1.item :: marks i rest := by
          unfold marks; rw [List.filter_cons_of_pos (by simp [hm, hi])]; rfl
        have hg : Store.get (markStep acc kv) (bitmapKey i) =
            some (.desc (IdSet.insert kv.1.item (curIds acc (bitmapKey i)))) := by
          unfold markStep; rw [if_pos hm, hi, get_put, if_pos rfl]
        have hc : curIds (markStep acc kv) (bitmapKey i) = IdSet.insert kv.1.item (curIds acc (bitmapKey i)) :=
          curIds_of_get hg
        rw [hmk, hg, hc, if_neg (List.cons_ne_nil kv.1.item (marks i rest))]
        split <;> rename_i he
        · rw [he]; rfl
        · rfl
      · have hmk : marks i (kv :: rest) = marks i rest := by
          unfold marks; rw [List.filter_cons_of_neg (by simp [hi])]
        have hg : Store.get (markStep acc kv) (bitmapKey i) = Store.get acc (bitmapKey i) := by
          unfold markStep; rw [if_pos hm, get_put, if_neg (fun e => hi (congrArg Key.index e).symm)]
        have hc : curIds (markStep acc kv) (bitmapKey i) = curIds acc (bitmapKey i) := by
          unfold curIds; rw [hg]
        rw [hmk, hg, hc]
    · have hmk : marks i (kv :: rest) = marks i rest := by
        unfold marks; rw [List.filter_cons_of_neg (by simp [hm])]
      have : markStep acc kv = acc := by unfold markStep; rw [if_neg hm]
      rw [hmk, this]

theorem down_sorted (oldName : Bytes) (s : Store) : Sorted (down oldName s) := by
  rw [down_eq]
  exact foldl_markStep_sorted (putAll_sorted sorted_nil _) _

theorem get_down_bitmap (oldName : Bytes) (s : Store) (i : Nat) :
    Store.get (down oldName s) (bitmapKey i) =
      if marks i s = [] then none else some (.desc (insertAll (marks i s) [])) := by
  have hb : Store.get (putAll [] (s.flatMap (downWrites oldName))) (bitmapKey i) = none := by
    rw [get_putAll_of_not_mem]
    · rfl
    · intro w hw e
      obtain ⟨kv, _, hx⟩ := List.mem_flatMap.1 hw
      exact downWrites_not_bitmap hx (by rw [e]; exact ⟨rfl, rfl⟩)
  rw [down_eq, get_foldl_markStep_bitmap, hb]
  unfold curIds
  rw [hb]

theorem get_down_other (oldName : Bytes) {s : Store} (hs : Sorted s) (k' : Key) (v' : Val)
    (h : ¬ (k'.mode = oldModeMetadata ∧ k'.item = 1)) :
    Store.get (down oldName s) k' = some v' ↔ ∃ kv ∈ s, (k', v') ∈ downWrites oldName kv := by
  rw [down_eq, get_foldl_markStep_other _ _ _ h, get_putAll_nil (functional_downWrites oldName hs),
    List.mem_flatMap]

/-- **the old-layout database, entry by entry**: the first-pass writes of the entries of `s`, and one bitmap
for every index that has updated marks -/
theorem mem_down_iff (oldName : Bytes) {s : Store} (hs : Sorted s) (w : Key × Val) :
    w ∈ down oldName s ↔ (∃ kv ∈ s, w ∈ downWrites oldName kv) ∨
      (marks w.1.index s ≠ [] ∧ w = (bitmapKey w.1.index, .desc (insertAll (marks w.1.index s) []))) := by
  obtain ⟨k', v'⟩ := w
  rw [← get_eq_some_iff (down_sorted oldName s)]
  by_cases hb : k'.mode = oldModeMetadata ∧ k'.item = 1
  · have hk : k' = bitmapKey k'.index := Key.eq_of_fields rfl hb.1 hb.2
    have hg : Store.get (down oldName s) k' = Store.get (down oldName s) (bitmapKey k'.index) := by rw [← hk]
    rw [hg, get_down_bitmap]
    constructor
    · intro h
      by_cases hm : marks k'.index s = []
      · rw [if_pos hm] at h; cases h
      · rw [if_neg hm, Option.some.injEq] at h
        exact Or.inr ⟨hm, by rw [← h, ← hk]⟩
    · rintro (⟨kv, _, hkv⟩ | ⟨hm, e⟩)
      · exact absurd hb (downWrites_not_bitmap hkv)
      · rw [if_neg hm, (Prod.mk.inj e).2]
  · rw [get_down_other oldName hs k' v' hb]
    constructor
    · exact Or.inl
    · rintro (h | ⟨_, e⟩)
      · exact h
      · exact absurd (by rw [(Prod.mk.inj e).1]; exact ⟨rfl, rfl⟩) hb

theorem mem_upWrites_iff (k' k : Key) (v' v : Val) :
    (k, v) ∈ upWrites (k', v') ↔
      (k'.mode = oldModeItem ∧ k = ⟨k'.index, modeItem, k'.item⟩ ∧ v = v') ∨
      (k'.mode = oldModeTree ∧ k = ⟨k'.index, modeTree, k'.item⟩ ∧ v = upVal v') ∨
      (k'.mode = oldModeMetadata ∧ k'.item = 0 ∧ ∃ nm d i r, v' = .metadata nm d i r ∧
        k = ⟨k'.index, modeMetadata, 0⟩ ∧ v = .metadata cosineName d i r) ∨
      (k'.mode = oldModeMetadata ∧ k'.item = 1 ∧ ∃ ids id, v' = .desc ids ∧ id ∈ ids ∧
        k = ⟨k'.index, modeUpdated, id⟩ ∧ v = .unit) := by
  constructor
  · intro h
    by_cases h1 : k'.mode = oldModeItem
    · rw [upWrites_item v' h1, List.mem_singleton, Prod.mk.injEq] at h
      exact Or.inl ⟨h1, h.1, h.2⟩
    by_cases h2 : k'.mode = oldModeTree
    · rw [upWrites_tree v' h2, List.mem_singleton, Prod.mk.injEq] at h
      exact Or.inr (Or.inl ⟨h2, h.1, h.2⟩)
    by_cases h3 : k'.mode = oldModeMetadata
    · by_cases h0 : k'.item = 0
      · cases v' with
        | metadata nm d i r =>
          rw [upWrites_meta nm d i r h3 h0, List.mem_singleton, Prod.mk.injEq] at h
          exact Or.inr (Or.inr (Or.inl ⟨h3, h0, nm, d, i, r, rfl, h.1, h.2⟩))
        | _ => unfold upWrites at h; rw [if_neg h1, if_neg h2, if_pos h3, if_pos h0] at h; cases h
      · by_cases h01 : k'.item = 1
        · cases v' with
          | desc ids =>
            rw [upWrites_bitmap ids h3 h01] at h
            obtain ⟨id, hid, he⟩ := List.mem_map.1 h
            rw [Prod.mk.injEq] at he
            exact Or.inr (Or.inr (Or.inr ⟨h3, h01, ids, id, rfl, hid, he.1.symm, he.2.symm⟩))
          | _ => unfold upWrites at h; rw [if_neg h1, if_neg h2, if_pos h3, if_neg h0, if_pos h01] at h; cases h
        · unfold upWrites at h; rw [if_neg h1, if_neg h2, if_pos h3, if_neg h0, if_neg h01] at h; cases h
    · unfold upWrites at h; rw [if_neg h1, if_neg h2, if_neg h3] at h; cases h
  · rintro (⟨h1, rfl, rfl⟩ | ⟨h1, rfl, rfl⟩ | ⟨h1, h0, nm, d, i, r, rfl, rfl, rfl⟩ | ⟨h1, h01, ids, id, rfl, hid, rfl, rfl⟩)
    · rw [upWrites_item _ h1]; exact List.mem_singleton.2 rfl
    · rw [upWrites_tree _ h1]; exact List.mem_singleton.2 rfl
    · rw [upWrites_meta _ _ _ _ h1 h0]; exact List.mem_singleton.2 rfl
    · rw [upWrites_bitmap _ h1 h01]; exact List.mem_map.2 ⟨id, hid, rfl⟩

end Arroy.Upgrade
