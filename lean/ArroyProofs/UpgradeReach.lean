import ArroyProofs.Properties.Reachable
import ArroyProofs.Properties.C17
import ArroyProofs.StoreOkBuild
/-! Helper lemmas for `Properties/C17Reachable.lean`:
* the invariant `MiscG` of histories about the entries that `IndexInv` does not describe (updated marks hold
  the unit value, keys of the metadata kind are the metadata record — named by a metric a build used — or the
  version record, no other kind of key exists): an entry predicate carried through every operation, through
  `Writer::build` by `Build.build_storeOk`;
* frame lemmas: two sorted well-formed stores that agree outside the version records (`AgreeNV`) satisfy the
  same `IndexInv`, open alike, and have the same prefix scans outside the metadata kind. -/
namespace Arroy
open Generated

/-- an accepted `add` writes a leaf and a mark -/
theorem StoreOk.addItem {Q : Key → Val → Prop} {c : Cfg} {s s' : Store} {id : Nat} {vec : List Nat}
    (h : StoreOk Q s) (ha : Writer.addItem c s id vec = .ok s')
    (hl : vec.length = c.dims → Q (c.itemKey id) (c.mkLeaf vec)) (hu : Q (c.updatedKey id) .unit) :
    StoreOk Q s' := by
  obtain ⟨hlen, rfl⟩ := Writer.addItem_ok ha
  exact (h.put _ _ (hl hlen)).put _ _ hu

/-- a `del` erases the item and, if it was there, writes a mark -/
theorem StoreOk.delItem {Q : Key → Val → Prop} {s : Store} (h : StoreOk Q s) (c : Cfg) (id : Nat)
    (hu : Q (c.updatedKey id) .unit) : StoreOk Q (Writer.delItem c s id).1 := by
  unfold Writer.delItem Store.delete
  dsimp only
  cases Store.contains s (c.itemKey id)
  · exact h.erase _
  · exact (h.erase _).put _ _ hu

namespace C17
open Store Upgrade C01

/-- an entry is an item, a tree node, an updated mark holding the unit value, the metadata record (named by a
    name satisfying `N`) or the version record: there is no other kind of key, and no other id of the
    metadata kind -/
def miscOk (N : Bytes → Prop) (k : Key) (v : Val) : Prop :=
  k.mode = modeItem ∨ k.mode = modeTree ∨ (k.mode = modeUpdated ∧ v = .unit) ∨
  (k = Key.mkMetadata k.index ∧ ∃ nm d i r, v = .metadata nm d i r ∧ N nm) ∨
  (k = Key.mkVersion k.index ∧ ∃ a b c, v = .version a b c)

def MiscG (N : Bytes → Prop) (s : Store) : Prop := StoreOk (miscOk N) s

/-- the metadata record is only written by builds: the metric names of the builds of the history satisfy `N` -/
def namedBuild (N : Bytes → Prop) : Op → Prop
  | .build c _ _ _ => N c.metric.nameBytes
  | _ => True

theorem miscOk_mark (N : Bytes → Prop) (c : Cfg) (id : Nat) : miscOk N (c.updatedKey id) .unit :=
  Or.inr (Or.inr (Or.inl ⟨rfl, rfl⟩))

/-- what a build writes is `miscOk`: tree nodes, the metadata record named by its metric, the version record,
    leaves under item keys -/
theorem buildQ_misc (N : Bytes → Prop) (c : Cfg) (hN : N c.metric.nameBytes) :
    BuildQ c (fun _ => True) (miscOk N) where
  zero := fun _ _ => trivial
  tree := fun _ _ _ => Or.inr (Or.inl rfl)
  ofTree := fun _ _ _ _ _ => trivial
  metadata := fun _ _ => Or.inr (Or.inr (Or.inr (Or.inl ⟨rfl, _, _, _, _, rfl, hN⟩)))
  version := Or.inr (Or.inr (Or.inr (Or.inr ⟨rfl, _, _, _, rfl⟩)))
  dot := by
    -- a leaf is `miscOk` only under an item or a tree key, whatever its header
    intro _ k h w s _ hq
    rcases hq with hq | hq | ⟨_, e⟩ | ⟨_, _, _, _, _, e, _⟩ | ⟨_, _, _, _, e⟩
    · exact Or.inl hq
    · exact Or.inr (Or.inl hq)
    all_goals cases e

theorem miscG_step (N : Bytes → Prop) (s : Store) (op : Op) (hop : op.wf) (hN : namedBuild N op)
    (hinv : ∀ c : Cfg, c.index < 65536 → IndexInv c s) (hP : MiscG N s) : MiscG N (step s op) := by
  have h := stepTo s op
  generalize step s op = s' at h
  cases h with
  | noop => exact hP
  | @add c' id _ _ h => exact hP.addItem h (fun _ => Or.inl rfl) (miscOk_mark N c' id)
  | @append c' id _ _ h =>
    exact hP.addItem (Writer.appendItem_ok_eq_addItem (hinv c' hop.1).sorted h) (fun _ => Or.inl rfl)
      (miscOk_mark N c' id)
  | del c' id => exact hP.delItem c' id (miscOk_mark N c' id)
  | clear c' => exact hP.deletePrefix _ _
  | @build c' o fuel _ st' h => exact Build.build_storeOk (buildQ_misc N c' hN) o fuel _ st' h hP (fun _ _ => trivial)
  | @prepare c' m' _ hne h =>
    -- the change deletes entries and rewrites values under item keys
    have hw := (hinv c' hop).wf
    rw [Writer.prepare_ok c' m' s hne hw hop (hinv c' hop).leaves] at h
    cases h
    intro kv' hkv'
    obtain ⟨kv, hkv, rfl⟩ := List.mem_map.1 hkv'
    have hmem := Writer.mem_clearTreeNodes hkv
    show miscOk N kv.1 (Writer.reencAt c' m' kv.1 kv.2)
    unfold Writer.reencAt
    split
    · rename_i hu
      exact Or.inl ((Writer.underItems_iff c' kv.1 (hw kv hmem) hop).1 hu).2
    · exact hP kv hmem

theorem miscG_run (N : Bytes → Prop) (ops : List Op) (hops : ∀ op ∈ ops, op.wf)
    (hN : ∀ op ∈ ops, namedBuild N op) : MiscG N (run ops) :=
  (C01_foldl_induction freshSupply (MiscG N) (namedBuild N)
    (fun s op hop hN hinv _ hP => miscG_step N s op hop hN hinv hP) ops hops hN []
    (fun c _ => C01_inv_empty c) (StoreOk.nil _)).2

/-- the predicate on the metric names may be replaced by any that the metadata records of the store satisfy -/
theorem MiscG.of_meta {N N' : Bytes → Prop} {s : Store} (h : MiscG N s)
    (hN : ∀ i nm d it r, (Key.mkMetadata i, Val.metadata nm d it r) ∈ s → N' nm) : MiscG N' s := by
  rintro ⟨k, v⟩ hkv
  have hkv' : miscOk N k v := h (k, v) hkv
  rcases hkv' with h | h | h | ⟨hk, nm, d, i, r, hv, _⟩ | h
  · exact Or.inl h
  · exact Or.inr (Or.inl h)
  · exact Or.inr (Or.inr (Or.inl h))
  · refine Or.inr (Or.inr (Or.inr (Or.inl ⟨hk, nm, d, i, r, hv, ?_⟩)))
    rw [hk, hv] at hkv
    exact hN _ _ _ _ _ hkv
  · exact Or.inr (Or.inr (Or.inr (Or.inr h)))

/-- a child pointer into tree `t`: an item of the tree, or a node of the tree -/
def RefIn (t : T) (x : NodeId) : Prop :=
  (x.mode = modeItem ∧ x.item ∈ t.items) ∨ (x.mode = modeTree ∧ x.item ∈ t.ids)

theorem RefIn.mono {t t' : T} {x : NodeId} (h1 : ∀ y ∈ t.items, y ∈ t'.items) (h2 : ∀ y ∈ t.ids, y ∈ t'.ids)
    (h : RefIn t x) : RefIn t' x := by
  rcases h with ⟨a, b⟩ | ⟨a, b⟩
  · exact Or.inl ⟨a, h1 _ b⟩
  · exact Or.inr ⟨a, h2 _ b⟩

theorem RefIn.mode {t : T} {x : NodeId} (h : RefIn t x) : x.mode = modeTree ∨ x.mode = modeItem :=
  h.elim (fun h => Or.inr h.1) (fun h => Or.inl h.1)

theorem refIn_ref (t : T) : RefIn t t.ref := by
  cases t with
  | leaf i => exact Or.inl ⟨rfl, by simp [T.ref, T.items, NodeId.mkItem]⟩
  | bucket id s => exact Or.inr ⟨rfl, by simp [T.ref, T.ids, NodeId.mkTree]⟩
  | node id n l r => exact Or.inr ⟨rfl, by simp [T.ref, T.ids, NodeId.mkTree]⟩

/-- the cells of a well-formed tree: buckets hold strictly increasing lists of items of the tree, split nodes
    point to items and nodes of the tree -/
theorem cells_ok (t : T) (hw : Arroy.WF t) : ∀ cell ∈ t.cells,
    (∃ its, cell.2 = .desc its ∧ IdSet.Sorted its ∧ ∀ x ∈ its, x ∈ t.items) ∨
    (∃ l r n, cell.2 = .split l r n ∧ RefIn t l ∧ RefIn t r) := by
  induction t with
  | leaf i => intro cell hc; simp [T.cells] at hc
  | bucket id s =>
    intro cell hc
    simp only [T.cells, List.mem_singleton] at hc
    subst hc
    exact Or.inl ⟨s, rfl, hw, fun x hx => hx⟩
  | node id n l r ihl ihr =>
    intro cell hc
    have hl1 : ∀ y ∈ l.items, y ∈ (T.node id n l r).items := fun y hy => by simp [T.items, hy]
    have hl2 : ∀ y ∈ l.ids, y ∈ (T.node id n l r).ids := fun y hy => by simp [T.ids, hy]
    have hr1 : ∀ y ∈ r.items, y ∈ (T.node id n l r).items := fun y hy => by simp [T.items, hy]
    have hr2 : ∀ y ∈ r.ids, y ∈ (T.node id n l r).ids := fun y hy => by simp [T.ids, hy]
    simp only [T.cells, List.mem_cons, List.mem_append] at hc
    rcases hc with rfl | hc | hc
    · exact Or.inr ⟨_, _, _, rfl, (refIn_ref l).mono hl1 hl2, (refIn_ref r).mono hr1 hr2⟩
    · rcases ihl hw.1 cell hc with ⟨its, e, hs, hm⟩ | ⟨a, b, nn, e, ha, hb⟩
      · exact Or.inl ⟨its, e, hs, fun x hx => hl1 x (hm x hx)⟩
      · exact Or.inr ⟨a, b, nn, e, ha.mono hl1 hl2, hb.mono hl1 hl2⟩
    · rcases ihr hw.2 cell hc with ⟨its, e, hs, hm⟩ | ⟨a, b, nn, e, ha, hb⟩
      · exact Or.inl ⟨its, e, hs, fun x hx => hr1 x (hm x hx)⟩
      · exact Or.inr ⟨a, b, nn, e, ha.mono hr1 hr2, hb.mono hr1 hr2⟩

/-- a store satisfying the invariant of every index and `MiscG` with the cosine name is a well-formed
    current-layout cosine database -/
theorem wellFormed_of_inv (s : Store) (hinv : ∀ c : Cfg, c.index < 65536 → IndexInv c s)
    (hm : MiscG (fun nm => nm = cosineName) s) : WellFormedDB s := by
  have hs : Store.Sorted s := (hinv ⟨0, .cosine, 0, {}⟩ (by decide)).sorted
  have hw : Store.WF s := (hinv ⟨0, .cosine, 0, {}⟩ (by decide)).wf
  rw [wellFormedDB_iff]
  refine ⟨hs, ?_⟩
  rintro ⟨k, v⟩ hkv
  have hg : Store.get s k = some v := Frame.get_of_mem_sorted hs hkv
  have hwf : k.wf := hw (k, v) hkv
  have hic : k.index < 65536 := hwf.1
  have hinvc := hinv ⟨k.index, .cosine, 0, {}⟩ hic
  refine ⟨hwf, ?_⟩
  have hkv' : miscOk _ k v := hm (k, v) hkv
  rcases hkv' with hmi | hmt | ⟨hmu, hv⟩ | ⟨hk, nm, d, i, r, hv, hnm⟩ | ⟨hk, hv⟩
  · exact Or.inl ⟨hmi, (C05.isLeaf_iff v).1 (hinvc.leaves (k, v) hkv rfl hmi)⟩
  · refine Or.inr (Or.inl ⟨hmt, ?_⟩)
    have hkk : k = (⟨k.index, .cosine, 0, {}⟩ : Cfg).treeKey k.item := Key.eq_of_fields rfl hmt rfl
    rw [hkk] at hg
    rcases hinvc.1.2.2.2 with ⟨_, hnone⟩ | ⟨name, dims, items, roots, _, _, ⟨ts, f⟩, _⟩
    · rw [hnone k.item] at hg; cases hg
    · have hmem := (f.cover k.item).1 (by rw [hg]; rfl)
      obtain ⟨t, ht, hid⟩ := List.mem_flatMap.1 hmem
      rcases cells_ok t (f.wf t ht) _ ((f.holds t ht).cell_of_get hid hg) with ⟨its, e, _⟩ | ⟨l, r, n, e, hl, hr⟩
      · exact Or.inl ⟨its, e⟩
      · exact Or.inr ⟨l, r, n, e, hl.mode, hr.mode⟩
  · exact Or.inr (Or.inr (Or.inl ⟨hmu, hv⟩))
  · subst hnm
    exact Or.inr (Or.inr (Or.inr (Or.inl ⟨hk, d, i, r, hv⟩)))
  · exact Or.inr (Or.inr (Or.inr (Or.inr ⟨hk, hv⟩)))

/-- `s'` and `s` hold the same value under every key that is not a version record -/
def AgreeNV (s s' : Store) : Prop :=
  ∀ k : Key, ¬ (k.mode = versionKeyMode ∧ k.item = versionKeyItem) → Store.get s' k = Store.get s k

theorem AgreeNV.get_of_mode {s s' : Store} (ha : AgreeNV s s') {k : Key} (h : k.mode ≠ versionKeyMode) :
    Store.get s' k = Store.get s k := ha k (fun e => h e.1)

theorem AgreeNV.get_meta {s s' : Store} (ha : AgreeNV s s') (c : Cfg) :
    Store.get s' c.metaKey = Store.get s c.metaKey :=
  ha _ (fun e => absurd (show metadataKeyItem = versionKeyItem from e.2) (by decide))

theorem filter_eq_of_agree {s s' : Store} (hs : Store.Sorted s) (hs' : Store.Sorted s') (q : Key → Bool)
    (h : ∀ k, q k = true → Store.get s' k = Store.get s k) :
    s'.filter (fun kv => q kv.1) = s.filter (fun kv => q kv.1) := by
  apply ext_of_sorted (filter_sorted hs' _) (filter_sorted hs _)
  intro k
  rw [Store.get_filter_key, Store.get_filter_key]
  split
  · rename_i hq; exact h k hq
  · rfl

/-- the prefix scans of a kind other than the metadata kind are the same lists -/
theorem AgreeNV.prefixIter_eq {s s' : Store} (ha : AgreeNV s s') (hs : Store.Sorted s) (hs' : Store.Sorted s')
    (hw : Store.WF s) (hw' : Store.WF s') (i m : Nat) (hi : i < 65536) (hm : m < 256) (hne : m ≠ versionKeyMode) :
    s'.prefixIter i (some m) = s.prefixIter i (some m) := by
  unfold Store.prefixIter
  apply filter_eq_of_agree hs hs' (fun k => isPrefixOf (encodePrefix i (some m)) (encodeKey k))
  intro k hq
  by_cases hk : k.wf
  · apply ha
    rintro ⟨e, _⟩
    exact hne (((isPrefixOf_kind i m k hk hi hm).1 hq).2.symm.trans e)
  · rw [Store.get_none_of_not_wf hw' hk, Store.get_none_of_not_wf hw hk]

theorem AgreeNV.keysOf_eq {s s' : Store} (ha : AgreeNV s s') (hs : Store.Sorted s) (hs' : Store.Sorted s')
    (hw : Store.WF s) (hw' : Store.WF s') (i m : Nat) (hi : i < 65536) (hm : m < 256) (hne : m ≠ versionKeyMode) :
    s'.keysOf i m = s.keysOf i m := by
  unfold Store.keysOf
  rw [ha.prefixIter_eq hs hs' hw hw' i m hi hm hne]

/-- `Reader::open` and `Writer::need_build` do not look at the version records -/
theorem AgreeNV.open_eq {s s' : Store} (ha : AgreeNV s s') (hs : Store.Sorted s) (hs' : Store.Sorted s')
    (hw : Store.WF s) (hw' : Store.WF s') (c : Cfg) (hi : c.index < 65536) :
    Reader.open c s' = Reader.open c s ∧ Writer.needBuild c s' = Writer.needBuild c s := by
  have hm := ha.prefixIter_eq hs hs' hw hw' c.index modeUpdated hi (by decide) (by decide)
  exact ⟨Writer.open_congr hm (ha.get_meta c), Writer.needBuild_congr hm (ha.get_meta c)⟩

theorem AgreeNV.indexInv {s s' : Store} (ha : AgreeNV s s') (hs' : Store.Sorted s') (hw' : Store.WF s')
    {c : Cfg} (hinv : IndexInv c s) : IndexInv c s' := by
  obtain ⟨⟨hs, hw, hl, hb⟩, hr⟩ := hinv
  have hmeta := ha.get_meta c
  have htree : ∀ i, Store.get s' (c.treeKey i) = Store.get s (c.treeKey i) :=
    fun i => ha.get_of_mode (show modeTree ≠ versionKeyMode by decide)
  have hupd : ∀ i, Store.get s' (c.updatedKey i) = Store.get s (c.updatedKey i) :=
    fun i => ha.get_of_mode (show modeUpdated ≠ versionKeyMode by decide)
  have hitem : ∀ i, Store.get s' (c.itemKey i) = Store.get s (c.itemKey i) :=
    fun i => ha.get_of_mode (show modeItem ≠ versionKeyMode by decide)
  refine ⟨⟨hs', hw', ?_, ?_⟩, ?_⟩
  · rintro ⟨k, v⟩ hkv hi hmi
    have hg : Store.get s' k = some v := Frame.get_of_mem_sorted hs' hkv
    rw [ha.get_of_mode (show k.mode ≠ versionKeyMode by rw [show k.mode = modeItem from hmi]; decide)] at hg
    exact hl (k, v) (Store.mem_of_get hg) hi hmi
  · rcases hb with ⟨hn, ht⟩ | ⟨name, dims, items, roots, hm, hsi, ⟨ts, f⟩, hmk⟩
    · exact Or.inl ⟨by rw [hmeta]; exact hn, fun i => by rw [htree]; exact ht i⟩
    · refine Or.inr ⟨name, dims, items, roots, by rw [hmeta]; exact hm, hsi, ⟨ts, f.frame htree⟩, ?_⟩
      intro id hnone
      rw [hupd] at hnone
      rw [hitem]
      exact hmk id hnone
  · intro name dims items roots hm
    rw [hmeta] at hm
    exact hr name dims items roots hm

/-- `s` without its version records (what `up04to05 (down s)` is, `C17_up_down_eq`) -/
def noVer (s : Store) : Store :=
  s.filter (fun kv => !(kv.1.mode == versionKeyMode && kv.1.item == versionKeyItem))

/-- … then stamped in place by `from_0_5_to_0_6` -/
def stamped (s : Store) : Store := stamp05to06 (noVer s) (noVer s)

theorem get_noVer (s : Store) (k : Key) :
    Store.get (noVer s) k = if notVersion k = true then Store.get s k else none :=
  Store.get_filter_key s notVersion k

theorem noVer_sorted {s : Store} (hs : Store.Sorted s) : Store.Sorted (noVer s) := filter_sorted hs _
theorem noVer_wf {s : Store} (hw : Store.WF s) : Store.WF (noVer s) := filter_wf hw _

theorem stamped_sorted {s : Store} (hs : Store.Sorted s) : Store.Sorted (stamped s) :=
  C17_stamp_sorted _ (noVer_sorted hs)

theorem stamped_wf {s : Store} (hw : Store.WF s) : Store.WF (stamped s) := by
  unfold stamped
  rw [stamp_eq]
  apply putAll_wf (noVer_wf hw)
  intro w hmem
  obtain ⟨v, hv, he⟩ := mem_stampWrites hmem
  have hk : (Key.mkMetadata w.1.index).wf := noVer_wf hw _ hv
  have h1 : w.1 = Key.mkVersion w.1.index := congrArg Prod.fst he
  rw [h1]
  exact ⟨hk.1, show versionKeyMode < 256 ^ 1 by decide, show versionKeyItem < 256 ^ 4 by decide⟩

theorem notVersion_iff (k : Key) : notVersion k = true ↔ ¬ (k.mode = versionKeyMode ∧ k.item = versionKeyItem) := by
  unfold notVersion
  rw [Bool.not_eq_true', Bool.and_eq_false_iff, beq_eq_false_iff_ne, beq_eq_false_iff_ne]
  constructor
  · rintro (h | h) ⟨e1, e2⟩
    · exact h e1
    · exact h e2
  · intro h
    by_cases e1 : k.mode = versionKeyMode
    · exact Or.inr (fun e2 => h ⟨e1, e2⟩)
    · exact Or.inl e1

theorem stamped_agree (s : Store) : AgreeNV s (stamped s) := by
  intro k hk
  unfold stamped
  rw [(C17_stamp (noVer s)).1 k hk, get_noVer, if_pos ((notVersion_iff k).2 hk)]

/-- its version records: the crate version exactly for the indexes that have a metadata record -/
theorem stamped_version (s : Store) (i : Nat) :
    Store.get (stamped s) (Key.mkVersion i) =
      if (Store.get s (Key.mkMetadata i)).isSome = true
      then some (.version crateVersion.1 crateVersion.2.1 crateVersion.2.2) else none := by
  unfold stamped
  rw [(C17_stamp (noVer s)).2 i, get_noVer, get_noVer, if_pos (show notVersion (Key.mkMetadata i) = true from rfl),
    if_neg (show ¬ notVersion (Key.mkVersion i) = true from fun h => Bool.noConfusion h)]

end C17
end Arroy
