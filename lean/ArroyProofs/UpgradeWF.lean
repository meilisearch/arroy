import ArroyProofs.UpgradeLemmas
/-! For C17: the decidable predicate `WellFormedDB` on current-layout databases; `up04to05 ∘ down` entry by
entry (`upWrites_downWrites`) and as a whole (`mem_writes_iff`, `get_upgraded`); `stamp05to06` as a list of writes. -/
namespace Arroy.C17
open Arroy Generated Store Upgrade

/-- a child of a split node is a tree node or an item -/
def childOk (n : NodeId) : Bool := n.mode == modeTree || n.mode == modeItem

/-- the value under a key has the shape its kind prescribes -/
def entryOk (kv : Key × Val) : Bool :=
  decide kv.1.wf &&
  (if kv.1.mode = modeItem then
    (match kv.2 with | .leaf _ _ => true | _ => false)
  else if kv.1.mode = modeTree then
    (match kv.2 with | .desc _ => true | .split l r _ => childOk l && childOk r | _ => false)
  else if kv.1.mode = modeUpdated then
    (match kv.2 with | .unit => true | _ => false)
  else if kv.1.mode = metadataKeyMode then
    (if kv.1.item = metadataKeyItem then
      (match kv.2 with | .metadata nm _ _ _ => nm == cosineName | _ => false)
    else if kv.1.item = versionKeyItem then
      (match kv.2 with | .version _ _ _ => true | _ => false)
    else false)
  else false)

def wellFormedDB (s : Store) : Bool := sortedB s && s.all entryOk

/-- sorted by key; keys fit their fields and have one of the four kinds; metadata-kind keys are the metadata
    record (id 0) or the version record (id 1); item keys hold leaves, tree keys hold descendants or split nodes
    whose children are tree nodes or items, updated keys hold the unit value, the metadata record is a cosine
    metadata, the version record a version -/
def WellFormedDB (s : Store) : Prop := wellFormedDB s = true

instance (s : Store) : Decidable (WellFormedDB s) := by unfold WellFormedDB; infer_instance

theorem WellFormedDB.sorted {s : Store} (h : WellFormedDB s) : Sorted s := by
  unfold WellFormedDB wellFormedDB at h
  rw [Bool.and_eq_true] at h
  exact (sortedB_iff s).1 h.1

theorem WellFormedDB.entry {s : Store} (h : WellFormedDB s) {kv : Key × Val} (hm : kv ∈ s) : entryOk kv = true := by
  unfold WellFormedDB wellFormedDB at h
  rw [Bool.and_eq_true, List.all_eq_true] at h
  exact h.2 kv hm

theorem entryOk_eq_item {k : Key} (v : Val) (hm : k.mode = modeItem) :
    entryOk (k, v) = (decide k.wf && match v with | .leaf _ _ => true | _ => false) := by
  unfold entryOk; simp only; rw [if_pos hm]

theorem entryOk_eq_tree {k : Key} (v : Val) (hm : k.mode = modeTree) :
    entryOk (k, v) = (decide k.wf &&
      match v with | .desc _ => true | .split l r _ => childOk l && childOk r | _ => false) := by
  unfold entryOk; simp only; rw [if_neg (by rw [hm]; decide), if_pos hm]

theorem entryOk_eq_updated {k : Key} (v : Val) (hm : k.mode = modeUpdated) :
    entryOk (k, v) = (decide k.wf && match v with | .unit => true | _ => false) := by
  unfold entryOk; simp only; rw [if_neg (by rw [hm]; decide), if_neg (by rw [hm]; decide), if_pos hm]

theorem entryOk_eq_meta {k : Key} (v : Val) (hm : k.mode = metadataKeyMode) :
    entryOk (k, v) = (decide k.wf &&
      if k.item = metadataKeyItem then (match v with | .metadata nm _ _ _ => nm == cosineName | _ => false)
      else if k.item = versionKeyItem then (match v with | .version _ _ _ => true | _ => false)
      else false) := by
  unfold entryOk; simp only
  rw [if_neg (by rw [hm]; decide), if_neg (by rw [hm]; decide), if_neg (by rw [hm]; decide), if_pos hm]

theorem entryOk_wf {k : Key} {v : Val} (h : entryOk (k, v) = true) : k.wf := by
  unfold entryOk at h
  rw [Bool.and_eq_true] at h
  exact of_decide_eq_true h.1

theorem WellFormedDB.wf {s : Store} (h : WellFormedDB s) : Store.WF s :=
  fun _ hm => entryOk_wf (h.entry hm)

theorem WellFormedDB.get {s : Store} (h : WellFormedDB s) {k : Key} {v : Val} (hg : Store.get s k = some v) :
    entryOk (k, v) = true := h.entry (mem_of_get hg)

theorem entryOk_mode {k : Key} {v : Val} (h : entryOk (k, v) = true) :
    k.mode = modeItem ∨ k.mode = modeTree ∨ k.mode = modeUpdated ∨ k.mode = metadataKeyMode := by
  by_cases h1 : k.mode = modeItem
  · exact Or.inl h1
  by_cases h2 : k.mode = modeTree
  · exact Or.inr (Or.inl h2)
  by_cases h3 : k.mode = modeUpdated
  · exact Or.inr (Or.inr (Or.inl h3))
  by_cases h4 : k.mode = metadataKeyMode
  · exact Or.inr (Or.inr (Or.inr h4))
  unfold entryOk at h
  rw [if_neg h1, if_neg h2, if_neg h3, if_neg h4, Bool.and_false] at h
  cases h

theorem entryOk_item {k : Key} {v : Val} (h : entryOk (k, v) = true) (hm : k.mode = modeItem) :
    ∃ hdr vec, v = .leaf hdr vec := by
  rw [entryOk_eq_item v hm, Bool.and_eq_true] at h
  cases v with
  | leaf hdr vec => exact ⟨hdr, vec, rfl⟩
  | _ => cases h.2

theorem childOk_iff (n : NodeId) : childOk n = true ↔ (n.mode = modeTree ∨ n.mode = modeItem) := by
  unfold childOk; rw [Bool.or_eq_true, beq_iff_eq, beq_iff_eq]

theorem entryOk_tree_shape {k : Key} {v : Val} (h : entryOk (k, v) = true) (hm : k.mode = modeTree) :
    (∃ ids, v = .desc ids) ∨ ∃ l r n, v = .split l r n ∧ childOk l = true ∧ childOk r = true := by
  rw [entryOk_eq_tree v hm, Bool.and_eq_true] at h
  cases v with
  | desc ids => exact Or.inl ⟨ids, rfl⟩
  | split l r n => exact Or.inr ⟨l, r, n, rfl, Bool.and_eq_true_iff.1 h.2⟩
  | _ => cases h.2

theorem remap_unmap_child {n : NodeId} (h : childOk n = true) :
    (remapMode ((unmapMode n.mode).getD n.mode)).getD ((unmapMode n.mode).getD n.mode) = n.mode ∧
    (remapMode ((unmapMode n.mode).getD n.mode)).isSome = true := by
  rcases (childOk_iff n).1 h with h | h <;> rw [h] <;> decide

/-- a well-formed tree node survives `down` then `up`, and `up` accepts its old form -/
theorem upVal_downVal_of_entryOk {k : Key} {v : Val} (h : entryOk (k, v) = true) (hm : k.mode = modeTree) :
    upVal (downVal v) = v ∧
    ∀ l r n, downVal v = .split l r n → (remapMode l.mode).isSome = true ∧ (remapMode r.mode).isSome = true := by
  rcases entryOk_tree_shape h hm with ⟨ids, rfl⟩ | ⟨l, r, n, rfl, hl, hr⟩
  · exact ⟨rfl, fun l r n e => by cases e⟩
  · have hl := remap_unmap_child hl
    have hr := remap_unmap_child hr
    refine ⟨by simp only [downVal, upVal, hl.1, hr.1], fun l' r' n' e => ?_⟩
    simp only [downVal, Val.split.injEq] at e
    rw [← e.1, ← e.2.1]
    exact ⟨hl.2, hr.2⟩

theorem entryOk_updated {k : Key} {v : Val} (h : entryOk (k, v) = true) (hm : k.mode = modeUpdated) :
    v = .unit := by
  rw [entryOk_eq_updated v hm, Bool.and_eq_true] at h
  cases v with
  | unit => rfl
  | _ => cases h.2

theorem entryOk_meta {k : Key} {v : Val} (h : entryOk (k, v) = true) (hm : k.mode = metadataKeyMode) :
    (k.item = metadataKeyItem ∧ ∃ d i r, v = .metadata cosineName d i r) ∨
    (k.item = versionKeyItem ∧ ∃ a b c, v = .version a b c) := by
  rw [entryOk_eq_meta v hm, Bool.and_eq_true] at h
  have h := h.2
  split at h
  · rename_i e
    cases v with
    | metadata nm d i r => exact Or.inl ⟨e, d, i, r, by rw [beq_iff_eq.1 h]⟩
    | _ => cases h
  · split at h
    · rename_i e
      cases v with
      | version a b c => exact Or.inr ⟨e, a, b, c, rfl⟩
      | _ => cases h
    · cases h

/-- `entryOk` in words -/
def EntrySpec (k : Key) (v : Val) : Prop :=
  k.wf ∧
  ((k.mode = modeItem ∧ ∃ hdr vec, v = .leaf hdr vec) ∨
   (k.mode = modeTree ∧ ((∃ ids, v = .desc ids) ∨
      ∃ l r n, v = .split l r n ∧ (l.mode = modeTree ∨ l.mode = modeItem) ∧ (r.mode = modeTree ∨ r.mode = modeItem))) ∨
   (k.mode = modeUpdated ∧ v = .unit) ∨
   (k = Key.mkMetadata k.index ∧ ∃ dims items roots, v = .metadata cosineName dims items roots) ∨
   (k = Key.mkVersion k.index ∧ ∃ a b c, v = .version a b c))

theorem entryOk_iff (k : Key) (v : Val) : entryOk (k, v) = true ↔ EntrySpec k v := by
  unfold EntrySpec
  constructor
  · intro h
    refine ⟨entryOk_wf h, ?_⟩
    rcases entryOk_mode h with hm | hm | hm | hm
    · exact Or.inl ⟨hm, entryOk_item h hm⟩
    · refine Or.inr (Or.inl ⟨hm, ?_⟩)
      rcases entryOk_tree_shape h hm with hd | ⟨l, r, n, e, hl, hr⟩
      · exact Or.inl hd
      · exact Or.inr ⟨l, r, n, e, (childOk_iff l).1 hl, (childOk_iff r).1 hr⟩
    · exact Or.inr (Or.inr (Or.inl ⟨hm, entryOk_updated h hm⟩))
    · rcases entryOk_meta h hm with ⟨h0, hv⟩ | ⟨h1, hv⟩
      · exact Or.inr (Or.inr (Or.inr (Or.inl ⟨Key.eq_of_fields rfl hm h0, hv⟩)))
      · exact Or.inr (Or.inr (Or.inr (Or.inr ⟨Key.eq_of_fields rfl hm h1, hv⟩)))
  · rintro ⟨hwf, h⟩
    rcases h with ⟨hm, hd, vec, rfl⟩ | ⟨hm, hv⟩ | ⟨hm, rfl⟩ | ⟨hk, d, i, r, rfl⟩ | ⟨hk, a, b, c, rfl⟩
    · rw [entryOk_eq_item _ hm, decide_eq_true hwf]; rfl
    · rw [entryOk_eq_tree _ hm, decide_eq_true hwf]
      rcases hv with ⟨ids, rfl⟩ | ⟨l, r, n, rfl, hl, hr⟩
      · rfl
      · rw [Bool.true_and, Bool.and_eq_true]
        exact ⟨(childOk_iff l).2 hl, (childOk_iff r).2 hr⟩
    · rw [entryOk_eq_updated _ hm, decide_eq_true hwf]; rfl
    · have h0 : k.item = metadataKeyItem := congrArg Key.item hk
      rw [entryOk_eq_meta _ (congrArg Key.mode hk : k.mode = metadataKeyMode), decide_eq_true hwf, if_pos h0]
      simp
    · have h1 : k.item = versionKeyItem := congrArg Key.item hk
      rw [entryOk_eq_meta _ (congrArg Key.mode hk : k.mode = metadataKeyMode), decide_eq_true hwf,
        if_neg (by rw [h1]; decide), if_pos h1]
      rfl

theorem wellFormedDB_iff (s : Store) :
    WellFormedDB s ↔ Sorted s ∧ ∀ kv ∈ s, EntrySpec kv.1 kv.2 := by
  unfold WellFormedDB wellFormedDB
  rw [Bool.and_eq_true, sortedB_iff, List.all_eq_true]
  constructor
  · rintro ⟨h1, h2⟩
    exact ⟨h1, fun kv hkv => (entryOk_iff kv.1 kv.2).1 (h2 kv hkv)⟩
  · rintro ⟨h1, h2⟩
    exact ⟨h1, fun kv hkv => (entryOk_iff kv.1 kv.2).2 (h2 kv hkv)⟩

/-- the predicate selecting everything but the version records -/
def notVersion (k : Key) : Bool := !(k.mode == versionKeyMode && k.item == versionKeyItem)

/-- **down then up, one entry**: the upgrade rewrites the old form of a well-formed item, tree node or metadata
record into that entry itself (updated marks and version records have no old form of their own) -/
theorem upWrites_downWrites (oldName : Bytes) {k : Key} {v : Val} (h : entryOk (k, v) = true)
    (hu : k.mode ≠ modeUpdated) (hn : notVersion k = true) :
    (downWrites oldName (k, v)).flatMap upWrites = [(k, v)] := by
  rcases entryOk_mode h with hm | hm | hm | hm
  · have hk : k = ⟨k.index, modeItem, k.item⟩ := Key.eq_of_fields rfl hm rfl
    rw [downWrites_item oldName v hm, List.flatMap_cons, List.flatMap_nil, List.append_nil, upWrites_item v rfl,
      ← hk]
  · have hk : k = ⟨k.index, modeTree, k.item⟩ := Key.eq_of_fields rfl hm rfl
    rw [downWrites_tree oldName v hm, List.flatMap_cons, List.flatMap_nil, List.append_nil, upWrites_tree _ rfl,
      (upVal_downVal_of_entryOk h hm).1, ← hk]
  · exact absurd hm hu
  · rcases entryOk_meta h hm with ⟨h0, d, i, r, rfl⟩ | ⟨h1, _⟩
    · have hk : k = ⟨k.index, metadataKeyMode, metadataKeyItem⟩ := Key.eq_of_fields rfl hm h0
      rw [downWrites_meta oldName _ d i r hm h0, List.flatMap_cons, List.flatMap_nil, List.append_nil,
        upWrites_meta _ d i r rfl rfl]
      exact congrArg (fun x => [(x, Val.metadata cosineName d i r)]) hk.symm
    · exfalso
      unfold notVersion at hn
      rw [show k.mode = versionKeyMode from hm, h1] at hn
      revert hn; decide

/-- an entry with an old form is not an updated mark and not a version record -/
theorem kind_of_mem_downWrites {oldName : Bytes} {k : Key} {v : Val} {w : Key × Val}
    (h : w ∈ downWrites oldName (k, v)) : k.mode ≠ modeUpdated ∧ notVersion k = true := by
  unfold notVersion
  rcases (mem_downWrites_iff oldName k w.1 v w.2).1 h with ⟨h1, _⟩ | ⟨h1, _⟩ | ⟨h1, h0, _⟩
  · rw [h1]; exact ⟨by decide, rfl⟩
  · rw [h1]; exact ⟨by decide, rfl⟩
  · rw [h1, h0]; exact ⟨by decide, rfl⟩

/-- **down then up, all entries**: the writes of the upgrade of `down s` are the entries of `s` that are not
version records — the old forms give back their entries (`upWrites_downWrites`), the bitmap of an index gives
back its updated marks -/
theorem mem_writes_iff (oldName : Bytes) {s : Store} (hw : WellFormedDB s) (k : Key) (v : Val) :
    (k, v) ∈ (down oldName s).flatMap upWrites ↔ notVersion k = true ∧ (k, v) ∈ s := by
  rw [List.mem_flatMap]
  constructor
  · rintro ⟨w, hmem, hwr⟩
    rcases (mem_down_iff oldName hw.sorted w).1 hmem with ⟨⟨k0, v0⟩, he, hd⟩ | ⟨_, e⟩
    · obtain ⟨hu, hn⟩ := kind_of_mem_downWrites hd
      have : (k, v) ∈ (downWrites oldName (k0, v0)).flatMap upWrites := List.mem_flatMap.2 ⟨w, hd, hwr⟩
      rw [upWrites_downWrites oldName (hw.entry he) hu hn, List.mem_singleton] at this
      obtain ⟨rfl, rfl⟩ := Prod.mk.inj this
      exact ⟨hn, he⟩
    · rw [e, upWrites_bitmap _ rfl rfl] at hwr
      obtain ⟨id, hid, he⟩ := List.mem_map.1 hwr
      rw [Prod.mk.injEq] at he
      obtain ⟨v0, hv0⟩ := mem_marks_iff.1 ((mem_insertAll.1 hid).resolve_right (List.not_mem_nil))
      have hv : v0 = .unit := entryOk_updated (hw.entry hv0) rfl
      rw [← he.1, ← he.2, ← hv]
      exact ⟨rfl, hv0⟩
  · rintro ⟨hn, he⟩
    by_cases hu : k.mode = modeUpdated
    · have hk : k = ⟨k.index, modeUpdated, k.item⟩ := Key.eq_of_fields rfl hu rfl
      have hmk : k.item ∈ marks k.index s := mem_marks_iff.2 ⟨v, by rw [← hk]; exact he⟩
      refine ⟨(bitmapKey k.index, .desc (insertAll (marks k.index s) [])),
        (mem_down_iff oldName hw.sorted _).2
          (Or.inr ⟨fun (e : marks k.index s = []) => (by rw [e] at hmk; cases hmk), rfl⟩), ?_⟩
      rw [upWrites_bitmap _ rfl rfl, List.mem_map, entryOk_updated (hw.entry he) hu]
      exact ⟨k.item, mem_insertAll.2 (Or.inl hmk), congrArg (fun x => (x, Val.unit)) hk.symm⟩
    · have hone := upWrites_downWrites oldName (hw.entry he) hu hn
      obtain ⟨w, hd, hwr⟩ := List.mem_flatMap.1 (hone ▸ List.mem_singleton.2 rfl :
        (k, v) ∈ (downWrites oldName (k, v)).flatMap upWrites)
      exact ⟨w, (mem_down_iff oldName hw.sorted w).2 (Or.inl ⟨_, he, hd⟩), hwr⟩

theorem functional_writes (oldName : Bytes) {s : Store} (hw : WellFormedDB s) :
    Functional ((down oldName s).flatMap upWrites) := by
  intro a ha b hb hab
  exact congrArg Prod.snd (eq_of_key_eq hw.sorted ((mem_writes_iff oldName hw a.1 a.2).1 ha).2
    ((mem_writes_iff oldName hw b.1 b.2).1 hb).2 hab)

/-- what `up` accepts: every old form of a well-formed entry, and every bitmap -/
theorem down_good (oldName : Bytes) {s : Store} (hw : WellFormedDB s) : ∀ kv ∈ down oldName s, UpGood kv := by
  intro w hmem
  rcases (mem_down_iff oldName hw.sorted w).1 hmem with ⟨⟨k, v⟩, he, hd⟩ | ⟨_, e⟩
  · rcases (mem_downWrites_iff oldName k w.1 v w.2).1 hd with ⟨_, h2, _⟩ | ⟨h1, h2, h3⟩ | ⟨_, _, nm, d, i, r, _, h2, h3⟩
    · exact Or.inl (by rw [h2])
    · refine Or.inr (Or.inl ⟨by rw [h2], fun l r n e => ?_⟩)
      rw [h3] at e
      exact (upVal_downVal_of_entryOk (hw.entry he) h1).2 l r n e
    · exact Or.inr (Or.inr (Or.inl ⟨by rw [h2], by rw [h2], oldName, d, i, r, h3⟩))
  · exact Or.inr (Or.inr (Or.inr ⟨by rw [e]; rfl, by rw [e]; rfl⟩))

/-- the upgraded database, explicitly -/
def upgraded (oldName : Bytes) (s : Store) : Store := putAll [] ((down oldName s).flatMap upWrites)

theorem up_down_ok (oldName : Bytes) {s : Store} (hw : WellFormedDB s) :
    up04to05 (down oldName s) = .ok (upgraded oldName s) := up04to05_good _ (down_good oldName hw)

theorem get_upgraded (oldName : Bytes) {s : Store} (hw : WellFormedDB s) (k : Key) :
    Store.get (upgraded oldName s) k = if notVersion k = true then Store.get s k else none := by
  apply Option.ext
  intro v
  unfold upgraded
  rw [get_putAll_nil (functional_writes oldName hw), mem_writes_iff oldName hw, ← get_eq_some_iff hw.sorted]
  by_cases hn : notVersion k = true
  · rw [if_pos hn, and_iff_right hn]
  · rw [if_neg hn]
    exact ⟨fun h => absurd h.1 hn, fun h => by cases h⟩

def stampWrites (kv : Key × Val) : List (Key × Val) :=
  if kv.1.mode = metadataKeyMode ∧ kv.1.item = metadataKeyItem then
    [(Key.mkVersion kv.1.index, .version crateVersion.1 crateVersion.2.1 crateVersion.2.2)]
  else []

theorem stamp_eq (read write : Store) : stamp05to06 read write = putAll write (read.flatMap stampWrites) := by
  unfold stamp05to06
  rw [← foldl_putAll]
  congr 1
  funext w kv
  unfold stampWrites
  split <;> rfl

theorem mem_stampWrites {read : Store} {w : Key × Val} (h : w ∈ read.flatMap stampWrites) :
    ∃ v, (Key.mkMetadata w.1.index, v) ∈ read ∧
      w = (Key.mkVersion w.1.index, .version crateVersion.1 crateVersion.2.1 crateVersion.2.2) := by
  obtain ⟨⟨k, v⟩, hkv, hw⟩ := List.mem_flatMap.1 h
  unfold stampWrites at hw
  split at hw
  · rename_i hc
    simp only at hc
    rw [List.mem_singleton] at hw
    subst hw
    refine ⟨v, ?_, rfl⟩
    have : k = Key.mkMetadata k.index := Key.eq_of_fields rfl hc.1 hc.2
    show (Key.mkMetadata k.index, v) ∈ read
    rw [← this]; exact hkv
  · cases hw

end Arroy.C17
