import ArroyModel.Check
import ArroyProofs.Nns
/-! The executable predicate `Check.wellFormed` (run by the harness on the implementation's answers): what an
empty verdict says, clause by clause (`wellFormed_nil_iff`), and that it is empty on any answer that satisfies
the four clauses of `C03_wellformed` (`wellFormed_nil`). -/
namespace Arroy.Checkers
open Arroy Generated Reader

theorem CHK_nodup_iff (l : List Nat) : Check.nodup l = true ↔ l.Nodup := by
  refine ⟨?_, fun h => by simp [Check.nodup, IdSet.length_ofList h]⟩
  intro h
  simp only [Check.nodup, beq_iff_eq] at h
  unfold IdSet.ofList at h
  have hsub := IdSet.dedup_sublist (l.mergeSort (fun a b => decide (a ≤ b)))
  have hlen : (IdSet.dedup (l.mergeSort fun a b => decide (a ≤ b))).length =
      (l.mergeSort fun a b => decide (a ≤ b)).length := by rw [h, List.length_mergeSort]
  have heq := hsub.eq_of_length hlen
  have hs : IdSet.Sorted (l.mergeSort fun a b => decide (a ≤ b)) := by
    rw [← heq]; exact IdSet.sorted_dedup (IdSet.mergeSort_pairwise l)
  exact (List.mergeSort_perm l _).nodup_iff.1 hs.nodup

theorem ite_nil_iff {p : Prop} [Decidable p] (m : String) : (if p then ([] : List String) else [m]) = [] ↔ p := by
  by_cases h : p
  · rw [if_pos h]; exact ⟨fun _ => h, fun _ => rfl⟩
  · rw [if_neg h]; exact ⟨fun e => (by cases e), fun hp => absurd hp h⟩

theorem ite_eq_nil {α : Type} {p : Prop} [Decidable p] {a b : List α} (h : (if p then a else b) = []) :
    (p ∧ a = []) ∨ (¬ p ∧ b = []) := by
  by_cases hp : p
  · rw [if_pos hp] at h; exact Or.inl ⟨hp, h⟩
  · rw [if_neg hp] at h; exact Or.inr ⟨hp, h⟩

theorem ordered_nil_iff (f : Nat → Nat) : ∀ (l : List (Nat × Nat)),
    Check.wellFormed.ordered (l.map fun p => (p.1, p.2, f p.1)) = [] ↔
    (l.map fun p => (f p.1, p.1)).Pairwise (fun a b => scoreLe a b = true)
  | [] => by simp [Check.wellFormed.ordered]
  | [p] => by simp [Check.wellFormed.ordered]
  | p₁ :: p₂ :: rest => by
    have ih := ordered_nil_iff f (p₂ :: rest)
    simp only [List.map_cons] at ih ⊢
    simp only [Check.wellFormed.ordered, List.append_eq_nil_iff]
    rw [ih]
    constructor
    · rintro ⟨h12, hp⟩
      have h12' : scoreLe (f p₁.1, p₁.1) (f p₂.1, p₂.1) = true := by
        by_cases hle : scoreLe (f p₁.1, p₁.1) (f p₂.1, p₂.1) = true
        · exact hle
        · rw [if_neg hle] at h12; cases h12
      refine List.pairwise_cons.2 ⟨?_, hp⟩
      intro b hb
      rcases List.mem_cons.1 hb with rfl | hb
      · exact h12'
      · exact scoreLe_trans _ _ _ h12' ((List.pairwise_cons.1 hp).1 b hb)
    · intro h
      have h12 := (List.pairwise_cons.1 h).1 _ List.mem_cons_self
      exact ⟨by rw [if_pos h12], (List.pairwise_cons.1 h).2⟩

/-- what an empty verdict of `Check.wellFormed` says, clause by clause -/
theorem wellFormed_nil_iff (c : Cfg) (s : Store) (dims : Nat) (qh qv : List Nat) (q : QueryOpts)
    (ans : List (Nat × Nat)) :
    Check.wellFormed c s dims qh qv q ans = [] ↔
      (ans.length ≤ q.count ∧
      (ans.map (·.1)).Nodup ∧
      (∀ p ∈ ans, (Store.get s (c.itemKey p.1)).isSome = true ∧ inCandidates q p.1 = true ∧
        Check.canonF p.2 = Check.canonF (c.metric.normalizedDistance (scoreOf c s qh qv p.1) dims)) ∧
      (ans.map fun p => (scoreOf c s qh qv p.1, p.1)).Pairwise (fun a b => scoreLe a b = true)) := by
  unfold Check.wellFormed
  simp only []
  generalize hL : (List.map _ ans : List (Nat × Nat × Nat)) = L
  have hsc : L = ans.map fun p => (p.1, p.2, scoreOf c s qh qv p.1) := by
    rw [← hL]
    apply List.map_congr_left
    rintro ⟨id, d⟩ _
    simp only [scoreOf]
    split <;> simp_all
  rw [hsc, List.append_eq_nil_iff, List.append_eq_nil_iff, List.append_eq_nil_iff, List.append_eq_nil_iff,
    ordered_nil_iff (scoreOf c s qh qv) ans, ite_nil_iff, ite_nil_iff, CHK_nodup_iff,
    List.filterMap_eq_nil_iff, List.filterMap_eq_nil_iff]
  constructor
  · rintro ⟨⟨⟨⟨h1, h2⟩, h3⟩, h4⟩, h5⟩
    refine ⟨h1, h2, ?_, h5⟩
    intro p hp
    have h3' := h3 p.1 (List.mem_map_of_mem hp)
    have h4' := h4 (p.1, p.2, scoreOf c s qh qv p.1) (List.mem_map.2 ⟨p, hp, rfl⟩)
    have hsc2 : (Store.get s (c.itemKey p.1)).isSome = true ∧ inCandidates q p.1 = true := by
      by_cases ha : (!(s.contains (c.itemKey p.1))) = true
      · rw [if_pos ha] at h3'; cases h3'
      · rw [if_neg ha] at h3'
        by_cases hb : (!(inCandidates q p.1)) = true
        · rw [if_pos hb] at h3'; cases h3'
        · constructor
          · cases hh : s.contains (c.itemKey p.1)
            · rw [hh] at ha; exact absurd rfl ha
            · exact hh
          · cases hh : inCandidates q p.1
            · rw [hh] at hb; exact absurd rfl hb
            · rfl
    refine ⟨hsc2.1, hsc2.2, ?_⟩
    by_cases he : (Check.canonF (c.metric.normalizedDistance (scoreOf c s qh qv p.1) dims) == Check.canonF p.2) = true
    · exact (beq_iff_eq.1 he).symm
    · rw [if_neg he] at h4'; cases h4'
  · rintro ⟨h1, h2, h3, h5⟩
    refine ⟨⟨⟨⟨h1, h2⟩, ?_⟩, ?_⟩, h5⟩
    · intro id hid
      obtain ⟨p, hp, rfl⟩ := List.mem_map.1 hid
      obtain ⟨hs, hc, _⟩ := h3 p hp
      simp [Store.contains, hs, hc]
    · intro x hx
      obtain ⟨p, hp, rfl⟩ := List.mem_map.1 hx
      obtain ⟨_, _, hd⟩ := h3 p hp
      simp [hd]

end Arroy.Checkers

namespace Arroy
namespace Reader

theorem wellFormed_nil (c : Cfg) (s : Store) (dims : Nat) (qh qv : List Nat) (q : QueryOpts) (ans : List (Nat × Nat))
    (h1 : ans.length ≤ q.count) (h2 : (ans.map (·.1)).Nodup)
    (h3 : ∀ p ∈ ans, IsLeaf c s p.1 ∧ inCandidates q p.1 = true ∧
      p.2 = c.metric.normalizedDistance (scoreOf c s qh qv p.1) dims)
    (h4 : (ans.map fun p => (scoreOf c s qh qv p.1, p.1)).Pairwise (fun a b => scoreLe a b = true)) :
    Check.wellFormed c s dims qh qv q ans = [] := by
  refine (Checkers.wellFormed_nil_iff c s dims qh qv q ans).2 ⟨h1, h2, fun p hp => ?_, h4⟩
  obtain ⟨⟨h, v, hl⟩, hc, hd⟩ := h3 p hp
  exact ⟨by rw [hl]; rfl, hc, by rw [hd]⟩

end Reader
end Arroy
