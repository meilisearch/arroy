import ArroyProofs.StoreLaws
import ArroyModel.Writer
/-! Laws of the item-level `Writer` operations, of the `Cfg` keys and of `Reader.open` in terms of `Store.get`;
preservation of `Sorted` / `WF`. -/
namespace Arroy
open Generated

namespace Cfg

theorem itemKey_wf (c : Cfg) (id : Nat) (hi : c.index < 65536) (hid : id < 4294967296) : (c.itemKey id).wf := by
  refine ⟨hi, ?_, hid⟩
  show modeItem < 256; decide

theorem updatedKey_wf (c : Cfg) (id : Nat) (hi : c.index < 65536) (hid : id < 4294967296) :
    (c.updatedKey id).wf := by
  refine ⟨hi, ?_, hid⟩
  show modeUpdated < 256; decide

theorem metaKey_wf (c : Cfg) (hi : c.index < 65536) : c.metaKey.wf := by
  refine ⟨hi, ?_, ?_⟩
  · show metadataKeyMode < 256; decide
  · show metadataKeyItem < 256^4; decide

theorem itemKey_eq_iff (c c' : Cfg) (id id' : Nat) :
    c'.itemKey id' = c.itemKey id ↔ c'.index = c.index ∧ id' = id := by
  simp [itemKey, Key.mkItem]

theorem updatedKey_eq_iff (c c' : Cfg) (id id' : Nat) :
    c'.updatedKey id' = c.updatedKey id ↔ c'.index = c.index ∧ id' = id := by
  simp [updatedKey, Key.mkUpdated]

theorem itemKey_ne_updatedKey (c c' : Cfg) (id id' : Nat) : c'.itemKey id' ≠ c.updatedKey id :=
  Key.ne_of_mode_ne (show modeItem ≠ modeUpdated by decide)

theorem metaKey_ne_itemKey (c c' : Cfg) (id : Nat) : c'.metaKey ≠ c.itemKey id :=
  Key.ne_of_mode_ne (show metadataKeyMode ≠ modeItem by decide)

theorem metaKey_ne_updatedKey (c c' : Cfg) (id : Nat) : c'.metaKey ≠ c.updatedKey id :=
  Key.ne_of_mode_ne (show metadataKeyMode ≠ modeUpdated by decide)

end Cfg

namespace Writer

theorem addItem_ok_iff (c : Cfg) (s : Store) (id : Nat) (vec : List Nat) :
    (∃ s', addItem c s id vec = .ok s') ↔ vec.length = c.dims := by
  unfold addItem
  by_cases h : vec.length = c.dims <;> simp [h]

theorem addItem_ok {c : Cfg} {s s' : Store} {id : Nat} {vec : List Nat} (h : addItem c s id vec = .ok s') :
    vec.length = c.dims ∧ s' = (s.put (c.itemKey id) (c.mkLeaf vec)).put (c.updatedKey id) .unit := by
  unfold addItem at h
  by_cases hl : vec.length = c.dims
  · simp [hl] at h; exact ⟨hl, h.symm⟩
  · simp [hl] at h

theorem addItem_of_len {c : Cfg} (s : Store) (id : Nat) {vec : List Nat} (h : vec.length = c.dims) :
    addItem c s id vec = .ok ((s.put (c.itemKey id) (c.mkLeaf vec)).put (c.updatedKey id) .unit) := by
  unfold addItem; simp [h]

theorem addItem_err {c : Cfg} (s : Store) (id : Nat) {vec : List Nat} (h : vec.length ≠ c.dims) :
    addItem c s id vec = .error (.invalidDim c.dims vec.length) := by
  unfold addItem; simp [h]

theorem get_addItem {c : Cfg} {s s' : Store} {id : Nat} {vec : List Nat} (h : addItem c s id vec = .ok s')
    (k : Key) : Store.get s' k =
      if k = c.updatedKey id then some .unit else if k = c.itemKey id then some (c.mkLeaf vec)
      else Store.get s k := by
  rw [(addItem_ok h).2, Store.get_put, Store.get_put]

theorem mem_addItem {c : Cfg} {s s' : Store} {id : Nat} {vec : List Nat} (h : addItem c s id vec = .ok s')
    {x : Key × Val} (hx : x ∈ s') : x = (c.updatedKey id, .unit) ∨ x = (c.itemKey id, c.mkLeaf vec) ∨ x ∈ s := by
  rw [(addItem_ok h).2] at hx
  rcases Store.mem_put hx with e | hx
  · exact Or.inl e
  · exact Or.inr (Store.mem_put hx)

theorem addItem_sorted {c : Cfg} {s s' : Store} {id : Nat} {vec : List Nat} (h : addItem c s id vec = .ok s')
    (hs : Store.Sorted s) : Store.Sorted s' := by
  rw [(addItem_ok h).2]; exact Store.put_sorted (Store.put_sorted hs _ _) _ _

theorem addItem_wf {c : Cfg} {s s' : Store} {id : Nat} {vec : List Nat} (h : addItem c s id vec = .ok s')
    (hw : Store.WF s) (hi : c.index < 65536) (hid : id < 4294967296) : Store.WF s' := by
  rw [(addItem_ok h).2]
  exact Store.put_wf (Store.put_wf hw (c.itemKey_wf id hi hid) _) (c.updatedKey_wf id hi hid) _

theorem appendItem_err_dim {c : Cfg} (s : Store) (id : Nat) {vec : List Nat} (h : vec.length ≠ c.dims) :
    appendItem c s id vec = .error (.invalidDim c.dims vec.length) := by
  unfold appendItem; simp [h]

theorem appendItem_none {c : Cfg} {s : Store} {id : Nat} {vec : List Nat} (h : vec.length = c.dims)
    (hp : s.putAppend (c.itemKey id) (c.mkLeaf vec) = none) :
    appendItem c s id vec = .error .invalidAppend := by
  unfold appendItem; simp [h, hp]

theorem appendItem_some {c : Cfg} {s s1 : Store} {id : Nat} {vec : List Nat} (h : vec.length = c.dims)
    (hp : s.putAppend (c.itemKey id) (c.mkLeaf vec) = some s1) :
    appendItem c s id vec = .ok (s1.put (c.updatedKey id) .unit) := by
  unfold appendItem; simp [h, hp]

theorem appendItem_ok_eq_addItem {c : Cfg} {s s' : Store} {id : Nat} {vec : List Nat}
    (hs : Store.Sorted s) (h : appendItem c s id vec = .ok s') : addItem c s id vec = .ok s' := by
  by_cases hl : vec.length = c.dims
  · rw [addItem_of_len s id hl]
    cases hp : s.putAppend (c.itemKey id) (c.mkLeaf vec) with
    | none => rw [appendItem_none hl hp] at h; cases h
    | some s1 =>
      rw [appendItem_some hl hp] at h
      simp only [Except.ok.injEq] at h
      rw [← h, Store.putAppend_eq_put hs hp]
  · rw [appendItem_err_dim s id hl] at h; cases h

/-- `delItem` by presence of the item (deleting an absent key leaves the store as it is) -/
theorem delItem_eq (c : Cfg) (s : Store) (id : Nat) :
    delItem c s id =
      if (Store.get s (c.itemKey id)).isSome = true
      then ((s.erase (c.itemKey id)).put (c.updatedKey id) .unit, true) else (s, false) := by
  cases h : Store.get s (c.itemKey id) with
  | none =>
    unfold delItem
    rw [Store.delete_absent s _ h]
    rfl
  | some v =>
    unfold delItem Store.delete Store.contains
    simp [h]

theorem delItem_absent {c : Cfg} {s : Store} {id : Nat} (h : Store.get s (c.itemKey id) = none) :
    delItem c s id = (s, false) := by
  rw [delItem_eq, h]; rfl

theorem delItem_snd (c : Cfg) (s : Store) (id : Nat) :
    (delItem c s id).2 = (Store.get s (c.itemKey id)).isSome := by
  rw [delItem_eq]
  cases (Store.get s (c.itemKey id)).isSome <;> rfl

theorem get_delItem (c : Cfg) (s : Store) (id : Nat) (k : Key) :
    Store.get (delItem c s id).1 k =
      if k = c.updatedKey id ∧ (Store.get s (c.itemKey id)).isSome = true then some .unit
      else if k = c.itemKey id then none else Store.get s k := by
  rw [delItem_eq]
  cases h : Store.get s (c.itemKey id) with
  | none =>
    by_cases hk : k = c.itemKey id
    · subst hk; simp [h]
    · simp [hk]
  | some v => simp only [Store.get_put, Store.get_erase, Option.isSome_some, and_true, if_true]

theorem mem_delItem {c : Cfg} {s : Store} {id : Nat} {x : Key × Val} (hx : x ∈ (delItem c s id).1) :
    x = (c.updatedKey id, .unit) ∨ x ∈ s := by
  rw [delItem_eq] at hx
  split at hx
  · rcases Store.mem_put hx with e | hx
    · exact Or.inl e
    · exact Or.inr (List.mem_filter.1 hx).1
  · exact Or.inr hx

theorem delItem_sorted {c : Cfg} {s : Store} (id : Nat) (hs : Store.Sorted s) :
    Store.Sorted (delItem c s id).1 := by
  rw [delItem_eq]
  split
  · exact Store.put_sorted (Store.erase_sorted hs _) _ _
  · exact hs

theorem delItem_wf {c : Cfg} {s : Store} (id : Nat) (hw : Store.WF s) (hi : c.index < 65536)
    (hid : id < 4294967296) : Store.WF (delItem c s id).1 := by
  rw [delItem_eq]
  split
  · exact Store.put_wf (Store.erase_wf hw _) (c.updatedKey_wf id hi hid) _
  · exact hw

theorem get_clear_same (c : Cfg) (s : Store) (k : Key) (h : k.index = c.index) :
    Store.get (clear c s) k = none := by
  unfold clear
  rw [Store.get_deletePrefix, ← h, Store.isPrefixOf_index_self]; rfl

theorem get_clear_other (c : Cfg) (s : Store) (k : Key) (hk : k.wf) (hi : c.index < 65536)
    (h : k.index ≠ c.index) : Store.get (clear c s) k = Store.get s k := by
  unfold clear
  rw [Store.get_deletePrefix]
  have : ¬ isPrefixOf (encodePrefix c.index none) (encodeKey k) = true := by
    rw [isPrefixOf_index c.index k hk hi]; exact h
  simp [this]

theorem clear_sorted {c : Cfg} {s : Store} (hs : Store.Sorted s) : Store.Sorted (clear c s) :=
  Store.deletePrefix_sorted hs _ _

theorem clear_wf {c : Cfg} {s : Store} (hw : Store.WF s) : Store.WF (clear c s) :=
  Store.deletePrefix_wf hw _ _

theorem mem_clear {c : Cfg} {s : Store} {x : Key × Val} (hx : x ∈ clear c s) : x ∈ s :=
  (List.mem_filter.1 hx).1

/-- a present mark is seen by the marks cursor (any store) -/
theorem marks_isEmpty_of_mark {c : Cfg} {s : Store} {id : Nat}
    (h : (Store.get s (c.updatedKey id)).isSome = true) :
    (s.prefixIter c.index (some modeUpdated)).isEmpty = false := by
  have hne := Store.prefixIter_ne_nil_of_get h
  rw [show (c.updatedKey id).index = c.index from rfl, show (c.updatedKey id).mode = modeUpdated from rfl] at hne
  cases hp : s.prefixIter c.index (some modeUpdated) with
  | nil => exact absurd hp hne
  | cons a r => rfl

/-- one direction needs nothing: a present mark or a missing metadata demands a build -/
theorem needBuild_of_mark {c : Cfg} {s : Store} {id : Nat} (h : (Store.get s (c.updatedKey id)).isSome = true) :
    needBuild c s = true := by
  unfold needBuild
  rw [marks_isEmpty_of_mark h]; rfl

theorem needBuild_of_noMeta {c : Cfg} {s : Store} (h : Store.get s c.metaKey = none) : needBuild c s = true := by
  unfold needBuild; simp [h]

theorem marks_isEmpty_iff {c : Cfg} {s : Store} (hw : Store.WF s) (hi : c.index < 65536) :
    (s.prefixIter c.index (some modeUpdated)).isEmpty = true ↔ ∀ id, Store.get s (c.updatedKey id) = none := by
  rw [List.isEmpty_iff]
  exact Store.prefixIter_eq_nil_iff hw c.index modeUpdated hi (by decide)

/-- `need_build` and `Reader::open` only look at the metadata entry and at whether the index has an updated mark -/
theorem needBuild_congr_isEmpty {c : Cfg} {s s' : Store}
    (hm : (s'.prefixIter c.index (some modeUpdated)).isEmpty = (s.prefixIter c.index (some modeUpdated)).isEmpty)
    (hg : Store.get s' c.metaKey = Store.get s c.metaKey) : needBuild c s' = needBuild c s := by
  unfold needBuild; rw [hm, hg]

theorem open_congr_isEmpty {c : Cfg} {s s' : Store}
    (hm : (s'.prefixIter c.index (some modeUpdated)).isEmpty = (s.prefixIter c.index (some modeUpdated)).isEmpty)
    (hg : Store.get s' c.metaKey = Store.get s c.metaKey) : Reader.open c s' = Reader.open c s := by
  unfold Reader.open; rw [hm, hg]

theorem needBuild_congr {c : Cfg} {s s' : Store}
    (hm : s'.prefixIter c.index (some modeUpdated) = s.prefixIter c.index (some modeUpdated))
    (hg : Store.get s' c.metaKey = Store.get s c.metaKey) : needBuild c s' = needBuild c s :=
  needBuild_congr_isEmpty (congrArg List.isEmpty hm) hg

theorem _root_.Arroy.Reader.open_of_noMeta {c : Cfg} {s : Store} (h : Store.get s c.metaKey = none) :
    Reader.open c s = .error (.missingMetadata c.index) := by
  unfold Reader.open; rw [h]

/-- `Reader::open` on a metadata record: the metric name first, then the updated marks -/
theorem _root_.Arroy.Reader.open_of_meta {c : Cfg} {s : Store} {name : Bytes} {dims : Nat} {items roots : List Nat}
    (h : Store.get s c.metaKey = some (.metadata name dims items roots)) :
    Reader.open c s =
      if c.metric.nameBytes ≠ name then .error (.unmatchingDistance name c.metric.nameBytes)
      else if (!(s.prefixIter c.index (some modeUpdated)).isEmpty) = true then .error (.needBuild c.index)
      else .ok ⟨roots, dims, items⟩ := by
  unfold Reader.open; rw [h]

/-- the three ways `Reader::open` goes: no metadata, a metadata record, a record that does not decode -/
theorem _root_.Arroy.Reader.open_cases (c : Cfg) (s : Store) :
    (Store.get s c.metaKey = none ∧ Reader.open c s = .error (.missingMetadata c.index)) ∨
    (∃ name dims items roots, Store.get s c.metaKey = some (.metadata name dims items roots)) ∨
    (Store.get s c.metaKey ≠ none ∧ Reader.open c s = .error (.panic "metadata does not decode")) := by
  cases hg : Store.get s c.metaKey with
  | none => exact Or.inl ⟨rfl, Reader.open_of_noMeta hg⟩
  | some v =>
    refine Or.inr ?_
    cases v with
    | metadata name dims items roots => exact Or.inl ⟨name, dims, items, roots, rfl⟩
    | _ =>
      refine Or.inr ⟨Option.some_ne_none _, ?_⟩
      unfold Reader.open
      rw [hg]

theorem open_congr {c : Cfg} {s s' : Store}
    (hm : s'.prefixIter c.index (some modeUpdated) = s.prefixIter c.index (some modeUpdated))
    (hg : Store.get s' c.metaKey = Store.get s c.metaKey) : Reader.open c s' = Reader.open c s :=
  open_congr_isEmpty (congrArg List.isEmpty hm) hg

theorem not_marks_prefix_of_index {c' : Cfg} {k : Key} (hk : k.wf) (hi' : c'.index < 65536)
    (hne : k.index ≠ c'.index) :
    isPrefixOf (encodePrefix c'.index (some modeUpdated)) (encodeKey k) = false := by
  cases h : isPrefixOf (encodePrefix c'.index (some modeUpdated)) (encodeKey k) with
  | false => rfl
  | true => exact absurd ((isPrefixOf_kind _ _ k hk hi' (by decide)).1 h).1 hne

theorem not_marks_prefix_itemKey (c c' : Cfg) (id : Nat) (hi : c.index < 65536) (hid : id < 4294967296)
    (hi' : c'.index < 65536) :
    isPrefixOf (encodePrefix c'.index (some modeUpdated)) (encodeKey (c.itemKey id)) = false := by
  cases h : isPrefixOf (encodePrefix c'.index (some modeUpdated)) (encodeKey (c.itemKey id)) with
  | false => rfl
  | true =>
    have := ((isPrefixOf_kind _ _ _ (c.itemKey_wf id hi hid) hi' (by decide)).1 h).2
    have : modeItem = modeUpdated := this
    exact absurd this (by decide)

/-- the item operations never touch a metadata record (of any index) -/
theorem meta_addItem {c c' : Cfg} {s s' : Store} {id : Nat} {vec : List Nat}
    (h : addItem c s id vec = .ok s') : Store.get s' c'.metaKey = Store.get s c'.metaKey := by
  rw [get_addItem h, if_neg (Cfg.metaKey_ne_updatedKey c c' id), if_neg (Cfg.metaKey_ne_itemKey c c' id)]

theorem meta_delItem (c c' : Cfg) (s : Store) (id : Nat) :
    Store.get (delItem c s id).1 c'.metaKey = Store.get s c'.metaKey := by
  rw [get_delItem, if_neg (fun h => Cfg.metaKey_ne_updatedKey c c' id h.1), if_neg (Cfg.metaKey_ne_itemKey c c' id)]

/-- the operations of index `c` leave marks and metadata of another index `c'` as they were -/
theorem frame_addItem {c c' : Cfg} {s s' : Store} {id : Nat} {vec : List Nat}
    (h : addItem c s id vec = .ok s') (hi : c.index < 65536) (hid : id < 4294967296) (hi' : c'.index < 65536)
    (hne : c.index ≠ c'.index) :
    s'.prefixIter c'.index (some modeUpdated) = s.prefixIter c'.index (some modeUpdated) ∧
    Store.get s' c'.metaKey = Store.get s c'.metaKey := by
  constructor
  · rw [(addItem_ok h).2,
      Store.prefixIter_put_other _ _ _ _ _ (not_marks_prefix_of_index (c.updatedKey_wf id hi hid) hi' hne),
      Store.prefixIter_put_other _ _ _ _ _ (not_marks_prefix_of_index (c.itemKey_wf id hi hid) hi' hne)]
  · exact meta_addItem h

theorem frame_delItem {c c' : Cfg} (s : Store) (id : Nat)
    (hi : c.index < 65536) (hid : id < 4294967296) (hi' : c'.index < 65536) (hne : c.index ≠ c'.index) :
    (delItem c s id).1.prefixIter c'.index (some modeUpdated) = s.prefixIter c'.index (some modeUpdated) ∧
    Store.get (delItem c s id).1 c'.metaKey = Store.get s c'.metaKey := by
  constructor
  · rw [delItem_eq]
    split
    · rw [Store.prefixIter_put_other _ _ _ _ _ (not_marks_prefix_of_index (c.updatedKey_wf id hi hid) hi' hne),
        Store.prefixIter_erase_other _ _ _ _ (not_marks_prefix_of_index (c.itemKey_wf id hi hid) hi' hne)]
    · rfl
  · exact meta_delItem c c' s id

theorem frame_clear {c c' : Cfg} {s : Store} (hw : Store.WF s)
    (hi : c.index < 65536) (hi' : c'.index < 65536) (hne : c.index ≠ c'.index) :
    (clear c s).prefixIter c'.index (some modeUpdated) = s.prefixIter c'.index (some modeUpdated) ∧
    Store.get (clear c s) c'.metaKey = Store.get s c'.metaKey := by
  constructor
  · exact Store.prefixIter_deletePrefix_other hw _ _ _ hi' hi (by decide) (Ne.symm hne)
  · exact get_clear_other c s _ (c'.metaKey_wf hi') hi (Ne.symm hne)

end Writer
end Arroy
